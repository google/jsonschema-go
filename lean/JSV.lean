import JSV.Basic.Json
import JSV.Basic.Num
import JSV.Basic.Res
import JSV.Model.Clone
import JSV.Model.Conc
import JSV.Model.Defaults
import JSV.Model.Equal
import JSV.Model.GoVal
import JSV.Model.Guarded
import JSV.Model.Hash
import JSV.Model.Infer
import JSV.Model.InferEmb
import JSV.Model.Marshal
import JSV.Model.Pointer
import JSV.Model.Resolve
import JSV.Model.Schema
import JSV.Model.Unique
import JSV.Model.Unmarshal
import JSV.Model.Uri
import JSV.Model.Validate
import JSV.Spec.Designate
import JSV.Spec.EncJson
import JSV.Spec.EncJsonEmb
import JSV.Spec.Refine
import JSV.Spec.Valid
import JSV.Spec.WellFormed
import JSV.Generated.Facts
import JSV.Proofs.Conc
import JSV.Proofs.ConcFacts
import JSV.Proofs.ConcRoot
import JSV.Proofs.Defined
import JSV.Proofs.DefinedGuarded
import JSV.Proofs.Dfl
import JSV.Proofs.DflLaws
import JSV.Proofs.EncEmbCons
import JSV.Proofs.Equal
import JSV.Proofs.FloatMult
import JSV.Proofs.InfEmbCons
import JSV.Proofs.InfEmbDom
import JSV.Proofs.InfEmbFlat
import JSV.Proofs.InfEmbNamed
import JSV.Proofs.InfEmbNames
import JSV.Proofs.InfEmbSound
import JSV.Proofs.InfEmbTight
import JSV.Proofs.InfEmbWalk
import JSV.Proofs.InfEqns
import JSV.Proofs.InfModels
import JSV.Proofs.InfNamed
import JSV.Proofs.InfTable
import JSV.Proofs.InfTableDeep
import JSV.Proofs.InfTableTree
import JSV.Proofs.InfSound
import JSV.Proofs.InfStep
import JSV.Proofs.InfStore
import JSV.Proofs.InfStruct
import JSV.Proofs.InfTight
import JSV.Proofs.InfValid
import JSV.Proofs.InvLater
import JSV.Proofs.InvMeta
import JSV.Proofs.InvPermJson
import JSV.Proofs.InvPermLists
import JSV.Proofs.InvPermStore
import JSV.Proofs.SpecSim
import JSV.Proofs.SpecSimPerm
import JSV.Proofs.InvPermLoops
import JSV.Proofs.InvRepr
import JSV.Proofs.SetField
import JSV.Proofs.InvUnmarshal
import JSV.Proofs.IsoTrees
import JSV.Proofs.IsoValid
import JSV.Proofs.JsonLookup
import JSV.Proofs.ListFacts
import JSV.Proofs.LookupNat
import JSV.Proofs.MshClone
import JSV.Proofs.MshCloneOk
import JSV.Proofs.MshFacts
import JSV.Proofs.MshNode
import JSV.Proofs.MshRound
import JSV.Proofs.MshScalar
import JSV.Proofs.MshSort
import JSV.Proofs.MshNorm
import JSV.Proofs.MshTables
import JSV.Proofs.LoaderUniverse
import JSV.Proofs.MshTreeFields
import JSV.Proofs.MshTree
import JSV.Proofs.MshIsTree
import JSV.Proofs.PtrCover
import JSV.Proofs.PtrEscape
import JSV.Proofs.PtrIndex
import JSV.Proofs.PtrPaths
import JSV.Proofs.PtrWalk
import JSV.Proofs.Refine
import JSV.Proofs.RefineArray
import JSV.Proofs.RefineBase
import JSV.Proofs.RefineCheck
import JSV.Proofs.RefineInPlace
import JSV.Proofs.RefineMono
import JSV.Proofs.RefineObject
import JSV.Proofs.SpecStepCalls
import JSV.Proofs.Children
import JSV.Proofs.SpecAbsent
import JSV.Proofs.StoreGet
import JSV.Proofs.Relators
import JSV.Proofs.RelatorsInv
import JSV.Proofs.ResBase
import JSV.Proofs.SpecCalls
import JSV.Proofs.SpecFields
import JSV.Proofs.SpecLaws
import JSV.Proofs.SpecLawsCongr
import JSV.Proofs.SpecLawsLoc
import JSV.Proofs.SpecLawsScope
import JSV.Proofs.SpecLawsSplit
import JSV.Proofs.ResComplete
import JSV.Proofs.ResCompleteMulti
import JSV.Proofs.ResCompleteWF
import JSV.Proofs.ResDesig
import JSV.Proofs.ResDesigMulti
import JSV.Proofs.ResDesigRefs
import JSV.Proofs.ResDraft
import JSV.Proofs.ResLater
import JSV.Proofs.ResLoader
import JSV.Proofs.ResShape
import JSV.Proofs.ResInv
import JSV.Proofs.ResIso
import JSV.Proofs.ResSim
import JSV.Proofs.ResIsoTrees
import JSV.Proofs.ResIsoClone
import JSV.Proofs.ResIsoDocs
import JSV.Proofs.ResIsoNorm
import JSV.Proofs.ResIsoNormDocs
import JSV.Proofs.ResKnown
import JSV.Proofs.ResMono
import JSV.Proofs.ResNoFuel
import JSV.Proofs.ResPermStructure
import JSV.Proofs.ResPermResolve
import JSV.Proofs.ResNoPanic
import JSV.Proofs.ResRefs
import JSV.Proofs.ResTot
import JSV.Proofs.ResTree
import JSV.Proofs.ResUri
import JSV.Proofs.ResUris
import JSV.Proofs.SpecStep
import JSV.Proofs.NoPF
import JSV.Proofs.Tot
import JSV.Proofs.TotFacts
import JSV.Proofs.TotInfer
import JSV.Proofs.TotUnmarshal
import JSV.Proofs.UriEscape
import JSV.Proofs.Vocab
import JSV.Props.C01
import JSV.Props.C02
import JSV.Props.C03
import JSV.Props.C04
import JSV.Props.C05
import JSV.Props.C06
import JSV.Props.C07
import JSV.Props.C08
import JSV.Props.C09
import JSV.Props.C10
import JSV.Props.C11
import JSV.Props.C12
import JSV.Props.C13
import JSV.Props.C14
import JSV.Props.C15
import JSV.Props.C16
import JSV.Props.C17
import JSV.Props.C18
import JSV.Props.C19
import JSV.Props.C20
