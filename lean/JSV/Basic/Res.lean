/-
  Res: the outcome of a modelled Go computation.
  `fuel`  : the model ran out of fuel (no statement is made)
  `panic` : the Go code would panic (nil dereference, failed assertion, explicit panic)
  `err`   : the Go code returns a non-nil error
  `ok a`  : the Go code returns normally with value `a`
-/
namespace JSV

inductive Res (α : Type) where
  | fuel : Res α
  | panic : Res α
  | err : Res α
  | ok (a : α) : Res α
  deriving Repr, DecidableEq, Inhabited

namespace Res

@[inline] def bind {α β : Type} (x : Res α) (f : α → Res β) : Res β :=
  match x with
  | .fuel => .fuel
  | .panic => .panic
  | .err => .err
  | .ok a => f a

instance : Monad Res where
  pure := .ok
  bind := Res.bind

@[simp] theorem bind_fuel {α β} (f : α → Res β) : bind .fuel f = .fuel := rfl
@[simp] theorem bind_panic {α β} (f : α → Res β) : bind .panic f = .panic := rfl
@[simp] theorem bind_err {α β} (f : α → Res β) : bind .err f = .err := rfl
@[simp] theorem bind_ok {α β} (a : α) (f : α → Res β) : bind (.ok a) f = f a := rfl

def isOk {α} : Res α → Bool
  | .ok _ => true
  | _ => false

theorem isOk_iff {α} {r : Res α} : r.isOk = true ↔ ∃ a, r = .ok a := by
  cases r with
  | ok a => exact ⟨fun _ => ⟨a, rfl⟩, fun _ => rfl⟩
  | fuel => exact ⟨fun h => (nomatch h), fun ⟨_, h⟩ => (nomatch h)⟩
  | panic => exact ⟨fun h => (nomatch h), fun ⟨_, h⟩ => (nomatch h)⟩
  | err => exact ⟨fun h => (nomatch h), fun ⟨_, h⟩ => (nomatch h)⟩

theorem bind_eq_ok_iff {α β} {x : Res α} {f : α → Res β} {b : β} :
    bind x f = .ok b ↔ ∃ a, x = .ok a ∧ f a = .ok b := by
  cases x <;> simp

theorem bind_eq_ok {α β} {x : Res α} {f : α → Res β} {b : β} (h : bind x f = .ok b) :
    ∃ a, x = .ok a ∧ f a = .ok b :=
  bind_eq_ok_iff.1 h

theorem bind_assoc {α β γ} (x : Res α) (f : α → Res β) (g : β → Res γ) :
    bind (bind x f) g = bind x fun a => bind (f a) g := by
  cases x <;> rfl

/-- The boolean view used by `valid := validate(...) == nil` in the Go code.
    `none` when the sub-computation did not produce a verdict (fuel / panic). -/
def verdict {α} : Res α → Option Bool
  | .ok _ => some true
  | .err => some false
  | _ => none

/-- Information order: `fuel` is below everything. -/
def le {α} (x y : Res α) : Prop := x = .fuel ∨ x = y
infix:50 " ⊑ " => le

theorem le_refl {α} (x : Res α) : x ⊑ x := Or.inr rfl
theorem fuel_le {α} (x : Res α) : (.fuel : Res α) ⊑ x := Or.inl rfl

theorem bind_mono {α β} {x y : Res α} {f g : α → Res β}
    (hxy : x ⊑ y) (hfg : ∀ a, f a ⊑ g a) : bind x f ⊑ bind y g := by
  rcases hxy with h | h
  · subst h; exact fuel_le _
  · subst h; cases x <;> simp [le_refl]; exact hfg _

theorem le_trans {α} {x y z : Res α} (h1 : x ⊑ y) (h2 : y ⊑ z) : x ⊑ z := by
  rcases h1 with h | h
  · exact Or.inl h
  · subst h; exact h2

theorem le_antisymm {α} {x y : Res α} (h1 : x ⊑ y) (h2 : y ⊑ x) : x = y := by
  rcases h1 with h | h
  · rcases h2 with h' | h'
    · rw [h, h']
    · exact h'.symm
  · exact h

/-- The continuations need agree only on what the first computation returns.  Trap: `rfl` on
    `bind x f = bind x g` compares `f` with `g` first and unfolds whole models; use this lemma. -/
theorem bind_congr_ok {α β} {x : Res α} {f g : α → Res β} (h : ∀ a, x = .ok a → f a = g a) :
    bind x f = bind x g := by
  cases x <;> first | rfl | exact h _ rfl

theorem bind_congr {α β} {x : Res α} {f g : α → Res β} (h : ∀ a, f a = g a) : bind x f = bind x g :=
  bind_congr_ok fun a _ => h a

def toString {α} (f : α → String) : Res α → String
  | .fuel => "fuel"
  | .panic => "panic"
  | .err => "err"
  | .ok a => f a

end Res
end JSV
