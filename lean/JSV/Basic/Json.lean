/-
  JSON values as the properties speak of them.
  numbers are exact rationals; strings are sequences of Unicode scalars;
  objects are association lists (the order is what a parser saw / a printer emits).
-/
import JSV.Basic.Res
namespace JSV

inductive Json where
  | null
  | bool (b : Bool)
  | num (q : Rat)
  | str (s : String)
  | arr (xs : List Json)
  | obj (kvs : List (String × Json))
  deriving Repr, Inhabited

namespace Json

/-- association-list lookup, first hit (keys are distinct in well-formed values) -/
def lookup {α : Type} (k : String) : List (String × α) → Option α
  | [] => none
  | (k', v) :: rest => if k' = k then some v else lookup k rest

@[simp] theorem lookup_nil {α} (k : String) : lookup k ([] : List (String × α)) = none := rfl
@[simp] theorem lookup_cons {α} (k k' : String) (v : α) (rest) :
    lookup k ((k', v) :: rest) = if k' = k then some v else lookup k rest := rfl

def keys {α : Type} (kvs : List (String × α)) : List String := kvs.map (·.1)

mutual
  /-- JSON value equality: the Spec of C11.  Numbers by mathematical value, strings by code
      points, arrays element-wise in order, objects as finite maps. -/
  def eqv : Json → Json → Bool
    | .null, .null => true
    | .bool a, .bool b => a == b
    | .num a, .num b => a == b
    | .str a, .str b => a == b
    | .arr xs, .arr ys => eqvList xs ys
    | .obj kx, .obj ky => kx.length == ky.length && eqvObj kx ky
    | _, _ => false
  def eqvList : List Json → List Json → Bool
    | [], [] => true
    | x :: xs, y :: ys => eqv x y && eqvList xs ys
    | _, _ => false
  /-- one inclusion only: with equal lengths and distinct keys (`WF`) it is equality of finite maps -/
  def eqvObj : List (String × Json) → List (String × Json) → Bool
    | [], _ => true
    | (k, v) :: rest, ky =>
      (match lookup k ky with
       | some v' => eqv v v'
       | none => false) && eqvObj rest ky
end

mutual
  /-- keys of every object are pairwise distinct, at every depth -/
  def WF : Json → Bool
    | .arr xs => wfList xs
    | .obj kvs => nodupKeys (keys kvs) && wfObj kvs
    | _ => true
  def wfList : List Json → Bool
    | [] => true
    | x :: xs => WF x && wfList xs
  def wfObj : List (String × Json) → Bool
    | [] => true
    | (_, v) :: rest => WF v && wfObj rest
  def nodupKeys : List String → Bool
    | [] => true
    | k :: ks => !ks.contains k && nodupKeys ks
end

mutual
  def size : Json → Nat
    | .arr xs => 1 + sizeList xs
    | .obj kvs => 1 + sizeObj kvs
    | _ => 1
  def sizeList : List Json → Nat
    | [] => 0
    | x :: xs => size x + sizeList xs
  def sizeObj : List (String × Json) → Nat
    | [] => 0
    | (_, v) :: rest => size v + sizeObj rest
end

def typeName : Json → String
  | .null => "null"
  | .bool _ => "boolean"
  | .num q => if q.den = 1 then "integer" else "number"
  | .str _ => "string"
  | .arr _ => "array"
  | .obj _ => "object"

def isObj : Json → Bool
  | .obj _ => true
  | _ => false

def isArr : Json → Bool
  | .arr _ => true
  | _ => false

end Json
end JSV
