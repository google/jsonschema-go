/-
  For C17: if every registered schema is `NodeOk`, the path strings recorded by checkStructure (the root's, "root", aside)
  are JSON Pointers that dereference, under the strict rules, to the schema they were recorded for.
-/
import JSV.Proofs.JsonLookup
import JSV.Proofs.PtrWalk
import JSV.Proofs.PtrCover
import JSV.Proofs.ResShape
namespace JSV
namespace Pointer
open Go

theorem Path.append {st : Store} {a b c : NodeId} {p q : List String}
    (h1 : Path st a p b) (h2 : Path st b q c) : Path st a (p ++ q) c := by
  induction h1 with
  | nil a => exact h2
  | one hn hm _ ih => exact .one hn hm (ih h2)
  | many hn hm hi hlt _ ih => exact .many hn hm hi hlt (ih h2)
  | keyed hn hm hk _ ih => exact .keyed hn hm hk (ih h2)

theorem Path.nil_eq {st : Store} {a t : NodeId} (h : Path st a [] t) : t = a := by
  cases h; rfl

theorem escapeSegment_eq_self (s : String) (h : ∀ c ∈ s.toList, c ≠ '~' ∧ c ≠ '/') :
    escapeSegment s = s := by
  rw [← String.toList_inj, toList_escapeSegment, escChars_eq_self _ h]

theorem escapeSegment_toString (i : Nat) : escapeSegment (toString i) = toString i := by
  apply escapeSegment_eq_self
  intro c hc
  rw [Nat.toString_eq_repr, Nat.toList_repr] at hc
  have := (isDig_iff c).mp (isDig_of_mem_toDigits i c hc)
  constructor <;> (rintro rfl; simp at this)

/-- the JSON names of the schema-bearing fields do not depend on the schema -/
theorem childFields_names (n : Node) :
    n.childFields.map ChildField.name = (default : Node).childFields.map ChildField.name := rfl

theorem escapeSegment_childField (n : Node) (f : ChildField) (h : f ∈ n.childFields) {j : String}
    (hj : ChildField.name f = j) : escapeSegment j = j :=
  escapeSegment_eq_self _ <|
    (by decide +kernel : ∀ j ∈ (default : Node).childFields.map ChildField.name, ∀ c ∈ j.toList, c ≠ '~' ∧ c ≠ '/')
      _ (hj ▸ childFields_names n ▸ List.mem_map_of_mem h)

theorem itemsArray_of_mem (n : Node) (x : Option (List NodeId))
    (h : ChildField.many "items" x ∈ n.childFields) : n.itemsArray = x := by
  simp only [Node.childFields, List.mem_cons, ChildField.many.injEq, reduceCtorEq, List.mem_nil_iff,
    or_false, false_or] at h
  simp at h
  exact h.symm

theorem render_snoc (p : List String) (a : String) :
    render (p ++ [a]) = render p ++ "/" ++ escapeSegment a := by
  rw [← String.toList_inj]
  simp only [toList_render, String.toList_append, List.flatMap_append, List.flatMap_cons,
    List.flatMap_nil, slash_toList, toList_escapeSegment, escL]
  simp

theorem render_snoc2 (p : List String) (a b : String) :
    render (p ++ [a, b]) = render p ++ "/" ++ escapeSegment a ++ "/" ++ escapeSegment b := by
  have : p ++ [a, b] = (p ++ [a]) ++ [b] := by simp
  rw [this, render_snoc, render_snoc]

/-- what the theorem needs of a visited schema: the union field `items` holds at most one of its
    two forms (part of basicChecks), and the association lists that stand for Go maps have distinct
    keys -/
def NodeOk (n : Node) : Prop :=
  (n.items = none ∨ n.itemsArray = none) ∧
  ∀ j kvs, ChildField.keyed j (some kvs) ∈ n.childFields → (kvs.map (·.1)).Nodup

theorem basicChecksOk_items (n : Node) (h : basicChecksOk n = true) :
    n.items = none ∨ n.itemsArray = none := by
  unfold basicChecksOk at h
  simp only [Bool.and_eq_true] at h
  have h3 : (!(n.items.isSome && n.itemsArray.isSome)) = true := h.1.1.2
  cases hi : n.items with
  | none => exact Or.inl rfl
  | some a =>
    cases ha : n.itemsArray with
    | none => exact Or.inr rfl
    | some b => rw [hi, ha] at h3; cases h3

theorem childEntries_spec (st : Store) (a : NodeId) (n : Node) (p : List String)
    (hn : st.get? a = some n) (hok : NodeOk n) (c : NodeId) (q : String)
    (h : (c, q) ∈ childEntries n (render p)) :
    ∃ p', Path st a p' c ∧ q = render (p ++ p') := by
  unfold childEntries at h
  rw [List.mem_flatMap] at h
  obtain ⟨f, hf, h⟩ := h
  cases f with
  | one j x =>
    cases x with
    | none => simp at h
    | some c' =>
      simp only [List.mem_singleton, Prod.mk.injEq] at h
      obtain ⟨rfl, rfl⟩ := h
      have e : escapeSegment j = j := escapeSegment_childField n _ hf rfl
      exact ⟨[j], .one hn hf (.nil _), by rw [render_snoc, e]⟩
  | many j x =>
    cases x with
    | none => simp at h
    | some cs =>
      simp only [Option.getD_some, List.mem_map] at h
      obtain ⟨⟨c', i⟩, hm, heq⟩ := h
      simp only [Prod.mk.injEq] at heq
      obtain ⟨rfl, rfl⟩ := heq
      obtain ⟨hi, hc⟩ := List.mem_zipIdx' hm
      have e : escapeSegment j = j := escapeSegment_childField n _ hf rfl
      refine ⟨[j, toString i], ?_, by rw [render_snoc2, e, escapeSegment_toString]⟩
      rw [hc]
      refine .many hn hf ?_ hi (.nil _)
      rintro rfl
      have := itemsArray_of_mem n _ hf
      rcases hok.1 with h | h
      · exact h
      · rw [h] at this; simp at this
  | keyed j x =>
    cases x with
    | none => simp at h
    | some kvs =>
      simp only [Option.getD_some, List.mem_map] at h
      obtain ⟨⟨k, c'⟩, hm, heq⟩ := h
      simp only [Prod.mk.injEq] at heq
      obtain ⟨rfl, rfl⟩ := heq
      have e : escapeSegment j = j := escapeSegment_childField n _ hf rfl
      exact ⟨[j, k], .keyed hn hf (Json.lookup_of_mem_nodup (hok.2 j kvs hf) hm) (.nil _),
        by rw [render_snoc2, e]⟩

theorem render_eq_empty (p : List String) (h : render p = "") : p = [] := by
  cases p with
  | nil => rfl
  | cons s ss =>
    have := congrArg String.toList h
    rw [toList_render] at this
    simp at this

/-- an entry of checkStructure's result: the schema exists, and the recorded path is the rendering of
    a chain of schema-bearing fields from the root to it ("root" standing for the empty pointer); `C10.AccOK` is the
    invariant of the whole accumulator that bounds its length -/
def AccOk (st : Store) (root : NodeId) (e : NodeId × Info) : Prop :=
  (st.get? e.1).isSome = true ∧
  ∃ p, Path st root p e.1 ∧ e.2.path = if render p == "" then "root" else render p

theorem checkStructure_acc_subset (st : Store) : ∀ fuel work acc res,
    checkStructure st fuel work acc = .ok res → ∀ e ∈ acc, e ∈ res := by
  intro fuel work acc res h
  exact RPerm.checkStructure_inv st (fun _ acc' => ∀ e ∈ acc, e ∈ acc')
    (fun _ _ _ _ _ _ _ hJ e he => List.mem_append_left _ (hJ e he)) fuel work acc res h (fun _ he => he)

theorem checkStructure_paths (st : Store) (root : NodeId) : ∀ fuel work acc res,
    checkStructure st fuel work acc = .ok res →
    (∀ e ∈ res, ∀ n, st.get? e.1 = some n → NodeOk n) →
    (∀ w ∈ work, ∃ p, Path st root p w.1 ∧ w.2 = render p) →
    (∀ e ∈ acc, AccOk st root e) →
    ∀ e ∈ res, AccOk st root e := by
  intro fuel work acc res h hok hwork hacc
  -- the invariant is conditional on the visited schemas being well-formed: that is known of the final table only
  refine (RPerm.checkStructure_inv st (fun work acc => (∀ e ∈ acc, ∀ n, st.get? e.1 = some n → NodeOk n) →
      (∀ w ∈ work, ∃ p, Path st root p w.1 ∧ w.2 = render p) ∧ ∀ e ∈ acc, AccOk st root e) ?_ fuel work acc res h
      (fun _ => ⟨hwork, hacc⟩) hok).2
  intro id path n work acc hn _ hJ hok'
  obtain ⟨hwork, hacc⟩ := hJ fun e he => hok' e (List.mem_append_left _ he)
  obtain ⟨p0, hp0, hpath⟩ := hwork (id, path) (by simp)
  have hpath : path = render p0 := hpath
  have hnok : NodeOk n := hok' (id, RPerm.infoOf path) (by simp) n hn
  constructor
  · intro w hw
    rcases List.mem_append.mp hw with hw | hw
    · obtain ⟨c, q⟩ := w
      rw [hpath] at hw
      obtain ⟨p', hp', hq⟩ := childEntries_spec st id n p0 hn hnok c q hw
      exact ⟨p0 ++ p', hp0.append hp', hq⟩
    · exact hwork w (List.mem_cons_of_mem _ hw)
  · intro e he
    rcases List.mem_append.mp he with he | he
    · exact hacc e he
    · cases List.mem_singleton.mp he
      exact ⟨by rw [hn]; rfl, p0, hp0, by rw [hpath]; rfl⟩

/-- every schema registered by checkStructure, the root aside, is addressable by the path recorded for it (strict rules; all registered schemas `NodeOk`) -/
theorem checkStructure_addressable (st : Store) (fuel : Nat) (root : NodeId) (res : List (NodeId × Info))
    (h : checkStructure st fuel [(root, "")] [] = .ok res)
    (hok : ∀ e ∈ res, ∀ n, st.get? e.1 = some n → NodeOk n) :
    ∀ e ∈ res, (e.1 = root ∧ e.2.path = "root") ∨
      dereference st true true root e.2.path = .ok e.1 := by
  intro e he
  have := checkStructure_paths st root fuel _ _ _ h hok
    (by intro w hw; simp only [List.mem_singleton] at hw; subst hw; exact ⟨[], .nil _, rfl⟩)
    (fun _ h => absurd h (by simp)) e he
  obtain ⟨hex, p, hp, hpath⟩ := this
  by_cases hr : render p = ""
  · left
    have := render_eq_empty p hr
    subst this
    exact ⟨hp.nil_eq, by rw [hpath]; rfl⟩
  · right
    have : (render p == "") = false := by simpa using hr
    rw [this] at hpath
    simp only [Bool.false_eq_true, if_false] at hpath
    rw [hpath]
    exact dereference_path st true root e.1 p hp hex

end Pointer
end JSV
