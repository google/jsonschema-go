/-
  `setField` (one keyword member of UnmarshalJSON) classified by the Go type of the field it decodes into: `Slot`,
  `setField_slot`.  The 61-way match on the key is split here and nowhere else.
-/
import JSV.Proofs.NoPF
import JSV.Model.Unmarshal
namespace JSV
namespace C10
open Go

theorem decStr_NoPF (v : Json) (c : String) : NoPF (decStr v c) := by
  cases v <;> first | exact NoPF_ok _ | exact NoPF_err
theorem decBool_NoPF (v : Json) (c : Bool) : NoPF (decBool v c) := by
  cases v <;> first | exact NoPF_ok _ | exact NoPF_err
theorem decFloat_NoPF (v : Json) : NoPF (decFloat v) := by
  cases v <;> first | exact NoPF_ok _ | exact NoPF_err
theorem decInteger_NoPF (v : Json) : NoPF (decInteger v) := by
  cases v <;> first | exact NoPF_ok _ | exact NoPF_err | (simp only [decInteger]; split <;> first | exact NoPF_ok _ | exact NoPF_err)
theorem decAnyList_NoPF (v : Json) : NoPF (decAnyList v) := by
  cases v <;> first | exact NoPF_ok _ | exact NoPF_err

theorem decStrList_fold_NoPF : ∀ xs : List Json,
    NoPF (xs.foldr (fun x acc => Res.bind acc fun l => match x with
        | .str s => (.ok (s :: l) : Res (List String))
        | .null => .ok ("" :: l)
        | _ => .err) (.ok []))
  | [] => NoPF_ok _
  | x :: xs => by
    simp only [List.foldr_cons]
    refine NoPF_bind (decStrList_fold_NoPF xs) fun l _ => ?_
    cases x <;> first | exact NoPF_ok _ | exact NoPF_err

theorem decStrList_NoPF (v : Json) : NoPF (decStrList v) := by
  cases v with
  | arr xs => exact NoPF_bind (decStrList_fold_NoPF xs) fun _ _ => NoPF_ok _
  | null => exact NoPF_ok _
  | _ => exact NoPF_err

theorem decBoolMap_fold_NoPF : ∀ kvs : List (String × Json),
    NoPF (kvs.foldr (fun (kv : String × Json) acc => Res.bind acc fun l => match kv.2 with
        | .bool b => (.ok ((kv.1, b) :: l) : Res (List (String × Bool)))
        | .null => .ok ((kv.1, false) :: l)
        | _ => .err) (.ok []))
  | [] => NoPF_ok _
  | kv :: kvs => by
    simp only [List.foldr_cons]
    refine NoPF_bind (decBoolMap_fold_NoPF kvs) fun l _ => ?_
    obtain ⟨k, v⟩ := kv
    cases v <;> first | exact NoPF_ok _ | exact NoPF_err

theorem decBoolMap_NoPF (v : Json) : NoPF (decBoolMap v) := by
  cases v with
  | obj kvs => exact NoPF_bind (decBoolMap_fold_NoPF kvs) fun _ _ => NoPF_ok _
  | null => exact NoPF_ok _
  | _ => exact NoPF_err

theorem decStrListMap_fold_NoPF : ∀ kvs : List (String × Json),
    NoPF (kvs.foldr (fun (kv : String × Json) acc => Res.bind acc fun l =>
        Res.bind (decStrList kv.2) fun sl => (.ok ((kv.1, sl) :: l) : Res (List (String × Option (List String))))) (.ok []))
  | [] => NoPF_ok _
  | kv :: kvs => by
    simp only [List.foldr_cons]
    exact NoPF_bind (decStrListMap_fold_NoPF kvs) fun l _ => NoPF_bind (decStrList_NoPF _) fun _ _ => NoPF_ok _

theorem decStrListMap_NoPF (v : Json) : NoPF (decStrListMap v) := by
  cases v with
  | obj kvs => exact NoPF_bind (decStrListMap_fold_NoPF kvs) fun _ _ => NoPF_ok _
  | null => exact NoPF_ok _
  | _ => exact NoPF_err

end C10

namespace Inv

def withExtra (e : Option (List (String × Json))) (n : Node) : Node := { n with extra := e }

end Inv

namespace Go
open C10 JSV.Inv

theorem decSchemaElems_cons_null (rec : URec) (rest : List Json) (st : Store) :
    decSchemaElems rec (.null :: rest) st =
      Res.bind (decSchemaElems rec rest st) fun r => .ok (nilId :: r.1, r.2) := rfl

theorem decSchemaElems_cons (rec : URec) {x : Json} (hx : x ≠ .null) (rest : List Json) (st : Store) :
    decSchemaElems rec (x :: rest) st =
      Res.bind (rec x st) fun r => Res.bind (decSchemaElems rec rest r.2) fun r' => .ok (r.1 :: r'.1, r'.2) := by
  cases x <;> first | exact absurd rfl hx | rfl

theorem decSchemaEntries_cons_null (rec : URec) (k : String) (rest : List (String × Json)) (st : Store) :
    decSchemaEntries rec ((k, .null) :: rest) st =
      Res.bind (decSchemaEntries rec rest st) fun r => .ok ((k, nilId) :: r.1, r.2) := rfl

theorem decSchemaEntries_cons (rec : URec) {x : Json} (hx : x ≠ .null) (k : String) (rest : List (String × Json))
    (st : Store) :
    decSchemaEntries rec ((k, x) :: rest) st =
      Res.bind (rec x st) fun r => Res.bind (decSchemaEntries rec rest r.2) fun r' => .ok ((k, r.1) :: r'.1, r'.2) := by
  cases x <;> first | exact absurd rfl hx | rfl

theorem decDependencies_cons_arr (rec : URec) (k : String) (xs : List Json) (rest : List (String × Json)) (n : Node)
    (st : Store) :
    decDependencies rec ((k, .arr xs) :: rest) n st =
      Res.bind (decStrList (.arr xs)) fun sl =>
        decDependencies rec rest { n with dependencyStrings := some ((n.dependencyStrings.getD []) ++ [(k, sl)]) } st := rfl

theorem decDependencies_cons (rec : URec) {x : Json} (hx : ∀ xs, x ≠ .arr xs) (k : String)
    (rest : List (String × Json)) (n : Node) (st : Store) :
    decDependencies rec ((k, x) :: rest) n st =
      Res.bind (rec x st) fun r =>
        decDependencies rec rest { n with dependencySchemas := some ((n.dependencySchemas.getD []) ++ [(k, r.1)]) } r.2 := by
  cases x <;> first | exact absurd rfl (hx _) | rfl

/-- What `setField` does with key `k` (first index) on the node `n` (second index) and on `n` with another `Extra`
    (third index), by the kind of field the key is routed to.  The second run is for InvUnmarshal (a keyword's field is set
    the same way whatever `Extra` holds); who does not need it takes `e := none`.  `plain`: a field that is neither schema-valued nor `Extra`, decoded by `d`
    without touching the store.  `one` / `many` / `keyed`: the schema-valued field at position `i` of `childFields`
    (the positions are those of `Node.childFields`, as in `setChildFields`, JSV/Proofs/MshClone.lean). -/
inductive Slot (rec : URec) (st : Store) (v : Json) (n : Node) (e : Option (List (String × Json))) :
    String → Res (Node × Store) → Res (Node × Store) → Prop
  | plain {k : String} {α : Type} (d : Res α) (set : Node → α → Node) (hp : NoPF d)
      (he : ∀ a, set (withExtra e n) a = withExtra e (set n a))
      (hc : ∀ a, (set n a).childFields = n.childFields) (hk : k ∈ knownKeys := by repeat constructor) :
      Slot rec st v n e k (d.bind fun a => .ok (set n a, st)) (d.bind fun a => .ok (set (withExtra e n) a, st))
  | one {k : String} (i : Nat) (set : Node → Option NodeId → Node)
      (he : ∀ c, set (withExtra e n) c = withExtra e (set n c))
      (hc : ∀ c, (set n c).childFields = n.childFields.set i (.one k c)) (hk : k ∈ knownKeys := by repeat constructor) :
      Slot rec st v n e k ((decSchemaPtr rec v st).bind fun r => .ok (set n r.1, r.2))
        ((decSchemaPtr rec v st).bind fun r => .ok (set (withExtra e n) r.1, r.2))
  | many {k : String} (i : Nat) (set : Node → Option (List NodeId) → Node)
      (he : ∀ c, set (withExtra e n) c = withExtra e (set n c))
      (hc : ∀ c, (set n c).childFields = n.childFields.set i (.many k c)) (hk : k ∈ knownKeys := by repeat constructor) :
      Slot rec st v n e k ((decSchemaList rec v st).bind fun r => .ok (set n r.1, r.2))
        ((decSchemaList rec v st).bind fun r => .ok (set (withExtra e n) r.1, r.2))
  | keyed {k : String} (i : Nat) (set : Node → Option (List (String × NodeId)) → Node)
      (he : ∀ c, set (withExtra e n) c = withExtra e (set n c))
      (hc : ∀ c, (set n c).childFields = n.childFields.set i (.keyed k c)) (hk : k ∈ knownKeys := by repeat constructor) :
      Slot rec st v n e k ((decSchemaMap rec v st).bind fun r => .ok (set n r.1, r.2))
        ((decSchemaMap rec v st).bind fun r => .ok (set (withExtra e n) r.1, r.2))
  | typ : Slot rec st v n e "type" (setField rec n st "type" v) (setField rec (withExtra e n) st "type" v)
  | items : Slot rec st v n e "items" (setField rec n st "items" v) (setField rec (withExtra e n) st "items" v)
  | deps : Slot rec st v n e "dependencies" (setField rec n st "dependencies" v)
      (setField rec (withExtra e n) st "dependencies" v)
  | extra {k : String} (hk : k ∉ knownKeys) :
      Slot rec st v n e k (.ok ({ n with extra := some ((n.extra.getD []) ++ [(k, v)]) }, st))
        (.ok ({ withExtra e n with extra := some (((withExtra e n).extra.getD []) ++ [(k, v)]) }, st))

/-- A user writes `generalize setField … = r, setField … (withExtra e n) … = r' at h` before `cases h`: the two runs are
    indices of `Slot`, and `cases` needs them to be variables. -/
theorem setField_slot (rec : URec) (n : Node) (st : Store) (k : String) (v : Json) (e : Option (List (String × Json))) :
    Slot rec st v n e k (setField rec n st k v) (setField rec (withExtra e n) st k v) := by
  by_cases ht : k = "type"
  · subst ht; exact .typ
  by_cases hi : k = "items"
  · subst hi; exact .items
  by_cases hd : k = "dependencies"
  · subst hd; exact .deps
  unfold setField
  split
  case h_1 => exact .plain _ (fun m s => { m with id := s }) (decStr_NoPF _ _) (fun _ => rfl) (fun _ => rfl)
  case h_2 => exact .plain _ (fun m s => { m with schema := s }) (decStr_NoPF _ _) (fun _ => rfl) (fun _ => rfl)
  case h_3 => exact .plain _ (fun m s => { m with ref := s }) (decStr_NoPF _ _) (fun _ => rfl) (fun _ => rfl)
  case h_4 => exact .plain _ (fun m s => { m with comment := s }) (decStr_NoPF _ _) (fun _ => rfl) (fun _ => rfl)
  case h_5 => exact .keyed 0 (fun m c => { m with defs := c }) (fun _ => rfl) (fun _ => rfl)
  case h_6 => exact .keyed 7 (fun m c => { m with definitions := c }) (fun _ => rfl) (fun _ => rfl)
  case h_7 => exact .plain _ (fun m s => { m with anchor := s }) (decStr_NoPF _ _) (fun _ => rfl) (fun _ => rfl)
  case h_8 => exact .plain _ (fun m s => { m with dynamicAnchor := s }) (decStr_NoPF _ _) (fun _ => rfl) (fun _ => rfl)
  case h_9 => exact .plain _ (fun m s => { m with dynamicRef := s }) (decStr_NoPF _ _) (fun _ => rfl) (fun _ => rfl)
  case h_10 => exact .plain _ (fun m s => { m with vocabulary := s }) (decBoolMap_NoPF _) (fun _ => rfl) (fun _ => rfl)
  case h_11 => exact .plain _ (fun m s => { m with title := s }) (decStr_NoPF _ _) (fun _ => rfl) (fun _ => rfl)
  case h_12 => exact .plain _ (fun m s => { m with description := s }) (decStr_NoPF _ _) (fun _ => rfl) (fun _ => rfl)
  case h_13 => exact .plain (.ok (some v)) (fun m s => { m with default := s }) (NoPF_ok _) (fun _ => rfl) (fun _ => rfl)
  case h_14 => exact .plain _ (fun m s => { m with deprecated := s }) (decBool_NoPF _ _) (fun _ => rfl) (fun _ => rfl)
  case h_15 => exact .plain _ (fun m s => { m with readOnly := s }) (decBool_NoPF _ _) (fun _ => rfl) (fun _ => rfl)
  case h_16 => exact .plain _ (fun m s => { m with writeOnly := s }) (decBool_NoPF _ _) (fun _ => rfl) (fun _ => rfl)
  case h_17 => exact .plain _ (fun m s => { m with examples := s }) (decAnyList_NoPF _) (fun _ => rfl) (fun _ => rfl)
  case h_18 => exact .plain _ (fun m s => { m with enum := s }) (decAnyList_NoPF _) (fun _ => rfl) (fun _ => rfl)
  case h_19 => exact .plain (.ok (some v)) (fun m s => { m with const := s }) (NoPF_ok _) (fun _ => rfl) (fun _ => rfl)
  case h_20 => exact .plain _ (fun m s => { m with multipleOf := s }) (decFloat_NoPF _) (fun _ => rfl) (fun _ => rfl)
  case h_21 => exact .plain _ (fun m s => { m with minimum := s }) (decFloat_NoPF _) (fun _ => rfl) (fun _ => rfl)
  case h_22 => exact .plain _ (fun m s => { m with maximum := s }) (decFloat_NoPF _) (fun _ => rfl) (fun _ => rfl)
  case h_23 => exact .plain _ (fun m s => { m with exclusiveMinimum := s }) (decFloat_NoPF _) (fun _ => rfl) (fun _ => rfl)
  case h_24 => exact .plain _ (fun m s => { m with exclusiveMaximum := s }) (decFloat_NoPF _) (fun _ => rfl) (fun _ => rfl)
  case h_25 => exact .plain _ (fun m s => { m with minLength := s }) (decInteger_NoPF _) (fun _ => rfl) (fun _ => rfl)
  case h_26 => exact .plain _ (fun m s => { m with maxLength := s }) (decInteger_NoPF _) (fun _ => rfl) (fun _ => rfl)
  case h_27 => exact .plain _ (fun m s => { m with pattern := s }) (decStr_NoPF _ _) (fun _ => rfl) (fun _ => rfl)
  case h_28 => exact .many 17 (fun m c => { m with prefixItems := c }) (fun _ => rfl) (fun _ => rfl)
  case h_29 => exact .plain _ (fun m s => { m with minItems := s }) (decInteger_NoPF _) (fun _ => rfl) (fun _ => rfl)
  case h_30 => exact .plain _ (fun m s => { m with maxItems := s }) (decInteger_NoPF _) (fun _ => rfl) (fun _ => rfl)
  case h_31 => exact .one 1 (fun m c => { m with additionalItems := c }) (fun _ => rfl) (fun _ => rfl)
  case h_32 => exact .plain _ (fun m s => { m with uniqueItems := s }) (decBool_NoPF _ _) (fun _ => rfl) (fun _ => rfl)
  case h_33 => exact .one 5 (fun m c => { m with contains := c }) (fun _ => rfl) (fun _ => rfl)
  case h_34 => exact .plain _ (fun m s => { m with minContains := s }) (decInteger_NoPF _) (fun _ => rfl) (fun _ => rfl)
  case h_35 => exact .plain _ (fun m s => { m with maxContains := s }) (decInteger_NoPF _) (fun _ => rfl) (fun _ => rfl)
  case h_36 => exact .one 21 (fun m c => { m with unevaluatedItems := c }) (fun _ => rfl) (fun _ => rfl)
  case h_37 => exact .plain _ (fun m s => { m with minProperties := s }) (decInteger_NoPF _) (fun _ => rfl) (fun _ => rfl)
  case h_38 => exact .plain _ (fun m s => { m with maxProperties := s }) (decInteger_NoPF _) (fun _ => rfl) (fun _ => rfl)
  case h_39 => exact .plain _ (fun m s => { m with required := s }) (decStrList_NoPF _) (fun _ => rfl) (fun _ => rfl)
  case h_40 => exact .plain _ (fun m s => { m with dependentRequired := s }) (decStrListMap_NoPF _) (fun _ => rfl) (fun _ => rfl)
  case h_41 => exact .keyed 18 (fun m c => { m with properties := c }) (fun _ => rfl) (fun _ => rfl)
  case h_42 => exact .keyed 16 (fun m c => { m with patternProperties := c }) (fun _ => rfl) (fun _ => rfl)
  case h_43 => exact .one 2 (fun m c => { m with additionalProperties := c }) (fun _ => rfl) (fun _ => rfl)
  case h_44 => exact .one 19 (fun m c => { m with propertyNames := c }) (fun _ => rfl) (fun _ => rfl)
  case h_45 => exact .one 22 (fun m c => { m with unevaluatedProperties := c }) (fun _ => rfl) (fun _ => rfl)
  case h_46 => exact .many 3 (fun m c => { m with allOf := c }) (fun _ => rfl) (fun _ => rfl)
  case h_47 => exact .many 4 (fun m c => { m with anyOf := c }) (fun _ => rfl) (fun _ => rfl)
  case h_48 => exact .many 15 (fun m c => { m with oneOf := c }) (fun _ => rfl) (fun _ => rfl)
  case h_49 => exact .one 14 (fun m c => { m with not := c }) (fun _ => rfl) (fun _ => rfl)
  case h_50 => exact .one 11 (fun m c => { m with if_ := c }) (fun _ => rfl) (fun _ => rfl)
  case h_51 => exact .one 20 (fun m c => { m with then_ := c }) (fun _ => rfl) (fun _ => rfl)
  case h_52 => exact .one 10 (fun m c => { m with else_ := c }) (fun _ => rfl) (fun _ => rfl)
  case h_53 => exact .keyed 9 (fun m c => { m with dependentSchemas := c }) (fun _ => rfl) (fun _ => rfl)
  case h_54 => exact .plain _ (fun m s => { m with contentEncoding := s }) (decStr_NoPF _ _) (fun _ => rfl) (fun _ => rfl)
  case h_55 => exact .plain _ (fun m s => { m with contentMediaType := s }) (decStr_NoPF _ _) (fun _ => rfl) (fun _ => rfl)
  case h_56 => exact .one 6 (fun m c => { m with contentSchema := c }) (fun _ => rfl) (fun _ => rfl)
  case h_57 => exact .plain _ (fun m s => { m with format := s }) (decStr_NoPF _ _) (fun _ => rfl) (fun _ => rfl)
  case h_58 => exact absurd rfl ht
  case h_59 => exact absurd rfl hi
  case h_60 => exact absurd rfl hd
  case h_61 =>
    refine .extra ?_
    simp only [knownKeys, List.mem_cons, List.not_mem_nil, or_false, not_or]
    and_intros <;> assumption

/-! The three keywords whose wrapper field is a `json.RawMessage` decoded by hand. -/

theorem setField_type (rec : URec) (n : Node) (st : Store) (v : Json) :
    setField rec n st "type" v =
      match v with
      | .str s => .ok ({ n with type := s, types := none }, st)
      | .arr _ => Res.bind (decStrList v) fun l => .ok ({ n with types := l, type := "" }, st)
      | _ => .err := rfl

theorem setField_items (rec : URec) (n : Node) (st : Store) (v : Json) :
    setField rec n st "items" v =
      match v with
      | .arr xs => Res.bind (decSchemaElems rec xs st) fun r => .ok ({ n with itemsArray := some r.1, items := none }, r.2)
      | _ => Res.bind (rec v st) fun r => .ok ({ n with items := some r.1, itemsArray := none }, r.2) := rfl

theorem setField_dependencies (rec : URec) (n : Node) (st : Store) (v : Json) :
    setField rec n st "dependencies" v =
      match v with
      | .null => .ok (n, st)
      | .obj kvs => decDependencies rec kvs n st
      | _ => .err := rfl

theorem setField_unknown (rec : URec) (n : Node) (st : Store) (k : String) (v : Json) (hk : k ∉ knownKeys) :
    setField rec n st k v = .ok ({ n with extra := some ((n.extra.getD []) ++ [(k, v)]) }, st) := by
  have h := setField_slot rec n st k v none
  generalize setField rec n st k v = r, setField rec (withExtra none n) st k v = r' at h
  cases h with
  | extra => rfl
  | plain _ _ _ _ _ hk' => exact absurd hk' hk
  | one _ _ _ _ hk' => exact absurd hk' hk
  | many _ _ _ _ hk' => exact absurd hk' hk
  | keyed _ _ _ _ hk' => exact absurd hk' hk
  | typ => exact absurd (by repeat constructor) hk
  | items => exact absurd (by repeat constructor) hk
  | deps => exact absurd (by repeat constructor) hk

end Go
end JSV
