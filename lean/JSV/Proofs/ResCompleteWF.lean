/-
  For C03: the Bool checkers of JSV/Spec/WellFormed.lean are sound — `Doc.idsOk` implies `Doc.IdsOk`,
  `Doc.uniqueIds` implies `Doc.UniqueIds`.  `Doc.Designates` (hypothesis D there) and `Doc.RefGood` are existential
  statements (lineages, a resource root); given the witnesses they are decidable: `checkRefs`, `checkRefOut`.
  Documents without `$id` satisfy W5 and W6 whatever the retrieval URI.  At the end: the evaluable hypotheses of
  `C03.resolve_complete_selfcontained` as one Bool (`selfContainedB`: W3–W6, and D from a table of witnesses);
  evaluated in one piece, the conjuncts share the URI computations.
-/
import JSV.Spec.WellFormed
import JSV.Proofs.ResTree
namespace JSV
namespace Go
namespace RComp
open RInv Uri Spec

def baseFrom (D : Doc) (u : Url) (l : List NodeId) : Url :=
  (l.filter (startsResourceAt D.st D.draft)).foldl (fun u r => Uri.resolveReference u (idUrl D.st r)) u

theorem baseUriAlong_eq (D : Doc) (ret : Url) (l : List NodeId) :
    baseUriAlong D ret l = baseFrom D ret (D.root :: l) := rfl

theorem baseFrom_cons (D : Doc) (u : Url) (a : NodeId) (l : List NodeId) :
    baseFrom D u (a :: l) = baseFrom D (stepBase D.st D.draft a u) l := by
  unfold baseFrom stepBase
  rw [List.filter_cons]
  split
  · rfl
  · rfl

theorem isChild_subschemas (st : Store) (p c : NodeId) (h : isChild st p c = true) : c ∈ subschemas st p := by
  obtain ⟨n, hn, hc⟩ := (isChild_iff st p c).mp h
  unfold subschemas
  rw [hn]
  exact hc

theorem basesFrom_complete (D : Doc) : ∀ (l : List NodeId) (f : Nat) (a : NodeId) (bu : Url) (s : NodeId),
    withinDepth D.st f a = true → isLineage D.st a l s = true →
      (s, baseFrom D bu (a :: l)) ∈ basesFrom D.st D.draft f a bu := by
  intro l
  induction l with
  | nil =>
    intro f a bu s hd hl
    simp only [isLineage, beq_iff_eq] at hl
    subst hl
    cases f with
    | zero => simp [withinDepth] at hd
    | succ f =>
      rw [basesFrom, baseFrom_cons]
      exact List.mem_cons_self
  | cons b l ih =>
    intro f a bu s hd hl
    simp only [isLineage, Bool.and_eq_true] at hl
    cases f with
    | zero => simp [withinDepth] at hd
    | succ f =>
      rw [withinDepth, List.all_eq_true] at hd
      have hb := isChild_subschemas D.st a b hl.1
      rw [basesFrom, baseFrom_cons]
      exact List.mem_cons_of_mem _ (List.mem_flatMap.mpr ⟨b, hb, ih f b _ s (hd b hb) hl.2⟩)

theorem bases_complete (D : Doc) (ret : Url) (hd : D.depthOk = true) (l : List NodeId) (s : NodeId)
    (hl : isLineage D.st D.root l s = true) : (s, baseUriAlong D ret l) ∈ D.bases ret :=
  basesFrom_complete D l _ D.root ret s hd hl

theorem idsOk_sound (D : Doc) (ret : Url) (h : D.idsOk ret = true) : D.IdsOk ret := by
  unfold Doc.idsOk at h
  simp only [Bool.and_eq_true, List.all_eq_true] at h
  obtain ⟨hd, hall⟩ := h
  intro l s n hl hn
  have := hall _ (bases_complete D ret hd l s hl)
  simp only [hn, Bool.and_eq_true, Bool.or_eq_true, Bool.not_eq_true'] at this
  refine ⟨this.1, fun hs => ?_⟩
  rcases this.2 with h1 | h1
  · rw [hs] at h1; simp at h1
  · exact h1

theorem identifies_mem (D : Doc) (ret : Url) (hd : D.depthOk = true) (k : String) (r : NodeId)
    (h : D.Identifies ret k r) : (k, r) ∈ D.identKeys ret := by
  unfold Doc.identKeys
  rcases h with ⟨hr, hk⟩ | ⟨⟨l', hl', hnear⟩, u, ⟨l, hl, hu⟩, hk⟩
  · rw [hr, hk]; exact List.mem_cons_self
  · apply List.mem_cons_of_mem
    have hmem := bases_complete D ret hd l r hl
    rw [hu] at hmem
    refine List.mem_map.mpr ⟨(r, u), List.mem_filter.mpr ⟨hmem, ?_⟩, by rw [hk]⟩
    unfold nearestResource at hnear
    cases hg : (l'.filter (startsResourceAt D.st D.draft)).getLast? with
    | none =>
      rw [hg] at hnear
      simp only [Option.getD_none] at hnear
      simp [hnear]
    | some x =>
      rw [hg] at hnear
      simp only [Option.getD_some] at hnear
      subst hnear
      have := List.mem_of_getLast? hg
      simp [(List.mem_filter.mp this).2]

theorem uniqueIds_sound (D : Doc) (ret : Url) (h : D.uniqueIds ret = true) : D.UniqueIds ret := by
  unfold Doc.uniqueIds at h
  simp only [Bool.and_eq_true, List.all_eq_true] at h
  obtain ⟨hd, hall⟩ := h
  intro k r r' h1 h2
  have := hall _ (identifies_mem D ret hd k r h1) _ (identifies_mem D ret hd k r' h2)
  simpa using this

/-- the fragment `frag` selects `t` in the resource rooted at `r` (`lt`: lineage of `t`, for plain names) -/
def fragCheck (D : Doc) (r : NodeId) (frag : String) (lt : List NodeId) (t : NodeId) : Bool :=
  if frag = "" then t == r
  else if frag.toList.head? = some '/' then Pointer.dereference D.st true true r frag == .ok t
  else isLineage D.st D.root lt t && (nearestResource D lt == r) &&
    (match D.st.get? t with
     | some n => (declaredAnchors D.draft n).any fun e => e.1 == frag
     | none => false)

theorem fragCheck_sound (D : Doc) (r : NodeId) (frag : String) (lt : List NodeId) (t : NodeId)
    (h : fragCheck D r frag lt t = true) : D.FragTarget r frag t := by
  unfold fragCheck at h
  unfold Doc.FragTarget
  split at h
  · rename_i h0
    rw [if_pos h0]
    simpa using h
  · rename_i h0
    rw [if_neg h0]
    split at h
    · rename_i h1
      rw [if_pos h1]
      simpa using h
    · rename_i h1
      rw [if_neg h1]
      simp only [Bool.and_eq_true, beq_iff_eq] at h
      obtain ⟨⟨hlt, hnt⟩, hdecl⟩ := h
      refine ⟨⟨lt, hlt, hnt⟩, ?_⟩
      cases hg : D.st.get? t with
      | none => rw [hg] at hdecl; simp at hdecl
      | some n =>
        rw [hg] at hdecl
        simp only [List.any_eq_true, beq_iff_eq] at hdecl
        obtain ⟨⟨a, dyn⟩, hmem, ha⟩ := hdecl
        simp only at ha
        subst ha
        exact ⟨dyn, n, hg, hmem⟩

/-- witnesses of one designation -/
structure DesigCert where
  /-- lineage of the referring schema -/
  ls : List NodeId
  /-- lineage of the resource root the fragment-less URI identifies -/
  lr : List NodeId
  r : NodeId
  /-- lineage of the target (used for plain-name fragments) -/
  lt : List NodeId
  t : NodeId

def checkDesignation (D : Doc) (ret : Url) (s : NodeId) (ref : String) (c : DesigCert) : Bool :=
  isLineage D.st D.root c.ls s && isLineage D.st D.root c.lr c.r && (nearestResource D c.lr == c.r) &&
  match Uri.parse ref with
  | .ok refURI =>
    (Uri.toString (Uri.dropFragment (Uri.resolveReference (baseUriAlong D ret c.ls) refURI)) ==
        Uri.toString (baseUriAlong D ret c.lr) ||
      (c.r == D.root &&
        Uri.toString (Uri.dropFragment (Uri.resolveReference (baseUriAlong D ret c.ls) refURI)) == Uri.toString ret)) &&
    fragCheck D c.r (Uri.resolveReference (baseUriAlong D ret c.ls) refURI).fragment c.lt c.t
  | _ => false

theorem checkDesignation_sound (D : Doc) (ret : Url) (s : NodeId) (ref : String) (c : DesigCert)
    (h : checkDesignation D ret s ref c = true) : D.Designates ret s ref c.t := by
  unfold checkDesignation at h
  simp only [Bool.and_eq_true, beq_iff_eq] at h
  obtain ⟨⟨⟨hls, hlr⟩, hnear⟩, h⟩ := h
  split at h
  · rename_i refURI hp
    simp only [Bool.and_eq_true, Bool.or_eq_true, beq_iff_eq] at h
    obtain ⟨hkey, hfrag⟩ := h
    refine ⟨baseUriAlong D ret c.ls, refURI, c.r, ⟨c.ls, hls, rfl⟩, hp, ?_, fragCheck_sound _ _ _ _ _ hfrag⟩
    rcases hkey with hk | ⟨hr, hk⟩
    · exact Or.inr ⟨⟨c.lr, hlr, hnear⟩, _, ⟨c.lr, hlr, rfl⟩, hk⟩
    · exact Or.inl ⟨hr, hk⟩
  · cases h

/-- check hypothesis D against a table of certificates (`cert id false` for `$ref`, `cert id true` for `$dynamicRef`,
    which is looked at in a 2020-12 document only) -/
def checkRefs (D : Doc) (ret : Url) (nodes : List NodeId) (cert : NodeId → Bool → DesigCert) : Bool :=
  nodes.all fun id =>
    match D.st.get? id with
    | some n =>
      (n.ref == "" || checkDesignation D ret id n.ref (cert id false)) &&
      (n.dynamicRef == "" || D.draft != .d2020 || checkDesignation D ret id n.dynamicRef (cert id true))
    | none => true

theorem checkRefs_sound (D : Doc) (ret : Url) (nodes : List NodeId) (cert : NodeId → Bool → DesigCert)
    (h : checkRefs D ret nodes cert = true) : D.RefsDesignate ret nodes := by
  unfold checkRefs at h
  rw [List.all_eq_true] at h
  intro id hid n hn
  have := h id hid
  rw [hn] at this
  simp only [Bool.and_eq_true, Bool.or_eq_true, beq_iff_eq, bne_iff_ne] at this
  exact ⟨fun hne => ⟨_, checkDesignation_sound D ret id n.ref _ (this.1.resolve_left hne)⟩,
    fun h20 hne => ⟨_, checkDesignation_sound D ret id n.dynamicRef _
      (this.2.resolve_left (fun h => h.elim hne (fun h => h h20)))⟩⟩

def NoIds (D : Doc) : Prop := ∀ x n, D.Has x → D.st.get? x = some n → n.id = ""

theorem lineage_mem_has (st : Store) : ∀ (l : List NodeId) (a s : NodeId), isLineage st a l s = true →
    ∀ x ∈ l, ∃ l', isLineage st a l' x = true := by
  intro l
  induction l with
  | nil => intro a s _ x hx; simp at hx
  | cons c l ih =>
    intro a s h x hx
    simp only [isLineage, Bool.and_eq_true] at h
    rcases List.mem_cons.mp hx with hx | hx
    · subst hx
      exact ⟨[x], by simp [isLineage, h.1]⟩
    · obtain ⟨l', hl'⟩ := ih c s h.2 x hx
      exact ⟨c :: l', by simp [isLineage, h.1, hl']⟩

theorem noIds_starts (D : Doc) (h : NoIds D) (x : NodeId) (hx : D.Has x) :
    startsResourceAt D.st D.draft x = false := by
  unfold startsResourceAt
  cases hg : D.st.get? x with
  | none => rfl
  | some n =>
    have := h x n hx hg
    unfold startsResource
    cases D.draft <;> simp [this]

theorem noIds_filter (D : Doc) (h : NoIds D) (l : List NodeId) (s : NodeId)
    (hl : isLineage D.st D.root l s = true) :
    (D.root :: l).filter (startsResourceAt D.st D.draft) = [] := by
  rw [List.filter_eq_nil_iff]
  intro x hx
  rcases List.mem_cons.mp hx with hx | hx
  · rw [hx, noIds_starts D h D.root ⟨[], by simp [isLineage]⟩]; simp
  · rw [noIds_starts D h x (lineage_mem_has D.st l D.root s hl x hx)]; simp

theorem noIds_baseUri (D : Doc) (h : NoIds D) (u : Url) (l : List NodeId) (s : NodeId)
    (hl : isLineage D.st D.root l s = true) : baseUriAlong D u l = u := by
  unfold baseUriAlong
  rw [noIds_filter D h l s hl]
  rfl

theorem noIds_nearest (D : Doc) (h : NoIds D) (l : List NodeId) (s : NodeId)
    (hl : isLineage D.st D.root l s = true) : nearestResource D l = D.root := by
  unfold nearestResource
  have := noIds_filter D h l s hl
  rw [List.filter_cons] at this
  split at this
  · simp at this
  · rw [this]; rfl

theorem noIds_identifies (D : Doc) (h : NoIds D) (u : Url) (k : String) (r : NodeId)
    (hI : D.Identifies u k r) : r = D.root ∧ k = Uri.toString u := by
  rcases hI with hI | ⟨⟨l, hl, hn⟩, u', ⟨l', hl', hu'⟩, hk⟩
  · exact hI
  · rw [noIds_nearest D h l r hl] at hn
    rw [noIds_baseUri D h u l' r hl'] at hu'
    exact ⟨hn.symm, by rw [hk, ← hu']⟩

theorem noIds_idsOk (D : Doc) (h : NoIds D) (u : Url) : D.IdsOk u := by
  intro l s n hl hn
  have hid := h s n ⟨l, hl⟩ hn
  constructor
  · unfold idSyntaxOk idRead
    simp [hid]
  · intro hs
    unfold startsResource at hs
    cases hd : D.draft <;> rw [hd] at hs <;> simp [hid] at hs

theorem noIds_uniqueIds (D : Doc) (h : NoIds D) (u : Url) : D.UniqueIds u := by
  intro k r r' h1 h2
  rw [(noIds_identifies D h u k r h1).1, (noIds_identifies D h u k r' h2).1]

/-- the reference leaves the document: its fragment-less URI is none of `keys` (the document's `identKeys`, which
    the caller evaluates once for all references) and is a key of the Loader table, with document `x`, in which the
    fragment selects `t` -/
def checkRefOut (env : Env) (D : Doc) (ret : Url) (keys : List (String × NodeId)) (s : NodeId) (ref : String)
    (ls : List NodeId) (x : NodeId) (lt : List NodeId) (t : NodeId) : Bool :=
  isLineage D.st D.root ls s &&
  match Uri.parse ref with
  | .ok refURI =>
    (keys.all fun e =>
      e.1 != Uri.toString (Uri.dropFragment (Uri.resolveReference (baseUriAlong D ret ls) refURI))) &&
    (match env.loader with
     | some tbl =>
       (match Json.lookup (Uri.toString (Uri.dropFragment (Uri.resolveReference (baseUriAlong D ret ls) refURI))) tbl with
        | some (.doc y) => y == x
        | _ => false)
     | none => false) &&
    fragCheck ⟨D.st, D.draft, x⟩ x (Uri.resolveReference (baseUriAlong D ret ls) refURI).fragment lt t
  | _ => false

theorem checkRefOut_sound (env : Env) (top : NodeId) (b : Url) (D : Doc) (ret : Url) (keys : List (String × NodeId))
    (hd : D.depthOk = true) (hkeys : D.identKeys ret = keys) (s : NodeId) (ref : String)
    (ls : List NodeId) (x : NodeId) (lt : List NodeId) (t : NodeId)
    (h : checkRefOut env D ret keys s ref ls x lt t = true) : D.RefGood env top b ret s ref := by
  unfold checkRefOut at h
  simp only [Bool.and_eq_true] at h
  obtain ⟨hls, h⟩ := h
  split at h
  · rename_i refURI hp
    simp only [Bool.and_eq_true, List.all_eq_true, bne_iff_ne, ne_eq] at h
    obtain ⟨⟨hk, htbl⟩, hfrag⟩ := h
    refine ⟨baseUriAlong D ret ls, refURI, ⟨ls, hls, rfl⟩, hp, Or.inr ⟨?_, x, Or.inr ?_, t, fragCheck_sound _ _ _ _ _ hfrag⟩⟩
    · intro r hI
      exact hk _ (hkeys ▸ identifies_mem D ret hd _ r hI) rfl
    · cases hl : env.loader with
      | none => rw [hl] at htbl; simp at htbl
      | some tbl =>
        rw [hl] at htbl
        simp only at htbl
        refine ⟨tbl, rfl, ?_⟩
        cases hk' : Json.lookup (Uri.toString (Uri.dropFragment (Uri.resolveReference (baseUriAlong D ret ls) refURI))) tbl with
        | none => rw [hk'] at htbl; simp at htbl
        | some v =>
          rw [hk'] at htbl
          cases v with
          | fail => simp at htbl
          | nilDoc => simp at htbl
          | doc y =>
            simp only [beq_iff_eq] at htbl
            rw [htbl]
  · cases h

theorem refGood_of_designates (env : Env) (top : NodeId) (b : Url) (D : Doc) (ret : Url) (s : NodeId) (ref : String)
    (t : NodeId) (h : D.Designates ret s ref t) : D.RefGood env top b ret s ref := by
  obtain ⟨bu, refURI, r, h1, h2, h3, h4⟩ := h
  exact ⟨bu, refURI, h1, h2, Or.inl ⟨r, h3, t, h4⟩⟩

def selfContainedB (env : Env) (root : NodeId) (b : Url) (cert : NodeId → Bool → DesigCert) : Bool :=
  structureOk env.st root && localOk env root && (topDoc env root).idsOk b && (topDoc env root).uniqueIds b &&
    checkRefs (topDoc env root) b (allNodes env.st (env.st.size + 2) [root]) cert

theorem selfContained_of_check (env : Env) (root : NodeId) (b : Url) (cert : NodeId → Bool → DesigCert)
    (h : selfContainedB env root b cert = true) :
    structureOk env.st root = true ∧ localOk env root = true ∧ (topDoc env root).idsOk b = true ∧
      (topDoc env root).uniqueIds b = true ∧
      (topDoc env root).RefsDesignate b (allNodes env.st (env.st.size + 2) [root]) := by
  simp only [selfContainedB, Bool.and_eq_true] at h
  exact ⟨h.1.1.1.1, h.1.1.1.2, h.1.1.2, h.1.2, checkRefs_sound _ _ _ cert h.2⟩

end RComp
end Go
end JSV
