/-
  The ids stored in the schema-valued fields of a schema object (`ChildField.ids`) and their two readings:
  `Node.children` (maps by sorted key: `sortByKey_perm`) rearranges them, `childEntries` (what checkStructure pushes)
  lists them in order, each with its location.
-/
import JSV.Model.Resolve
import JSV.Proofs.ListFacts
namespace JSV
namespace Go

theorem insertSorted_nil (e : String × NodeId) : insertSorted e [] = [e] := rfl
theorem insertSorted_cons (e x : String × NodeId) (xs : List (String × NodeId)) :
    insertSorted e (x :: xs) = if e.1 ≤ x.1 then e :: x :: xs else x :: insertSorted e xs := rfl

theorem insertSorted_perm (e : String × NodeId) (l : List (String × NodeId)) : (insertSorted e l).Perm (e :: l) :=
  ins_perm (le := fun a b => a.1 ≤ b.1) insertSorted_nil insertSorted_cons e l

theorem sortByKey_perm (l : List (String × NodeId)) : (sortByKey l).Perm l :=
  insSort_perm (le := fun a b => a.1 ≤ b.1) insertSorted_nil insertSorted_cons l

def _root_.JSV.ChildField.ids : ChildField → List NodeId
  | .one _ c => c.toList
  | .many _ cs => cs.getD []
  | .keyed _ cs => (cs.getD []).map (·.2)

theorem children_perm_ids (n : Node) : n.children.Perm (n.childFields.flatMap ChildField.ids) := by
  unfold Node.children
  refine perm_flatMap_left _ fun f _ => ?_
  cases f with
  | one k c => exact List.Perm.refl _
  | many k cs => exact List.Perm.refl _
  | keyed k cs => exact (sortByKey_perm _).map _

theorem mem_children_iff {n : Node} {x : NodeId} :
    x ∈ n.children ↔ ∃ f, f ∈ n.childFields ∧ x ∈ f.ids :=
  (children_perm_ids n).mem_iff.trans List.mem_flatMap

theorem childEntries_fst (n : Node) (path : String) :
    (childEntries n path).map (·.1) = n.childFields.flatMap ChildField.ids := by
  unfold childEntries
  rw [List.map_flatMap]
  congr 1
  funext f
  cases f with
  | one j x => cases x <;> rfl
  | many j x => exact (map_fst_map _ (fun p : NodeId × Nat => p.1) (fun p => by obtain ⟨c, i⟩ := p; rfl) _).trans (List.zipIdx_map_fst 0 _)
  | keyed j x => exact map_fst_map _ (fun p : String × NodeId => p.2) (fun p => by obtain ⟨k, c⟩ := p; rfl) _

theorem childEntries_ids (n : Node) (p q : String) :
    (childEntries n p).map (·.1) = (childEntries n q).map (·.1) :=
  (childEntries_fst n p).trans (childEntries_fst n q).symm

theorem mem_children_iff_entries {n : Node} {path : String} {c : NodeId} :
    c ∈ n.children ↔ ∃ q, (c, q) ∈ childEntries n path := by
  rw [(children_perm_ids n).mem_iff, ← childEntries_fst n path, List.mem_map]
  exact ⟨fun ⟨e, he, hc⟩ => ⟨e.2, hc ▸ he⟩, fun ⟨q, hq⟩ => ⟨(c, q), hq, rfl⟩⟩

end Go
end JSV
