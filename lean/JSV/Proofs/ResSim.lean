/-
  One simulation of the resolver proper (resolveURIs, Schema.all, resolveRef, resolveRefs, resolver.resolve,
  Schema.Resolve) along a relation `R` between the schema ids of two environments.  The resolver states are related
  by `RIso.SRel R`: the tables as maps along `R`.  What reads the stores in a way of its own is an assumption
  (`GEnv`): checkStructure with checkLocal, the JSON-pointer walk, the Loader.  Outcomes are compared by `Out strict`:
  a normal return on the left is answered by a related one on the right (`RIso.DirRel`, the first component), and
  under `strict` a failure by the same failure (`Out True` gives `RPerm.ResRel`: `RPerm.Out.toResRel`, ResPermResolve.lean).
  A renaming of ids is the instance `strict = False` at the end of this file (`RIso.resolve_rel`); the maps of every
  node listed in another order the instance `R = Eq`, `strict = True` (ResPermResolve.lean).
-/
import JSV.Proofs.ResIso
import JSV.Proofs.ResNoFuel
namespace JSV
namespace Go
namespace RSim
open RInv RIso

def SameFail {α β : Type} : Res α → Res β → Prop
  | .ok _, _ => True
  | .err, y => y = .err
  | .panic, y => y = .panic
  | .fuel, y => y = .fuel

def Out (strict : Prop) {α β : Type} (Q : α → β → Prop) (x : Res α) (y : Res β) : Prop :=
  DirRel Q x y ∧ (strict → SameFail x y)

section
variable {strict : Prop} {α β : Type} {Q : α → β → Prop}

theorem Out.ok {a : α} {b : β} (h : Q a b) : Out strict Q (.ok a) (.ok b) := ⟨DirRel.ok h, fun _ => trivial⟩
theorem Out.err : Out strict Q .err .err := ⟨DirRel.err, fun _ => rfl⟩
theorem Out.panic : Out strict Q .panic .panic := ⟨DirRel.panic, fun _ => rfl⟩
theorem Out.fuel : Out strict Q .fuel .fuel := ⟨DirRel.fuel, fun _ => rfl⟩

theorem Out.refl_eq (x : Res α) : Out strict (· = ·) x x :=
  ⟨DirRel.refl_eq x, fun _ => by cases x <;> first | trivial | rfl⟩

theorem Out.mono {P : α → β → Prop} {x : Res α} {y : Res β} (h : Out strict Q x y) (hqp : ∀ a b, Q a b → P a b) :
    Out strict P x y := ⟨h.1.mono hqp, h.2⟩

/-- the continuation is asked only about the values the two sides have returned -/
theorem Out.bind {γ δ : Type} {P : γ → δ → Prop} {x : Res α} {y : Res β} {f : α → Res γ} {g : β → Res δ}
    (h : Out strict Q x y) (hf : ∀ a b, x = .ok a → y = .ok b → Q a b → Out strict P (f a) (g b)) :
    Out strict P (x.bind f) (y.bind g) := by
  cases x with
  | ok a =>
    obtain ⟨b, rfl, hq⟩ := h.1 a rfl
    exact hf a b rfl rfl hq
  | err => exact ⟨DirRel.err, fun hs => by rw [show y = .err from h.2 hs]; rfl⟩
  | panic => exact ⟨DirRel.panic, fun hs => by rw [show y = .panic from h.2 hs]; rfl⟩
  | fuel => exact ⟨DirRel.fuel, fun hs => by rw [show y = .fuel from h.2 hs]; rfl⟩

end

/-- what resolveURIs and resolveRefs read of a schema object; the children are `Node.children`: maps by sorted key -/
structure GNode (R : NodeId → NodeId → Prop) (n₁ n₂ : Node) : Prop where
  id : n₁.id = n₂.id
  schema : n₁.schema = n₂.schema
  ref : n₁.ref = n₂.ref
  anchor : n₁.anchor = n₂.anchor
  dynamicAnchor : n₁.dynamicAnchor = n₂.dynamicAnchor
  dynamicRef : n₁.dynamicRef = n₂.dynamicRef
  children : ListRel R n₁.children n₂.children

/-- what two runs of checkStructure register: the same table as a map along `R` (the order of registration is that of
    the maps' iteration), on which checkLocal passes on the right if it does on the left -/
def FreshRel (strict : Prop) (R : NodeId → NodeId → Prop) (env₁ env₂ : Env) (f₁ f₂ : List (NodeId × Info)) : Prop :=
  (∀ a b, R a b → OptRel (InfoRel R) (lookupNat a f₁) (lookupNat b f₂)) ∧
  (RDraft.localOkAll env₁ f₁ = true → RDraft.localOkAll env₂ f₂ = true) ∧
  (strict → RDraft.localOkAll env₂ f₂ = true → RDraft.localOkAll env₁ f₁ = true)

structure GEnv (strict : Prop) (R : NodeId → NodeId → Prop) (env₁ env₂ : Env) : Prop where
  biu : BiU R
  node : ∀ a b, R a b → OptRel (GNode R) (env₁.st.get? a) (env₂.st.get? b)
  draft7 : env₁.draft7URIs = env₂.draft7URIs
  check : ∀ r₁ r₂, R r₁ r₂ → Out strict (FreshRel strict R env₁ env₂)
    (checkStructure env₁.st (env₁.st.size + 2) [(r₁, "")] []) (checkStructure env₂.st (env₂.st.size + 2) [(r₂, "")] [])
  deref : ∀ r₁ r₂ ptr, R r₁ r₂ →
    Out strict R (Pointer.dereference env₁.st true true r₁ ptr) (Pointer.dereference env₂.st true true r₂ ptr)
  loader : ∀ key, Out strict R (loaderDoc env₁ key) (loaderDoc env₂ key)

theorem mem_keys_of_lookup {α β : Type} {Q : α → β → Prop} {a b : NodeId} {l₁ : List (NodeId × α)}
    {l₂ : List (NodeId × β)} (h : OptRel Q (lookupNat a l₁) (lookupNat b l₂)) :
    a ∈ l₁.map (·.1) ↔ b ∈ l₂.map (·.1) := by
  have k₁ := lookupNat_eq_none_iff a l₁
  have k₂ := lookupNat_eq_none_iff b l₂
  rcases h.inv with ⟨e1, e2⟩ | ⟨_, _, e1, e2, _⟩
  · exact iff_of_false (k₁.mp e1) (k₂.mp e2)
  · rw [e1] at k₁; rw [e2] at k₂
    exact iff_of_true (Classical.not_not.mp fun h => nomatch k₁.mpr h) (Classical.not_not.mp fun h => nomatch k₂.mpr h)

def DocSim (strict : Prop) (R : NodeId → NodeId → Prop) (rec₁ rec₂ : ResolveDoc) : Prop :=
  ∀ l₁ l₂ u dr s₁ s₂, R l₁ l₂ → SRel R s₁ s₂ → Out strict (SRel R) (rec₁ l₁ u dr s₁) (rec₂ l₂ u dr s₂)

section
variable {strict : Prop} {R : NodeId → NodeId → Prop} {env₁ env₂ : Env} (hE : GEnv strict R env₁ env₂)
include hE

theorem uriStep_sim (draft : Draft) {r₁ r₂ : NodeId} (hr : R r₁ r₂) {s₁ s₂ : RState} (h : SRel R s₁ s₂)
    {a b base₁ base₂ : NodeId} (hab : R a b) (hbase : R base₁ base₂) {n₁ n₂ : Node} (hn : GNode R n₁ n₂)
    {bi₁ bi₂ : Info} (hbi : InfoRel R bi₁ bi₂) :
    Out strict (StepRel R) (uriStep draft r₁ s₁ a base₁ n₁ bi₁) (uriStep draft r₂ s₂ b base₂ n₂ bi₂) := by
  have hb := hE.biu
  rw [uriStep_eq_act, uriStep_eq_act, ← hn.id, ← hn.ref, ← hbi.uri]
  refine (Out.refl_eq _).bind ?_
  intro act _ _ _ e
  subst e
  cases act with
  | keep => exact Out.ok ⟨h, hbase⟩
  | anchor x => exact Out.ok ⟨h.setAnchor hb hbase hab _ _, hbase⟩
  | resource u => exact Out.ok ⟨newUriState_rel hb hr h hab u, hab⟩

theorem postStep_sim (draft : Draft) {s₁ s₂ : RState} (h : SRel R s₁ s₂) {a b base₁ base₂ : NodeId} (hab : R a b)
    (hbase : R base₁ base₂) {n₁ n₂ : Node} (hn : GNode R n₁ n₂) :
    SRel R (postStep draft s₁ a base₁ n₁) (postStep draft s₂ b base₂ n₂) := by
  have hb := hE.biu
  have h1 : SRel R (s₁.updInfo a fun i => { i with base := some base₁ })
      (s₂.updInfo b fun i => { i with base := some base₂ }) :=
    h.updInfo hb hab fun _ _ hi => { hi with base := hbase }
  unfold postStep
  simp only
  rw [← hn.anchor, ← hn.dynamicAnchor]
  split
  · exact (h1.setAnchor hb hbase hab _ _).setAnchor hb hbase hab _ _
  · exact h1

/-- resolveURIs, and with it Schema.all over the same worklist.  The two fuels may differ (the stores may differ in
    size), so nothing is said of a run that is cut short. -/
theorem uris_sim (draft : Draft) {r₁ r₂ : NodeId} (hr : R r₁ r₂) :
    ∀ (f₁ f₂ : Nat) (w₁ w₂ : List (NodeId × NodeId)) (s₁ s₂ : RState),
      ListRel (PairRel R) w₁ w₂ → SRel R s₁ s₂ →
      resolveURIsLoop env₁ draft r₁ f₁ w₁ s₁ ≠ .fuel → resolveURIsLoop env₂ draft r₂ f₂ w₂ s₂ ≠ .fuel →
      Out strict (fun s₁' s₂' => SRel R s₁' s₂' ∧
          ListRel R (allNodes env₁.st f₁ (w₁.map (·.1))) (allNodes env₂.st f₂ (w₂.map (·.1))))
        (resolveURIsLoop env₁ draft r₁ f₁ w₁ s₁) (resolveURIsLoop env₂ draft r₂ f₂ w₂ s₂) := by
  intro f₁
  induction f₁ with
  | zero => intro f₂ w₁ w₂ s₁ s₂ _ _ h; exact absurd (by rw [resolveURIsLoop]) h
  | succ f₁ ih =>
    intro f₂ w₁ w₂ s₁ s₂ hw h hnf₁ hnf₂
    cases f₂ with
    | zero => exact absurd (by rw [resolveURIsLoop]) hnf₂
    | succ f₂ =>
      cases hw with
      | nil =>
        rw [resolveURIsLoop, resolveURIsLoop]
        exact Out.ok ⟨h, .nil⟩
      | cons h1 h2 =>
        rename_i e₁ e₂ w₁' w₂'
        obtain ⟨a, base₁⟩ := e₁
        obtain ⟨b, base₂⟩ := e₂
        have hab : R a b := h1.1
        rw [resolveURIsLoop_cons] at hnf₁ hnf₂ ⊢
        rw [resolveURIsLoop_cons]
        rcases (hE.node a b hab).inv with ⟨hn₁, hn₂⟩ | ⟨n₁, n₂, hn₁, hn₂, hn⟩
        · rw [hn₁, hn₂]; exact Out.panic
        rcases (h.infos a b hab).inv with ⟨hi₁, hi₂⟩ | ⟨i₁, i₂, hi₁, hi₂, -⟩
        · rw [hn₁, hn₂, hi₁, hi₂]; exact Out.panic
        rcases (h.infos base₁ base₂ h1.2).inv with ⟨hb₁, hb₂⟩ | ⟨bi₁, bi₂, hb₁, hb₂, hbi⟩
        · rw [hn₁, hn₂, hi₁, hi₂, hb₁, hb₂]; exact Out.panic
        rw [hn₁, hi₁, hb₁] at hnf₁ ⊢
        rw [hn₂, hi₂, hb₂] at hnf₂ ⊢
        dsimp only at hnf₁ hnf₂ ⊢
        refine (uriStep_sim hE draft hr h hab h1.2 hn hbi).bind fun p₁ p₂ e₁ e₂ hp => ?_
        rw [e₁, Res.bind_ok] at hnf₁
        rw [e₂, Res.bind_ok] at hnf₂
        refine (ih f₂ _ _ _ _ (ListRel.append (ListRel.map_map _ _ (fun x y hxy => ⟨hxy, hp.2⟩) hn.children) h2)
          (postStep_sim hE draft hp.1 hab hp.2 hn) hnf₁ hnf₂).mono fun _ _ hs => ⟨hs.1, ?_⟩
        have hall := hs.2
        rw [List.map_append, List.map_append, map_fst_map _ _root_.id (fun _ => rfl), map_fst_map _ _root_.id (fun _ => rfl), List.map_id,
          List.map_id] at hall
        rw [List.map_cons, List.map_cons, allNodes, allNodes, hn₁, hn₂]
        exact .cons hab hall

variable {rec₁ rec₂ : ResolveDoc} (hrec : DocSim strict R rec₁ rec₂) {r₁ r₂ : NodeId} (hr : R r₁ r₂)
include hrec hr

theorem findDoc_sim {s₁ s₂ : RState} (h : SRel R s₁ s₂) {d₁ d₂ : DocRes} (hd : DRel R d₁ d₂) (u : Uri.Url) :
    Out strict (fun p₁ p₂ => R p₁.1 p₂.1 ∧ SRel R p₁.2 p₂.2) (findDoc env₁ rec₁ r₁ s₁ d₁ u)
      (findDoc env₂ rec₂ r₂ s₂ d₂ u) := by
  have hb := hE.biu
  unfold findDoc
  rcases (lookup_krel (Uri.toString u) hd.uris).inv with ⟨hu₁, hu₂⟩ | ⟨t₁, t₂, hu₁, hu₂, hlu⟩
  · rw [hu₁, hu₂]
    dsimp only
    rcases (lookup_krel (Uri.toString u) h.loaded).inv with ⟨hl₁, hl₂⟩ | ⟨l₁, l₂, hl₁, hl₂, hll⟩
    · rw [hl₁, hl₂]
      refine (hE.loader _).bind fun l₁ l₂ _ _ hl => ?_
      rw [← hd.draft]
      have hs1 : SRel R { s₁ with log := s₁.log ++ [Uri.toString u] } { s₂ with log := s₂.log ++ [Uri.toString u] } :=
        ⟨h.infos, h.docs, h.loaded, congrArg (· ++ [Uri.toString u]) h.log⟩
      exact (hrec l₁ l₂ _ d₁.draft _ _ hl hs1).bind fun sa sb _ _ hs => Out.ok ⟨hl, hs.mergeKnown hb hr hl⟩
    · rw [hl₁, hl₂]
      exact Out.ok ⟨hll, h.mergeKnown hb hr hll⟩
  · rw [hu₁, hu₂]
    exact Out.ok ⟨hlu, h⟩

omit hrec in
theorem fragOut_sim {s₁ s₂ : RState} (h : SRel R s₁ s₂) {t₁ t₂ : NodeId} (ht : R t₁ t₂) (frag : String) :
    Out strict (fun o₁ o₂ => R o₁.target o₂.target ∧ o₁.dynFrag = o₂.dynFrag) (fragOut env₁ s₁ r₁ t₁ frag)
      (fragOut env₂ s₂ r₂ t₂ frag) := by
  unfold fragOut
  split
  · rcases (h.info? hE.biu hr ht).inv with ⟨hi₁, hi₂⟩ | ⟨rInfo₁, rInfo₂, hi₁, hi₂, hi⟩
    · rw [hi₁, hi₂]; exact Out.panic
    rw [hi₁, hi₂]
    dsimp only
    rcases (lookup_krel frag hi.anchors).inv with ⟨ha₁, ha₂⟩ | ⟨a₁, a₂, ha₁, ha₂, hla⟩
    · rw [ha₁, ha₂]; exact Out.err
    rw [ha₁, ha₂]
    refine Out.ok ⟨hla.1, ?_⟩
    show (if a₁.dynamic = true then _ else _) = (if a₂.dynamic = true then _ else _)
    rw [hla.2]
  · exact (hE.deref _ _ frag ht).bind fun _ _ _ _ h' => Out.ok ⟨h', rfl⟩

theorem resolveRef_sim {s₁ s₂ : RState} (h : SRel R s₁ s₂) {a b : NodeId} (hab : R a b) (ref : String) :
    Out strict (OutRel R) (resolveRef env₁ rec₁ r₁ s₁ a ref) (resolveRef env₂ rec₂ r₂ s₂ b ref) := by
  have hb := hE.biu
  rw [resolveRef_eq, resolveRef_eq, refBase_rel hb hr h hab]
  refine (Out.refl_eq (Uri.parse ref)).bind ?_
  intro refURI0 _ _ _ e
  subst e
  cases refBase s₂ r₂ b with
  | none => exact Out.panic
  | some bu =>
    rcases (h.doc? hb hr).inv with ⟨hd₁, hd₂⟩ | ⟨d₁, d₂, hd₁, hd₂, hd⟩
    · rw [hd₁, hd₂]; exact Out.panic
    rw [hd₁, hd₂]
    refine (findDoc_sim hE hrec hr h hd _).bind fun p₁ p₂ _ _ hp => ?_
    exact (fragOut_sim hE hr hp.2 hp.1 _).bind fun o₁ o₂ _ _ ho => Out.ok ⟨ho.1, ho.2, hp.2⟩

theorem refStep_sim {s₁ s₂ : RState} (h : SRel R s₁ s₂) {a b : NodeId} (hab : R a b) (on : Bool) (ref : String)
    {upd : RefOut → Info → Info}
    (hupd : ∀ o₁ o₂ i₁ i₂, R o₁.target o₂.target → o₁.dynFrag = o₂.dynFrag → InfoRel R i₁ i₂ →
      InfoRel R (upd o₁ i₁) (upd o₂ i₂)) :
    Out strict (SRel R) (refStep env₁ rec₁ r₁ a on ref upd s₁) (refStep env₂ rec₂ r₂ b on ref upd s₂) := by
  unfold refStep
  split
  · refine (resolveRef_sim hE hrec hr h hab ref).bind fun o₁ o₂ _ _ ho => ?_
    exact Out.ok (ho.2.2.updInfo hE.biu hab fun _ _ hi => hupd _ _ _ _ ho.1 ho.2.1 hi)
  · exact Out.ok h

theorem refs_sim : ∀ {ids₁ ids₂ : List NodeId}, ListRel R ids₁ ids₂ → ∀ {s₁ s₂ : RState}, SRel R s₁ s₂ →
    Out strict (SRel R) (resolveRefsLoop env₁ rec₁ r₁ ids₁ s₁) (resolveRefsLoop env₂ rec₂ r₂ ids₂ s₂)
  | _, _, .nil, _, _, h => by
    rw [resolveRefsLoop, resolveRefsLoop]
    exact Out.ok h
  | _, _, .cons (a := a) (b := b) hab htl, s₁, s₂, h => by
    rw [resolveRefsLoop_cons, resolveRefsLoop_cons]
    rcases (hE.node a b hab).inv with ⟨hn₁, hn₂⟩ | ⟨n₁, n₂, hn₁, hn₂, hn⟩
    · rw [hn₁, hn₂]; exact Out.panic
    rw [hn₁, hn₂]
    dsimp only
    rw [← hn.ref, ← hn.dynamicRef]
    refine (refStep_sim hE hrec hr h hab _ _ fun _ _ _ _ ht _ hi => by exact { hi with resolvedRef := ht }).bind
      fun sa sb _ _ hs => ?_
    rw [hs.draftOf hE.biu hr]
    exact (refStep_sim hE hrec hr hs hab _ _ fun _ _ _ _ ht hf hi => by
      exact { hi with resolvedDynamicRef := ht, dynamicRefAnchor := hf }).bind fun _ _ _ _ hs' => refs_sim htl hs'

end

section
variable {strict : Prop} {R : NodeId → NodeId → Prop} {env₁ env₂ : Env} (hE : GEnv strict R env₁ env₂)
include hE

open RDraft in
theorem resolveDocStep_sim {rec₁ rec₂ : ResolveDoc} (hrec : DocSim strict R rec₁ rec₂) :
    DocSim strict R (resolveDocStep env₁ rec₁) (resolveDocStep env₂ rec₂) := by
  have hb := hE.biu
  intro r₁ r₂ baseURI inherit s₁ s₂ hr h
  rw [resolveDocStep_eq, resolveDocStep_eq]
  by_cases hfrag : (baseURI.fragment != "") = true
  · rw [if_pos hfrag, if_pos hfrag]; exact Out.err
  rw [if_neg hfrag, if_neg hfrag]
  rcases (hE.node r₁ r₂ hr).inv with ⟨hn₁, hn₂⟩ | ⟨rn₁, rn₂, hn₁, hn₂, hn⟩
  · rw [hn₁, hn₂]; exact Out.err
  rw [hn₁, hn₂]
  dsimp only
  have hdraft : docDraft env₂ rn₂ inherit = docDraft env₁ rn₁ inherit := by
    unfold docDraft detectDraft
    rw [← hn.schema, hE.draft7]
  rw [hdraft]
  refine (hE.check r₁ r₂ hr).bind fun fresh₁ fresh₂ hcs₁ hcs₂ hfr => ?_
  cases hl₁ : localOkAll env₁ fresh₁ with
  | false =>
    refine ⟨DirRel.err, fun hs => ?_⟩
    cases hl₂ : localOkAll env₂ fresh₂ with
    | false => rfl
    | true => rw [hfr.2.2 hs hl₂] at hl₁; cases hl₁
  | true =>
    rw [hfr.2.1 hl₁]
    simp only [Bool.not_true, Bool.false_eq_true, if_false]
    have hA : SRel R (beforeURIs r₁ baseURI (docDraft env₁ rn₁ inherit) fresh₁ s₁)
        (beforeURIs r₂ baseURI (docDraft env₁ rn₁ inherit) fresh₂ s₂) := by
      refine SRel.updInfo hb ?_ hr fun _ _ hi => { hi with uri := rfl }
      refine SRel.setDoc hb ?_ ⟨hr, rfl, .cons ⟨rfl, hr⟩ .nil, fun a b hab => mem_keys_of_lookup (hfr.1 a b hab)⟩
      refine ⟨fun a b hab => ?_, h.docs, h.loaded, h.log⟩
      show OptRel (InfoRel R) (lookupNat a (s₁.infos ++ fresh₁)) (lookupNat b (s₂.infos ++ fresh₂))
      rw [lookupNat_append, lookupNat_append]
      rcases (h.infos a b hab).inv with ⟨e1, e2⟩ | ⟨i₁, i₂, e1, e2, h0⟩
      · rw [e1, e2]; exact hfr.1 a b hab
      · rw [e1, e2]; exact h0
    refine (uris_sim hE _ hr _ _ _ _ _ _ (.cons ⟨hr, hr⟩ .nil) hA (resolveURIs_ne_fuel env₁ r₁ _ _ fresh₁ hcs₁ _)
      (resolveURIs_ne_fuel env₂ r₂ _ _ fresh₂ hcs₂ _)).bind fun sB₁ sB₂ _ _ hB => ?_
    exact refs_sim hE hrec hr hB.2 (afterURIs_rel hr hB.1 baseURI)

theorem resolveDoc_sim : ∀ fuel, DocSim strict R (resolveDoc env₁ fuel) (resolveDoc env₂ fuel)
  | 0 => fun _ _ _ _ _ _ _ _ => Out.fuel
  | fuel + 1 => resolveDocStep_sim hE (resolveDoc_sim fuel)

/-- **Schema.Resolve along a relation between two environments**: the same draft, the same Loader log, resolution
    tables that send related schemas to related schemas; under `strict`, the same failure -/
theorem resolve_sim (fuel : Nat) {r₁ r₂ : NodeId} (hr : R r₁ r₂) (baseURI : String) :
    Out strict (ResolvedRel R) (resolve env₁ fuel r₁ baseURI) (resolve env₂ fuel r₂ baseURI) := by
  have hb := hE.biu
  unfold resolve
  simp only
  refine (Out.refl_eq _).bind ?_
  intro b _ _ _ e
  subst e
  refine (resolveDoc_sim hE fuel r₁ r₂ b .d2020 {} {} hr ⟨fun _ _ _ => trivial, .nil, .nil, rfl⟩).bind ?_
  intro s₁ s₂ _ _ h
  rcases (h.doc? hb hr).inv with ⟨h1, h2⟩ | ⟨d₁, d₂, h1, h2, hd⟩
  · rw [h1, h2]; exact Out.panic
  rw [h1, h2]
  refine Out.ok ⟨hr, hd.draft, h.log, fun x y hxy => ?_⟩
  show OptRel (InfoRel R) (lookupNat x (s₁.infos.filter fun e => d₁.known.contains e.1))
    (lookupNat y (s₂.infos.filter fun e => d₂.known.contains e.1))
  rw [lookupNat_filter x (fun x => d₁.known.contains x), lookupNat_filter y (fun x => d₂.known.contains x),
    hd.contains hxy]
  split
  · exact h.infos x y hxy
  · trivial

end

end RSim

namespace RIso
open RInv RSim

theorem infoRel_infoOf (R : NodeId → NodeId → Prop) (p : String) : InfoRel R (RPerm.infoOf p) (RPerm.infoOf p) :=
  ⟨rfl, trivial, rfl, trivial, trivial, rfl, .nil⟩

theorem rootUri_eq {R : NodeId → NodeId → Prop} {o₁ o₂ : Option Info} (h : OptRel (InfoRel R) o₁ o₂) :
    (match o₁ with
      | some i => (i.uri.map Uri.toString).getD ""
      | none => "") =
    (match o₂ with
      | some i => (i.uri.map Uri.toString).getD ""
      | none => "") := by
  rcases h.inv with ⟨rfl, rfl⟩ | ⟨i₁, i₂, rfl, rfl, hi⟩
  · rfl
  · dsimp only
    rw [hi.uri]

section
variable {R : NodeId → NodeId → Prop} {env₁ env₂ : Env} (hE : EnvRel R env₁ env₂)
include hE

theorem loaderDoc_rel (key : String) : DirRel R (loaderDoc env₁ key) (loaderDoc env₂ key) := by
  intro l₁ hl₁
  obtain ⟨t₁, ht₁, hk₁⟩ := loaderDoc_eq_ok_iff.mp hl₁
  obtain ⟨t₂, ht₂, hdoc⟩ := hE.loader t₁ ht₁
  obtain ⟨l₂, hk₂, hl⟩ := hdoc key l₁ hk₁
  exact ⟨l₂, loaderDoc_eq_ok_iff.mpr ⟨t₂, ht₂, hk₂⟩, hl⟩

theorem checkLocal_all_rel {Q : Info → Info → Prop} : ∀ {l₁ l₂ : List (NodeId × Info)},
    ListRel (fun e₁ e₂ => R e₁.1 e₂.1 ∧ Q e₁.2 e₂.2) l₁ l₂ →
    RDraft.localOkAll env₁ l₁ = true → RDraft.localOkAll env₂ l₂ = true
  | _, _, .nil, _ => rfl
  | _, _, .cons (a := e₁) (b := e₂) h1 h2, h => by
    simp only [RDraft.localOkAll, List.map_cons, List.all_cons, Bool.and_eq_true] at h ⊢
    refine ⟨?_, checkLocal_all_rel h2 h.2⟩
    rcases (hE.node e₁.1 e₂.1 h1.1).inv with ⟨hn₁, _⟩ | ⟨n₁, n₂, hn₁, hn₂, hn⟩
    · rw [hn₁] at h; exact absurd h.1 (by simp)
    · rw [hn₁] at h
      rw [hn₂]
      exact hn.localOk h.1

theorem genv_of_envRel : GEnv False R env₁ env₂ where
  biu := hE.biu
  node a b hab := OptRel.imp (fun _ _ h => ⟨h.id, h.schema, h.ref, h.anchor, h.dynamicAnchor, h.dynamicRef, h.children⟩)
    (hE.node a b hab)
  draft7 := hE.draft7
  check r₁ r₂ hr := by
    refine ⟨fun fresh₁ hcs₁ => ?_, False.elim⟩
    obtain ⟨fresh₂, hcs₂, hfr⟩ := cs_rel hE (Q := InfoRel R) (infoRel_infoOf R) _ (env₂.st.size + 2) [(r₁, "")] [(r₂, "")] [] [] fresh₁
      (.cons ⟨hr, rfl⟩ .nil) .nil hcs₁
      (C10.checkStructure_no_fuel_gen env₂.st _ _ [] ⟨List.nodup_nil, fun _ h => nomatch h⟩
        (by simp only [List.length_nil]; omega))
    exact ⟨fresh₂, hcs₂, fun a b hab => lookupNat_rel hE.biu hab hfr, checkLocal_all_rel hE hfr, False.elim⟩
  deref _ _ ptr hr := ⟨dereference_rel hE true hr ptr, False.elim⟩
  loader key := ⟨loaderDoc_rel hE key, False.elim⟩

/-- **Resolve commutes with a renaming of schema node ids**, left to right only: `resolve_sim` at `strict = False`,
    for which `EnvRel` is enough (`genv_of_envRel`) -/
theorem resolve_rel (fuel : Nat) {r₁ r₂ : NodeId} (hr : R r₁ r₂) (baseURI : String) :
    DirRel (ResolvedRel R) (resolve env₁ fuel r₁ baseURI) (resolve env₂ fuel r₂ baseURI) :=
  (resolve_sim (genv_of_envRel hE) fuel hr baseURI).1

end

end RIso
end Go
end JSV
