/-
  The Spec seen from its recursive calls.  A keyword function, and one whole step (SpecStepCalls.lean), is a TREE of
  questions to `sub` (`Calls`): `call` reads the whole answer, `test` only whether it is valid, and each question may be
  chosen from the answers so far (`if`/`then`/`else`).  Monotonicity in `sub`, definedness and congruence are read off
  the tree.  Eleven of the fourteen keyword functions ask a fixed list of questions: five read whole answers (`allOf`,
  `anyOf`, `oneOf`, `not`, `dependentSchemas`: `Calls.results` / `seq`), six — those that apply subschemas to children or keys of
  the instance — verdicts only (`Calls.verdicts` / `allHold` / `tagged`); `$ref`, `$dynamicRef` and `if` are in
  SpecStepCalls.lean (`ask`, `call`).
-/
import JSV.Proofs.RefineBase
import JSV.Model.Guarded
namespace JSV
namespace Refine
open Go

def OLe {α} (a b : Option α) : Prop := ∀ r, a = some r → b = some r

def SRecLe (r r' : Spec.Rec) : Prop := ∀ scope s j, OLe (r scope s j) (r' scope s j)

theorem OLe_refl {α} (a : Option α) : OLe a a := fun _ h => h

theorem OLe_bind {α β} {a b : Option α} {f g : α → Option β} (h : OLe a b) (hf : ∀ x, OLe (f x) (g x)) :
    OLe (a.bind f) (b.bind g) := by
  intro r hr
  cases a with
  | none => simp at hr
  | some x => rw [h x rfl]; exact hf x r hr

theorem sequence_map_map {α β} (f : α → β) : ∀ l : List (Option α),
    (Spec.sequence l).map (List.map f) = Spec.sequence (l.map (Option.map f))
  | [] => rfl
  | none :: _ => rfl
  | some a :: l => by
    simp only [Spec.sequence, List.map_cons, Option.map_some, ← sequence_map_map f l, Option.map_map]
    rfl

theorem allHold_eq (rs : List Spec.R) : Spec.allHold rs = (rs.map Option.isSome).all id := by
  rw [Spec.allHold, List.all_map]; rfl

abbrev Sub := NodeId → Json → Spec.Out

/-- `P`: the questions whose whole answer is read; `Q`: those of which only the verdict is read; `tot`: the side
    condition under which every `pure` leaf is defined (`StepTot` for a whole step: the references have targets; `True` for
    a keyword that is defined whenever its questions are answered). -/
inductive Calls {α : Type} (tot : Prop) (P Q : NodeId → Json → Prop) : (Sub → Option α) → Prop
  | pure (a : Option α) (h : tot → a.isSome = true) : Calls tot P Q (fun _ => a)
  | call (t : NodeId) (x : Json) (hp : P t x) (k : Spec.R → Sub → Option α) (hk : ∀ r, Calls tot P Q (k r)) :
      Calls tot P Q (fun sub => (sub t x).bind fun r => k r sub)
  | test (t : NodeId) (x : Json) (hq : Q t x) (k : Bool → Sub → Option α) (hk : ∀ b, Calls tot P Q (k b)) :
      Calls tot P Q (fun sub => (sub t x).bind fun r => k r.isSome sub)

namespace Calls
variable {α β : Type} {tot : Prop} {P Q : NodeId → Json → Prop} {f : Sub → Option α}

theorem of_eq {g : Sub → Option α} (h : Calls tot P Q f) (e : ∀ sub, g sub = f sub) : Calls tot P Q g := by
  rw [funext e]; exact h

theorem bind {g : α → Sub → Option β} (h : Calls tot P Q f) (hg : ∀ a, Calls tot P Q (g a)) :
    Calls tot P Q (fun sub => (f sub).bind fun a => g a sub) := by
  induction h with
  | pure a ha =>
    cases a with
    | none => exact .pure none ha
    | some a => exact hg a
  | call t x hp k _ ih => exact (Calls.call t x hp _ ih).of_eq fun sub => Option.bind_assoc ..
  | test t x hq k _ ih => exact (Calls.test t x hq _ ih).of_eq fun sub => Option.bind_assoc ..

theorem map (g : α → β) (h : Calls tot P Q f) : Calls tot P Q (fun sub => (f sub).map g) :=
  (h.bind fun a => .pure (some (g a)) fun _ => rfl).of_eq fun sub => by cases f sub <;> rfl

theorem weaken {tot' : Prop} {P' Q' : NodeId → Json → Prop} (h : Calls tot P Q f) (ht : tot' → tot)
    (hP : ∀ t x, P t x → P' t x) (hQ : ∀ t x, Q t x → Q' t x) : Calls tot' P' Q' f := by
  induction h with
  | pure a ha => exact .pure a fun t => ha (ht t)
  | call t x hp k _ ih => exact .call t x (hP t x hp) k ih
  | test t x hq k _ ih => exact .test t x (hQ t x hq) k ih

theorem mono (h : Calls tot P Q f) {sub sub' : Sub} (hs : ∀ t x, P t x ∨ Q t x → OLe (sub t x) (sub' t x)) :
    OLe (f sub) (f sub') := by
  induction h with
  | pure a _ => exact OLe_refl _
  | call t x hp k _ ih => exact OLe_bind (hs t x (.inl hp)) ih
  | test t x hq k _ ih => exact OLe_bind (hs t x (.inr hq)) fun r => ih r.isSome

theorem isSome (h : Calls tot P Q f) (ht : tot) {sub : Sub} (hs : ∀ t x, P t x ∨ Q t x → (sub t x).isSome = true) :
    (f sub).isSome = true := by
  induction h with
  | pure a ha => exact ha ht
  | call t x hp k _ ih =>
    obtain ⟨r, hr⟩ := Option.isSome_iff_exists.1 (hs t x (.inl hp))
    simp only [hr, Option.bind_some]; exact ih r
  | test t x hq k _ ih =>
    obtain ⟨r, hr⟩ := Option.isSome_iff_exists.1 (hs t x (.inr hq))
    simp only [hr, Option.bind_some]; exact ih r.isSome

theorem congr (h : Calls tot P Q f) {sub sub' : Sub} (hp : ∀ t x, P t x → sub' t x = sub t x)
    (hq : ∀ t x, Q t x → (sub' t x).map Option.isSome = (sub t x).map Option.isSome) : f sub' = f sub := by
  induction h with
  | pure a _ => rfl
  | call t x hp' k _ ih => simp only [hp t x hp', ih]
  | test t x hq' k _ ih =>
    have := hq t x hq'
    show ((sub' t x).bind fun r => k r.isSome sub') = (sub t x).bind fun r => k r.isSome sub
    generalize sub' t x = o' at this ⊢
    generalize sub t x = o at this ⊢
    cases o' <;> cases o <;> simp only [Option.map_none, Option.map_some, reduceCtorEq, Option.some.injEq] at this
    · rfl
    · simp only [Option.bind_some, this, ih]

theorem sequence_cons {α} (a : Option α) (l : List (Option α)) :
    Spec.sequence (a :: l) = a.bind fun x => (Spec.sequence l).map (x :: ·) := by cases a <;> rfl

theorem seqCall : ∀ (C : List (NodeId × Json)), (∀ c, c ∈ C → P c.1 c.2) →
    Calls tot P Q (fun sub => Spec.sequence (C.map fun c => sub c.1 c.2))
  | [], _ => .pure (some []) fun _ => rfl
  | c :: C, h =>
    (Calls.call c.1 c.2 (h c List.mem_cons_self) _ fun r =>
      (seqCall C fun d hd => h d (List.mem_cons_of_mem _ hd)).map (r :: ·)).of_eq fun _ => sequence_cons _ _

theorem seqTest : ∀ (C : List (NodeId × Json)), (∀ c, c ∈ C → Q c.1 c.2) →
    Calls tot P Q (fun sub => Spec.sequence (C.map fun c => (sub c.1 c.2).map Option.isSome))
  | [], _ => .pure (some []) fun _ => rfl
  | c :: C, h =>
    (Calls.test c.1 c.2 (h c List.mem_cons_self) _ fun b =>
      (seqTest C fun d hd => h d (List.mem_cons_of_mem _ hd)).map (b :: ·)).of_eq fun sub => by
        rw [List.map_cons, sequence_cons]; cases sub c.1 c.2 <;> rfl

theorem results (C : List (NodeId × Json)) (g : List Spec.R → Spec.R) (h : ∀ c, c ∈ C → P c.1 c.2) :
    Calls tot P Q (fun sub => (Spec.sequence (C.map fun c => sub c.1 c.2)).map g) :=
  (seqCall C h).map g

theorem verdicts (C : List (NodeId × Json)) (g : List Bool → Spec.R) (h : ∀ c, c ∈ C → Q c.1 c.2) :
    Calls tot P Q (fun sub => (Spec.sequence (C.map fun c => sub c.1 c.2)).map fun rs => g (rs.map Option.isSome)) :=
  ((seqTest C h).map g).of_eq fun sub => by
    have e : (C.map fun c => (sub c.1 c.2).map Option.isSome)
        = (C.map fun c => sub c.1 c.2).map (Option.map Option.isSome) := by rw [List.map_map]; rfl
    rw [e, ← sequence_map_map, Option.map_map]
    rfl

theorem const (r : Spec.R) : Calls tot P Q (fun _ => some r) := .pure _ fun _ => rfl

/-- the shape of the in-place keywords: `sequence` over a list of calls, then a function of the results -/
theorem seq {γ} (xs : List γ) (c : γ → NodeId × Json) (g : List Spec.R → Spec.R)
    (h : ∀ a, a ∈ xs → P (c a).1 (c a).2) :
    Calls tot P Q (fun sub => (Spec.sequence (xs.map fun a => sub (c a).1 (c a).2)).map g) :=
  (results (xs.map c) g fun d hd => by obtain ⟨a, ha, rfl⟩ := List.mem_map.1 hd; exact h a ha).of_eq fun sub => by
    rw [List.map_map]; rfl

theorem allHold {γ} (xs : List γ) (c : γ → NodeId × Json) (e : Spec.Ev) (h : ∀ a, a ∈ xs → Q (c a).1 (c a).2) :
    Calls tot P Q (fun sub => (Spec.sequence (xs.map fun a => sub (c a).1 (c a).2)).map fun rs =>
      if Spec.allHold rs then some e else none) :=
  (verdicts (xs.map c) (fun bs => if bs.all id then some e else none)
    fun d hd => by obtain ⟨a, ha, rfl⟩ := List.mem_map.1 hd; exact h a ha).of_eq fun sub => by
      simp only [List.map_map, allHold_eq]; rfl

end Calls

section
variable {tot : Prop} {P Q : NodeId → Json → Prop}

theorem kwAllOf_calls (n : Node) (j : Json) :
    Calls tot (fun t x => t ∈ n.allOf.getD [] ∧ x = j) Q (fun sub => Spec.kwAllOf sub n j) := by
  unfold Spec.kwAllOf
  cases n.allOf with
  | none => exact .const _
  | some ss => exact Calls.seq ss (fun t => (t, j)) _ fun t ht => ⟨ht, rfl⟩

theorem kwAnyOf_calls (n : Node) (j : Json) :
    Calls tot (fun t x => t ∈ n.anyOf.getD [] ∧ x = j) Q (fun sub => Spec.kwAnyOf sub n j) := by
  unfold Spec.kwAnyOf
  cases n.anyOf with
  | none => exact .const _
  | some ss => exact Calls.seq ss (fun t => (t, j)) _ fun t ht => ⟨ht, rfl⟩

theorem kwOneOf_calls (n : Node) (j : Json) :
    Calls tot (fun t x => t ∈ n.oneOf.getD [] ∧ x = j) Q (fun sub => Spec.kwOneOf sub n j) := by
  unfold Spec.kwOneOf
  cases n.oneOf with
  | none => exact .const _
  | some ss => exact Calls.seq ss (fun t => (t, j)) _ fun t ht => ⟨ht, rfl⟩

theorem kwNot_calls (n : Node) (j : Json) :
    Calls tot (fun t x => n.not = some t ∧ x = j) Q (fun sub => Spec.kwNot sub n j) := by
  unfold Spec.kwNot
  cases hn : n.not with
  | none => exact .const _
  | some t =>
    refine (Calls.results [(t, j)] (fun rs => if (rs.headD none).isSome then none else some {}) ?_).of_eq fun sub => ?_
    · intro c hc; rw [List.mem_singleton.1 hc]; exact ⟨rfl, rfl⟩
    · show (sub t j).map _ = (Spec.sequence [sub t j]).map _
      cases sub t j <;> rfl

/-- `P` admits the maps of both drafts (`dependentSchemas` and schema-form `dependencies`) although the keyword reads
    only that of `env.draft`: `Go.inPlaceEdges` counts both, so nothing is lost for definedness -/
theorem kwDependentSchemas_calls (env : Spec.Env) (n : Node) (j : Json) :
    Calls tot (fun t x => t ∈ (n.dependentSchemas.getD []).map (·.2) ++ (n.dependencySchemas.getD []).map (·.2) ∧ x = j) Q
      (fun sub => Spec.kwDependentSchemas env sub n j) := by
  unfold Spec.kwDependentSchemas
  cases j with
  | obj kvs =>
    refine Calls.seq _ (fun p : String × NodeId => (p.2, Json.obj kvs)) _ fun p hp => ⟨?_, rfl⟩
    have hp' := (List.mem_filter.1 hp).1
    cases hd : env.draft <;> rw [hd] at hp'
    · exact List.mem_append_right _ (List.mem_map.2 ⟨p, hp', rfl⟩)
    · exact List.mem_append_left _ (List.mem_map.2 ⟨p, hp', rfl⟩)
  | _ => exact .const _

theorem depth_le_depthList : ∀ {xs : List Json} {x : Json}, x ∈ xs → Json.depth x ≤ Json.depthList xs
  | [], _, h => nomatch h
  | y :: ys, x, h => by
    simp only [Json.depthList]
    rcases List.mem_cons.1 h with rfl | h'
    · exact Nat.le_max_left _ _
    · exact Nat.le_trans (depth_le_depthList h') (Nat.le_max_right _ _)

theorem depth_le_depthObj : ∀ {kvs : List (String × Json)} {p : String × Json}, p ∈ kvs →
    Json.depth p.2 ≤ Json.depthObj kvs
  | [], _, h => nomatch h
  | (k, v) :: rest, p, h => by
    simp only [Json.depthObj]
    rcases List.mem_cons.1 h with rfl | h'
    · exact Nat.le_max_left _ _
    · exact Nat.le_trans (depth_le_depthObj h') (Nat.le_max_right _ _)

theorem depth_lt_arr {xs : List Json} {x : Json} (h : x ∈ xs) : Json.depth x < Json.depth (.arr xs) := by
  have := depth_le_depthList h
  simp only [Json.depth]
  omega

theorem depth_lt_obj {kvs : List (String × Json)} {p : String × Json} (h : p ∈ kvs) :
    Json.depth p.2 < Json.depth (.obj kvs) := by
  have := depth_le_depthObj h
  simp only [Json.depth]
  omega

theorem depth_str_lt_obj (k : String) (kvs : List (String × Json)) :
    Json.depth (.str k) < Json.depth (.obj kvs) := by
  simp only [Json.depth]
  omega

theorem mem_descEdges {n : Node} {t : NodeId} : t ∈ descEdges n ↔
    t ∈ n.prefixItems.getD [] ∨ n.items = some t ∨ t ∈ n.itemsArray.getD [] ∨ n.additionalItems = some t ∨
    n.contains = some t ∨ t ∈ (n.properties.getD []).map (·.2) ∨ t ∈ (n.patternProperties.getD []).map (·.2) ∨
    n.additionalProperties = some t ∨ n.propertyNames = some t ∨ n.unevaluatedItems = some t ∨
    n.unevaluatedProperties = some t := by
  simp only [descEdges, List.mem_append, Option.mem_toList, or_assoc]

/-- blanking the keywords of later drafts removes edges only -/
theorem mem_desc_of_vocab {d : Draft} {n : Node} {t : NodeId} (h : t ∈ descEdges (Spec.vocab d n)) : t ∈ descEdges n := by
  cases d
  · simp only [descEdges, Spec.vocab, beq_d7_d7, if_true, Option.toList_none, List.append_nil] at h
    simp only [descEdges, List.mem_append] at h ⊢
    exact Or.inl (Or.inl h)
  · exact h

/-- what the instance-descending keywords of `n` may apply to a child of `j` -/
abbrev Desc (n : Node) (j : Json) (t : NodeId) (x : Json) : Prop := t ∈ descEdges n ∧ Json.depth x < Json.depth j

theorem arrayShape_pre_mem (senv : Spec.Env) (n : Node) (t : NodeId) (h : t ∈ (Spec.arrayShape senv n).1) :
    t ∈ descEdges n := by
  unfold Spec.arrayShape at h
  cases hd : senv.draft with
  | d2020 => rw [hd] at h; exact mem_descEdges.2 (.inl h)
  | d7 =>
    rw [hd] at h
    cases hia : n.itemsArray with
    | none => rw [hia] at h; cases h
    | some ia => rw [hia] at h; exact mem_descEdges.2 (by simp only [hia, Option.getD_some, h, true_or, or_true])

theorem arrayShape_rest_mem (senv : Spec.Env) (n : Node) (t : NodeId) (h : (Spec.arrayShape senv n).2 = some t) :
    t ∈ descEdges n := by
  unfold Spec.arrayShape at h
  cases hd : senv.draft with
  | d2020 => rw [hd] at h; exact mem_descEdges.2 (.inr (.inl h))
  | d7 =>
    rw [hd] at h
    cases hia : n.itemsArray with
    | none => rw [hia] at h; exact mem_descEdges.2 (.inr (.inl h))
    | some ia => rw [hia] at h; exact mem_descEdges.2 (.inr (.inr (.inr (.inl h))))

theorem kwItems_calls (env : Spec.Env) (n : Node) (j : Json) :
    Calls tot P (Desc n j) (fun sub => Spec.kwItems env sub n j) := by
  unfold Spec.kwItems
  cases j with
  | arr xs =>
    have hpre := arrayShape_pre_mem env n
    have hrest := arrayShape_rest_mem env n
    generalize Spec.arrayShape env n = p at hpre hrest
    obtain ⟨pre, rest⟩ := p
    refine (Calls.verdicts (pre.zip xs ++ rest.elim [] fun t => (xs.drop pre.length).map (t, ·))
      (fun bs => if bs.all id then
        some { items := if rest.isSome then Spec.indices xs.length else Spec.indices (min pre.length xs.length) }
      else none) ?_).of_eq fun sub => ?_
    · intro c hc
      rcases List.mem_append.1 hc with hc | hc
      · have hz := List.of_mem_zip hc
        exact ⟨hpre _ hz.1, depth_lt_arr hz.2⟩
      · cases rest with
        | none => cases hc
        | some t =>
          obtain ⟨x, hx, rfl⟩ := List.mem_map.1 hc
          exact ⟨hrest t rfl, depth_lt_arr (List.mem_of_mem_drop hx)⟩
    · cases rest <;> simp only [Option.elim, List.map_append, List.map_map, List.map_nil, allHold_eq] <;> rfl
  | _ => exact .const _

theorem hits_eq (rs : List Spec.R) (idx : List Nat) :
    ((rs.zip idx).filterMap fun p => if p.1.isSome then some p.2 else none)
      = ((rs.map Option.isSome).zip idx).filterMap fun p => if p.1 then some p.2 else none := by
  rw [List.zip_map_left, List.filterMap_map]
  rfl

theorem kwContains_calls (n : Node) (j : Json) : Calls tot P (Desc n j) (fun sub => Spec.kwContains sub n j) := by
  unfold Spec.kwContains
  cases j with
  | arr xs =>
    cases hc : n.contains with
    | none => exact .const _
    | some c =>
      refine (Calls.verdicts (xs.map (c, ·)) (fun bs =>
        let hits := (bs.zip (Spec.indices xs.length)).filterMap fun p => if p.1 then some p.2 else none
        if (match n.minContains with | some m => decide (m ≤ (hits.length : Int)) | none => decide (1 ≤ (hits.length : Int))) &&
            (match n.maxContains with | some m => decide ((hits.length : Int) ≤ m) | none => true)
        then some { items := hits } else none) ?_).of_eq fun sub => ?_
      · intro d hd
        obtain ⟨x, hx, rfl⟩ := List.mem_map.1 hd
        exact ⟨mem_descEdges.2 (by simp only [hc, true_or, or_true]), depth_lt_arr hx⟩
      · simp only [List.map_map, ← hits_eq]
        rfl
  | _ => exact .const _

theorem kwPropertyNames_calls (n : Node) (j : Json) : Calls tot P (Desc n j) (fun sub => Spec.kwPropertyNames sub n j) := by
  unfold Spec.kwPropertyNames
  cases j with
  | obj kvs =>
    cases hc : n.propertyNames with
    | none => exact .const _
    | some t =>
      exact Calls.allHold kvs (fun p => (t, Json.str p.1)) _ fun p _ =>
        ⟨mem_descEdges.2 (by simp only [hc, true_or, or_true]), depth_str_lt_obj p.1 kvs⟩
  | _ => exact .const _

theorem kwUnevaluatedItems_calls (n : Node) (j : Json) (ev : Spec.Ev) :
    Calls tot P (Desc n j) (fun sub => Spec.kwUnevaluatedItems sub n j ev) := by
  unfold Spec.kwUnevaluatedItems
  cases j with
  | arr xs =>
    cases hc : n.unevaluatedItems with
    | none => exact .const _
    | some t =>
      exact Calls.allHold _ (fun p : Json × Nat => (t, p.1)) _ fun p hp =>
        ⟨mem_descEdges.2 (by simp only [hc, true_or, or_true]),
          depth_lt_arr (List.of_mem_zip (List.mem_filter.1 hp).1).1⟩
  | _ => exact .const _

theorem kwUnevaluatedProps_calls (n : Node) (j : Json) (ev : Spec.Ev) :
    Calls tot P (Desc n j) (fun sub => Spec.kwUnevaluatedProps sub n j ev) := by
  unfold Spec.kwUnevaluatedProps
  cases j with
  | obj kvs =>
    cases hc : n.unevaluatedProperties with
    | none => exact .const _
    | some t =>
      exact Calls.allHold _ (fun p : String × Json => (t, p.2)) _ fun p hp =>
        ⟨mem_descEdges.2 (by simp only [hc, or_true]), depth_lt_obj (List.mem_filter.1 hp).1⟩
  | _ => exact .const _

/-! The three segments of the list `all` of `Spec.kwProps`, each entry tagged with the member it is for: the members
    named in `properties`, those matched by a pattern, the rest under `additionalProperties` (`covered` = the tags of the
    first two).  `*L` carry the answers of `sub`; `*C` carry the questions, so that `*L = *C` mapped by `tagCall sub` and
    the tags do not depend on `sub`. -/

def namedL (sub : NodeId → Json → Spec.Out) (props : List (String × NodeId)) (kvs : List (String × Json)) :
    List (String × Spec.Out) :=
  kvs.filterMap fun p => (Json.lookup p.1 props).map fun t => (p.1, sub t p.2)

def patternedL (reMatch : String → String → Bool) (sub : NodeId → Json → Spec.Out) (pats : List (String × NodeId))
    (kvs : List (String × Json)) : List (String × Spec.Out) :=
  kvs.flatMap fun p => (pats.filter fun q => reMatch q.1 p.1).map fun q => (p.1, sub q.2 p.2)

def additionalL (sub : NodeId → Json → Spec.Out) (t : NodeId) (covered : List String) (kvs : List (String × Json)) :
    List (String × Spec.Out) :=
  (kvs.filter fun p => !covered.contains p.1).map fun p => (p.1, sub t p.2)

def coveredL (reMatch : String → String → Bool) (sub : NodeId → Json → Spec.Out) (props pats : List (String × NodeId))
    (kvs : List (String × Json)) : List String :=
  (namedL sub props kvs).map (·.1) ++ (patternedL reMatch sub pats kvs).map (·.1)

theorem kwProps_some (senv : Spec.Env) (sub : NodeId → Json → Spec.Out) (n : Node) (kvs : List (String × Json))
    (t : NodeId) (hap : n.additionalProperties = some t) :
    Spec.kwProps senv sub n (.obj kvs) =
      (Spec.sequence ((namedL sub (n.properties.getD []) kvs ++ patternedL senv.reMatch sub (n.patternProperties.getD []) kvs
          ++ additionalL sub t (coveredL senv.reMatch sub (n.properties.getD []) (n.patternProperties.getD []) kvs) kvs).map (·.2))).map
        fun rs => if Spec.allHold rs then
          some { props := (namedL sub (n.properties.getD []) kvs ++ patternedL senv.reMatch sub (n.patternProperties.getD []) kvs
          ++ additionalL sub t (coveredL senv.reMatch sub (n.properties.getD []) (n.patternProperties.getD []) kvs) kvs).map (·.1) }
          else none := by
  unfold Spec.kwProps
  simp only [hap]
  rfl

theorem kwProps_none (senv : Spec.Env) (sub : NodeId → Json → Spec.Out) (n : Node) (kvs : List (String × Json))
    (hap : n.additionalProperties = none) :
    Spec.kwProps senv sub n (.obj kvs) =
      (Spec.sequence ((namedL sub (n.properties.getD []) kvs ++ patternedL senv.reMatch sub (n.patternProperties.getD []) kvs
          ++ ([] : List (String × Spec.Out))).map (·.2))).map
        fun rs => if Spec.allHold rs then
          some { props := (namedL sub (n.properties.getD []) kvs ++ patternedL senv.reMatch sub (n.patternProperties.getD []) kvs
          ++ ([] : List (String × Spec.Out))).map (·.1) }
          else none := by
  unfold Spec.kwProps
  simp only [hap]
  rfl

def tagCall (sub : NodeId → Json → Spec.Out) (c : String × NodeId × Json) : String × Spec.Out := (c.1, sub c.2.1 c.2.2)

def namedC (props : List (String × NodeId)) (kvs : List (String × Json)) : List (String × NodeId × Json) :=
  kvs.filterMap fun p => (Json.lookup p.1 props).map fun t => (p.1, t, p.2)

def patternedC (reMatch : String → String → Bool) (pats : List (String × NodeId)) (kvs : List (String × Json)) :
    List (String × NodeId × Json) :=
  kvs.flatMap fun p => (pats.filter fun q => reMatch q.1 p.1).map fun q => (p.1, q.2, p.2)

def additionalC (t : NodeId) (covered : List String) (kvs : List (String × Json)) : List (String × NodeId × Json) :=
  (kvs.filter fun p => !covered.contains p.1).map fun p => (p.1, t, p.2)

theorem namedL_eq (sub : NodeId → Json → Spec.Out) (props : List (String × NodeId)) (kvs : List (String × Json)) :
    namedL sub props kvs = (namedC props kvs).map (tagCall sub) := by
  simp only [namedL, namedC, List.map_filterMap, Option.map_map]
  rfl

theorem patternedL_eq (reMatch : String → String → Bool) (sub : NodeId → Json → Spec.Out) (pats : List (String × NodeId))
    (kvs : List (String × Json)) : patternedL reMatch sub pats kvs = (patternedC reMatch pats kvs).map (tagCall sub) := by
  simp only [patternedL, patternedC, List.map_flatMap, List.map_map]
  rfl

theorem additionalL_eq (sub : NodeId → Json → Spec.Out) (t : NodeId) (covered : List String) (kvs : List (String × Json)) :
    additionalL sub t covered kvs = (additionalC t covered kvs).map (tagCall sub) := by
  simp only [additionalL, additionalC, List.map_map]
  rfl

theorem map_fst_tagCall (sub : NodeId → Json → Spec.Out) (L : List (String × NodeId × Json)) :
    (L.map (tagCall sub)).map (·.1) = L.map (·.1) := by
  rw [List.map_map]; rfl

/-- the shape of `kwProps`: calls tagged with the property they are made for; the tags do not depend on `sub` -/
theorem Calls.tagged (L : List (String × NodeId × Json)) (h : ∀ c, c ∈ L → Q c.2.1 c.2.2) :
    Calls (α := Spec.R) tot P Q fun sub => (Spec.sequence ((L.map (tagCall sub)).map (·.2))).map fun rs =>
      if Spec.allHold rs then some { props := (L.map (tagCall sub)).map (·.1) } else none :=
  (Calls.verdicts (L.map (·.2)) (fun bs => if bs.all id then some { props := L.map (·.1) } else none)
    fun d hd => by obtain ⟨c, hc, rfl⟩ := List.mem_map.1 hd; exact h c hc).of_eq fun sub => by
      simp only [List.map_map, allHold_eq]; rfl

theorem kwProps_calls (env : Spec.Env) (n : Node) (j : Json) : Calls tot P (Desc n j) (fun sub => Spec.kwProps env sub n j) := by
  cases j with
  | obj kvs =>
    have hN : ∀ c, c ∈ namedC (n.properties.getD []) kvs → Desc n (.obj kvs) c.2.1 c.2.2 := by
      intro c hc
      obtain ⟨p, hp, hpc⟩ := List.mem_filterMap.1 hc
      obtain ⟨t, ht, rfl⟩ := Option.map_eq_some_iff.1 hpc
      exact ⟨mem_descEdges.2 (.inr (.inr (.inr (.inr (.inr (.inl (List.mem_map.2 ⟨_, Json.mem_of_lookup ht, rfl⟩))))))),
        depth_lt_obj hp⟩
    have hP : ∀ c, c ∈ patternedC env.reMatch (n.patternProperties.getD []) kvs → Desc n (.obj kvs) c.2.1 c.2.2 := by
      intro c hc
      obtain ⟨p, hp, hc'⟩ := List.mem_flatMap.1 hc
      obtain ⟨q, hq, rfl⟩ := List.mem_map.1 hc'
      exact ⟨mem_descEdges.2 (.inr (.inr (.inr (.inr (.inr (.inr (.inl
        (List.mem_map.2 ⟨q, (List.mem_filter.1 hq).1, rfl⟩)))))))), depth_lt_obj hp⟩
    cases hap : n.additionalProperties with
    | none =>
      refine (Calls.tagged (namedC (n.properties.getD []) kvs ++ patternedC env.reMatch (n.patternProperties.getD []) kvs)
        fun c hc => (List.mem_append.1 hc).elim (hN c) (hP c)).of_eq fun sub => ?_
      rw [kwProps_none env sub n kvs hap, List.append_nil, namedL_eq, patternedL_eq, ← List.map_append]
    | some t =>
      refine (Calls.tagged (namedC (n.properties.getD []) kvs ++ patternedC env.reMatch (n.patternProperties.getD []) kvs
        ++ additionalC t ((namedC (n.properties.getD []) kvs).map (·.1) ++
            (patternedC env.reMatch (n.patternProperties.getD []) kvs).map (·.1)) kvs) fun c hc => ?_).of_eq fun sub => ?_
      · rcases List.mem_append.1 hc with hc | hc
        · exact (List.mem_append.1 hc).elim (hN c) (hP c)
        · obtain ⟨p, hp, rfl⟩ := List.mem_map.1 hc
          exact ⟨mem_descEdges.2 (by simp only [hap, true_or, or_true]), depth_lt_obj (List.mem_filter.1 hp).1⟩
      · rw [kwProps_some env sub n kvs t hap, coveredL, additionalL_eq, namedL_eq, patternedL_eq, map_fst_tagCall,
          map_fst_tagCall, ← List.map_append, ← List.map_append]
  | _ => unfold Spec.kwProps; exact .const _

end

end Refine
end JSV
