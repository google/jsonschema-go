/-
  C04 (embedded fields): `flatten T` — the struct types of `T` with their embedded structs
  dissolved: the fields of a struct are its live visible fields (reflect.VisibleFields without the anonymous, the
  unexported and the `json:"-"` ones), in order — and the proof that the schema `forTypeE` builds for a type of the
  domain is the schema of `flatten T` in the sense of `Go.Models`.
-/
import JSV.Proofs.InfEmbDom
namespace JSV
namespace EncJsonEmb
open Go EncJson

/-- the fields the struct loop enters: live and visible -/
def keep (all : List VField) (f : VField) : Bool := live f && isVisible all f

mutual
  def flatten : GoTypeE → GoType
    | .basic k => .basic k
    | .named n u => .named n (flatten u)
    | .ref n => .ref n
    | .ptr e => .ptr (flatten e)
    | .slice e => .slice (flatten e)
    | .array n e => .array n (flatten e)
    | .map k e => .map k (flatten e)
    | .struct fs => .struct (flattenFields (allFields [] 0 fs) [] 0 fs)
  /-- the walk of `allFields`, keeping the live visible fields (`all` is the walk of the outer struct) -/
  def flattenFields (all : List VField) (pre : List Nat) : Nat → List (FieldE GoTypeE) → List (String × String × GoType)
    | _, [] => []
    | i, f :: rest =>
      (if keep all { index := pre ++ [i], goName := f.goName, tag := f.tag, exported := f.exported, anonymous := f.embedded,
                     type := f.type }
       then [(f.goName, f.tag, flatten f.type)] else []) ++
      ((if f.embedded then flattenEmb all (pre ++ [i]) f.type else []) ++ flattenFields all pre (i + 1) rest)
  def flattenEmb (all : List VField) (idx : List Nat) : GoTypeE → List (String × String × GoType)
    | .ptr (.named _ (.struct fs)) => flattenFields all idx 0 fs
    | .ptr (.struct fs) => flattenFields all idx 0 fs
    | .named _ (.struct fs) => flattenFields all idx 0 fs
    | .struct fs => flattenFields all idx 0 fs
    | _ => []
end

def flatV (f : VField) : String × String × GoType := (f.goName, f.tag, flatten f.type)

def plainOf (vfs : List VField) : List (String × String × GoType) := (vfs.filter live).map flatV

/-- `embIs_or_not` for `flattenEmb`, which is defined after `EmbNot` -/
theorem embViewF (t : GoTypeE) :
    (∃ fs, EmbIs t fs ∧ ∀ all idx, flattenEmb all idx t = flattenFields all idx 0 fs) ∨
    ((∀ idx, embFields idx t = []) ∧ ∀ all idx, flattenEmb all idx t = []) := by
  cases t with
  | ptr e =>
    cases e with
    | named nm u =>
      cases u with
      | struct fs => exact Or.inl ⟨fs, .ptrNamed nm fs, fun _ _ => rfl⟩
      | _ => exact Or.inr ⟨fun _ => rfl, fun _ _ => rfl⟩
    | struct fs => exact Or.inl ⟨fs, .ptrStruct fs, fun _ _ => rfl⟩
    | _ => exact Or.inr ⟨fun _ => rfl, fun _ _ => rfl⟩
  | named nm u =>
    cases u with
    | struct fs => exact Or.inl ⟨fs, .named nm fs, fun _ _ => rfl⟩
    | _ => exact Or.inr ⟨fun _ => rfl, fun _ _ => rfl⟩
  | struct fs => exact Or.inl ⟨fs, .struct fs, fun _ _ => rfl⟩
  | _ => exact Or.inr ⟨fun _ => rfl, fun _ _ => rfl⟩

theorem flattenFields_eq (all : List VField) : ∀ (fs : List (FieldE GoTypeE)) (pre : List Nat) (i : Nat),
    flattenFields all pre i fs = ((allFields pre i fs).filter (keep all)).map flatV := by
  refine GoTypeE.ind_fields (fun _ _ => rfl) fun f rest ihE ihR pre i => ?_
  simp only [flattenFields, allFields]
  rw [List.filter_cons, List.filter_append, ihR pre (i + 1)]
  have hemb : (if f.embedded = true then flattenEmb all (pre ++ [i]) f.type else []) =
      ((if f.embedded = true then embFields (pre ++ [i]) f.type else []).filter (keep all)).map flatV := by
    cases f.embedded with
    | false => simp
    | true =>
      simp only [if_true]
      rcases embViewF f.type with ⟨fs', hf, hfl⟩ | ⟨hf, hfl⟩
      · rw [hf.fields, hfl, ihE fs' hf]
      · rw [hf, hfl]
        rfl
  rw [hemb]
  split
  · simp only [List.map_cons, List.map_append, List.singleton_append]
    rfl
  · simp only [List.map_append, List.nil_append]

theorem flatten_struct (fs : List (FieldE GoTypeE)) : flatten (.struct fs) = .struct (plainOf (visibleFields fs)) := by
  simp only [flatten]
  rw [flattenFields_eq _ fs [] 0]
  unfold plainOf visibleFields
  rw [List.filter_filter]
  rfl

theorem fieldJSONInfo_of_live {f : VField} (hl : live f = true) : (fieldJSONInfo f.goName f.tag).omitted = false := by
  unfold live at hl
  simp only [Bool.and_eq_true, Bool.not_eq_true'] at hl
  exact hl.2

theorem jsonNames_plainOf : ∀ (vfs : List VField), jsonNames (plainOf vfs) = loopNames vfs
  | [] => rfl
  | f :: rest => by
    unfold plainOf loopNames
    rw [List.filter_cons]
    split
    · rename_i hl
      rw [List.map_cons, List.map_cons, jsonNames_cons]
      simp only [flatV, fieldJSONInfo_of_live hl, Bool.false_eq_true, if_false]
      congr 1
      exact jsonNames_plainOf rest
    · exact jsonNames_plainOf rest

theorem alwaysNames_plainOf : ∀ (vfs : List VField), alwaysNames (plainOf vfs) = loopAlways vfs
  | [] => rfl
  | f :: rest => by
    have ih := alwaysNames_plainOf rest
    unfold plainOf loopAlways at ih ⊢
    rw [List.filter_cons, List.filter_cons]
    cases hl : live f with
    | false =>
      have : alwaysLive f = false := by unfold alwaysLive; simp [hl]
      simp only [this, Bool.false_eq_true, if_false]
      exact ih
    | true =>
      simp only [if_true, List.map_cons]
      rw [alwaysNames_cons]
      simp only [flatV, fieldJSONInfo_of_live hl, Bool.false_or]
      have hal : alwaysLive f = (!(fieldJSONInfo f.goName f.tag).omitempty && !(fieldJSONInfo f.goName f.tag).omitzero) := by
        unfold alwaysLive
        simp only [hl, Bool.true_and]
      rw [hal]
      cases he : (fieldJSONInfo f.goName f.tag).omitempty <;> cases hz : (fieldJSONInfo f.goName f.tag).omitzero <;>
        simp [ih, jsonNameOf]

end EncJsonEmb
end JSV

namespace JSV
namespace Go
open EncJsonEmb EncJson

theorem stripPtrsE_spec (nfs : Bool) (T : GoTypeE) : ∃ t an, stripPtrsE T = (t, an) ∧ (∀ e, t ≠ .ptr e) ∧
    InDomainE t = InDomainE T ∧ ∀ st b id, Models nfs st (flatten T) b id ↔ Models nfs st (flatten t) (b || an) id := by
  induction T using GoTypeE.ptr_ind with
  | ptr e ih =>
    obtain ⟨t, an, h1, h2, h3, h4⟩ := ih
    refine ⟨t, true, by simp only [stripPtrsE, h1], h2, by rw [h3]; simp only [InDomainE], fun st b id => ?_⟩
    simp only [flatten, Models, Bool.or_true]
    rw [h4 st true id]
    simp
  | base t h => exact ⟨t, false, stripPtrsE_nonptr h, h, rfl, fun _ _ _ => by simp⟩

mutual
  /-- no embedded field anywhere in `T` — in its structs, their embedded structs, the types of their fields, element
      types — is of a type that has a TypeSchemas entry (an embedded pointer type never has one) -/
  def EmbNotInTable (opts : IOpts) : GoTypeE → Prop
    | .basic _ => True
    | .ref _ => True
    | .named _ u => EmbNotInTable opts u
    | .ptr e => EmbNotInTable opts e
    | .slice e => EmbNotInTable opts e
    | .array _ e => EmbNotInTable opts e
    | .map _ e => EmbNotInTable opts e
    | .struct fs => EmbNotInTableFs opts fs
  def EmbNotInTableFs (opts : IOpts) : List (FieldE GoTypeE) → Prop
    | [] => True
    | f :: rest =>
      (f.embedded = true → ((typeNameE f.type).bind fun nm => Json.lookup nm opts.schemas) = none) ∧
      EmbNotInTable opts f.type ∧ EmbNotInTableFs opts rest
end

theorem embNotInTable_of_empty {opts : IOpts} (hno : ∀ nm, Json.lookup nm opts.schemas = none) :
    (∀ T, EmbNotInTable opts T) ∧ (∀ fs, EmbNotInTableFs opts fs) := by
  refine GoTypeE.ind_wt (fun _ => trivial) (fun _ => trivial) ?_ ?_ ?_ ?_ ?_ ?_ trivial ?_
  · intro n u ih; simpa only [EmbNotInTable] using ih
  · intro e ih; simpa only [EmbNotInTable] using ih
  · intro e ih; simpa only [EmbNotInTable] using ih
  · intro n e ih; simpa only [EmbNotInTable] using ih
  · intro k e ih; simpa only [EmbNotInTable] using ih
  · intro fs ih; simpa only [EmbNotInTable] using ih
  · intro f rest ihT _ ihR
    simp only [EmbNotInTableFs]
    refine ⟨fun _ => ?_, ihT, ihR⟩
    cases typeNameE f.type with
    | none => rfl
    | some nm => exact hno nm

theorem EmbIs.notInTable {opts : IOpts} {t : GoTypeE} {fs : List (FieldE GoTypeE)} (h : EmbIs t fs)
    (hn : EmbNotInTable opts t) : EmbNotInTableFs opts fs := by
  cases h <;> simpa only [EmbNotInTable] using hn

theorem allFields_notInTable (opts : IOpts) : ∀ (fs : List (FieldE GoTypeE)) (pre : List Nat) (i : Nat),
    EmbNotInTableFs opts fs → ∀ f, f ∈ allFields pre i fs →
      (f.anonymous = true → ((typeNameE f.type).bind fun nm => Json.lookup nm opts.schemas) = none) ∧
      EmbNotInTable opts f.type := by
  refine GoTypeE.ind_fields (fun _ _ _ _ hf => nomatch hf) fun g rest ihE ihR pre i hnt f hf => ?_
  simp only [EmbNotInTableFs] at hnt
  rcases mem_allFields_cons hf with rfl | ⟨_, fs', hg, hf⟩ | hf
  · exact ⟨hnt.1, hnt.2.1⟩
  · exact ihE fs' hg _ 0 (hg.notInTable hnt.2.1) f hf
  · exact ihR pre (i + 1) hnt.2.2 f hf

theorem noOverride_of_embNotInTable {opts : IOpts} {fs : List (FieldE GoTypeE)} (h : EmbNotInTableFs opts fs) :
    NoOverride opts (visibleFields fs) :=
  fun f hf => (allFields_notInTable opts fs [] 0 h f (mem_visibleFields hf)).1

theorem stripPtrsE_notInTable (opts : IOpts) (T : GoTypeE) : EmbNotInTable opts T → EmbNotInTable opts (stripPtrsE T).1 := by
  induction T using GoTypeE.ptr_ind with
  | ptr e ih => intro h; simp only [EmbNotInTable] at h; exact ih h
  | base t h => rw [stripPtrsE_nonptr h]; exact id

def RecOkE (opts : IOpts) (rec : IRecE) : Prop :=
  ∀ T seen st r st', InDomainE T = true → EmbNotInTable opts T → rec T seen st = .ok (r, st') →
    ∃ id, r = some id ∧ Models opts.nullForSlices st' (flatten T) false id

theorem inferStepE_models (opts : IOpts) {rec : IRecE}
    (hinv : IRecInv rec) (hrec : RecOkE opts rec) : RecOkE opts (inferStepE opts rec) := by
  intro T seen st r st' hdomT hntT h
  obtain ⟨t, an, hs, hnp, hdom, hmod⟩ := stripPtrsE_spec opts.nullForSlices T
  rw [← hdom] at hdomT
  have hnt : EmbNotInTable opts t := by
    have := stripPtrsE_notInTable opts T hntT
    rw [hs] at this
    exact this
  simp only [hmod, Bool.false_or]
  cases t with
  | ptr e => exact absurd rfl (hnp e)
  | named nm u => simp [InDomainE] at hdomT
  | ref nm => simp [InDomainE] at hdomT
  | basic kind =>
    simp only [InDomainE] at hdomT
    obtain ⟨ty, mn, mx, hk⟩ := kindEntry_domain hdomT
    rw [inferStepE_basic hs, hk] at h
    cases h
    refine ⟨_, rfl, ?_⟩
    simp only [flatten, Models]
    exact ⟨ty, mn, mx, hk, HasNode.of_get (get?_push_size _ _)⟩
  | slice e =>
    simp only [InDomainE] at hdomT
    rw [inferStepE_slice hs] at h
    obtain ⟨eid, id, hm, rfl, hn⟩ :=
      elem_models (fun _ _ he => hrec _ _ _ _ _ hdomT (by simpa only [EmbNotInTable] using hnt) he) h
    exact ⟨id, rfl, by simp only [flatten, Models]; exact ⟨eid, hm, hn⟩⟩
  | array len e =>
    simp only [InDomainE] at hdomT
    rw [inferStepE_array hs] at h
    obtain ⟨eid, id, hm, rfl, hn⟩ :=
      elem_models (fun _ _ he => hrec _ _ _ _ _ hdomT (by simpa only [EmbNotInTable] using hnt) he) h
    exact ⟨id, rfl, by simp only [flatten, Models]; exact ⟨eid, hm, hn⟩⟩
  | map keyKind e =>
    simp only [InDomainE, Bool.and_eq_true, beq_iff_eq] at hdomT
    rw [inferStepE_map hs] at h
    simp only [hdomT.1, bne_self_eq_false, Bool.false_eq_true, if_false] at h
    obtain ⟨eid, id, hm, rfl, hn⟩ :=
      elem_models (fun _ _ he => hrec _ _ _ _ _ hdomT.2 (by simpa only [EmbNotInTable] using hnt) he) h
    exact ⟨id, rfl, by simp only [flatten, Models]; exact ⟨eid, hm, hn⟩⟩
  | struct fields =>
    simp only [InDomainE, Bool.and_eq_true] at hdomT
    obtain ⟨hok, hdf⟩ := hdomT
    obtain ⟨n, st1, hl, rfl, rfl⟩ := inferStepE_struct_ok hs h
    refine ⟨_, rfl, ?_⟩
    have hntf : EmbNotInTableFs opts fields := by simpa only [EmbNotInTable] using hnt
    have hnov := noOverride_of_embNotInTable hntf
    rw [structLoopE_eq _ hnov] at hl
    have hrm : RecItems (fun _ => True) (fun T st id => Models opts.nullForSlices st (flatten T) false id) rec seen
        ((visibleFields fields).map itemOfV) := by
      intro i hi ho s r s1 _ hr
      obtain ⟨f, hf, rfl⟩ := List.mem_map.1 hi
      rw [itemOfV_omitted] at ho
      exact hrec _ _ _ _ _ (allFields_domain fields [] 0 hdf f (mem_visibleFields hf) (by simpa using ho))
        (allFields_notInTable opts fields [] 0 hntf f (mem_visibleFields hf)).2 hr
    obtain ⟨hmf, _⟩ := loopG_models hinv (fun _ _ _ _ => trivial) (fun T id _ _ hd hm => Models.mono hd (flatten T) false id hm) _
      trivial hrm hl (by rw [← loopNames_eq]; exact loopNames_nodup hok) (fun _ _ => rfl)
    obtain ⟨_, hrq, hkeys, hcore0⟩ := loopG_lists (fun _ _ _ _ _ _ _ => trivial) _ trivial hrm.never_drops hl
    obtain ⟨hnot, hfalse, hnode⟩ := struct_nodes an (loopG_inv hinv _ _ _ _ _ hl).1 hcore0
    rw [flatten_struct]
    simp only [Models]
    refine ⟨st.size, st.size + 1, n.properties, (finalOrder n).propertyOrder, n.required, hnot, hfalse, hnode, ?_, ?_,
      ModelsFields.mono (Ext.push _ _).toDExt _ _ (modelsFields_of_forall _ fun g hg _ => ?_)⟩
    · rw [hrq, ← loopAlways_eq, alwaysNames_plainOf]
      rfl
    · intro k hk
      rw [jsonNames_plainOf, loopNames_eq]
      exact ((hkeys k).1 hk).resolve_left (fun h => nomatch h)
    · obtain ⟨f, hf, rfl⟩ := List.mem_map.1 hg
      obtain ⟨hf, hlive⟩ := List.mem_filter.1 hf
      have := hmf (itemOfV f) (List.mem_map_of_mem hf) (by rw [itemOfV_omitted, hlive]; rfl)
      rw [itemOfV_live hlive] at this
      exact this

theorem inferFuelE_models (opts : IOpts) : ∀ fuel, RecOkE opts (inferFuelE opts fuel)
  | 0 => fun _ _ _ _ _ _ _ h => by cases h
  | fuel + 1 => inferStepE_models opts (inferFuelE_inv opts fuel) (inferFuelE_models opts fuel)

end Go
end JSV
