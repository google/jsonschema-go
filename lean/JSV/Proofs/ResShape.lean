/-
  The shape of the resolver's functions: one step of resolveURIs, of resolveRef, of resolveRefs and of
  resolver.resolve cut into named parts, the one-step equations of the loops, and the loop lemmas (invariant rules
  over a run) built on them.  Three namespaces, named after the first users of their contents because fixed statements
  mention the names: `RInv` (resolveURIs, resolveRef, resolveRefs), `RDraft` (resolver.resolve, `_pres`), `RPerm`
  (checkStructure).
-/
import JSV.Proofs.LookupNat
import JSV.Proofs.NoPF
namespace JSV

namespace Go
namespace RInv
open Uri

/-- the `$id` block: new state and the base for the schema and its children -/
def uriStep (draft : Draft) (root : NodeId) (s : RState) (id base : NodeId) (n : Node) (baseInfo : Info) :
    Res (RState × NodeId) :=
  let ignore := draft == .d7 && n.ref != ""
  if n.id != "" && !ignore then
    Res.bind (Uri.parse n.id) fun idURI =>
      if draft == .d2020 && idURI.fragment != "" then .err
      else if draft == .d7 && idURI.fragment != "" then
        .ok (setAnchor s base id (stripHashPrefix n.id) false, base)
      else
        match baseInfo.uri with
        | none => .panic
        | some bu =>
          let u := Uri.resolveReference bu idURI
          if !Uri.isAbs u then .err
          else
            let s := s.updInfo id fun i => { i with uri := some u }
            let s := match s.doc? root with
              | some d => s.setDoc { d with uris := (d.uris.filter (·.1 != Uri.toString u)) ++ [(Uri.toString u, id)] }
              | none => s
            .ok (s, id)
  else .ok (s, base)

/-- `info.base = base` and the 2020-12 anchors -/
def postStep (draft : Draft) (s : RState) (id base : NodeId) (n : Node) : RState :=
  let s := s.updInfo id fun i => { i with base := some base }
  if draft == .d2020 then
    setAnchor (setAnchor s base id n.anchor false) base id n.dynamicAnchor true
  else s

theorem resolveURIsLoop_cons (env : Env) (draft : Draft) (root : NodeId) (fuel : Nat) (id base : NodeId)
    (work : List (NodeId × NodeId)) (s : RState) :
    resolveURIsLoop env draft root (fuel + 1) ((id, base) :: work) s =
      match env.st.get? id, lookupNat id s.infos, lookupNat base s.infos with
      | some n, some _, some bi =>
        Res.bind (uriStep draft root s id base n bi) fun p =>
          resolveURIsLoop env draft root fuel ((n.children.map fun c => (c, p.2)) ++ work)
            (postStep draft p.1 id p.2 n)
      | _, _, _ => .panic := by
  rw [resolveURIsLoop]; rfl

/-- the update setAnchor applies to the info of the base -/
def addAnchor (a : String) (t : NodeId) (dyn : Bool) (bi : Info) : Info :=
  if (Json.lookup a bi.anchors).isSome then bi
  else { bi with anchors := bi.anchors ++ [(a, { schema := t, dynamic := dyn })] }

theorem setAnchor_eq (s : RState) (b t : NodeId) (a : String) (dyn : Bool) :
    setAnchor s b t a dyn = if a == "" then s else s.updInfo b (addAnchor a t dyn) := rfl

/-- the state after a resource-establishing `$id`: `info.uri` set, the URI registered -/
def newUriState (root : NodeId) (s : RState) (id : NodeId) (u : Url) : RState :=
  let s := s.updInfo id fun i => { i with uri := some u }
  match s.doc? root with
  | some d => s.setDoc { d with uris := (d.uris.filter (·.1 != Uri.toString u)) ++ [(Uri.toString u, id)] }
  | none => s

/-- what the `$id` block does to the state: nothing, a draft-07 anchor on the base, or a new resource -/
inductive IdAct where
  | keep
  | anchor (a : String)
  | resource (u : Url)

/-- which of the three it is does not depend on the state: only on the draft, `$id`, `$ref` and the URI of the base -/
def idAct (draft : Draft) (nid nref : String) (baseUri : Option Url) : Res IdAct :=
  if nid != "" && !(draft == .d7 && nref != "") then
    Res.bind (Uri.parse nid) fun idURI =>
      if draft == .d2020 && idURI.fragment != "" then .err
      else if draft == .d7 && idURI.fragment != "" then .ok (.anchor (stripHashPrefix nid))
      else
        match baseUri with
        | none => .panic
        | some bu =>
          if !Uri.isAbs (Uri.resolveReference bu idURI) then .err else .ok (.resource (Uri.resolveReference bu idURI))
  else .ok .keep

def IdAct.apply (root : NodeId) (s : RState) (id base : NodeId) : IdAct → RState × NodeId
  | .keep => (s, base)
  | .anchor a => (setAnchor s base id a false, base)
  | .resource u => (newUriState root s id u, id)

theorem uriStep_eq_act (draft : Draft) (root : NodeId) (s : RState) (id base : NodeId) (n : Node) (bi : Info) :
    uriStep draft root s id base n bi =
      Res.bind (idAct draft n.id n.ref bi.uri) fun a => .ok (a.apply root s id base) := by
  unfold uriStep idAct
  dsimp only
  cases n.id != "" && !(draft == .d7 && n.ref != "") with
  | false => rfl
  | true =>
    rw [if_pos rfl, if_pos rfl, Res.bind_assoc]
    refine Res.bind_congr fun idURI => ?_
    cases draft == .d2020 && idURI.fragment != "" with
    | true => rfl
    | false =>
      cases draft == .d7 && idURI.fragment != "" with
      | true => rfl
      | false =>
        cases bi.uri with
        | none => rfl
        | some bu =>
          dsimp only
          cases Uri.isAbs (Uri.resolveReference bu idURI) <;> rfl

theorem uriStep_shapes (draft : Draft) (root : NodeId) (s : RState) (id base : NodeId) (n : Node) (bi : Info)
    (s1 : RState) (base1 : NodeId) (h : uriStep draft root s id base n bi = .ok (s1, base1)) :
    (base1 = base ∧ (s1 = s ∨ ∃ a, s1 = setAnchor s base id a false)) ∨
    (base1 = id ∧ ∃ u, s1 = newUriState root s id u) := by
  rw [uriStep_eq_act, Res.bind_eq_ok_iff] at h
  obtain ⟨a, _, h⟩ := h
  cases a with
  | keep => cases h; exact Or.inl ⟨rfl, Or.inl rfl⟩
  | anchor x => cases h; exact Or.inl ⟨rfl, Or.inr ⟨x, rfl⟩⟩
  | resource u => cases h; exact Or.inr ⟨rfl, u, rfl⟩

/-- how resolveRef finds the resource named by the fragment-less URI -/
def Located (env : Env) (recDoc : ResolveDoc) (root : NodeId) (s : RState) (d : DocRes) (u : Url)
    (r : NodeId) (s' : RState) : Prop :=
  let key := Uri.toString (Uri.dropFragment u)
  (Json.lookup key d.uris = some r ∧ s' = s) ∨
  (Json.lookup key d.uris = none ∧ Json.lookup key s.loaded = some r ∧ s' = mergeKnown s root r) ∨
  (Json.lookup key d.uris = none ∧ Json.lookup key s.loaded = none ∧
    ∃ tbl s2, env.loader = some tbl ∧ Json.lookup key tbl = some (.doc r) ∧
      recDoc r (Uri.dropFragment u) d.draft { s with log := s.log ++ [key] } = .ok s2 ∧
      s' = mergeKnown s2 root r)

/-- the fragment dispatch of resolveRef, anchors read from the table -/
def TableFrag (env : Env) (s' : RState) (root r : NodeId) (frag : String) (o : RefOut) : Prop :=
  if (frag != "" && frag.toList.head? != some '/') = true then
    ∃ rInfo a, s'.info? root r = some rInfo ∧ Json.lookup frag rInfo.anchors = some a ∧
      o.target = a.schema ∧ o.dynFrag = (if a.dynamic then frag else "")
  else Pointer.dereference env.st true true r frag = .ok o.target ∧ o.dynFrag = ""

/-- the URI a reference in schema `id` is resolved against: `uri` of the info of `info(id).base` -/
def refBase (s : RState) (root id : NodeId) : Option Url :=
  (s.info? root id).bind fun info => info.base.bind fun base => (s.info? root base).bind fun bInfo => bInfo.uri

theorem refBase_eq_some_iff {s : RState} {root id : NodeId} {bu : Url} :
    refBase s root id = some bu ↔
      ∃ info, s.info? root id = some info ∧ ∃ base, info.base = some base ∧
        ∃ bInfo, s.info? root base = some bInfo ∧ bInfo.uri = some bu := by
  simp only [refBase, Option.bind_eq_some_iff]

/-- what the Loader hands out for `key`; (nil, nil) and a missing Loader are errors like the Loader's own -/
def loaderDoc (env : Env) (key : String) : Res NodeId :=
  match env.loader with
  | none => .err
  | some tbl =>
    match Json.lookup key tbl with
    | some (.doc lroot) => .ok lroot
    | _ => .err

theorem loaderDoc_eq_ok_iff {env : Env} {key : String} {lroot : NodeId} :
    loaderDoc env key = .ok lroot ↔ ∃ tbl, env.loader = some tbl ∧ Json.lookup key tbl = some (.doc lroot) := by
  unfold loaderDoc
  cases env.loader with
  | none => simp
  | some tbl =>
    simp only [Option.some.injEq, exists_eq_left']
    cases Json.lookup key tbl with
    | none => simp
    | some r => cases r <;> simp

theorem loaderDoc_NoPF (env : Env) (key : String) : C10.NoPF (loaderDoc env key) := by
  unfold loaderDoc
  cases env.loader with
  | none => exact ⟨nofun, nofun⟩
  | some tbl =>
    dsimp only
    cases Json.lookup key tbl with
    | none => exact ⟨nofun, nofun⟩
    | some r => cases r <;> exact ⟨nofun, nofun⟩

/-- the first half of resolveRef: the resource or document the fragment-less URI names, looked up in the document's
    own `uris`, then in the cache `loaded` (whose schemas the referring Resolved then gets to know), then loaded -/
def findDoc (env : Env) (recDoc : ResolveDoc) (root : NodeId) (s : RState) (d : DocRes) (fragless : Url) :
    Res (NodeId × RState) :=
  match Json.lookup (Uri.toString fragless) d.uris with
  | some t => .ok (t, s)
  | none =>
    match Json.lookup (Uri.toString fragless) s.loaded with
    | some lroot => .ok (lroot, mergeKnown s root lroot)
    | none =>
      Res.bind (loaderDoc env (Uri.toString fragless)) fun lroot =>
        Res.bind (recDoc lroot fragless d.draft { s with log := s.log ++ [Uri.toString fragless] }) fun s2 =>
          .ok (lroot, mergeKnown s2 root lroot)

theorem findDoc_hit {env : Env} {recDoc : ResolveDoc} {root : NodeId} {s : RState} {d : DocRes} {u : Url} {t : NodeId}
    (h : Json.lookup (Uri.toString u) d.uris = some t) : findDoc env recDoc root s d u = .ok (t, s) := by
  unfold findDoc; rw [h]

theorem findDoc_cached {env : Env} {recDoc : ResolveDoc} {root : NodeId} {s : RState} {d : DocRes} {u : Url}
    {lroot : NodeId} (h1 : Json.lookup (Uri.toString u) d.uris = none)
    (h2 : Json.lookup (Uri.toString u) s.loaded = some lroot) :
    findDoc env recDoc root s d u = .ok (lroot, mergeKnown s root lroot) := by
  unfold findDoc; rw [h1, h2]

theorem findDoc_load {env : Env} {recDoc : ResolveDoc} {root : NodeId} {s : RState} {d : DocRes} {u : Url}
    (h1 : Json.lookup (Uri.toString u) d.uris = none) (h2 : Json.lookup (Uri.toString u) s.loaded = none) :
    findDoc env recDoc root s d u =
      Res.bind (loaderDoc env (Uri.toString u)) fun lroot =>
        Res.bind (recDoc lroot u d.draft { s with log := s.log ++ [Uri.toString u] }) fun s2 =>
          .ok (lroot, mergeKnown s2 root lroot) := by
  unfold findDoc; rw [h1, h2]

/-- the second half: the fragment selects inside `r`, an anchor through the table, a JSON pointer by walking -/
def fragOut (env : Env) (s : RState) (root r : NodeId) (frag : String) : Res RefOut :=
  if frag != "" && frag.toList.head? != some '/' then
    match s.info? root r with
    | none => .panic
    | some rInfo =>
      match Json.lookup frag rInfo.anchors with
      | none => .err
      | some a => .ok { target := a.schema, dynFrag := if a.dynamic then frag else "" }
  else
    Res.bind (Pointer.dereference env.st true true r frag) fun t => .ok { target := t, dynFrag := "" }

theorem resolveRef_eq (env : Env) (recDoc : ResolveDoc) (root : NodeId) (s : RState) (id : NodeId) (ref : String) :
    resolveRef env recDoc root s id ref =
      Res.bind (Uri.parse ref) fun refURI0 =>
        match refBase s root id, s.doc? root with
        | some bu, some d =>
          Res.bind (findDoc env recDoc root s d (Uri.dropFragment (Uri.resolveReference bu refURI0))) fun p =>
            Res.bind (fragOut env p.2 root p.1 (Uri.resolveReference bu refURI0).fragment) fun o => .ok (o, p.2)
        | _, _ => .panic := by
  unfold resolveRef refBase
  refine Res.bind_congr_ok fun refURI0 _ => ?_
  cases s.info? root id with
  | none => rfl
  | some info =>
  dsimp only [Option.bind_some]
  cases info.base with
  | none => rfl
  | some base =>
  dsimp only [Option.bind_some]
  cases s.info? root base with
  | none => rfl
  | some bInfo =>
  dsimp only [Option.bind_some]
  cases bInfo.uri with
  | none => rfl
  | some bu =>
  cases s.doc? root with
  | none => rfl
  | some d =>
    dsimp only
    congr 1
    · unfold findDoc loaderDoc
      cases Json.lookup (Uri.toString (Uri.dropFragment (Uri.resolveReference bu refURI0))) d.uris with
      | some t => rfl
      | none =>
      dsimp only
      cases Json.lookup (Uri.toString (Uri.dropFragment (Uri.resolveReference bu refURI0))) s.loaded with
      | some lroot => rfl
      | none =>
      dsimp only
      cases env.loader with
      | none => rfl
      | some tbl =>
      dsimp only
      cases Json.lookup (Uri.toString (Uri.dropFragment (Uri.resolveReference bu refURI0))) tbl with
      | none => rfl
      | some r => cases r <;> rfl
    · funext p
      unfold fragOut
      cases (Uri.resolveReference bu refURI0).fragment != "" &&
        (Uri.resolveReference bu refURI0).fragment.toList.head? != some '/' with
      | true =>
        cases p.2.info? root p.1 with
        | none => rfl
        | some rInfo =>
          dsimp only
          cases Json.lookup (Uri.resolveReference bu refURI0).fragment rInfo.anchors <;> rfl
      | false => cases Pointer.dereference env.st true true p.1 (Uri.resolveReference bu refURI0).fragment <;> rfl

/-- `Located` is stated for the URI with its fragment (as resolveRef has it); findDoc gets it without -/
theorem findDoc_eq_ok_iff {env : Env} {recDoc : ResolveDoc} {root : NodeId} {s : RState} {d : DocRes} {u : Url}
    {r : NodeId} {s' : RState} :
    findDoc env recDoc root s d (Uri.dropFragment u) = .ok (r, s') ↔ Located env recDoc root s d u r s' := by
  unfold findDoc Located
  dsimp only
  cases Json.lookup (Uri.toString (Uri.dropFragment u)) d.uris with
  | some t =>
    simp only [Res.ok.injEq, Prod.mk.injEq, Option.some.injEq, reduceCtorEq, false_and, or_false]
    exact and_congr_right' eq_comm
  | none =>
    cases Json.lookup (Uri.toString (Uri.dropFragment u)) s.loaded with
    | some lroot =>
      simp only [Res.ok.injEq, Prod.mk.injEq, Option.some.injEq, reduceCtorEq, true_and, false_and, or_false, false_or]
      constructor
      · rintro ⟨rfl, rfl⟩; exact ⟨rfl, rfl⟩
      · rintro ⟨rfl, rfl⟩; exact ⟨rfl, rfl⟩
    | none =>
      simp only [Res.bind_eq_ok_iff, loaderDoc_eq_ok_iff, Res.ok.injEq, Prod.mk.injEq, true_and, false_and, false_or,
        reduceCtorEq]
      constructor
      · rintro ⟨_, ⟨tbl, htbl, hl⟩, s2, hrec, rfl, rfl⟩
        exact ⟨tbl, s2, htbl, hl, hrec, rfl⟩
      · rintro ⟨tbl, s2, htbl, hl, hrec, rfl⟩
        exact ⟨r, ⟨tbl, htbl, hl⟩, s2, hrec, rfl, rfl⟩

theorem fragOut_eq_ok_iff {env : Env} {s : RState} {root r : NodeId} {frag : String} {o : RefOut} :
    fragOut env s root r frag = .ok o ↔ TableFrag env s root r frag o := by
  obtain ⟨t, f⟩ := o
  unfold fragOut TableFrag
  dsimp only
  split
  · constructor
    · intro h
      cases hi : s.info? root r with
      | none => rw [hi] at h; cases h
      | some rInfo =>
        rw [hi] at h
        dsimp only at h
        cases ha : Json.lookup frag rInfo.anchors with
        | none => rw [ha] at h; cases h
        | some a => rw [ha] at h; cases h; exact ⟨rInfo, a, rfl, ha, rfl, rfl⟩
    · rintro ⟨rInfo, a, hi, ha, rfl, rfl⟩
      rw [hi]
      dsimp only
      rw [ha]
  · simp only [Res.bind_eq_ok_iff, Res.ok.injEq, RefOut.mk.injEq]
    constructor
    · rintro ⟨_, ht, rfl, rfl⟩; exact ⟨ht, rfl⟩
    · rintro ⟨ht, rfl⟩; exact ⟨t, ht, rfl, rfl⟩

theorem resolveRef_unfold (env : Env) (recDoc : ResolveDoc) (root : NodeId) (s : RState) (id : NodeId)
    (ref : String) (o : RefOut) (s' : RState)
    (h : resolveRef env recDoc root s id ref = .ok (o, s')) :
    ∃ refURI0 info base bInfo bu d r,
      Uri.parse ref = .ok refURI0 ∧ s.info? root id = some info ∧ info.base = some base ∧
      s.info? root base = some bInfo ∧ bInfo.uri = some bu ∧ s.doc? root = some d ∧
      Located env recDoc root s d (Uri.resolveReference bu refURI0) r s' ∧
      TableFrag env s' root r (Uri.resolveReference bu refURI0).fragment o := by
  rw [resolveRef_eq, Res.bind_eq_ok_iff] at h
  obtain ⟨refURI0, hp, h⟩ := h
  split at h
  · rename_i bu d hbu hd
    obtain ⟨info, hinfo, base, hbase, bInfo, hbInfo, hbu⟩ := refBase_eq_some_iff.mp hbu
    simp only [Res.bind_eq_ok_iff, Res.ok.injEq, Prod.mk.injEq] at h
    obtain ⟨⟨r, s1⟩, hfound, _, hfrag, rfl, rfl⟩ := h
    exact ⟨refURI0, info, base, bInfo, bu, d, r, hp, hinfo, hbase, hbInfo, hbu, hd,
      findDoc_eq_ok_iff.mp hfound, fragOut_eq_ok_iff.mp hfrag⟩
  · cases h

/-- one of the two blocks of resolveRefs (`$ref`, `$dynamicRef`): when `on`, resolve `ref` and record the outcome -/
def refStep (env : Env) (recDoc : ResolveDoc) (root id : NodeId) (on : Bool) (ref : String)
    (upd : RefOut → Info → Info) (s : RState) : Res RState :=
  if on then Res.bind (resolveRef env recDoc root s id ref) fun p => .ok (p.2.updInfo id (upd p.1)) else .ok s

theorem refStep_false (env : Env) (recDoc : ResolveDoc) (root id : NodeId) (ref : String)
    (upd : RefOut → Info → Info) (s : RState) : refStep env recDoc root id false ref upd s = .ok s := rfl

theorem resolveRefsLoop_cons (env : Env) (recDoc : ResolveDoc) (root id : NodeId) (rest : List NodeId) (s : RState) :
    resolveRefsLoop env recDoc root (id :: rest) s =
      match env.st.get? id with
      | none => .panic
      | some n =>
        Res.bind (refStep env recDoc root id (n.ref != "") n.ref
          (fun o i => { i with resolvedRef := some o.target }) s) fun s1 =>
        Res.bind (refStep env recDoc root id (n.dynamicRef != "" && s1.draftOf root == .d2020) n.dynamicRef
          (fun o i => { i with resolvedDynamicRef := some o.target, dynamicRefAnchor := o.dynFrag }) s1) fun s2 =>
        resolveRefsLoop env recDoc root rest s2 := by
  rw [resolveRefsLoop]; rfl

theorem refStep_ok' {env : Env} {recDoc : ResolveDoc} {root id : NodeId} {on : Bool} {ref : String}
    {upd : RefOut → Info → Info} {a b : RState} (h : refStep env recDoc root id on ref upd a = .ok b) :
    (on = false ∧ b = a) ∨
    (on = true ∧ ∃ o a1, resolveRef env recDoc root a id ref = .ok (o, a1) ∧ b = a1.updInfo id (upd o)) := by
  cases on with
  | false => cases h; exact Or.inl ⟨rfl, rfl⟩
  | true =>
    obtain ⟨⟨o, a1⟩, hr, h⟩ := Res.bind_eq_ok_iff.mp h
    cases h
    exact Or.inr ⟨rfl, o, a1, hr, rfl⟩

theorem refStep_ok {env : Env} {recDoc : ResolveDoc} {root id : NodeId} {on : Bool} {ref : String}
    {upd : RefOut → Info → Info} {a b : RState} (h : refStep env recDoc root id on ref upd a = .ok b) :
    b = a ∨ ∃ o a1, resolveRef env recDoc root a id ref = .ok (o, a1) ∧ b = a1.updInfo id (upd o) :=
  (refStep_ok' h).imp (·.2) (·.2)

theorem postStep_ind {J : RState → Prop} (draft : Draft) (s : RState) (id base : NodeId) (n : Node)
    (h0 : J (s.updInfo id fun i => { i with base := some base }))
    (hA : ∀ a x dyn, J a → J (setAnchor a base id x dyn)) : J (postStep draft s id base n) := by
  unfold postStep
  simp only
  split
  · exact hA _ _ _ (hA _ _ _ h0)
  · exact h0

def Outcomes {α} (r : Res α) (ok : α → Prop) (err panic fuel : Prop) : Prop :=
  match r with
  | .ok a => ok a
  | .err => err
  | .panic => panic
  | .fuel => fuel

theorem Outcomes.bind {α β} {x : Res α} {f : α → Res β} {P : α → Prop} {Q : β → Prop} {e p u : Prop}
    (hx : Outcomes x P e p u) (hf : ∀ a, P a → Outcomes (f a) Q e p u) : Outcomes (Res.bind x f) Q e p u := by
  cases x with
  | ok a => exact hf a hx
  | err => exact hx
  | panic => exact hx
  | fuel => exact hx

/-- the induction over resolveURIs for all four outcomes: `J fuel work s` holds when the loop is entered -/
theorem resolveURIsLoop_out (env : Env) (draft : Draft) (root : NodeId)
    (J : Nat → List (NodeId × NodeId) → RState → Prop) (Q : RState → Prop) (E P F : Prop)
    (hzero : ∀ work s, J 0 work s → F)
    (hnil : ∀ fuel s, J (fuel + 1) [] s → Q s)
    (hstep : ∀ fuel id base work s, J (fuel + 1) ((id, base) :: work) s →
      match env.st.get? id, lookupNat id s.infos, lookupNat base s.infos with
      | some n, some _, some bi =>
        Outcomes (uriStep draft root s id base n bi)
          (fun p => J fuel ((n.children.map fun c => (c, p.2)) ++ work) (postStep draft p.1 id p.2 n)) E P F
      | _, _, _ => P) :
    ∀ fuel work s, J fuel work s → Outcomes (resolveURIsLoop env draft root fuel work s) Q E P F := by
  intro fuel
  induction fuel with
  | zero => intro work s h; rw [resolveURIsLoop]; exact hzero work s h
  | succ fuel ih =>
    intro work s h
    cases work with
    | nil => rw [resolveURIsLoop]; exact hnil fuel s h
    | cons w work =>
      obtain ⟨id, base⟩ := w
      rw [resolveURIsLoop_cons]
      have := hstep fuel id base work s h
      generalize env.st.get? id = a at this ⊢
      generalize lookupNat id s.infos = b at this ⊢
      generalize lookupNat base s.infos = c at this ⊢
      cases a with
      | none => exact this
      | some n =>
        cases b with
        | none => exact this
        | some i =>
          cases c with
          | none => exact this
          | some bi => exact Outcomes.bind this fun p hp => ih _ _ hp

/-- successful runs, invariant over worklist and state: for facts about which schemas are still to come -/
theorem resolveURIsLoop_winv (env : Env) (draft : Draft) (root : NodeId) (J : List (NodeId × NodeId) → RState → Prop)
    (hstep : ∀ id base work s n bi s1 base1, env.st.get? id = some n → (lookupNat id s.infos).isSome = true →
      lookupNat base s.infos = some bi → uriStep draft root s id base n bi = .ok (s1, base1) →
      J ((id, base) :: work) s → J ((n.children.map fun c => (c, base1)) ++ work) (postStep draft s1 id base1 n)) :
    ∀ fuel work s s', resolveURIsLoop env draft root fuel work s = .ok s' → J work s → J [] s' := by
  intro fuel work s s' h hJ
  have := resolveURIsLoop_out env draft root (fun _ => J) (J []) True True True (fun _ _ _ => trivial)
    (fun _ _ h => h) ?_ fuel work s hJ
  · rw [h] at this; exact this
  intro fuel id base work a ha
  split
  · rename_i n i bi hn hi hb
    cases hu : uriStep draft root a id base n bi with
    | ok p => exact hstep id base work a n bi p.1 p.2 hn (by rw [hi]; rfl) hb hu ha
    | err => trivial
    | panic => trivial
    | fuel => trivial
  · trivial

/-- successful runs, invariant over the state alone: one case per update resolveURIs makes -/
theorem resolveURIsLoop_inv (env : Env) (draft : Draft) (root : NodeId) (J : RState → Prop)
    (hU : ∀ a id u, J a → J (a.updInfo id fun i => { i with uri := some u }))
    (hB : ∀ a id b, J a → J (a.updInfo id fun i => { i with base := some b }))
    (hA : ∀ a b t x dyn, (env.st.get? t).isSome = true → J a → J (setAnchor a b t x dyn))
    (hD : ∀ a d u, a.doc? root = some d → J a → J (a.setDoc { d with uris := u })) :
    ∀ fuel work s s', resolveURIsLoop env draft root fuel work s = .ok s' → J s → J s' := by
  refine resolveURIsLoop_winv env draft root (fun _ => J) ?_
  intro id base work s n bi s1 base1 hn _ _ hstep hs
  have hid : (env.st.get? id).isSome = true := by rw [hn]; rfl
  have hs1 : J s1 := by
    rcases uriStep_shapes draft root s id base n bi s1 base1 hstep with ⟨_, rfl | ⟨a, rfl⟩⟩ | ⟨_, u, rfl⟩
    · exact hs
    · exact hA _ _ _ _ _ hid hs
    · unfold newUriState
      simp only
      split
      · rename_i d hd
        exact hD _ d _ hd (hU _ _ _ hs)
      · exact hU _ _ _ hs
  exact postStep_ind draft s1 id base1 n (hB _ _ _ hs1) fun a x dyn ha => hA _ _ _ _ _ hid ha

/-- successful runs of resolveRefs: the invariant crosses a `$ref` block and a `$dynamicRef` block -/
theorem resolveRefsLoop_inv (env : Env) (recDoc : ResolveDoc) (root : NodeId) (J : RState → Prop)
    (hR : ∀ a id ref o b, J a → resolveRef env recDoc root a id ref = .ok (o, b) →
      J (b.updInfo id fun i => { i with resolvedRef := some o.target }))
    (hDy : ∀ a id ref o b, J a → resolveRef env recDoc root a id ref = .ok (o, b) →
      J (b.updInfo id fun i => { i with resolvedDynamicRef := some o.target, dynamicRefAnchor := o.dynFrag })) :
    ∀ ids s s', resolveRefsLoop env recDoc root ids s = .ok s' → J s → J s' := by
  intro ids
  induction ids with
  | nil => intro s s' h hs; rw [resolveRefsLoop] at h; cases h; exact hs
  | cons id rest ih =>
    intro s s' h hs
    rw [resolveRefsLoop_cons] at h
    cases hn : env.st.get? id with
    | none => rw [hn] at h; cases h
    | some n =>
      rw [hn] at h
      simp only [Res.bind_eq_ok_iff] at h
      obtain ⟨s1, e1, s2, e2, h⟩ := h
      have g1 : J s1 := by
        rcases refStep_ok e1 with rfl | ⟨o, a1, hr, rfl⟩
        · exact hs
        · exact hR _ _ _ _ _ hs hr
      have g2 : J s2 := by
        rcases refStep_ok e2 with rfl | ⟨o, a1, hr, rfl⟩
        · exact g1
        · exact hDy _ _ _ _ _ g1 hr
      exact ih _ _ h g2

def retrievalOf (base : String) : Res Url := if base == "" then .ok {} else Uri.parse base

theorem resolve_eq (env : Env) (fuel : Nat) (root : NodeId) (base : String) :
    resolve env fuel root base =
      (retrievalOf base).bind fun b => (resolveDoc env fuel root b .d2020 {}).bind fun s =>
        match s.doc? root with
        | none => .panic
        | some d => .ok { root := root, draft := d.draft, infos := s.infos.filter (fun e => d.known.contains e.1),
                          log := s.log } := rfl

/-- the key under which resolver.resolve caches the document besides its retrieval URI -/
def rootUriOf (s : RState) (root : NodeId) : String :=
  match lookupNat root s.infos with
  | some i => (i.uri.map Uri.toString).getD ""
  | none => ""

/-- the schemas checkStructure has met -/
def ids (l : List (NodeId × Info)) : List NodeId := l.map (·.1)

end RInv

namespace RDraft
open RInv Uri

/-- the draft a document with root object `rn` is read under when the referrer's draft is `inherit` -/
def docDraft (env : Env) (rn : Node) (inherit : Draft) : Draft :=
  if rn.schema == "" then inherit else detectDraft env rn.schema

/-- the state handed to resolveURIs -/
def beforeURIs (root : NodeId) (baseURI : Url) (draft : Draft) (fresh : List (NodeId × Info)) (s : RState) : RState :=
  (({ s with infos := s.infos ++ fresh } : RState).setDoc
    { root := root, draft := draft, uris := [(Uri.toString baseURI, root)], known := fresh.map (·.1) }).updInfo root
      fun i => { i with uri := some baseURI }

/-- the update of `r.loaded` between resolveURIs and resolveRefs -/
def afterURIs (root : NodeId) (baseURI : Url) (s : RState) : RState :=
  { s with loaded := (s.loaded.filter fun e => e.1 != Uri.toString baseURI && e.1 != RInv.rootUriOf s root)
                      ++ [(Uri.toString baseURI, root), (RInv.rootUriOf s root, root)] }

/-- checkLocal passes on every registered schema -/
def localOkAll (env : Env) (fresh : List (NodeId × Info)) : Bool :=
  (fresh.map (·.1)).all fun id => match env.st.get? id with
    | some nd => checkLocalOk env nd
    | none => false

theorem resolveDocStep_eq (env : Env) (recDoc : ResolveDoc) (root : NodeId) (baseURI : Url) (inherit : Draft)
    (s : RState) :
    resolveDocStep env recDoc root baseURI inherit s =
      if baseURI.fragment != "" then .err else
      match env.st.get? root with
      | none => .err
      | some rn =>
        Res.bind (checkStructure env.st (env.st.size + 2) [(root, "")] []) fun fresh =>
          if !localOkAll env fresh then .err else
          Res.bind (resolveURIsLoop env (docDraft env rn inherit) root (env.st.size + 2) [(root, root)]
              (beforeURIs root baseURI (docDraft env rn inherit) fresh s)) fun sB =>
            resolveRefsLoop env recDoc root (allNodes env.st (env.st.size + 2) [root]) (afterURIs root baseURI sB) :=
  rfl

theorem resolveDocStep_unfold (env : Env) (recDoc : ResolveDoc) (root : NodeId) (baseURI : Url) (inherit : Draft)
    (s s' : RState) (h : resolveDocStep env recDoc root baseURI inherit s = .ok s') :
    ∃ rn fresh sB, env.st.get? root = some rn ∧
      checkStructure env.st (env.st.size + 2) [(root, "")] [] = .ok fresh ∧
      resolveURIsLoop env (docDraft env rn inherit) root (env.st.size + 2) [(root, root)]
        (beforeURIs root baseURI (docDraft env rn inherit) fresh s) = .ok sB ∧
      resolveRefsLoop env recDoc root (allNodes env.st (env.st.size + 2) [root]) (afterURIs root baseURI sB) = .ok s' := by
  rw [resolveDocStep_eq] at h
  split at h
  · cases h
  cases hrn : env.st.get? root with
  | none => rw [hrn] at h; cases h
  | some rn =>
    rw [hrn] at h
    obtain ⟨fresh, hfresh, h⟩ := Res.bind_eq_ok_iff.mp h
    split at h
    · cases h
    obtain ⟨sB, hB, h⟩ := Res.bind_eq_ok_iff.mp h
    exact ⟨rn, fresh, sB, rfl, hfresh, hB, h⟩

theorem resolveRef_cases (env : Env) (recDoc : ResolveDoc) (root : NodeId) (a : RState) (id : NodeId) (ref : String)
    (o : RefOut) (b : RState) (h : resolveRef env recDoc root a id ref = .ok (o, b)) :
    ∃ d, a.doc? root = some d ∧
      (b = a ∨ (∃ r, b = mergeKnown a root r) ∨
       ∃ u tbl r a2, Json.lookup (Uri.toString u) a.loaded = none ∧ env.loader = some tbl ∧
         Json.lookup (Uri.toString u) tbl = some (.doc r) ∧
         recDoc r u d.draft { a with log := a.log ++ [Uri.toString u] } = .ok a2 ∧ b = mergeKnown a2 root r) := by
  obtain ⟨refURI0, info, base, bInfo, bu, d, r, _, _, _, _, _, hd, hloc, _⟩ :=
    resolveRef_unfold env recDoc root a id ref o b h
  refine ⟨d, hd, ?_⟩
  unfold Located at hloc
  simp only at hloc
  rcases hloc with ⟨_, h1⟩ | ⟨_, _, h1⟩ | ⟨_, hn, tbl, s2, htbl, hl, hrec, h1⟩
  · exact Or.inl h1
  · exact Or.inr (Or.inl ⟨r, h1⟩)
  · exact Or.inr (Or.inr ⟨_, tbl, r, s2, hn, htbl, hl, hrec, h1⟩)

theorem pres_setAnchor (J : RState → Prop) (h1 : ∀ a id f, J a → J (a.updInfo id f))
    (s : RState) (b t : NodeId) (a : String) (dyn : Bool) (h : J s) : J (setAnchor s b t a dyn) := by
  rw [setAnchor_eq]
  split
  · exact h
  · exact h1 _ _ _ h

/-- `_inv` for an invariant that no `updInfo` can break: two cases -/
theorem resolveURIsLoop_pres (env : Env) (draft : Draft) (root : NodeId) (J : RState → Prop)
    (h1 : ∀ a id f, J a → J (a.updInfo id f))
    (h2 : ∀ a d u, J a → a.doc? root = some d → J (a.setDoc { d with uris := u })) :
    ∀ fuel work s s', resolveURIsLoop env draft root fuel work s = .ok s' → J s → J s' :=
  resolveURIsLoop_inv env draft root J (fun a id _ => h1 a id _) (fun a id _ => h1 a id _)
    (fun a b t x dyn _ => pres_setAnchor J h1 a b t x dyn) (fun a d u hd ha => h2 a d u ha hd)

/-- `_inv` for an invariant that no `updInfo` can break: only the call of resolveRef is left -/
theorem resolveRefsLoop_pres (env : Env) (recDoc : ResolveDoc) (root : NodeId) (J : RState → Prop)
    (h1 : ∀ a id f, J a → J (a.updInfo id f))
    (hstep : ∀ a id ref o b, J a → resolveRef env recDoc root a id ref = .ok (o, b) → J b) :
    ∀ ids s s', resolveRefsLoop env recDoc root ids s = .ok s' → J s → J s' :=
  resolveRefsLoop_inv env recDoc root J (fun a id ref o b ha hr => h1 _ _ _ (hstep a id ref o b ha hr))
    (fun a id ref o b ha hr => h1 _ _ _ (hstep a id ref o b ha hr))

end RDraft

namespace RPerm

/-- the record checkStructure creates -/
def infoOf (path : String) : Info := { path := if path == "" then "root" else path }

theorem cs_cons (st : Store) (fuel : Nat) (id : NodeId) (path : String) (work : List (NodeId × String))
    (acc : List (NodeId × Info)) :
    checkStructure st (fuel + 1) ((id, path) :: work) acc =
      match st.get? id with
      | none => .err
      | some n =>
        if (lookupNat id acc).isSome then .err
        else checkStructure st fuel (childEntries n path ++ work) (acc ++ [(id, infoOf path)]) := by
  rw [checkStructure]; rfl

theorem cs_cons_ok (st : Store) (fuel : Nat) (id : NodeId) (path : String) (work : List (NodeId × String))
    (acc res : List (NodeId × Info)) :
    checkStructure st (fuel + 1) ((id, path) :: work) acc = .ok res ↔
      ∃ n, st.get? id = some n ∧ id ∉ acc.map (·.1) ∧
        checkStructure st fuel (childEntries n path ++ work) (acc ++ [(id, infoOf path)]) = .ok res := by
  rw [cs_cons]
  cases hn : st.get? id with
  | none => simp
  | some n =>
    simp only [Option.some.injEq, exists_eq_left']
    cases hl : lookupNat id acc with
    | none =>
      simp only [Option.isSome_none, Bool.false_eq_true, if_false]
      exact ⟨fun h => ⟨(lookupNat_eq_none_iff id acc).mp hl, h⟩, fun h => h.2⟩
    | some i =>
      simp only [Option.isSome_some, if_true]
      constructor
      · intro h; cases h
      · intro h
        have := (lookupNat_eq_none_iff id acc).mpr h.1
        rw [hl] at this; cases this

theorem cs_nil (st : Store) (fuel : Nat) (acc : List (NodeId × Info)) :
    checkStructure st (fuel + 1) [] acc = .ok acc := by
  rw [checkStructure]

theorem cs_zero (st : Store) (w : List (NodeId × String)) (acc : List (NodeId × Info)) :
    checkStructure st 0 w acc = .fuel := by
  rw [checkStructure]

theorem checkStructure_inv (st : Store) (J : List (NodeId × String) → List (NodeId × Info) → Prop)
    (hstep : ∀ id path n work acc, st.get? id = some n → id ∉ acc.map (·.1) → J ((id, path) :: work) acc →
      J (childEntries n path ++ work) (acc ++ [(id, infoOf path)])) :
    ∀ fuel work acc res, checkStructure st fuel work acc = .ok res → J work acc → J [] res := by
  intro fuel
  induction fuel with
  | zero => intro work acc res h; rw [cs_zero] at h; cases h
  | succ fuel ih =>
    intro work acc res h hJ
    cases work with
    | nil => rw [cs_nil] at h; cases h; exact hJ
    | cons w work =>
      obtain ⟨id, path⟩ := w
      obtain ⟨n, hn, hid, h⟩ := (cs_cons_ok st fuel id path work acc res).mp h
      exact ih _ _ _ h (hstep id path n work acc hn hid hJ)

end RPerm

/-- `Schema.all()` as modelled lists only schemas that exist (a nil element of a slice or map is skipped) -/
theorem allNodes_store (st : Store) : ∀ fuel work, ∀ x ∈ allNodes st fuel work, (st.get? x).isSome = true := by
  intro fuel
  induction fuel with
  | zero => intro work x h; simp [allNodes] at h
  | succ fuel ih =>
    intro work x h
    cases work with
    | nil => simp [allNodes] at h
    | cons w work =>
      rw [allNodes] at h
      split at h
      · rename_i n hn
        rcases List.mem_cons.mp h with h | h
        · subst h; rw [hn]; rfl
        · exact ih _ x h
      · exact ih _ x h

end Go
end JSV
