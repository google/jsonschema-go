/-
  C04 with entries of the type table that are reference-free schema TREES (objects with `properties`, `items`, `allOf`,
  `anyOf`, `if`/`then`/`else`, `additionalProperties`, `unevaluated*` …): the clone `forType` makes of the entry — with
  `null` added to the types of its ROOT for a pointer — validates like the entry, in the store `forType` returns and in
  every later one.

  Ingredients:
  * under `specEnvNoRefs` the dynamic scope is never read (`evalFuel_scope`);
  * `TSim st st' k a b`: the subtree of `b` in `st'` is, for `Spec.evalStep`, a copy of the full reference-free tree of
    depth `≤ k` at `a` in `st` (`Iso.NodeSim` at every node: descriptions and ids may differ); it survives every later
    change of the right store that keeps the nodes up to their descriptions (`TSim.mono_right`), and it is an
    `Iso.EnvSim`, so related nodes validate alike (`Iso.evalFuel_sim`);
  * `CloneSchemas` of a full reference-free tree produces a `TSim` copy (`clone_root`, through `tsim_of_sim` from
    `Go.cloneFuel_sim`), whose children live in the store BEFORE the root of the clone is pushed — so rewriting the
    root afterwards (`tableNull`) does not touch them;
  * one schema object whose subschemas are `TSim`-related (`specBody_eval`), and adding `null` to the types of a schema
    object that has a type keyword loses no instance (`specBody_tableNull`).

  Together: `namedLeaf_table`, and with it `forType` builds a schema that `Models` describes (`inferFuel_modelsTT`).
  Entries without subschemas (JSV/Proofs/InfTable.lean) are tree entries (`entriesAcceptTree_of_leaves`).
  At the end: three forwards equations with which JSV/Props/C04.lean evaluates `forType` on its examples.
-/
import JSV.Proofs.InfTable
import JSV.Proofs.IsoTrees
import JSV.Proofs.SpecStepCalls
import JSV.Proofs.SpecLawsScope
namespace JSV
namespace Iso
open Go (ListRel OptRel KeyRel)
open Spec

theorem evalFuel_scope (st : Store) (re : String → String → Bool) (f : Nat) (sc sc' : List NodeId) :
    evalFuel (specEnvNoRefs st re) f sc = evalFuel (specEnvNoRefs st re) f sc' :=
  funext fun s => funext fun j =>
    Laws.evalFuel_scope_eqv _ f sc sc' s j (Laws.ScopeEqv_of_no_dynamic _ (fun _ _ => rfl) sc sc')

theorem NodeSim.imp {R S : NodeId → NodeId → Prop} (h : ∀ a b, R a b → S a b) {n₁ n₂ : Node} (hn : NodeSim R n₁ n₂) :
    NodeSim S n₁ n₂ where
  scal := hn.scal
  allOf := ListRel.imp h hn.allOf
  anyOf := OptRel.imp (fun _ _ => ListRel.imp h) hn.anyOf
  oneOf := OptRel.imp (fun _ _ => ListRel.imp h) hn.oneOf
  not := OptRel.imp h hn.not
  if_ := OptRel.imp h hn.if_
  then_ := OptRel.imp h hn.then_
  else_ := OptRel.imp h hn.else_
  prefixItems := ListRel.imp h hn.prefixItems
  items := OptRel.imp h hn.items
  itemsArray := OptRel.imp (fun _ _ => ListRel.imp h) hn.itemsArray
  additionalItems := OptRel.imp h hn.additionalItems
  contains := OptRel.imp h hn.contains
  unevaluatedItems := OptRel.imp h hn.unevaluatedItems
  properties := fun k => OptRel.imp h (hn.properties k)
  patternProperties := ListRel.imp (KeyRel.imp h) hn.patternProperties
  additionalProperties := OptRel.imp h hn.additionalProperties
  propertyNames := OptRel.imp h hn.propertyNames
  unevaluatedProperties := OptRel.imp h hn.unevaluatedProperties
  dependentSchemas := ListRel.imp (KeyRel.imp h) hn.dependentSchemas
  dependencySchemas := ListRel.imp (KeyRel.imp h) hn.dependencySchemas

/-- the description is not read -/
theorem NodeSim.desc {R : NodeId → NodeId → Prop} {n₁ n₂ : Node} (hn : NodeSim R n₁ n₂) (d : String) :
    NodeSim R n₁ { n₂ with description := d } :=
  { hn with scal := hn.scal }

theorem scalarView_withType (n : Node) (t : String) (ts : Option (List String)) :
    scalarView { n with type := t, types := ts } = { scalarView n with type := t, types := ts } := rfl

theorem NodeSim.withType {R : NodeId → NodeId → Prop} {n₁ n₂ : Node} (hn : NodeSim R n₁ n₂) (t : String)
    (ts : Option (List String)) : NodeSim R { n₁ with type := t, types := ts } { n₂ with type := t, types := ts } :=
  have hs : scalarView { n₁ with type := t, types := ts } = scalarView { n₂ with type := t, types := ts } :=
    (scalarView_withType n₁ t ts).trans
      ((congrArg (fun m : Node => ({ m with type := t, types := ts } : Node)) hn.scal).trans
        (scalarView_withType n₂ t ts).symm)
  { hn with scal := hs }

/-- `tableNull` reads and writes `type` / `types` only -/
theorem NodeSim.tableNull {R : NodeId → NodeId → Prop} {n₁ n₂ : Node} (hn : NodeSim R n₁ n₂) (b : Bool) :
    NodeSim R (Go.tableNull b n₁) (Go.tableNull b n₂) := by
  have ht : n₁.type = n₂.type := congrArg (·.type) hn.scal
  have hts : n₁.types = n₂.types := congrArg (·.types) hn.scal
  have h : (Go.tableNull b n₁).type = (Go.tableNull b n₂).type ∧ (Go.tableNull b n₁).types = (Go.tableNull b n₂).types := by
    unfold Go.tableNull
    rw [ht, hts]
    split
    · split
      · exact ⟨rfl, rfl⟩
      · split
        · exact ⟨rfl, rfl⟩
        · exact ⟨ht, hts⟩
    · exact ⟨ht, hts⟩
  have := hn.withType (Go.tableNull b n₂).type (Go.tableNull b n₂).types
  rw [← Go.tableNull_eq b n₂, ← h.1, ← h.2, ← Go.tableNull_eq b n₁] at this
  exact this

/-- `TSim st st' k a b`: the tree at `a` in `st` is full (no nil child), at most `k` deep and reference-free, and the
    subtree of `b` in `st'` looks the same to `Spec.evalStep`, node by node (`NodeSim`) -/
def TSim (st st' : Store) : Nat → NodeId → NodeId → Prop
  | 0, _, _ => False
  | k + 1, a, b => ∃ n n', st.get? a = some n ∧ st'.get? b = some n' ∧ n.ref = "" ∧ n.dynamicRef = "" ∧
      NodeSim (TSim st st' k) n n'

def TSimS (st st' : Store) (a b : NodeId) : Prop := ∃ k, TSim st st' k a b

theorem TSim.mono_right {st st' st'' : Store} (h : Go.DExt st' st'') :
    ∀ (k : Nat) (a b : NodeId), TSim st st' k a b → TSim st st'' k a b
  | 0, _, _, hs => hs.elim
  | k + 1, _, b, ⟨n, n', ha, hb, h1, h2, hn⟩ => by
    obtain ⟨d, hd⟩ := h b n' hb
    exact ⟨n, _, ha, hd, h1, h2, (hn.imp (TSim.mono_right h k)).desc d⟩

theorem TSim.mono_left {st0 st st' : Store} (h : Go.Ext st0 st) :
    ∀ (k : Nat) (a b : NodeId), TSim st0 st' k a b → TSim st st' k a b
  | 0, _, _, hs => hs.elim
  | k + 1, _, _, ⟨n, n', ha, hb, h1, h2, hn⟩ => ⟨n, n', h.get? ha, hb, h1, h2, hn.imp (TSim.mono_left h k)⟩

theorem TSimS.mono_right {st st' st'' : Store} (h : Go.DExt st' st'') {a b : NodeId} (hs : TSimS st st' a b) :
    TSimS st st'' a b := hs.imp fun k hk => TSim.mono_right h k a b hk

theorem TSimS.mono_left {st0 st st' : Store} (h : Go.Ext st0 st) {a b : NodeId} (hs : TSimS st0 st' a b) :
    TSimS st st' a b := hs.imp fun k hk => TSim.mono_left h k a b hk

theorem tsim_envSim (st st' : Store) (re : String → String → Bool) :
    EnvSim (TSimS st st') (specEnvNoRefs st re) (specEnvNoRefs st' re) := by
  refine EnvSim.of_refFree rfl rfl (fun a b h => ?_) (fun a _ n h hn => ?_)
  · obtain ⟨k, hk⟩ := h
    cases k with
    | zero => exact hk.elim
    | succ k =>
      obtain ⟨n, n', ha, hb, -, -, hn⟩ := hk
      show OptRel _ (st.get? a) (st'.get? b)
      rw [ha, hb]
      exact hn.imp fun x y hxy => ⟨k, hxy⟩
  · obtain ⟨k, hk⟩ := h
    cases k with
    | zero => exact hk.elim
    | succ k =>
      obtain ⟨n0, n', ha, hb, h1, h2, -⟩ := hk
      have : n0 = n := by
        have hn' : st.get? a = some n := hn
        rw [ha] at hn'
        exact Option.some.inj hn'
      subst this
      exact ⟨h1, h2⟩

theorem tsim_eval {st st' : Store} (re : String → String → Bool) {a b : NodeId} (h : TSimS st st' a b) (f : Nat)
    (sc sc' : List NodeId) (j : Json) :
    evalFuel (specEnvNoRefs st re) f sc a j = evalFuel (specEnvNoRefs st' re) f sc' b j := by
  rw [evalFuel_scope st re f sc [], evalFuel_scope st' re f sc' []]
  exact evalFuel_sim (tsim_envSim st st' re) f .nil h j

/-- one step (`SpecSim.specBody_sub`) for a reference-free schema object given explicitly: nothing is asked of the ids `s₁`, `s₂` at
    which it is evaluated, only of its subschemas -/
theorem specBody_root {R : NodeId → NodeId → Prop} {e₁ e₂ : Spec.Env} (hd : e₁.draft = e₂.draft)
    (hre : e₁.reMatch = e₂.reMatch) {rec₁ rec₂ : Spec.Rec} {sc₁ sc₂ : List NodeId} {s₁ s₂ : NodeId}
    (hsub : SubIso R (rec₁ (sc₁ ++ [s₁])) (rec₂ (sc₂ ++ [s₂]))) (j : Json) {n₁ n₂ : Node} (hr : n₁.ref = "")
    (hdr : n₁.dynamicRef = "") (hn : NodeSim R n₁ n₂) :
    Inv.specBody e₁ rec₁ sc₁ s₁ j n₁ = Inv.specBody e₂ rec₂ sc₂ s₂ j n₂ :=
  (SpecSim.specBody_sub Inv.ListCong.ofEq Inv.EvCong.ofEq SpecSim.InstCong.ofEq hd hre hsub.toRel (rfl : j = j) hn.toRel
    (fun h => absurd hr h) fun h => absurd hdr h).eq

/-- a reference-free schema object `n`, evaluated anywhere over the store `st`, against a schema object in `st'` that
    looks the same and whose subschemas are copies of those of `n` -/
theorem specBody_eval {st st' : Store} (re : String → String → Bool) {b : NodeId} {n n' : Node}
    (hb : st'.get? b = some n') (hr : n.ref = "") (hdr : n.dynamicRef = "") (hn : NodeSim (TSimS st st') n n')
    (f : Nat) (sc : List NodeId) (a : NodeId) (sc' : List NodeId) (j : Json) :
    Inv.specBody (specEnvNoRefs st re) (evalFuel (specEnvNoRefs st re) f) sc a j n =
      evalFuel (specEnvNoRefs st' re) (f + 1) sc' b j := by
  rw [show evalFuel (specEnvNoRefs st' re) (f + 1) sc' b j = _ from Inv.evalStep_get (env := specEnvNoRefs st' re) hb _ sc' j]
  exact specBody_root (R := TSimS st st') rfl rfl (fun t₁ t₂ j' ht => tsim_eval re ht f _ _ j') j hr hdr hn

theorem evalFuel_specBody {st : Store} (re : String → String → Bool) {a : NodeId} {n : Node} (ha : st.get? a = some n)
    (f : Nat) (sc : List NodeId) (j : Json) :
    evalFuel (specEnvNoRefs st re) (f + 1) sc a j =
      Inv.specBody (specEnvNoRefs st re) (evalFuel (specEnvNoRefs st re) f) sc a j n :=
  Inv.evalStep_get (env := specEnvNoRefs st re) ha _ sc j

/-- adding `null` to the types of a schema object that has a type keyword (not D17) loses no instance: only the
    `type` assertion changes -/
theorem specBody_tableNull {env : Env} {rec : Rec} {sc : List NodeId} {s : NodeId} {j : Json} {n : Node} (b : Bool)
    (ht : b = true → (n.type ≠ "" ∨ n.types.isSome = true)) (h : Valid (Inv.specBody env rec sc s j n)) :
    Valid (Inv.specBody env rec sc s j (Go.tableNull b n)) := by
  have hk : Inv.kwList env rec sc s j (Go.tableNull b n) = Inv.kwList env rec sc s j n := by
    rw [Go.tableNull_eq]; rfl
  have hui : kwUnevaluatedItems (rec (sc ++ [s])) (Spec.vocab env.draft (Go.tableNull b n)) j =
      kwUnevaluatedItems (rec (sc ++ [s])) (Spec.vocab env.draft n) j := by
    rw [Go.tableNull_eq]; rfl
  have hup : kwUnevaluatedProps (rec (sc ++ [s])) (Spec.vocab env.draft (Go.tableNull b n)) j =
      kwUnevaluatedProps (rec (sc ++ [s])) (Spec.vocab env.draft n) j := by
    rw [Go.tableNull_eq]; rfl
  have href : (Go.tableNull b n).ref = n.ref := by rw [Go.tableNull_eq]
  have hkr : kwRef env (rec (sc ++ [s])) s (Go.tableNull b n) j = kwRef env (rec (sc ++ [s])) s n j := by
    rw [Go.tableNull_eq]; rfl
  unfold Inv.specBody at h ⊢
  rw [hk, hui, hup, href, hkr]
  split
  · rename_i hc
    rw [if_pos hc] at h
    exact h
  · rename_i hc
    rw [if_neg hc] at h
    cases hs : sequence (Inv.kwList env rec sc s j n) with
    | none => rw [hs] at h; obtain ⟨e, he⟩ := h; cases he
    | some rs =>
      rw [hs] at h
      -- the rest of `specBody` after the keyword list, under its name, so that it can be unfolded by itself
      show Valid (Refine.specTail _ _ _ _)
      change Valid (Refine.specTail _ _ _ _) at h
      have ha : Inv.assertsOf env n j = true := by
        unfold Refine.specTail at h
        cases hcj : conj rs with
        | none => rw [hcj] at h; obtain ⟨e, he⟩ := h; cases he
        | some ev0 =>
          rw [hcj] at h
          cases hA : Inv.assertsOf env n j with
          | true => rfl
          | false => rw [hA] at h; obtain ⟨e, he⟩ := h; cases he
      have ha' : Inv.assertsOf env (Go.tableNull b n) j = true := EncJson.asserts_tableNull (env := env) b ht ha
      rw [ha']
      rw [ha] at h
      exact h

theorem good_of_treeAll {P : Node → Bool} (B : Nat) {st : Store} : ∀ {d : Nat} {a : NodeId},
    Go.treeAll P st d a = true → Go.Good B st d a
  | 0, _, h => by cases h
  | d + 1, a, h => by
    obtain ⟨n, hn, -, hc⟩ := Go.treeAll_succ h
    exact Or.inr ⟨n, hn, fun x hx => good_of_treeAll B (hc x hx)⟩

theorem tsim_of_sim {B : Nat} {st st' : Store} (hs : st.size ≤ B) : ∀ {k : Nat} {a b : NodeId},
    Go.treeAll noRefs st k a = true → Go.Sim B st st' k a b → TSim st st' k a b
  | 0, _, _, h, _ => by cases h
  | k + 1, a, b, h, hsim => by
    obtain ⟨n, hn, hp, hc⟩ := Go.treeAll_succ h
    rcases hsim with ⟨hB, -⟩ | ⟨n0, n', ha, hb, hrel⟩
    · exact absurd (Nat.lt_of_lt_of_le (Go.lt_size_of_get? hn) hs) (Nat.not_lt_of_le hB)
    · have : n0 = n := by rw [hn] at ha; exact (Option.some.inj ha).symm
      subst this
      have hrel' := nodeRel_and_left (P := fun x => Go.treeAll noRefs st k x = true) hrel
        (fun f hf' x hx => hc x (Go.mem_children_iff.2 ⟨f, hf', hx⟩))
      obtain ⟨h1, h2⟩ := noRefs_iff.1 hp
      exact ⟨n0, n', hn, hb, h1, h2,
        NodeSim.of_nodeRel (Go.NodeRel.imp (fun x y hxy => tsim_of_sim hs hxy.1 hxy.2) hrel')⟩

/-- **`CloneSchemas` of a full reference-free tree**: the clone's root is pushed last, onto a store `s'` in which its
    subschemas already are copies of the subschemas of the original -/
theorem clone_root {st0 st : Store} (hext : Go.Ext st0 st) {d : Nat} {sid : NodeId}
    (ht : Go.treeAll noRefs st0 d sid = true) {c : NodeId} {st1 : Store} (h : Go.clone st sid = .ok (c, st1)) :
    ∃ n cn s', st0.get? sid = some n ∧ n.ref = "" ∧ n.dynamicRef = "" ∧ c = s'.size ∧ st1 = s'.push cn ∧
      Go.Ext st s' ∧ NodeSim (TSimS st0 s') n cn := by
  cases d with
  | zero => cases ht
  | succ d =>
    obtain ⟨n, hn, hp, hc⟩ := Go.treeAll_succ ht
    obtain ⟨h1, h2⟩ := noRefs_iff.1 hp
    change Go.cloneStep (Go.cloneFuel (st.size + 1)) sid st = _ at h
    obtain ⟨fs', s', hcf, rfl, rfl⟩ := Go.cloneStep_some (hext.get? hn) h
    have I := Go.cloneInv_sim s'.size st0 d (st.size + 1)
      (fun he hg hcl hsz => Go.cloneFuel_sim s'.size st0 (st.size + 1) d he hg hcl hsz)
    have r := Go.cloneFields_inv I hext
      (fun f hf x hx => good_of_treeAll s'.size (hc x (Go.mem_children_iff.2 ⟨f, hf, hx⟩))) hcf
    have hs0 : st0.size ≤ s'.size := Nat.le_trans hext.1 r.1.1
    have hrel : Go.NodeRel (Go.Sim s'.size st0 s' d) n (Go.setChildFields n fs') :=
      ⟨fs', ListRel.imp (Go.FieldRel.imp fun x y hr => hr (Nat.le_refl _)) r.2, rfl⟩
    have hrel' := nodeRel_and_left (P := fun x => Go.treeAll noRefs st0 d x = true) hrel
      (fun f hf' x hx => hc x (Go.mem_children_iff.2 ⟨f, hf', hx⟩))
    exact ⟨n, _, s', hn, h1, h2, rfl, rfl, r.1,
      NodeSim.of_nodeRel (Go.NodeRel.imp (fun x y hxy => ⟨d, tsim_of_sim hs0 hxy.1 hxy.2⟩) hrel')⟩

theorem valid_stable {env : Spec.Env} {sc : List NodeId} {s : NodeId} {j : Json} {n m : Nat}
    (h : Valid (evalFuel env n sc s j)) (hm : n ≤ m) : Valid (evalFuel env m sc s j) := by
  obtain ⟨e, he⟩ := h
  exact ⟨e, Refine.evalFuel_mono_le env hm sc s j _ he⟩

end Iso

namespace Go
open EncJson Spec Iso

/-- **the clone of a tree entry, with `null` added to its root for a pointer, means what the entry means** — in the
    store `forType` leaves and in every later one.  `F`: the fuel with which the entry accepts the encodings. -/
theorem namedLeaf_table {st0 st : Store} (hext : Ext st0 st) {d : Nat} {sid : NodeId} {n : Node}
    (ht : treeAll noRefs st0 d sid = true) (hn : st0.get? sid = some n) {c : NodeId} {st1 : Store} {cn : Node}
    (h : clone st sid = .ok (c, st1)) (hc : st1.get? c = some cn) (u : GoType) (an : Bool) (F : Nat)
    (hF : F ≤ depth u + 1)
    (hv : ∀ re v, HasType u v → Spec.valid (specEnvNoRefs st0 re) F sid (encode u v) = some true)
    (hnull : an = true → (n.type ≠ "" ∨ n.types.isSome = true) ∧
      ∀ re, Spec.valid (specEnvNoRefs (st0.push (tableNull true n)) re) F st0.size .null = some true) :
    NamedLeaf (st1.set! c (tableNull an cn)) u an c := by
  obtain ⟨n0, cn0, s', hn0, hr, hdr, rfl, rfl, hss, hns⟩ := clone_root hext ht h
  have : n0 = n := by rw [hn] at hn0; exact (Option.some.inj hn0).symm
  subst this
  have : cn0 = cn := by rw [get?_push_size] at hc; exact Option.some.inj hc
  subst this
  rw [set!_push_size]
  intro st'' hd re f scope hf
  obtain ⟨f, rfl⟩ : ∃ f', f = f' + 1 := ⟨f - 1, by omega⟩
  obtain ⟨d', hget⟩ := hd s'.size _ (get?_push_size s' (tableNull an cn0))
  have hd' : DExt s' st'' := (Ext.push s' _).toDExt.trans hd
  have hns'' : NodeSim (TSimS st0 st'') (tableNull an n0) { tableNull an cn0 with description := d' } :=
    ((hns.imp fun _ _ hxy => hxy.mono_right hd').tableNull an).desc d'
  have hr' : (tableNull an n0).ref = "" := by rw [Go.tableNull_eq]; exact hr
  have hdr' : (tableNull an n0).dynamicRef = "" := by rw [Go.tableNull_eq]; exact hdr
  -- the rewritten root of the clone, evaluated over ANY store `L` that extends `st0` and at any id, is the clone in `st''`:
  -- used with `L = st0` (the entry itself) and with `L = st0.push (tableNull true n)` (the entry with `null` added)
  have key : ∀ (L : Store), Ext st0 L → ∀ (a : NodeId) (j : Json),
      Inv.specBody (specEnvNoRefs L re) (evalFuel (specEnvNoRefs L re) f) [] a j (tableNull an n0) =
        evalFuel (specEnvNoRefs st'' re) (f + 1) scope s'.size j := fun L hL a j =>
    specBody_eval re hget hr' hdr' (hns''.imp fun _ _ hxy => hxy.mono_left hL) f [] a scope j
  refine ⟨fun han => ?_, fun v hv' => ?_⟩
  · subst han
    obtain ⟨-, hn0'⟩ := hnull rfl
    have h0 : Valid (evalFuel (specEnvNoRefs (st0.push (tableNull true n0)) re) F [] st0.size .null) :=
      valid_iff_isSome.2 (hn0' re)
    have h1 := valid_stable h0 (m := f + 1) (by omega)
    rw [evalFuel_specBody re (get?_push_size st0 _)] at h1
    rw [← key _ (Ext.push st0 _) st0.size .null]
    exact h1
  · have h0 : Valid (evalFuel (specEnvNoRefs st0 re) F [] sid (encode u v)) := valid_iff_isSome.2 (hv re v hv')
    have h1 := valid_stable h0 (m := f + 1) (by omega)
    rw [evalFuel_specBody re hn] at h1
    rw [← key st0 (Ext.refl st0) sid (encode u v)]
    exact specBody_tableNull an (fun han => (hnull han).1) h1

end Go

namespace EncJson
open Go Spec

/-- **the entry `sid` of the type table accepts the encodings of a declared type with underlying type `u`**; `an`: the
    type is used through a pointer.
    * the entry is a full reference-free schema tree (`Go.treeAll Iso.noRefs st d sid`, decidable: every subschema
      pointer below `sid` is non-nil, the unfolding ends within depth `d` — so it is acyclic; subschemas may be shared,
      `CloneSchemas` unfolds them — and no schema object has a `$ref` or a `$dynamicRef`): any combination of `properties`,
      `items`, `prefixItems`, `allOf` / `anyOf` / `oneOf` / `not`, `if` / `then` / `else`, `additionalProperties`,
      `patternProperties`, `contains`, `dependentSchemas`, `propertyNames`, `unevaluated*` … over assertion keywords;
    * it accepts the encoding of every value of the type (Spec validity in the store that holds the table; fuel
      `depth u + 1`, what the schema `forType` builds for `u` itself would need — a defined answer with less fuel is one
      with this fuel, `C01.spec_stable`; deeper entries: `EntryAcceptsDeep`);
    * through a pointer: its root has a type keyword (otherwise `null` is not *added* to its types: they become
      `["null"]`, the known finding D17), and the entry with `null` added to the types of its root — the schema object
      `tableNull true m` over the same subschemas, pushed onto the store — accepts `null` (an `enum`, a `const`, an
      `allOf` branch with a type of its own … may still refuse). -/
def EntryAcceptsTree (st : Store) (sid : NodeId) (u : GoType) (an : Bool) : Prop :=
  ∃ m d, st.get? sid = some m ∧ treeAll Iso.noRefs st d sid = true ∧
    (∀ re v, HasType u v → Spec.valid (specEnvNoRefs st re) (depth u + 1) sid (encode u v) = some true) ∧
    (an = true → (m.type ≠ "" ∨ m.types.isSome = true) ∧
      ∀ re, Spec.valid (specEnvNoRefs (st.push (tableNull true m)) re) (depth u + 1) st.size .null = some true)

mutual
  /-- `EntryAcceptsTree` for every declared type of `T` that has an entry in the type table and that `forType` meets (not
      inside `json:"-"` fields, not below another entry); the flag: a pointer was stripped just above -/
  def EntriesAcceptTree (opts : IOpts) (st : Store) : Bool → GoType → Prop
    | _, .basic _ => True
    | _, .ptr e => EntriesAcceptTree opts st true e
    | _, .slice e => EntriesAcceptTree opts st false e
    | _, .array _ e => EntriesAcceptTree opts st false e
    | _, .map _ e => EntriesAcceptTree opts st false e
    | _, .struct fields => EntriesAcceptTreeFields opts st fields
    | an, .named n u =>
      (match Json.lookup n opts.schemas with
       | some sid => EntryAcceptsTree st sid u an
       | none => EntriesAcceptTree opts st false u)
    | _, .ref _ => True
  def EntriesAcceptTreeFields (opts : IOpts) (st : Store) : List (String × String × GoType) → Prop
    | [] => True
    | f :: rest =>
      ((fieldJSONInfo f.1 f.2.1).omitted = true ∨ EntriesAcceptTree opts st false f.2.2) ∧
        EntriesAcceptTreeFields opts st rest
end

end EncJson

namespace Go
open EncJson Spec

theorem stripPtrs_entriesAcceptTree (opts : IOpts) (st : Store) (T : GoType) : ∀ b,
    EntriesAcceptTree opts st b T → EntriesAcceptTree opts st (b || (stripPtrs T).2) (stripPtrs T).1 := by
  induction T using GoType.ptr_ind with
  | ptr e ih =>
    intro b h
    simp only [EntriesAcceptTree] at h
    simpa [stripPtrs] using ih true h
  | base t h => intro b; rw [stripPtrs_nonptr h, Bool.or_false]; exact id

theorem entriesAcceptTreeFields_mem {opts : IOpts} {st : Store} {fields : List (String × String × GoType)} :
    EntriesAcceptTreeFields opts st fields → ∀ f, f ∈ fields → (fieldJSONInfo f.1 f.2.1).omitted = false →
    EntriesAcceptTree opts st false f.2.2 :=
  forall_mem_of_cons (F := EntriesAcceptTreeFields opts st)
    (P := fun f => (fieldJSONInfo f.1 f.2.1).omitted = false → EntriesAcceptTree opts st false f.2.2) fun _ _ h => by
      simp only [EntriesAcceptTreeFields] at h
      exact ⟨fun ho => h.1.resolve_left (by rw [ho]; exact Bool.noConfusion), h.2⟩

/-- what is assumed of the recursive call, on the stores that extend the one holding the type table -/
def RecOkTT (opts : IOpts) (st0 : Store) (rec : IRec) : Prop :=
  ∀ T seen st r st', Ext st0 st → InDomainN T = true → EntriesAcceptTree opts st0 false T →
    rec T seen st = .ok (r, st') → ∃ id, r = some id ∧ Models opts.nullForSlices st' T false id

theorem shapeOk_tree {opts : IOpts} {st0 : Store} {t : GoType} (hsh : namedShape t = true) (hdom : InDomainN t = true)
    (hacc : EntriesAcceptTree opts st0 false t) :
    ShapeOk (fun T => InDomainN T = true ∧ EntriesAcceptTree opts st0 false T) t := by
  cases t with
  | ptr e => simp [namedShape] at hsh
  | named nm u => simp [namedShape] at hsh
  | ref nm => simp [namedShape] at hsh
  | basic kind => simp only [InDomainN] at hdom; exact hdom
  | slice e => simp only [InDomainN] at hdom; simp only [EntriesAcceptTree] at hacc; exact ⟨hdom, hacc⟩
  | array len e => simp only [InDomainN] at hdom; simp only [EntriesAcceptTree] at hacc; exact ⟨hdom, hacc⟩
  | map keyKind e =>
    simp only [InDomainN, Bool.and_eq_true, beq_iff_eq] at hdom
    simp only [EntriesAcceptTree] at hacc
    exact ⟨hdom.1, hdom.2, hacc⟩
  | struct fields =>
    simp only [InDomainN, Bool.and_eq_true] at hdom
    simp only [EntriesAcceptTree] at hacc
    exact ⟨hdom.1.1, fun f hf ho => ⟨inDomainFieldsN_mem hdom.2 f hf ho, entriesAcceptTreeFields_mem hacc f hf ho⟩⟩

theorem inferStep_modelsTT_shape {opts : IOpts} {st0 : Store} {rec : IRec} (hinv : IRecInv rec)
    (hrec : RecOkTT opts st0 rec) {T t : GoType} {an : Bool} {seen : List String} {st : Store} {r : Option NodeId}
    {st' : Store} (hs : stripPtrs T = (t, an)) (hsh : namedShape t = true) (hdomT : InDomainN t = true)
    (hacc : EntriesAcceptTree opts st0 false t) (hext : Ext st0 st) (h : inferStep opts rec T seen st = .ok (r, st')) :
    ∃ id, r = some id ∧ Models opts.nullForSlices st' t an id :=
  inferStep_models_shape (P := Ext st0) hinv (fun _ _ h1 h2 => h1.trans h2)
    (fun T seen st r st' hst hD hr => hrec T seen st r st' hst hD.1 hD.2 hr) hs (shapeOk_tree hsh hdomT hacc) hext h

theorem inferStep_modelsTT (opts : IOpts) (hnfs : opts.nullForSlices = true) (st0 : Store) {rec : IRec}
    (hinv : IRecInv rec) (hrec : RecOkTT opts st0 rec) : RecOkTT opts st0 (inferStep opts rec) := by
  intro T seen st r st' hext hdomT haccT h
  rw [← stripPtrs_inDomainN] at hdomT
  have hacc := stripPtrs_entriesAcceptTree opts st0 T false haccT
  simp only [stripPtrs_models opts.nullForSlices st' T]
  have hnp := stripPtrs_not_ptr T
  generalize hs : stripPtrs T = p at hdomT hacc hnp
  obtain ⟨t, an⟩ := p
  simp only [Bool.false_or] at hdomT hacc hnp ⊢
  cases t with
  | ptr e => exact absurd rfl (hnp e)
  | ref nm => simp [InDomainN] at hdomT
  | basic _ | slice _ | array _ _ | map _ _ | struct _ =>
    exact inferStep_modelsTT_shape hinv hrec hs rfl hdomT hacc hext h
  | named nm u =>
    simp only [InDomainN] at hdomT
    simp only [EntriesAcceptTree] at hacc
    cases hl : Json.lookup nm opts.schemas with
    | some sid =>
      -- an entry of the type table: a clone of the tree, `null` added at its root for a pointer
      rw [hl] at hacc
      obtain ⟨m, d, hm, htree, hv, hnull⟩ := hacc
      cases hc : seen.contains nm with
      | true =>
        rw [inferStep_seen (t := .named nm u) hs rfl hc] at h
        cases h
      | false =>
        rw [inferStep_table (t := .named nm u) hs rfl hc hl] at h
        obtain ⟨⟨c, st1⟩, hcl, h⟩ := Res.bind_eq_ok h
        simp only at h
        cases hcn : st1.get? c with
        | none => rw [hcn] at h; cases h
        | some cn =>
          rw [hcn, hnfs, Bool.true_and] at h
          cases h
          refine ⟨_, rfl, ?_⟩
          simp only [Models]
          exact namedLeaf_table hext htree hm hcl hcn u an (depth u + 1) (Nat.le_refl _) hv hnull
    | none =>
      -- a declared type that `forType` expands
      rw [hl] at hacc
      obtain ⟨hseen, hsh⟩ := inferStep_named_ok hs hl h
      rw [inferStep_named_transparent hs hseen hl hsh] at h
      have hup : ∀ e, u ≠ .ptr e := by cases u <;> simp_all [namedShape]
      obtain ⟨id, hid, hm⟩ := inferStep_modelsTT_shape hinv hrec (stripPtrs_wrapPtr hup an) hsh hdomT hacc hext h
      refine ⟨id, hid, ?_⟩
      simp only [Models]
      intro st'' hd re f scope hf
      rw [hnfs] at hm
      exact Models.sound (re := re) u an id (Models.mono hd u an id hm) f scope (by omega)

theorem inferFuel_modelsTT (opts : IOpts) (hnfs : opts.nullForSlices = true) (st0 : Store) :
    ∀ fuel, RecOkTT opts st0 (inferFuel opts fuel)
  | 0 => fun _ _ _ _ _ _ _ _ h => by cases h
  | fuel + 1 => inferStep_modelsTT opts hnfs st0 (inferFuel_inv opts fuel) (inferFuel_modelsTT opts hnfs st0 fuel)

end Go

namespace EncJson
open Go Spec

theorem children_leaf {m : Node} (L : LeafSchema m) : m.children = [] := by
  unfold Node.children Node.childFields
  simp [L.defs, L.additionalItems, L.additionalProperties, L.allOf, L.anyOf, L.contains, L.contentSchema,
    L.definitions, L.dependencySchemas, L.dependentSchemas, L.else_, L.if_, L.items, L.itemsArray, L.not, L.oneOf,
    L.patternProperties, L.prefixItems, L.properties, L.propertyNames, L.then_, L.unevaluatedItems,
    L.unevaluatedProperties, sortByKey]

theorem entryAcceptsTree_of_leaf {st : Store} {sid : NodeId} {u : GoType} {an : Bool} (h : EntryAccepts st sid u an) :
    EntryAcceptsTree st sid u an := by
  obtain ⟨m, hm, L, hv, hnull⟩ := h
  refine ⟨m, 1, hm, ?_, fun re v hv' => ?_, fun han => ⟨(hnull han).1, fun re => ?_⟩⟩
  · simp only [treeAll, hm, children_leaf L, List.all_nil, Bool.and_true]
    exact Iso.noRefs_iff.2 ⟨L.ref, L.dynamicRef⟩
  · exact valid_iff_isSome.1 (Iso.valid_stable (valid_iff_isSome.2 (hv re v hv')) (by omega))
  · have h0 : Valid (evalFuel (specEnvNoRefs #[tableNull true m] re) (0 + 1) [] 0 .null) :=
      valid_iff_isSome.2 ((hnull han).2 re)
    have L' := L.tableNull true
    have ha := (leaf_valid_iff (st := #[tableNull true m]) (HasNode.of_get rfl) L' 0 [] .null).1 h0
    exact valid_iff_isSome.1 ((leaf_valid_iff (st := st.push (tableNull true m)) (HasNode.of_get (get?_push_size _ _)) L'
      (depth u) [] .null).2 ha)

mutual
  theorem entriesAcceptTree_of_leaves (opts : IOpts) (st : Store) :
      ∀ (T : GoType) (an : Bool), EntriesAccept opts st an T → EntriesAcceptTree opts st an T
    | .basic _, _, _ => by simp only [EntriesAcceptTree]
    | .ref _, _, _ => by simp only [EntriesAcceptTree]
    | .ptr e, _, h => by
      simp only [EntriesAccept] at h; simp only [EntriesAcceptTree]; exact entriesAcceptTree_of_leaves opts st e _ h
    | .slice e, _, h => by
      simp only [EntriesAccept] at h; simp only [EntriesAcceptTree]; exact entriesAcceptTree_of_leaves opts st e _ h
    | .array _ e, _, h => by
      simp only [EntriesAccept] at h; simp only [EntriesAcceptTree]; exact entriesAcceptTree_of_leaves opts st e _ h
    | .map _ e, _, h => by
      simp only [EntriesAccept] at h; simp only [EntriesAcceptTree]; exact entriesAcceptTree_of_leaves opts st e _ h
    | .struct fs, _, h => by
      simp only [EntriesAccept] at h; simp only [EntriesAcceptTree]; exact entriesAcceptTreeFields_of_leaves opts st fs h
    | .named k u, _, h => by
      simp only [EntriesAccept] at h
      simp only [EntriesAcceptTree]
      cases hl : Json.lookup k opts.schemas with
      | some sid => rw [hl] at h; exact entryAcceptsTree_of_leaf h
      | none => rw [hl] at h; exact entriesAcceptTree_of_leaves opts st u _ h
  theorem entriesAcceptTreeFields_of_leaves (opts : IOpts) (st : Store) :
      ∀ fs : List (String × String × GoType), EntriesAcceptFields opts st fs → EntriesAcceptTreeFields opts st fs
    | [], _ => by simp only [EntriesAcceptTreeFields]
    | f :: rest, h => by
      simp only [EntriesAcceptFields] at h
      simp only [EntriesAcceptTreeFields]
      exact ⟨h.1.imp id (entriesAcceptTree_of_leaves opts st f.2.2 _), entriesAcceptTreeFields_of_leaves opts st rest h.2⟩
end

end EncJson

namespace Go
open EncJson

/-! forwards equations, for evaluating `forType` on the examples of JSV/Props/C04.lean -/

theorem set!_get?_self {st : Store} {i : NodeId} {n : Node} (h : st.get? i = some n) : st.set! i n = st := by
  apply Array.ext_getElem?
  intro j
  rw [Array.set!_eq_setIfInBounds, Array.getElem?_setIfInBounds]
  by_cases hj : i = j
  · subst hj
    have h' : st[i]? = some n := h
    simp only [if_true, lt_size_of_get? h, h']
  · simp [hj]

theorem cloneStep_leaf {rec : CRec} {st : Store} {sid : NodeId} {m : Node} (h : st.get? sid = some m) (L : LeafSchema m) :
    cloneStep rec sid st = .ok (st.size, st.push m) := by
  unfold cloneStep
  rw [h]
  simp only [L.defs, L.additionalItems, L.additionalProperties, L.allOf, L.anyOf, L.contains, L.contentSchema,
    L.definitions, L.dependencySchemas, L.dependentSchemas, L.else_, L.if_, L.items, L.itemsArray, L.not, L.oneOf,
    L.patternProperties, L.prefixItems, L.properties, L.propertyNames, L.then_, L.unevaluatedItems,
    L.unevaluatedProperties, cloneMap, cloneOpt, cloneList, Res.bind_ok, Store.alloc]
  congr 3
  cases m
  cases L
  simp_all

theorem structLoop_step {rec : IRec} {seen : List String} {g tag : String} {ft : GoType}
    {rest : List (String × String × GoType)} {n : Node} {st : Store} {fid : NodeId} {st1 : Store}
    (ho : (fieldJSONInfo g tag).omitted = false) (hd : tagLookup "jsonschema" tag = none)
    (hr : rec ft seen st = .ok (some fid, st1)) :
    structLoop rec seen ((g, tag, ft) :: rest) n st =
      structLoop rec seen rest (addField (ensureProps n) (fieldJSONInfo g tag) fid) st1 := by
  simp only [structLoop, ho, hr, hd, Res.bind_ok, Bool.false_eq_true, if_false]
  rfl

end Go
end JSV
