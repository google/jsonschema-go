/-
  Lists related member by member after a rearrangement (`PRg P`: `PR` for `P = List.Perm`, `All₂` for `P = Eq`), and the
  combinators of the Spec (`sequence`, `conj`, `validCount`, `validUnion`, `allHold`) on such lists.
-/
import JSV.Proofs.InvPermJson
import JSV.Proofs.RefineBase
namespace JSV
namespace Inv
open Go GoVal
open Go.RIso (KRel)

def PR {α β : Type} (R : α → β → Prop) (l1 : List α) (l2 : List β) : Prop := ∃ l, l1.Perm l ∧ All₂ R l l2

/-- What the simulation of the Spec (`SpecSim`) needs of the way two lists are allowed to differ: a congruence for the
    list operations of the keywords that at most permutes.  `Eq` (lists in step) and `List.Perm` (map order free). -/
structure ListCong (P : ∀ {α : Type}, List α → List α → Prop) : Prop where
  refl : ∀ {α : Type} (l : List α), P l l
  trans : ∀ {α : Type} {a b c : List α}, P a b → P b c → P a c
  perm : ∀ {α : Type} {a b : List α}, P a b → a.Perm b
  map : ∀ {α β : Type} {a b : List α} (f : α → β), P a b → P (a.map f) (b.map f)
  filter : ∀ {α : Type} {a b : List α} (p : α → Bool), P a b → P (a.filter p) (b.filter p)
  filterMap : ∀ {α β : Type} {a b : List α} (f : α → Option β), P a b → P (a.filterMap f) (b.filterMap f)
  append : ∀ {α : Type} {a b c d : List α}, P a b → P c d → P (a ++ c) (b ++ d)
  flatMap : ∀ {α β : Type} {a b : List α} (f : α → List β), P a b → P (a.flatMap f) (b.flatMap f)

theorem ListCong.ofEq : ListCong (fun {α} (a b : List α) => a = b) where
  refl _ := rfl
  trans h1 h2 := h1.trans h2
  perm h := h ▸ List.Perm.refl _
  map _ h := h ▸ rfl
  filter _ h := h ▸ rfl
  filterMap _ h := h ▸ rfl
  append h1 h2 := h1 ▸ h2 ▸ rfl
  flatMap _ h := h ▸ rfl

theorem ListCong.ofPerm : ListCong (fun {α} (a b : List α) => a.Perm b) where
  refl l := List.Perm.refl l
  trans h1 h2 := h1.trans h2
  perm h := h
  map f h := h.map f
  filter p h := h.filter p
  filterMap f h := h.filterMap f
  append h1 h2 := h1.append h2
  flatMap f h := h.flatMap_right f

def PRg (P : ∀ {α : Type}, List α → List α → Prop) {α β : Type} (R : α → β → Prop) (l1 : List α) (l2 : List β) : Prop :=
  ∃ l, P l1 l ∧ All₂ R l l2

section
variable {P : ∀ {α : Type}, List α → List α → Prop} (hP : ListCong P)
include hP

theorem PRg.toPR {α β : Type} {R : α → β → Prop} {l1 : List α} {l2 : List β} (h : PRg P R l1 l2) : PR R l1 l2 :=
  let ⟨l, h1, h2⟩ := h; ⟨l, hP.perm h1, h2⟩

theorem PRg.of_all₂ {α β : Type} {R : α → β → Prop} {l1 : List α} {l2 : List β} (h : All₂ R l1 l2) : PRg P R l1 l2 :=
  ⟨l1, hP.refl _, h⟩

theorem PRg.map {α β γ δ : Type} {R : α → β → Prop} {S : γ → δ → Prop} (f : α → γ) (g : β → δ)
    {l1 : List α} {l2 : List β} (h : PRg P R l1 l2) (hi : ∀ a b, R a b → S (f a) (g b)) :
    PRg P S (l1.map f) (l2.map g) :=
  let ⟨l, h1, h2⟩ := h; ⟨l.map f, hP.map f h1, All₂.map f g hi h2⟩

theorem PRg.filter {α β : Type} {R : α → β → Prop} (p : α → Bool) (q : β → Bool) {l1 : List α} {l2 : List β}
    (h : PRg P R l1 l2) (hi : ∀ a b, R a b → p a = q b) : PRg P R (l1.filter p) (l2.filter q) :=
  let ⟨l, h1, h2⟩ := h; ⟨l.filter p, hP.filter p h1, All₂.filter p q hi h2⟩

theorem PRg.filterMap {α β γ δ : Type} {R : α → β → Prop} {S : γ → δ → Prop} (f : α → Option γ) (g : β → Option δ)
    {l1 : List α} {l2 : List β} (h : PRg P R l1 l2) (hi : ∀ a b, R a b → OptRel S (f a) (g b)) :
    PRg P S (l1.filterMap f) (l2.filterMap g) :=
  let ⟨l, h1, h2⟩ := h; ⟨l.filterMap f, hP.filterMap f h1, All₂.filterMap f g hi h2⟩

theorem PRg.append {α β : Type} {R : α → β → Prop} {a1 b1 : List α} {a2 b2 : List β} (ha : PRg P R a1 a2)
    (hb : PRg P R b1 b2) : PRg P R (a1 ++ b1) (a2 ++ b2) :=
  let ⟨la, h1, h2⟩ := ha; let ⟨lb, h3, h4⟩ := hb; ⟨la ++ lb, hP.append h1 h3, All₂.append h2 h4⟩

theorem PRg.flatMap_all₂ {α β γ δ : Type} {R : α → β → Prop} {S : γ → δ → Prop} (f : α → List γ) (g : β → List δ) :
    ∀ {l1 : List α} {l2 : List β}, (∀ a b, R a b → PRg P S (f a) (g b)) → All₂ R l1 l2 →
      PRg P S (l1.flatMap f) (l2.flatMap g)
  | [], [], _, _ => PRg.of_all₂ hP trivial
  | a :: l1, b :: l2, hi, h => by
    simp only [List.flatMap_cons]
    exact PRg.append hP (hi a b h.1) (PRg.flatMap_all₂ f g hi h.2)
  | [], _ :: _, _, h => h.elim
  | _ :: _, [], _, h => h.elim

theorem PRg.flatMap {α β γ δ : Type} {R : α → β → Prop} {S : γ → δ → Prop} (f : α → List γ) (g : β → List δ)
    {l1 : List α} {l2 : List β} (h : PRg P R l1 l2) (hi : ∀ a b, R a b → PRg P S (f a) (g b)) :
    PRg P S (l1.flatMap f) (l2.flatMap g) := by
  obtain ⟨l, h1, h2⟩ := h
  obtain ⟨l', h3, h4⟩ := PRg.flatMap_all₂ hP f g hi h2
  exact ⟨l', hP.trans (hP.flatMap f h1) h3, h4⟩

theorem PRg.keys {α β : Type} {S : α → β → Prop} {l1 : List (String × α)} {l2 : List (String × β)}
    (h : PRg P (KRel S) l1 l2) : P (l1.map (·.1)) (l2.map (·.1)) := by
  obtain ⟨l, h1, h2⟩ := PRg.map hP (·.1) (·.1) h fun _ _ hr => hr.1
  rw [← All₂.eq_of_eq h2]; exact h1

theorem PRg.lookup_isSome {α β : Type} {S : α → β → Prop} {l1 : List (String × α)} {l2 : List (String × β)}
    (h : PRg P (KRel S) l1 l2) (k : String) : (Json.lookup k l1).isSome = (Json.lookup k l2).isSome := by
  rw [Bool.eq_iff_iff, Json.lookup_isSome_iff, Json.lookup_isSome_iff]
  exact (hP.perm (PRg.keys hP h)).mem_iff

end

theorem PR.append {α β : Type} {R : α → β → Prop} {a1 b1 : List α} {a2 b2 : List β} (ha : PR R a1 a2)
    (hb : PR R b1 b2) : PR R (a1 ++ b1) (a2 ++ b2) := PRg.append ListCong.ofPerm ha hb

theorem PR.filter {α β : Type} {R : α → β → Prop} (p : α → Bool) (q : β → Bool) {l1 : List α} {l2 : List β}
    (h : PR R l1 l2) (hi : ∀ a b, R a b → p a = q b) : PR R (l1.filter p) (l2.filter q) :=
  PRg.filter ListCong.ofPerm p q h hi

theorem PR.perm_right {α β : Type} {R : α → β → Prop} {l1 : List α} {l2 l3 : List β} (h : PR R l1 l2)
    (hp : l2.Perm l3) : PR R l1 l3 := by
  obtain ⟨l, h1, h2⟩ := h
  obtain ⟨l', h3, h4⟩ := All₂.perm_right hp h2
  exact ⟨l', h1.trans h3, h4⟩

theorem PR.of_perm {α : Type} {R : α → α → Prop} {l1 l2 : List α} (hr : ∀ a, a ∈ l2 → R a a) (hp : l1.Perm l2) :
    PR R l1 l2 := ⟨l2, hp, All₂.refl hr⟩

theorem PR.length {α β : Type} {R : α → β → Prop} {l1 : List α} {l2 : List β} (h : PR R l1 l2) :
    l1.length = l2.length := by
  obtain ⟨l, h1, h2⟩ := h
  rw [h1.length_eq, h2.length]

theorem PR.mem_left {α β : Type} {R : α → β → Prop} {l1 : List α} {l2 : List β} (h : PR R l1 l2) :
    ∀ a, a ∈ l1 → ∃ b, b ∈ l2 ∧ R a b := by
  obtain ⟨l, h1, h2⟩ := h
  intro a ha
  exact h2.mem_left a (h1.mem_iff.1 ha)

theorem PR.mem_right {α β : Type} {R : α → β → Prop} {l1 : List α} {l2 : List β} (h : PR R l1 l2) :
    ∀ b, b ∈ l2 → ∃ a, a ∈ l1 ∧ R a b := by
  obtain ⟨l, h1, h2⟩ := h
  intro b hb
  obtain ⟨a, ha, hr⟩ := h2.mem_right b hb
  exact ⟨a, h1.mem_iff.2 ha, hr⟩

theorem PR.imp_mem {α β : Type} {R S : α → β → Prop} {l1 : List α} {l2 : List β} (h : PR R l1 l2)
    (hi : ∀ a b, a ∈ l1 → b ∈ l2 → R a b → S a b) : PR S l1 l2 := by
  obtain ⟨l, h1, h2⟩ := h
  exact ⟨l, h1, All₂.imp (fun a b ha hb hr => hi a b (h1.mem_iff.2 ha) hb hr) h2⟩

theorem PR.all_eq {α β : Type} {R : α → β → Prop} (p : α → Bool) (q : β → Bool) {l1 : List α} {l2 : List β}
    (h : PR R l1 l2) (hi : ∀ a b, R a b → p a = q b) : l1.all p = l2.all q := by
  rw [Bool.eq_iff_iff, List.all_eq_true, List.all_eq_true]
  constructor
  · intro hall b hb
    obtain ⟨a, ha, hr⟩ := h.mem_right b hb
    rw [← hi a b hr]; exact hall a ha
  · intro hall a ha
    obtain ⟨b, hb, hr⟩ := h.mem_left a ha
    rw [hi a b hr]; exact hall b hb

theorem PR.mem_flatMap_iff {α β γ : Type} {R : α → β → Prop} (f : α → List γ) (g : β → List γ) {l1 : List α}
    {l2 : List β} (h : PR R l1 l2) (x : γ) (hi : ∀ a b, R a b → (x ∈ f a ↔ x ∈ g b)) :
    x ∈ l1.flatMap f ↔ x ∈ l2.flatMap g := by
  simp only [List.mem_flatMap]
  constructor
  · rintro ⟨a, ha, hx⟩
    obtain ⟨b, hb, hr⟩ := h.mem_left a ha
    exact ⟨b, hb, (hi a b hr).1 hx⟩
  · rintro ⟨b, hb, hx⟩
    obtain ⟨a, ha, hr⟩ := h.mem_right b hb
    exact ⟨a, ha, (hi a b hr).2 hx⟩

theorem sequence_eq {α : Type} : ∀ (l : List (Option α)),
    Spec.sequence l = if l.all Option.isSome then some (l.filterMap id) else none
  | [] => rfl
  | none :: _ => rfl
  | some a :: l => by
    simp only [Spec.sequence, sequence_eq l, List.all_cons, Option.isSome_some, Bool.true_and, List.filterMap_cons, id]
    split <;> rfl

theorem sequence_PRg {P : ∀ {α : Type}, List α → List α → Prop} (hP : ListCong P) {α β : Type} {R : α → β → Prop}
    {l1 : List (Option α)} {l2 : List (Option β)} (h : PRg P (OptRel R) l1 l2) :
    OptRel (PRg P R) (Spec.sequence l1) (Spec.sequence l2) := by
  rw [sequence_eq, sequence_eq, PR.all_eq _ _ (h.toPR hP) fun _ _ hr => OptRel.isSome_eq hr]
  split
  · exact PRg.filterMap hP id id h fun _ _ hr => hr
  · trivial

theorem sequence_all₂ {α β : Type} {R : α → β → Prop} {l1 : List (Option α)} {l2 : List (Option β)}
    (h : All₂ (OptRel R) l1 l2) : OptRel (All₂ R) (Spec.sequence l1) (Spec.sequence l2) :=
  Go.OptRel.imp (fun _ _ ⟨_, e, h⟩ => e ▸ h) (sequence_PRg ListCong.ofEq (PRg.of_all₂ ListCong.ofEq h))

theorem seq_map_sim {P : ∀ {α : Type}, List α → List α → Prop} (hP : ListCong P) {α β γ δ : Type} {R : α → β → Prop}
    {S : γ → δ → Prop} {l1 : List (Option α)} {l2 : List (Option β)} (h : PRg P (OptRel R) l1 l2) (F : List α → γ)
    (G : List β → δ) (hi : ∀ rs1 rs2, PRg P R rs1 rs2 → S (F rs1) (G rs2)) :
    OptRel S ((Spec.sequence l1).map F) ((Spec.sequence l2).map G) :=
  (sequence_PRg hP h).map hi

theorem seq_map_sim_all₂ {α β γ δ : Type} {R : α → β → Prop} {S : γ → δ → Prop} {l1 : List (Option α)}
    {l2 : List (Option β)} (h : All₂ (OptRel R) l1 l2) (F : List α → γ) (G : List β → δ)
    (hi : ∀ rs1 rs2, All₂ R rs1 rs2 → S (F rs1) (G rs2)) :
    OptRel S ((Spec.sequence l1).map F) ((Spec.sequence l2).map G) :=
  (sequence_all₂ h).map hi

def EvEqv (a b : Spec.Ev) : Prop := (∀ k, k ∈ a.props ↔ k ∈ b.props) ∧ (∀ i, i ∈ a.items ↔ i ∈ b.items)

abbrev RSim : Spec.R → Spec.R → Prop := OptRel EvEqv
abbrev OutSim : Spec.Out → Spec.Out → Prop := OptRel RSim

theorem EvEqv.refl (a : Spec.Ev) : EvEqv a a := ⟨fun _ => Iff.rfl, fun _ => Iff.rfl⟩

theorem EvEqv.union {a b c d : Spec.Ev} (h1 : EvEqv a b) (h2 : EvEqv c d) : EvEqv (a.union c) (b.union d) := by
  constructor
  · intro k; simp only [Spec.Ev.union, List.mem_append, h1.1 k, h2.1 k]
  · intro i; simp only [Spec.Ev.union, List.mem_append, h1.2 i, h2.2 i]

theorem EvEqv.props_contains {a b : Spec.Ev} (h : EvEqv a b) (k : String) : a.props.contains k = b.props.contains k := by
  rw [Bool.eq_iff_iff]; simp [h.1 k]

theorem EvEqv.items_contains {a b : Spec.Ev} (h : EvEqv a b) (i : Nat) : a.items.contains i = b.items.contains i := by
  rw [Bool.eq_iff_iff]; simp [h.2 i]

theorem RSim_refl (r : Spec.R) : RSim r r := OptRel.refl EvEqv.refl r

theorem OutSim.of_eq {a b : Spec.Out} (h : a = b) : OutSim a b := h ▸ OptRel.refl RSim_refl a

theorem unions_sim {l1 l2 : List Spec.Ev} (h : PR EvEqv l1 l2) : EvEqv (Spec.Ev.unions l1) (Spec.Ev.unions l2) := by
  rw [Refine.unions_eq, Refine.unions_eq]
  exact ⟨fun k => PR.mem_flatMap_iff _ _ h k fun _ _ hr => hr.1 k, fun i => PR.mem_flatMap_iff _ _ h i fun _ _ hr => hr.2 i⟩

/-- What the simulation needs of the way two evaluated sets are allowed to differ, given how lists may (`P`): `Eq` with
    `Eq`; the same sets (`EvEqv`), whatever `P`. -/
structure EvCong (P : ∀ {α : Type}, List α → List α → Prop) (E : Spec.Ev → Spec.Ev → Prop) : Prop where
  refl : ∀ a, E a a
  union : ∀ {a b c d}, E a b → E c d → E (a.union c) (b.union d)
  unions : ∀ {l1 l2 : List Spec.Ev}, PRg P E l1 l2 → E (Spec.Ev.unions l1) (Spec.Ev.unions l2)
  props : ∀ {k1 k2 : List String}, P k1 k2 → E { props := k1 } { props := k2 }
  props_contains : ∀ {a b}, E a b → ∀ k, a.props.contains k = b.props.contains k
  items_contains : ∀ {a b}, E a b → ∀ i, a.items.contains i = b.items.contains i

theorem EvCong.ofEq : EvCong (fun {α} (a b : List α) => a = b) Eq where
  refl _ := rfl
  union h1 h2 := h1 ▸ h2 ▸ rfl
  unions := fun ⟨_, h1, h2⟩ => by rw [h1, All₂.eq_of_eq h2]
  props h := h ▸ rfl
  props_contains h _ := h ▸ rfl
  items_contains h _ := h ▸ rfl

theorem EvCong.eqv {P : ∀ {α : Type}, List α → List α → Prop} (hP : ListCong P) : EvCong P EvEqv where
  refl := EvEqv.refl
  union := EvEqv.union
  unions h := unions_sim (h.toPR hP)
  props h := ⟨fun _ => (hP.perm h).mem_iff, fun _ => Iff.rfl⟩
  props_contains h := h.props_contains
  items_contains h := h.items_contains

theorem EvCong.ofPerm : EvCong (fun {α} (a b : List α) => a.Perm b) EvEqv := EvCong.eqv ListCong.ofPerm

abbrev OutRel (E : Spec.Ev → Spec.Ev → Prop) : Spec.Out → Spec.Out → Prop := OptRel (OptRel E)

theorem OutRel.verdict_eq {E : Spec.Ev → Spec.Ev → Prop} {a b : Spec.Out} (h : OutRel E a b) :
    a.map Option.isSome = b.map Option.isSome := by
  rcases h.inv with ⟨rfl, rfl⟩ | ⟨_, _, rfl, rfl, hr⟩
  · rfl
  · exact congrArg some (OptRel.isSome_eq hr)

theorem OutRel.eq {o1 o2 : Spec.Out} (h : OutRel Eq o1 o2) : o1 = o2 :=
  (Go.OptRel.eq_of (fun _ _ h => (Go.OptRel.eq h).symm) h).symm

/-- the end of most keywords: valid, with a given evaluated set, iff a condition holds -/
theorem guard_rel {E : Spec.Ev → Spec.Ev → Prop} {c : Prop} [Decidable c] {e1 e2 : Spec.Ev} (h : E e1 e2) :
    OptRel E (if c then some e1 else none) (if c then some e2 else none) := by
  split
  · exact h
  · trivial

section
variable {P : ∀ {α : Type}, List α → List α → Prop} {E : Spec.Ev → Spec.Ev → Prop} (hP : ListCong P) (hE : EvCong P E)
  {rs1 rs2 : List Spec.R} (h : PRg P (OptRel E) rs1 rs2)
include hP h

theorem allHold_rel : Spec.allHold rs1 = Spec.allHold rs2 :=
  PR.all_eq _ _ (h.toPR hP) fun _ _ hr => OptRel.isSome_eq hr

omit h in
/-- the keywords over the children of the instance: every application must hold, what is evaluated does not depend on
    their results -/
theorem seq_allHold_rel {l1 l2 : List Spec.Out} (h : PRg P (OutRel E) l1 l2) {ev1 ev2 : Spec.Ev} (hev : E ev1 ev2) :
    OutRel E ((Spec.sequence l1).map fun rs => if Spec.allHold rs then some ev1 else none)
      ((Spec.sequence l2).map fun rs => if Spec.allHold rs then some ev2 else none) :=
  seq_map_sim hP h _ _ fun _ _ h' => by rw [allHold_rel hP h']; exact guard_rel hev

theorem validCount_rel : Spec.validCount rs1 = Spec.validCount rs2 :=
  (PR.filter _ _ (h.toPR hP) fun _ _ hr => OptRel.isSome_eq hr).length

include hE

theorem validUnion_rel : E (Spec.validUnion rs1) (Spec.validUnion rs2) :=
  hE.unions (PRg.filterMap hP id id h fun _ _ hr => hr)

theorem conj_rel : OptRel E (Spec.conj rs1) (Spec.conj rs2) := by
  unfold Spec.conj
  rw [show rs1.all Option.isSome = rs2.all Option.isSome from allHold_rel hP h]
  exact guard_rel (validUnion_rel hP hE h)

end

end Inv
end JSV
