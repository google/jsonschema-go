/-
  C15: ApplyDefaults only extends the instance: the relation `Extends`, its positional form `ExtP`, the loop over
  `schema.Properties` as a sequence of steps `dflStep`, and the inversion of a call that returns; required properties
  are never filled.
-/
import JSV.Model.Defaults
import JSV.Proofs.JsonLookup
namespace JSV
namespace C15
open Go Json

mutual
  /-- `Extends a b` (b extends a): scalars and arrays are equal, objects only gain keys: every member of `a` is
      found in `b` under the same key (first hit) with an extended value. -/
  def Extends : Json → Json → Prop
    | .obj kx, b => ∃ ky, b = .obj ky ∧ ExtendsObj kx ky
    | .null, b => b = .null
    | .bool x, b => b = .bool x
    | .num x, b => b = .num x
    | .str x, b => b = .str x
    | .arr x, b => b = .arr x
  def ExtendsObj : List (String × Json) → List (String × Json) → Prop
    | [], _ => True
    | (k, v) :: rest, ky => (∃ v', Json.lookup k ky = some v' ∧ Extends v v') ∧ ExtendsObj rest ky
end

mutual
  /-- positional (stronger) form, meaningful without well-formedness: the members of `a` stay where they are, in
      order, under the same keys, with extended values; new members are appended. -/
  def ExtP : Json → Json → Prop
    | .obj kx, b => ∃ ky, b = .obj ky ∧ ExtPObj kx ky
    | .null, b => b = .null
    | .bool x, b => b = .bool x
    | .num x, b => b = .num x
    | .str x, b => b = .str x
    | .arr x, b => b = .arr x
  def ExtPObj : List (String × Json) → List (String × Json) → Prop
    | [], _ => True
    | (k, v) :: rest, ky => ∃ v' ry, ky = (k, v') :: ry ∧ ExtP v v' ∧ ExtPObj rest ry
end

theorem ExtendsObj_iff {ky : List (String × Json)} : ∀ {kx : List (String × Json)},
    ExtendsObj kx ky ↔ ∀ k v, (k, v) ∈ kx → ∃ v', Json.lookup k ky = some v' ∧ Extends v v'
  | [] => by simp [ExtendsObj]
  | (k, v) :: rest => by
    simp only [ExtendsObj, ExtendsObj_iff (kx := rest), List.mem_cons]
    constructor
    · rintro ⟨h1, h2⟩ k' v' (h | h)
      · cases h; exact h1
      · exact h2 k' v' h
    · intro h
      exact ⟨h k v (Or.inl rfl), fun k' v' hm => h k' v' (Or.inr hm)⟩

theorem Extends_nonobj {a b : Json} (h : a.isObj = false) : Extends a b ↔ b = a := by
  cases a <;> simp_all [Extends, isObj]

theorem ExtP_nonobj {a b : Json} (h : a.isObj = false) : ExtP a b ↔ b = a := by
  cases a <;> simp_all [ExtP, isObj]

theorem ExtP_obj {kx : List (String × Json)} {b : Json} : ExtP (.obj kx) b ↔ ∃ ky, b = .obj ky ∧ ExtPObj kx ky := by
  simp [ExtP]

theorem Extends_obj {kx : List (String × Json)} {b : Json} :
    Extends (.obj kx) b ↔ ∃ ky, b = .obj ky ∧ ExtendsObj kx ky := by
  simp [Extends]

theorem ExtPObj_refl_of : ∀ {kvs : List (String × Json)}, (∀ k v, (k, v) ∈ kvs → ExtP v v) → ExtPObj kvs kvs
  | [], _ => by simp [ExtPObj]
  | (k, v) :: rest, h => by
    simp only [ExtPObj]
    exact ⟨v, rest, rfl, h k v List.mem_cons_self,
      ExtPObj_refl_of fun k' v' hm => h k' v' (List.mem_cons_of_mem _ hm)⟩

theorem ExtP_refl : ∀ j, ExtP j j :=
  obj_induct (fun _ h => (ExtP_nonobj h).2 rfl) fun kvs ih => ExtP_obj.2 ⟨kvs, rfl, ExtPObj_refl_of ih⟩

theorem ExtPObj_refl (kvs : List (String × Json)) : ExtPObj kvs kvs := ExtPObj_refl_of fun _ v _ => ExtP_refl v

theorem ExtPObj_trans_of : ∀ {kx ky kz : List (String × Json)},
    (∀ k v, (k, v) ∈ kx → ∀ b c, ExtP v b → ExtP b c → ExtP v c) →
    ExtPObj kx ky → ExtPObj ky kz → ExtPObj kx kz
  | [], _, _, _, _, _ => by simp [ExtPObj]
  | (k, v) :: rest, ky, kz, ih, h1, h2 => by
    simp only [ExtPObj] at h1
    obtain ⟨v', ry, rfl, hv, hr⟩ := h1
    simp only [ExtPObj] at h2
    obtain ⟨v'', rz, rfl, hv', hr'⟩ := h2
    simp only [ExtPObj]
    exact ⟨v'', rz, rfl, ih k v List.mem_cons_self v' v'' hv hv',
      ExtPObj_trans_of (fun k' w hm => ih k' w (List.mem_cons_of_mem _ hm)) hr hr'⟩

theorem ExtP_trans : ∀ a b c, ExtP a b → ExtP b c → ExtP a c := by
  intro a
  induction a using obj_induct with
  | leaf a h => intro b c h1 h2; rw [(ExtP_nonobj h).1 h1] at h2; exact h2
  | obj kx ih =>
    intro b c h1 h2
    obtain ⟨ky, rfl, h1'⟩ := ExtP_obj.1 h1
    obtain ⟨kz, rfl, h2'⟩ := ExtP_obj.1 h2
    exact ExtP_obj.2 ⟨kz, rfl, ExtPObj_trans_of ih h1' h2'⟩

theorem ExtPObj_trans {kx ky kz : List (String × Json)} (h1 : ExtPObj kx ky) (h2 : ExtPObj ky kz) : ExtPObj kx kz :=
  ExtPObj_trans_of (fun _ v _ => ExtP_trans v) h1 h2

theorem ExtPObj_lookup {k : String} : ∀ {kx ky : List (String × Json)} {v : Json},
    ExtPObj kx ky → Json.lookup k kx = some v → ∃ v', Json.lookup k ky = some v' ∧ ExtP v v'
  | [], _, _, _, h => by simp at h
  | (k0, v0) :: rest, ky, v, h1, h => by
    simp only [ExtPObj] at h1
    obtain ⟨v', ry, rfl, hv, hr⟩ := h1
    rw [lookup_cons] at h ⊢
    by_cases hk : k0 = k
    · simp only [hk, if_true] at h ⊢
      cases h
      exact ⟨v', rfl, hv⟩
    · simp only [hk, if_false] at h ⊢
      exact ExtPObj_lookup hr h

theorem ExtPObj_keys : ∀ {kx ky : List (String × Json)}, ExtPObj kx ky → ∃ added, keys ky = keys kx ++ added
  | [], ky, _ => ⟨keys ky, by simp [keys]⟩
  | (k0, v0) :: rest, ky, h1 => by
    simp only [ExtPObj] at h1
    obtain ⟨v', ry, rfl, _, hr⟩ := h1
    obtain ⟨added, ha⟩ := ExtPObj_keys hr
    refine ⟨added, ?_⟩
    simp only [keys, List.map_cons, List.cons_append] at ha ⊢
    rw [ha]

theorem ExtPObj_length : ∀ {kx ky : List (String × Json)}, ExtPObj kx ky → kx.length ≤ ky.length
  | [], ky, _ => Nat.zero_le _
  | (k0, v0) :: rest, ky, h1 => by
    simp only [ExtPObj] at h1
    obtain ⟨v', ry, rfl, _, hr⟩ := h1
    simpa using ExtPObj_length hr

theorem Extends_of_ExtP : ∀ a b, WF a = true → ExtP a b → Extends a b := by
  intro a
  induction a using obj_induct with
  | leaf a h => intro b _ he; exact (Extends_nonobj h).2 ((ExtP_nonobj h).1 he)
  | obj kx ih =>
    intro b hw h
    obtain ⟨ky, rfl, h'⟩ := ExtP_obj.1 h
    obtain ⟨hn, hwv⟩ := WF_obj hw
    refine Extends_obj.2 ⟨ky, rfl, ExtendsObj_iff.2 ?_⟩
    intro k v hm
    obtain ⟨v', hl, hv⟩ := ExtPObj_lookup h' (lookup_of_mem_nodup hn hm)
    exact ⟨v', hl, ih k v hm v' (hwv k v hm) hv⟩

theorem lookup_setKey (k k' : String) (v : Json) : ∀ kvs : List (String × Json),
    Json.lookup k (setKey k' v kvs) = if k' = k then some v else Json.lookup k kvs
  | [] => by simp [setKey]
  | (a, b) :: rest => by
    simp only [setKey]
    by_cases ha : a = k'
    · simp only [ha, if_true, lookup_cons]
      by_cases hk : k' = k <;> simp [hk]
    · simp only [ha, if_false, lookup_cons, lookup_setKey k k' v rest]
      by_cases hk : k' = k
      · have : a ≠ k := fun h => ha (h.trans hk.symm)
        simp [hk, this]
      · simp [hk]

theorem setKey_same (k : String) (v : Json) : ∀ kvs : List (String × Json),
    Json.lookup k kvs = some v → setKey k v kvs = kvs
  | [], h => by simp at h
  | (a, b) :: rest, h => by
    rw [lookup_cons] at h
    simp only [setKey]
    by_cases ha : a = k
    · simp only [ha, if_true] at h ⊢
      cases h; rfl
    · simp only [ha, if_false] at h ⊢
      rw [setKey_same k v rest h]

theorem ExtPObj_setKey (k : String) (v : Json) : ∀ kvs : List (String × Json),
    (∀ cur, Json.lookup k kvs = some cur → ExtP cur v) → ExtPObj kvs (setKey k v kvs)
  | [], _ => by simp [ExtPObj]
  | (a, b) :: rest, h => by
    simp only [setKey]
    by_cases ha : a = k
    · simp only [ha, if_true, ExtPObj]
      exact ⟨v, rest, rfl, h b (by simp [ha]), ExtPObj_refl rest⟩
    · simp only [ha, if_false, ExtPObj]
      refine ⟨b, _, rfl, ExtP_refl b, ExtPObj_setKey k v rest ?_⟩
      intro cur hc
      exact h cur (by simp [ha, hc])

theorem setKey_ne_nil (k : String) (v : Json) (kvs : List (String × Json)) : setKey k v kvs ≠ [] := by
  cases kvs with
  | nil => simp [setKey]
  | cons p r =>
    obtain ⟨a, b⟩ := p
    simp only [setKey]
    split <;> simp

/-- what one iteration of the loop over `schema.Properties` does with the object built so far -/
inductive DStep where
  | skip
  | panic
  | call (arg : Json)

/-- the iteration for the property `prop` with subschema `sub`: nothing, a nil dereference, or a recursive call on
    `arg` (the present value, the declared default, or `{}`) whose result is stored under `prop` -/
def dflStep (st : Store) (req : List String) (prop : String) (sub : NodeId) (kvs : List (String × Json)) : DStep :=
  if req.contains prop then .skip
  else
    match st.get? sub with
    | none => .panic
    | some sn =>
      match Json.lookup prop kvs, sn.default with
      | none, some d => .call d
      | some cur, _ => .call cur
      | none, none => if hasDefaults st sub then .call (.obj []) else .skip

theorem defaultsLoop_cons (st : Store) (rec : DRec) (req : List String) (prop : String) (sub : NodeId)
    (rest : List (String × NodeId)) (kvs : List (String × Json)) :
    defaultsLoop st rec req ((prop, sub) :: rest) kvs =
      match dflStep st req prop sub kvs with
      | .skip => defaultsLoop st rec req rest kvs
      | .panic => .panic
      | .call a => Res.bind (rec sub a) fun v => defaultsLoop st rec req rest (setKey prop v kvs) := by
  rw [defaultsLoop, dflStep]
  cases req.contains prop with
  | true => rfl
  | false =>
    cases st.get? sub with
    | none => rfl
    | some sn =>
      dsimp only [Bool.false_eq_true, if_false]
      cases Json.lookup prop kvs with
      | some cur => rfl
      | none =>
        cases sn.default with
        | some d => rfl
        | none => dsimp only; cases hasDefaults st sub <;> rfl

theorem dflStep_congr (st : Store) (req : List String) (prop : String) (sub : NodeId) {kvs kvs' : List (String × Json)}
    (h : Json.lookup prop kvs' = Json.lookup prop kvs) : dflStep st req prop sub kvs' = dflStep st req prop sub kvs := by
  simp only [dflStep, h]

theorem dflStep_call {st : Store} {req : List String} {prop : String} {sub : NodeId} {kvs : List (String × Json)}
    {a : Json} (h : dflStep st req prop sub kvs = .call a) :
    req.contains prop = false ∧ ∃ sn, st.get? sub = some sn ∧
      match Json.lookup prop kvs with
      | some cur => a = cur
      | none => sn.default = some a ∨ (sn.default = none ∧ hasDefaults st sub = true ∧ a = .obj []) := by
  unfold dflStep at h
  split at h
  · cases h
  · next hreq =>
    refine ⟨by simpa using hreq, ?_⟩
    split at h
    · cases h
    · next sn hsn =>
      refine ⟨sn, hsn, ?_⟩
      split at h
      · next hl hd => cases h; simp only [hl]; exact Or.inl hd
      · next hl => cases h; simp only [hl]
      · next hl hd =>
        split at h
        · next hh => cases h; simp only [hl]; exact Or.inr ⟨hd, hh, trivial⟩
        · cases h

theorem dflStep_skip {st : Store} {req : List String} {prop : String} {sub : NodeId} {kvs : List (String × Json)}
    (h : dflStep st req prop sub kvs = .skip) :
    req.contains prop = true ∨ (Json.lookup prop kvs = none ∧ hasDefaults st sub = false) := by
  unfold dflStep at h
  split at h
  · next hreq => exact Or.inl hreq
  · split at h
    · cases h
    · split at h
      · cases h
      · cases h
      · next hl _ =>
        split at h
        · cases h
        · next hh => exact Or.inr ⟨hl, by simpa using hh⟩

theorem dflStep_panic {st : Store} {req : List String} {prop : String} {sub : NodeId} {kvs : List (String × Json)}
    (h : dflStep st req prop sub kvs = .panic) : st.get? sub = none := by
  unfold dflStep at h
  split at h
  · cases h
  · split at h
    · assumption
    · split at h
      · cases h
      · cases h
      · split at h <;> cases h

theorem dflStep_present {st : Store} {req : List String} {prop : String} {sub : NodeId} {kvs : List (String × Json)}
    {sn : Node} {v : Json} (hreq : req.contains prop = false) (hsn : st.get? sub = some sn)
    (hl : Json.lookup prop kvs = some v) : dflStep st req prop sub kvs = .call v := by
  simp only [dflStep, hreq, hsn, hl, Bool.false_eq_true, if_false]

theorem defaultsLoop_ok_induct {st : Store} {rec : DRec} {req : List String}
    {motive : List (String × NodeId) → List (String × Json) → List (String × Json) → Prop}
    (nil : ∀ kvs, motive [] kvs kvs)
    (skip : ∀ prop sub rest kvs kvs', dflStep st req prop sub kvs = .skip →
      defaultsLoop st rec req rest kvs = .ok kvs' → motive rest kvs kvs' → motive ((prop, sub) :: rest) kvs kvs')
    (call : ∀ prop sub rest kvs kvs' a v, dflStep st req prop sub kvs = .call a → rec sub a = .ok v →
      defaultsLoop st rec req rest (setKey prop v kvs) = .ok kvs' → motive rest (setKey prop v kvs) kvs' →
      motive ((prop, sub) :: rest) kvs kvs') :
    ∀ props kvs kvs', defaultsLoop st rec req props kvs = .ok kvs' → motive props kvs kvs' := by
  intro props
  induction props with
  | nil =>
    intro kvs kvs' h
    simp only [defaultsLoop, Res.ok.injEq] at h
    subst h
    exact nil kvs
  | cons p rest ih =>
    intro kvs kvs' h
    obtain ⟨prop, sub⟩ := p
    rw [defaultsLoop_cons] at h
    split at h
    · next hs => exact skip prop sub rest kvs kvs' hs h (ih _ _ h)
    · cases h
    · next a hs =>
      obtain ⟨v, hv, h⟩ := Res.bind_eq_ok_iff.1 h
      exact call prop sub rest kvs kvs' a v hs hv h (ih _ _ h)

theorem applyDefaultsStep_ok {env : VEnv} {rec : DRec} {id : NodeId} {inst out : Json} :
    applyDefaultsStep env rec id inst = .ok out ↔
      ∃ n i, env.st.get? id = some n ∧ env.info? id = some i ∧
        ((∃ kvs kvs', inst = .obj kvs ∧
            defaultsLoop env.st rec (n.required.getD []) (n.properties.getD []) kvs = .ok kvs' ∧ out = .obj kvs') ∨
          (inst.isObj = false ∧ out = inst)) := by
  unfold applyDefaultsStep
  cases env.st.get? id with
  | none => simp
  | some n =>
    cases env.info? id with
    | none => simp
    | some i =>
      constructor
      · intro h
        refine ⟨n, i, rfl, rfl, ?_⟩
        cases inst with
        | obj kvs =>
          obtain ⟨kvs', hl, he⟩ := Res.bind_eq_ok_iff.1 h
          cases he
          exact Or.inl ⟨kvs, kvs', rfl, hl, rfl⟩
        | _ => cases h; exact Or.inr ⟨rfl, rfl⟩
      · rintro ⟨_, _, hn, hi, ⟨kvs, kvs', rfl, hl, rfl⟩ | ⟨ho, rfl⟩⟩ <;> cases hn <;> cases hi
        · simp only [hl, Res.bind_ok]
        · cases out <;> first | rfl | cases ho

theorem applyDefaultsFuel_obj_ok {env : VEnv} {fuel : Nat} {id : NodeId} {kvs : List (String × Json)} {out : Json}
    (h : applyDefaultsFuel env fuel id (.obj kvs) = .ok out) :
    ∃ f n kvs', fuel = f + 1 ∧ env.st.get? id = some n ∧ out = .obj kvs' ∧
      defaultsLoop env.st (applyDefaultsFuel env f) (n.required.getD []) (n.properties.getD []) kvs = .ok kvs' := by
  cases fuel with
  | zero => cases h
  | succ f =>
    obtain ⟨n, _, hn, _, ⟨_, kvs', he, hl, rfl⟩ | ⟨ho, _⟩⟩ := applyDefaultsStep_ok.1 h
    · cases he; exact ⟨f, n, kvs', rfl, hn, rfl, hl⟩
    · cases ho

def RecExt (rec : DRec) : Prop := ∀ s c o, rec s c = .ok o → ExtP c o

theorem defaultsLoop_ext (st : Store) (rec : DRec) (req : List String) (hrec : RecExt rec) :
    ∀ (props : List (String × NodeId)) (kvs kvs' : List (String × Json)),
      defaultsLoop st rec req props kvs = .ok kvs' → ExtPObj kvs kvs' :=
  defaultsLoop_ok_induct (motive := fun _ kvs kvs' => ExtPObj kvs kvs') ExtPObj_refl
    (fun _ _ _ _ _ _ _ ih => ih)
    (fun prop sub _ kvs _ a v hs hv _ ih => by
      refine ExtPObj_trans (ExtPObj_setKey prop v kvs fun cur hc => ?_) ih
      obtain ⟨_, _, _, ha⟩ := dflStep_call hs
      rw [hc] at ha
      exact ha ▸ hrec _ _ _ hv)

theorem applyDefaultsFuel_ext (env : VEnv) : ∀ fuel, RecExt (applyDefaultsFuel env fuel) := by
  intro fuel
  induction fuel with
  | zero => intro s c o h; simp [applyDefaultsFuel] at h
  | succ fuel ih =>
    intro s c o h
    obtain ⟨n, i, _, _, ⟨kvs, kvs', rfl, hl, rfl⟩ | ⟨ho, rfl⟩⟩ := applyDefaultsStep_ok.1 h
    · exact ExtP_obj.2 ⟨kvs', rfl, defaultsLoop_ext env.st _ _ ih _ _ _ hl⟩
    · exact ExtP_refl _

theorem defaultsLoop_required (st : Store) (rec : DRec) (req : List String) (p : String) (hp : p ∈ req) :
    ∀ (props : List (String × NodeId)) (kvs kvs' : List (String × Json)),
      defaultsLoop st rec req props kvs = .ok kvs' → Json.lookup p kvs = none → Json.lookup p kvs' = none :=
  defaultsLoop_ok_induct (motive := fun _ kvs kvs' => Json.lookup p kvs = none → Json.lookup p kvs' = none)
    (fun _ h => h)
    (fun _ _ _ _ _ _ _ ih => ih)
    (fun prop _ _ kvs _ _ v hs _ _ ih hn => by
      have hne : prop ≠ p := by
        rintro rfl
        have := (dflStep_call hs).1
        rw [List.contains_iff_mem.2 hp] at this
        cases this
      exact ih (by rw [lookup_setKey, if_neg hne]; exact hn))

end C15
end JSV
