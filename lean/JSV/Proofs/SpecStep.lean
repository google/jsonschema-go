/-
  The shape of one `Spec.evalStep`: the list of the twelve applicator keywords, the conjunction of the assertions, and
  the end of the step (`unevaluated*` on what the others evaluated), each under a name; the step of an environment with
  another store (`evalStep_store_get/_none`), and the fuel induction for two stores whose steps agree.
-/
import JSV.Spec.Valid
import JSV.Proofs.StoreGet
namespace JSV
namespace Refine

/-- the end of `Spec.evalStep` once the twelve applicator keywords are defined (in `Refine`, beside `Refine.conj2` and
    `Refine.rConsts`, with which `Refine.specTail_chain` computes it) -/
def specTail (R : Spec.R) (asserts : Bool) (ui up : Spec.Ev → Option Spec.R) : Spec.Out :=
  match R with
  | none => some none
  | some ev0 =>
    if !asserts then some none else
    match ui ev0, up ev0 with
    | some ri, some rp => some (Spec.conj [some ev0, ri, rp])
    | _, _ => none

end Refine

namespace Inv
open Refine

/-- the twelve applicator keywords, in the order of `Spec.evalStep` -/
def kwList (env : Spec.Env) (rec : Spec.Rec) (scope0 : List NodeId) (s : NodeId) (j : Json) (n : Node) :
    List (Option Spec.R) :=
  [Spec.kwRef env (rec (scope0 ++ [s])) s n j,
   Spec.kwDynamicRef env (rec (scope0 ++ [s])) (scope0 ++ [s]) s (Spec.vocab env.draft n) j,
   Spec.kwAllOf (rec (scope0 ++ [s])) n j, Spec.kwAnyOf (rec (scope0 ++ [s])) n j,
   Spec.kwOneOf (rec (scope0 ++ [s])) n j, Spec.kwNot (rec (scope0 ++ [s])) n j,
   Spec.kwIf (rec (scope0 ++ [s])) n j, Spec.kwItems env (rec (scope0 ++ [s])) n j,
   Spec.kwContains (rec (scope0 ++ [s])) (Spec.vocab env.draft n) j, Spec.kwProps env (rec (scope0 ++ [s])) n j,
   Spec.kwPropertyNames (rec (scope0 ++ [s])) n j, Spec.kwDependentSchemas env (rec (scope0 ++ [s])) n j]

def assertsOf (env : Spec.Env) (n : Node) (j : Json) : Bool :=
  Spec.typeOk n j && Spec.enumOk n j && Spec.constOk n j && Spec.numericOk n j && Spec.stringOk env n j &&
    Spec.arrayLimitsOk n j && Spec.objectLimitsOk env n j

def specBody (env : Spec.Env) (rec : Spec.Rec) (scope0 : List NodeId) (s : NodeId) (j : Json) (n : Node) : Spec.Out :=
  if env.draft == .d7 && n.ref != "" then
    (Spec.kwRef env (rec (scope0 ++ [s])) s n j).map fun r => r.map fun _ => {}
  else
    match Spec.sequence (kwList env rec scope0 s j n) with
    | none => none
    | some rs =>
      specTail (Spec.conj rs) (assertsOf env n j)
        (Spec.kwUnevaluatedItems (rec (scope0 ++ [s])) (Spec.vocab env.draft n) j)
        (Spec.kwUnevaluatedProps (rec (scope0 ++ [s])) (Spec.vocab env.draft n) j)

theorem evalStep_unfold (env : Spec.Env) (rec : Spec.Rec) (scope0 : List NodeId) (s : NodeId) (j : Json) :
    Spec.evalStep env rec scope0 s j =
      match env.st.get? s with
      | none => none
      | some n => specBody env rec scope0 s j n := by
  unfold Spec.evalStep
  cases env.st.get? s with
  | none => rfl
  | some n => rfl

theorem evalStep_get {env : Spec.Env} {s : NodeId} {n : Node} (h : env.st.get? s = some n) (rec : Spec.Rec)
    (scope : List NodeId) (j : Json) : Spec.evalStep env rec scope s j = specBody env rec scope s j n := by
  rw [evalStep_unfold, h]

theorem evalStep_none {env : Spec.Env} {s : NodeId} (h : env.st.get? s = none) (rec : Spec.Rec) (scope : List NodeId)
    (j : Json) : Spec.evalStep env rec scope s j = none := by
  rw [evalStep_unfold, h]

section
variable (env : Spec.Env) (rec : Spec.Rec) (scope0 : List NodeId) (s : NodeId) (j : Json) {n : Node}

/-- draft-07: every other member of a `$ref` object is ignored -/
theorem specBody_d7ref (hd7 : (env.draft == .d7 && n.ref != "") = true) :
    specBody env rec scope0 s j n = (Spec.kwRef env (rec (scope0 ++ [s])) s n j).map fun r => r.map fun _ => {} :=
  if_pos hd7

theorem specBody_eq (hnd7 : (env.draft == .d7 && n.ref != "") = false) :
    specBody env rec scope0 s j n = (Spec.sequence (kwList env rec scope0 s j n)).bind fun rs =>
      specTail (Spec.conj rs) (assertsOf env n j)
        (Spec.kwUnevaluatedItems (rec (scope0 ++ [s])) (Spec.vocab env.draft n) j)
        (Spec.kwUnevaluatedProps (rec (scope0 ++ [s])) (Spec.vocab env.draft n) j) := by
  unfold specBody
  rw [if_neg (by rw [hnd7]; exact Bool.false_ne_true)]
  cases Spec.sequence (kwList env rec scope0 s j n) <;> rfl

end

theorem evalStep_store_get (env : Spec.Env) {st : Store} {s : NodeId} {n : Node} (h : st.get? s = some n) (rec : Spec.Rec)
    (scope : List NodeId) (j : Json) :
    Spec.evalStep { env with st := st } rec scope s j = specBody env rec scope s j n :=
  evalStep_get (env := { env with st := st }) h rec scope j

theorem evalStep_store_none (env : Spec.Env) {st : Store} {s : NodeId} (h : st.get? s = none) (rec : Spec.Rec)
    (scope : List NodeId) (j : Json) : Spec.evalStep { env with st := st } rec scope s j = none :=
  evalStep_none (env := { env with st := st }) h rec scope j

theorem evalFuel_store_congr (env : Spec.Env) (st' : Store)
    (h : ∀ rec scope s j, Spec.evalStep { env with st := st' } rec scope s j = Spec.evalStep env rec scope s j) :
    ∀ fuel, Spec.evalFuel { env with st := st' } fuel = Spec.evalFuel env fuel
  | 0 => rfl
  | fuel + 1 => by
    show Spec.evalStep _ (Spec.evalFuel _ fuel) = Spec.evalStep env (Spec.evalFuel env fuel)
    rw [evalFuel_store_congr env st' h fuel]
    funext scope s j
    exact h _ scope s j

end Inv
end JSV
