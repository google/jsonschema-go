/-
  Every block of the evaluator is monotone (for the information order `⊑` of `Res`) in the results of the calls it
  makes on the instance and on its parts, and reads nothing else of them but the length of a slice, the keys of a map,
  the `uniqueItems` verdict and the five leaf blocks (type, enum, const, numbers, strings), which `stepBody_mono` takes
  as hypotheses.  With the same instance on both sides this is fuel monotonicity (`validateFuel_mono`); with the
  same recursive call on both sides, `⊑` both ways is equality: representation independence (InvRepr).
-/
import JSV.Proofs.Vocab
import JSV.Proofs.RelatorsInv
import JSV.Proofs.InvMeta
namespace JSV
namespace Refine
open Go GoVal JSV.Inv

def RecLe (r r' : Go.Rec) : Prop := ∀ stack i s, r stack i s ⊑ r' stack i s

def CallLe (r r' : Go.Rec) (x y : GoVal) : Prop := ∀ stack s, r stack x s ⊑ r' stack y s

def KVLe (r r' : Go.Rec) (p q : String × GoVal) : Prop := p.1 = q.1 ∧ CallLe r r' p.2 q.2

section
variable {r r' : Go.Rec}

section
variable {x y : GoVal} (h : CallLe r r' x y)
include h

theorem tryValid_mono (stack : List NodeId) (s : NodeId) (anns : Anns) (c : Bool) :
    tryValid r stack x s anns c ⊑ tryValid r' stack y s anns c := by
  unfold tryValid
  rcases h stack s with hf | he
  · rw [hf]; exact Res.fuel_le _
  · rw [he]; exact Res.le_refl _

theorem mustValid_mono (stack : List NodeId) (s : NodeId) (anns : Anns) :
    mustValid r stack x s anns ⊑ mustValid r' stack y s anns :=
  Res.bind_mono (h stack s) (fun _ => Res.le_refl _)

theorem mustValidChild_mono (stack : List NodeId) (s : NodeId) :
    mustValidChild r stack x s ⊑ mustValidChild r' stack y s :=
  Res.bind_mono (h stack s) (fun _ => Res.le_refl _)

theorem bRef_mono (env : VEnv) (stack : List NodeId) (n : Node) (info : Option Info) :
    bRef env r stack n info x ⊑ bRef env r' stack n info y := by
  unfold bRef
  split
  · cases info with
    | none => exact Res.le_refl _
    | some i =>
      simp only
      cases i.resolvedRef with
      | none => exact Res.le_refl _
      | some t => exact Res.bind_mono (mustValid_mono h stack t {}) (fun _ => Res.le_refl _)
  · exact Res.le_refl _

theorem bDynamicRef_mono (env : VEnv) (stack : List NodeId) (n : Node) (info : Option Info)
    (anns : Anns) : bDynamicRef env r stack n info x anns ⊑ bDynamicRef env r' stack n info y anns := by
  unfold bDynamicRef
  split
  · cases info with
    | none => exact Res.le_refl _
    | some i =>
      simp only
      cases i.resolvedDynamicRef with
      | none => exact Res.le_refl _
      | some t =>
        simp only
        split
        · exact mustValid_mono h stack t anns
        · exact Res.bind_mono (Res.le_refl _) (fun found => mustValid_mono h stack _ anns)
  · exact Res.le_refl _

theorem allOfLoop_mono (stack : List NodeId) : ∀ (ss : List NodeId) (anns : Anns),
    allOfLoop r stack x ss anns ⊑ allOfLoop r' stack y ss anns
  | [], _ => Res.le_refl _
  | s :: ss, anns => by
    simp only [allOfLoop]
    exact Res.bind_mono (mustValid_mono h stack s anns) (fun a => allOfLoop_mono stack ss a)

theorem bAllOf_mono (stack : List NodeId) (n : Node) (anns : Anns) :
    bAllOf r stack n x anns ⊑ bAllOf r' stack n y anns := by
  unfold bAllOf
  cases n.allOf with
  | none => exact Res.le_refl _
  | some ss => exact allOfLoop_mono h stack ss anns

theorem anyOfLoop_mono (stack : List NodeId) : ∀ (ss : List NodeId) (anns : Anns) (nerr : Nat),
    anyOfLoop r stack x ss anns nerr ⊑ anyOfLoop r' stack y ss anns nerr
  | [], _, _ => Res.le_refl _
  | s :: ss, anns, nerr => by
    simp only [anyOfLoop]
    exact Res.bind_mono (tryValid_mono h stack s anns true)
      (fun p => anyOfLoop_mono stack ss p.2 _)

theorem bAnyOf_mono (stack : List NodeId) (n : Node) (anns : Anns) :
    bAnyOf r stack n x anns ⊑ bAnyOf r' stack n y anns := by
  unfold bAnyOf
  cases n.anyOf with
  | none => exact Res.le_refl _
  | some ss => exact Res.bind_mono (anyOfLoop_mono h stack ss anns 0) (fun _ => Res.le_refl _)

theorem oneOfLoop_mono (stack : List NodeId) : ∀ (ss : List NodeId) (anns : Anns) (found : Bool),
    oneOfLoop r stack x ss anns found ⊑ oneOfLoop r' stack y ss anns found
  | [], _, _ => Res.le_refl _
  | s :: ss, anns, found => by
    simp only [oneOfLoop]
    refine Res.bind_mono (tryValid_mono h stack s anns true) (fun p => ?_)
    obtain ⟨ok, a⟩ := p
    simp only
    split
    · split
      · exact Res.le_refl _
      · exact oneOfLoop_mono stack ss a true
    · exact oneOfLoop_mono stack ss a found

theorem bOneOf_mono (stack : List NodeId) (n : Node) (anns : Anns) :
    bOneOf r stack n x anns ⊑ bOneOf r' stack n y anns := by
  unfold bOneOf
  cases n.oneOf with
  | none => exact Res.le_refl _
  | some ss => exact Res.bind_mono (oneOfLoop_mono h stack ss anns false) (fun _ => Res.le_refl _)

theorem bNot_mono (stack : List NodeId) (n : Node) (anns : Anns) :
    bNot r stack n x anns ⊑ bNot r' stack n y anns := by
  unfold bNot
  cases n.not with
  | none => exact Res.le_refl _
  | some s => exact Res.bind_mono (tryValid_mono h stack s anns false) (fun _ => Res.le_refl _)

theorem bIf_mono (stack : List NodeId) (n : Node) (anns : Anns) :
    bIf r stack n x anns ⊑ bIf r' stack n y anns := by
  unfold bIf
  cases n.if_ with
  | none => exact Res.le_refl _
  | some c =>
    refine Res.bind_mono (tryValid_mono h stack c anns true) (fun p => ?_)
    obtain ⟨ok, a⟩ := p
    simp only
    cases (if ok = true then n.then_ else n.else_) with
    | none => exact Res.le_refl _
    | some s => exact mustValid_mono h stack s a

end

theorem prefixLoop_mono (stack : List NodeId) : ∀ (ss : List NodeId) (xs ys : List GoVal), All₂ (CallLe r r') xs ys →
    prefixLoop r stack ss xs ⊑ prefixLoop r' stack ss ys
  | [], _, _, _ => by simp only [prefixLoop]; exact Res.le_refl _
  | _ :: _, [], [], _ => Res.le_refl _
  | s :: ss, x :: xs, y :: ys, h => by
    simp only [prefixLoop]
    exact Res.bind_mono (mustValidChild_mono h.1 stack s) (fun _ => prefixLoop_mono stack ss xs ys h.2)
  | _ :: _, [], _ :: _, h => h.elim
  | _ :: _, _ :: _, [], h => h.elim

theorem eachItem_mono (stack : List NodeId) (s : NodeId) : ∀ (xs ys : List GoVal), All₂ (CallLe r r') xs ys →
    eachItem r stack s xs ⊑ eachItem r' stack s ys
  | [], [], _ => Res.le_refl _
  | x :: xs, y :: ys, h => by
    simp only [eachItem]
    exact Res.bind_mono (mustValidChild_mono h.1 stack s) (fun _ => eachItem_mono stack s xs ys h.2)
  | [], _ :: _, h => h.elim
  | _ :: _, [], h => h.elim

theorem containsLoop_mono (stack : List NodeId) (s : NodeId) : ∀ (xs ys : List GoVal), All₂ (CallLe r r') xs ys →
    ∀ (i : Nat) (anns : Anns) (cnt : Nat),
    containsLoop r stack s xs i anns cnt ⊑ containsLoop r' stack s ys i anns cnt
  | [], [], _, _, _, _ => Res.le_refl _
  | x :: xs, y :: ys, h, i, anns, cnt => by
    simp only [containsLoop]
    rcases h.1 stack s with hf | he
    · rw [hf]; exact Res.fuel_le _
    · rw [he]
      cases r' stack y s with
      | fuel => exact Res.le_refl _
      | panic => exact Res.le_refl _
      | err => exact containsLoop_mono stack s xs ys h.2 _ _ _
      | ok a => exact containsLoop_mono stack s xs ys h.2 _ _ _
  | [], _ :: _, h, _, _, _ => h.elim
  | _ :: _, [], h, _, _, _ => h.elim

theorem unevalItemsLoop_mono (stack : List NodeId) (s : NodeId) (anns : Anns) :
    ∀ (xs ys : List GoVal), All₂ (CallLe r r') xs ys → ∀ (i : Nat),
    unevalItemsLoop r stack s anns xs i ⊑ unevalItemsLoop r' stack s anns ys i
  | [], [], _, _ => Res.le_refl _
  | x :: xs, y :: ys, h, i => by
    simp only [unevalItemsLoop]
    split
    · exact unevalItemsLoop_mono stack s anns xs ys h.2 (i + 1)
    · exact Res.bind_mono (mustValidChild_mono h.1 stack s) (fun _ => unevalItemsLoop_mono stack s anns xs ys h.2 (i + 1))
  | [], _ :: _, h, _ => h.elim
  | _ :: _, [], h, _ => h.elim

section
variable {xs ys : List GoVal} (h : All₂ (CallLe r r') xs ys)
include h

theorem bItems_mono (env : VEnv) (stack : List NodeId) (n : Node) (anns : Anns) :
    bItems env r stack n xs anns ⊑ bItems env r' stack n ys anns := by
  rw [bItems_eq, bItems_eq, h.length]
  refine Res.bind_mono (prefixLoop_mono stack _ xs ys h) (fun _ => ?_)
  cases (Spec.arrayShape (specEnvOf env) n).2 with
  | some t => exact Res.bind_mono (eachItem_mono stack t _ _ (h.drop _)) (fun _ => Res.le_refl _)
  | none => exact Res.le_refl _

theorem bContains_mono (d : Draft) (stack : List NodeId) (n : Node) (anns : Anns) :
    bContains d r stack n xs anns ⊑ bContains d r' stack n ys anns := by
  unfold bContains
  cases n.contains with
  | none => exact Res.le_refl _
  | some c => exact Res.bind_mono (containsLoop_mono stack c xs ys h 0 anns 0) (fun _ => Res.le_refl _)

theorem bUnevaluatedItems_mono (d : Draft) (stack : List NodeId) (n : Node) (anns : Anns) :
    bUnevaluatedItems d r stack n xs anns ⊑ bUnevaluatedItems d r' stack n ys anns := by
  unfold bUnevaluatedItems
  split
  case isFalse => exact Res.le_refl _
  cases n.unevaluatedItems with
  | none => exact Res.le_refl _
  | some u =>
    simp only
    split
    · exact Res.le_refl _
    · exact Res.bind_mono (unevalItemsLoop_mono stack u anns xs ys h 0) (fun _ => Res.le_refl _)

/-- of a slice the array block reads the calls on its elements, its length, and whether its elements are distinct -/
theorem bArray_list_mono (env : VEnv) (stack : List NodeId) (n : Node)
    (hu : uniqueItems env.hash xs = uniqueItems env.hash ys) (anns : Anns) :
    bArray env r stack n (.list xs) anns ⊑ bArray env r' stack n (.list ys) anns := by
  simp only [bArray, bUnique, bArrayLimits, h.length, hu]
  exact Res.bind_mono (bItems_mono h env stack n anns) fun a =>
      Res.bind_mono (bContains_mono h env.draft stack n a) fun p =>
      Res.bind_mono (Res.le_refl _) fun _ =>
      Res.bind_mono (Res.le_refl _) fun _ => bUnevaluatedItems_mono h env.draft stack n p.1

end

theorem lookup_le {kvs1 kvs2 : List (String × GoVal)} (k : String) (h : All₂ (KVLe r r') kvs1 kvs2) :
    Go.OptRel (CallLe r r') (Json.lookup k kvs1) (Json.lookup k kvs2) :=
  Go.RIso.lookup_krel k (all₂_iff_listRel.1 h)

theorem hasProperty_le {kvs1 kvs2 : List (String × GoVal)} (h : All₂ (KVLe r r') kvs1 kvs2) :
    hasProperty kvs1 = hasProperty kvs2 := by
  funext p
  exact (lookup_le p h).isSome_eq

theorem patternsLoop_mono (env : VEnv) (stack : List NodeId) (prop : String) {x y : GoVal} (h : CallLe r r' x y) :
    ∀ (ps : List (String × NodeId)) (hit : Bool),
    patternsLoop env r stack prop x ps hit ⊑ patternsLoop env r' stack prop y ps hit
  | [], _ => Res.le_refl _
  | (re, sub) :: rest, hit => by
    simp only [patternsLoop]
    split
    · exact Res.bind_mono (mustValidChild_mono h stack sub) (fun _ => patternsLoop_mono env stack prop h rest true)
    · exact patternsLoop_mono env stack prop h rest hit

theorem patternPropsLoop_mono (env : VEnv) (stack : List NodeId) (pats : List (String × NodeId)) :
    ∀ (kvs1 kvs2 : List (String × GoVal)), All₂ (KVLe r r') kvs1 kvs2 → ∀ (ev : List String),
    patternPropsLoop env r stack pats kvs1 ev ⊑ patternPropsLoop env r' stack pats kvs2 ev
  | [], [], _, _ => Res.le_refl _
  | (k1, v1) :: r1, (k2, v2) :: r2, h, ev => by
    have hk : k1 = k2 := h.1.1
    subst hk
    simp only [patternPropsLoop]
    exact Res.bind_mono (patternsLoop_mono env stack k1 h.1.2 pats false)
      (fun _ => patternPropsLoop_mono env stack pats r1 r2 h.2 _)
  | [], _ :: _, h, _ => h.elim
  | _ :: _, [], h, _ => h.elim

theorem additionalLoop_mono (stack : List NodeId) (ap : NodeId) :
    ∀ (kvs1 kvs2 : List (String × GoVal)), All₂ (KVLe r r') kvs1 kvs2 → ∀ (ev : List String),
    additionalLoop r stack ap kvs1 ev ⊑ additionalLoop r' stack ap kvs2 ev
  | [], [], _, _ => Res.le_refl _
  | (k1, v1) :: r1, (k2, v2) :: r2, h, ev => by
    have hk : k1 = k2 := h.1.1
    subst hk
    simp only [additionalLoop]
    split
    · exact additionalLoop_mono stack ap r1 r2 h.2 ev
    · exact Res.bind_mono (mustValidChild_mono h.1.2 stack ap) (fun _ => additionalLoop_mono stack ap r1 r2 h.2 _)
  | [], _ :: _, h, _ => h.elim
  | _ :: _, [], h, _ => h.elim

theorem unevalPropsLoop_mono (stack : List NodeId) (u : NodeId) (anns : Anns) :
    ∀ (kvs1 kvs2 : List (String × GoVal)), All₂ (KVLe r r') kvs1 kvs2 →
    unevalPropsLoop r stack u anns kvs1 ⊑ unevalPropsLoop r' stack u anns kvs2
  | [], [], _ => Res.le_refl _
  | (k1, v1) :: r1, (k2, v2) :: r2, h => by
    have hk : k1 = k2 := h.1.1
    subst hk
    simp only [unevalPropsLoop]
    split
    · exact unevalPropsLoop_mono stack u anns r1 r2 h.2
    · exact Res.bind_mono (mustValidChild_mono h.1.2 stack u) (fun _ => unevalPropsLoop_mono stack u anns r1 r2 h.2)
  | [], _ :: _, h => h.elim
  | _ :: _, [], h => h.elim

/-- the calls on a property NAME do not involve the instance: only `r ⊑ r'` on strings is needed -/
theorem propertyNamesLoop_mono (hs : ∀ s, CallLe r r' (.str s) (.str s)) (stack : List NodeId) (pn : NodeId) :
    ∀ (kvs1 kvs2 : List (String × GoVal)), All₂ (KVLe r r') kvs1 kvs2 →
    propertyNamesLoop r stack pn kvs1 ⊑ propertyNamesLoop r' stack pn kvs2
  | [], [], _ => Res.le_refl _
  | (k1, v1) :: r1, (k2, v2) :: r2, h => by
    have hk : k1 = k2 := h.1.1
    subst hk
    simp only [propertyNamesLoop]
    exact Res.bind_mono (mustValidChild_mono (hs k1) stack pn) (fun _ => propertyNamesLoop_mono hs stack pn r1 r2 h.2)
  | [], _ :: _, h => h.elim
  | _ :: _, [], h => h.elim

section
variable {kvs1 kvs2 : List (String × GoVal)} (h : All₂ (KVLe r r') kvs1 kvs2)
include h

theorem propertiesLoop_mono (stack : List NodeId) : ∀ (props : List (String × NodeId)) (ev : List String),
    propertiesLoop r stack kvs1 props ev ⊑ propertiesLoop r' stack kvs2 props ev
  | [], _ => Res.le_refl _
  | (prop, sub) :: rest, ev => by
    simp only [propertiesLoop]
    have := lookup_le prop h
    cases h1 : Json.lookup prop kvs1 <;> cases h2 : Json.lookup prop kvs2 <;> rw [h1, h2] at this
    · exact propertiesLoop_mono stack rest ev
    · exact this.elim
    · exact this.elim
    · exact Res.bind_mono (mustValidChild_mono this stack sub) (fun _ => propertiesLoop_mono stack rest _)

theorem depSchemasLoop_mono (stack : List NodeId) {x y : GoVal} (hxy : CallLe r r' x y) :
    ∀ (ds : List (String × NodeId)) (anns : Anns),
    depSchemasLoop r stack x kvs1 ds anns ⊑ depSchemasLoop r' stack y kvs2 ds anns
  | [], _ => Res.le_refl _
  | (dprop, ds) :: rest, anns => by
    simp only [depSchemasLoop, hasProperty_le h]
    split
    · exact Res.bind_mono (mustValid_mono hxy stack ds anns) (fun a => depSchemasLoop_mono stack hxy rest a)
    · exact depSchemasLoop_mono stack hxy rest anns

theorem bProps_mono (env : VEnv) (stack : List NodeId) (n : Node) (info : Option Info) :
    bProps env r stack n info kvs1 ⊑ bProps env r' stack n info kvs2 := by
  unfold bProps
  refine Res.bind_mono (propertiesLoop_mono h stack _ []) (fun ev => ?_)
  refine Res.bind_mono ?_ (fun ev2 => ?_)
  · split
    · cases info with
      | none => exact Res.le_refl _
      | some _ => exact patternPropsLoop_mono env stack _ kvs1 kvs2 h ev
    · exact Res.le_refl _
  · cases n.additionalProperties with
    | some ap => exact additionalLoop_mono stack ap kvs1 kvs2 h ev2
    | none => exact Res.le_refl _

theorem depRequiredLoop_le : ∀ ds : List (String × Option (List String)), depRequiredLoop kvs1 ds = depRequiredLoop kvs2 ds
  | [] => rfl
  | (d, reqs) :: rest => by
    rw [depRequiredLoop, depRequiredLoop, depRequiredLoop_le rest, allPresent, allPresent, hasProperty_le h]

theorem bDependencies_mono (env : VEnv) (stack : List NodeId) (n : Node) {x y : GoVal} (hxy : CallLe r r' x y)
    (anns : Anns) :
    bDependencies env r stack n x kvs1 anns ⊑ bDependencies env r' stack n y kvs2 anns := by
  unfold bDependencies
  simp only [depRequiredLoop_le h]
  cases env.draft with
  | d7 => exact Res.bind_mono (Res.le_refl _) (fun _ => depSchemasLoop_mono h stack hxy _ anns)
  | d2020 => exact Res.bind_mono (Res.le_refl _) (fun _ => depSchemasLoop_mono h stack hxy _ anns)

theorem bUnevaluatedProps_mono (d : Draft) (stack : List NodeId) (n : Node)
    (anns : Anns) : bUnevaluatedProps d r stack n kvs1 anns ⊑ bUnevaluatedProps d r' stack n kvs2 anns := by
  unfold bUnevaluatedProps
  split
  case isFalse => exact Res.le_refl _
  cases n.unevaluatedProperties with
  | none => exact Res.le_refl _
  | some u =>
    simp only
    split
    · exact Res.le_refl _
    · exact Res.bind_mono (unevalPropsLoop_mono stack u anns kvs1 kvs2 h) (fun _ => Res.le_refl _)

/-- of a map the object block reads the calls on its values (and on itself), and its keys -/
theorem bObject_map_mono (hs : ∀ s, CallLe r r' (.str s) (.str s)) (env : VEnv) (stack : List NodeId) (n : Node)
    (info : Option Info) (hxy : CallLe r r' (.map kvs1) (.map kvs2)) (anns : Anns) :
    bObject env r stack n info (.map kvs1) anns ⊑ bObject env r' stack n info (.map kvs2) anns := by
  simp only [bObject, bObjectLimits, allPresent, hasProperty_le h, h.length]
  refine Res.bind_mono (bProps_mono h env stack n info) fun ev =>
      Res.bind_mono ?_ fun _ =>
      Res.bind_mono (Res.le_refl _) fun _ =>
      Res.bind_mono (bDependencies_mono h env stack n hxy _) fun a => bUnevaluatedProps_mono h env.draft stack n a
  cases n.propertyNames with
  | some pn => exact propertyNamesLoop_mono hs stack pn _ _ h
  | none => exact Res.le_refl _

end

/-- ONE statement for the whole call: what `validateStep` reads of the (stripped) instance is the calls on it, the
    five leaf blocks, and the array and object blocks. -/
theorem stepBody_mono (env : VEnv) (stack : List NodeId) (s : NodeId) (n : Node) {g g' : GoVal}
    (hc : CallLe r r' (strip g) (strip g'))
    (hty : bType n (strip g) = bType n (strip g')) (hen : bEnum n (strip g) = bEnum n (strip g'))
    (hco : bConst n (strip g) = bConst n (strip g')) (hnu : bNumeric n (strip g) = bNumeric n (strip g'))
    (hst : bString env n (env.info? s) (strip g) = bString env n (env.info? s) (strip g'))
    (har : ∀ a, bArray env r (stack ++ [s]) n (strip g) a ⊑ bArray env r' (stack ++ [s]) n (strip g') a)
    (hob : ∀ a, bObject env r (stack ++ [s]) n (env.info? s) (strip g) a ⊑
      bObject env r' (stack ++ [s]) n (env.info? s) (strip g') a) :
    stepBody env r stack g s n ⊑ stepBody env r' stack g' s n := by
  unfold stepBody
  simp only [hty, hen, hco, hnu, hst]
  split
  · exact Res.le_refl _
  · refine Res.bind_mono (bRef_mono hc env _ n _) (fun p => ?_)
    obtain ⟨anns, done⟩ := p
    simp only
    split
    · exact Res.le_refl _
    · exact Res.bind_mono (Res.le_refl _) fun _ =>
        Res.bind_mono (Res.le_refl _) fun _ =>
        Res.bind_mono (Res.le_refl _) fun _ =>
        Res.bind_mono (Res.le_refl _) fun _ =>
        Res.bind_mono (Res.le_refl _) fun _ =>
        Res.bind_mono (bDynamicRef_mono hc env _ n _ anns) fun a =>
        Res.bind_mono (bAllOf_mono hc _ n a) fun a =>
        Res.bind_mono (bAnyOf_mono hc _ n a) fun a =>
        Res.bind_mono (bOneOf_mono hc _ n a) fun a =>
        Res.bind_mono (bNot_mono hc _ n a) fun a =>
        Res.bind_mono (bIf_mono hc _ n a) fun a =>
        Res.bind_mono (har a) fun a => hob a

end

theorem validateStep_mono {r r' : Go.Rec} (h : RecLe r r') (env : VEnv) : RecLe (validateStep env r) (validateStep env r') := by
  intro stack g s
  have hc : ∀ x, CallLe r r' x x := fun x stk t => h stk x t
  rw [validateStep_eq_body, validateStep_eq_body]
  cases env.st.get? s with
  | none => exact Res.le_refl _
  | some n =>
    refine stepBody_mono env stack s n (hc _) rfl rfl rfl rfl rfl (fun a => ?_) (fun a => ?_)
    · cases strip g with
      | list xs => exact bArray_list_mono (All₂.refl fun x _ => hc x) env _ n rfl a
      | _ => exact Res.le_refl _
    · cases strip g with
      | map kvs => exact bObject_map_mono (All₂.refl fun p _ => ⟨rfl, hc p.2⟩) (fun s => hc _) env _ n _ (hc _) a
      | other k => cases k <;> exact Res.le_refl _
      | _ => exact Res.le_refl _

theorem validateFuel_mono (env : VEnv) : ∀ n, RecLe (validateFuel env n) (validateFuel env (n + 1))
  | 0 => fun _ _ _ => Res.fuel_le _
  | n + 1 => validateStep_mono (validateFuel_mono env n) env

theorem validateFuel_stable (env : VEnv) {n m : Nat} (h : n ≤ m) (stack : List NodeId) (i : GoVal) (s : NodeId)
    (hne : validateFuel env n stack i s ≠ .fuel) : validateFuel env m stack i s = validateFuel env n stack i s := by
  induction h with
  | refl => rfl
  | step _ ih =>
    rcases validateFuel_mono env _ stack i s with hf | he
    · rw [ih] at hf; exact absurd hf hne
    · rw [← he, ih]

end Refine
end JSV
