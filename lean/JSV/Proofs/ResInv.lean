/-
  Invariants of the resolver state threaded through resolveDoc / resolveRefsLoop / resolveRef (open recursion on the
  loader callback, induction on fuel): the log and the cache `loaded`, and that info objects point into the store
  (`RecSpec`, `resolveDoc_spec`).  At the end: a successful Schema.Resolve unfolded (`resolve_eq_ok`).
-/
import JSV.Proofs.JsonLookup
import JSV.Proofs.PtrWalk
import JSV.Proofs.ResShape
namespace JSV
namespace Go
namespace RInv
open Uri

def SameLL (s s' : RState) : Prop := s'.log = s.log ∧ s'.loaded = s.loaded

def Ext (s s' : RState) : Prop :=
  (∃ l, s'.log = s.log ++ l) ∧
  (∀ k, (Json.lookup k s.loaded).isSome = true → (Json.lookup k s'.loaded).isSome = true)

/-- no URI was passed to the Loader twice, and every URI passed to it is cached in `loaded`,
    except possibly `key`: the URI whose document is being resolved right now -/
def LogOk (s : RState) (key : Option String) : Prop :=
  s.log.Nodup ∧ ∀ k ∈ s.log, some k = key ∨ (Json.lookup k s.loaded).isSome = true

def InfoOk (st : Store) (i : Info) : Prop :=
  (∀ a ∈ i.anchors, (st.get? a.2.schema).isSome = true) ∧
  (∀ t, i.resolvedRef = some t → (st.get? t).isSome = true) ∧
  (∀ t, i.resolvedDynamicRef = some t → (st.get? t).isSome = true)

def InfosOk (st : Store) (infos : List (NodeId × Info)) : Prop := ∀ e ∈ infos, InfoOk st e.2

theorem SameLL.refl (s : RState) : SameLL s s := ⟨rfl, rfl⟩
theorem SameLL.trans {a b c : RState} (h1 : SameLL a b) (h2 : SameLL b c) : SameLL a c :=
  ⟨h2.1.trans h1.1, h2.2.trans h1.2⟩
theorem Ext.refl (s : RState) : Ext s s := ⟨⟨[], by simp⟩, fun _ h => h⟩
theorem Ext.trans {a b c : RState} (h1 : Ext a b) (h2 : Ext b c) : Ext a c := by
  obtain ⟨⟨l1, e1⟩, m1⟩ := h1
  obtain ⟨⟨l2, e2⟩, m2⟩ := h2
  exact ⟨⟨l1 ++ l2, by rw [e2, e1, List.append_assoc]⟩, fun k h => m2 k (m1 k h)⟩
theorem SameLL.ext {a b : RState} (h : SameLL a b) : Ext a b :=
  ⟨⟨[], by rw [h.1]; simp⟩, fun k hk => by rw [h.2]; exact hk⟩
theorem SameLL.logOk {a b : RState} (h : SameLL a b) {key} (hl : LogOk a key) : LogOk b key := by
  unfold LogOk at *
  rw [h.1, h.2]; exact hl
theorem LogOk.weaken {s : RState} (h : LogOk s none) (key) : LogOk s key :=
  ⟨h.1, fun k hk => Or.inr ((h.2 k hk).resolve_left (by simp))⟩

theorem updInfo_same (s : RState) (id : NodeId) (f : Info → Info) : SameLL s (s.updInfo id f) := by
  unfold RState.updInfo; split <;> exact ⟨rfl, rfl⟩

theorem updInfo_docs (s : RState) (id : NodeId) (f : Info → Info) : (s.updInfo id f).docs = s.docs := by
  unfold RState.updInfo; split <;> rfl

theorem updInfo_infosOk (st : Store) (s : RState) (id : NodeId) (f : Info → Info)
    (h : InfosOk st s.infos) (hf : ∀ i, InfoOk st i → InfoOk st (f i)) :
    InfosOk st (s.updInfo id f).infos := by
  unfold RState.updInfo
  split
  · rename_i i hi
    intro e he
    rcases mem_setNat _ _ _ _ he with he | he
    · exact h e he
    · rw [he]; exact hf i (h _ (lookupNat_mem _ _ _ hi))
  · exact h

theorem doc?_of_docs_eq {a b : RState} (h : b.docs = a.docs) (r : NodeId) : b.doc? r = a.doc? r := by
  unfold RState.doc?; rw [h]

theorem setDoc_same (s : RState) (d : DocRes) : SameLL s (s.setDoc d) := ⟨rfl, rfl⟩
theorem setDoc_infos (s : RState) (d : DocRes) : (s.setDoc d).infos = s.infos := rfl

theorem mergeKnown_same (s : RState) (a b : NodeId) : SameLL s (mergeKnown s a b) := by
  unfold mergeKnown; split <;> exact ⟨rfl, rfl⟩
theorem mergeKnown_infos (s : RState) (a b : NodeId) : (mergeKnown s a b).infos = s.infos := by
  unfold mergeKnown; split <;> rfl

theorem setAnchor_same (s : RState) (b t : NodeId) (a : String) (d : Bool) : SameLL s (setAnchor s b t a d) := by
  unfold setAnchor; split
  · exact SameLL.refl s
  · exact updInfo_same _ _ _

theorem setAnchor_docs (s : RState) (b t : NodeId) (a : String) (d : Bool) : (setAnchor s b t a d).docs = s.docs := by
  unfold setAnchor; split
  · rfl
  · exact updInfo_docs _ _ _

theorem setAnchor_infosOk (st : Store) (s : RState) (b t : NodeId) (a : String) (d : Bool)
    (h : InfosOk st s.infos) (ht : (st.get? t).isSome = true) : InfosOk st (setAnchor s b t a d).infos := by
  unfold setAnchor; split
  · exact h
  · apply updInfo_infosOk st s b _ h
    intro i hi
    split
    · exact hi
    · refine ⟨?_, hi.2.1, hi.2.2⟩
      intro x hx
      rcases List.mem_append.mp hx with hx | hx
      · exact hi.1 x hx
      · simp at hx; subst hx; exact ht

theorem resolveURIsLoop_spec (env : Env) (draft : Draft) (root : NodeId) :
    ∀ fuel work s s', resolveURIsLoop env draft root fuel work s = .ok s' →
      SameLL s s' ∧ (InfosOk env.st s.infos → InfosOk env.st s'.infos) := by
  intro fuel work s s' h
  refine resolveURIsLoop_inv env draft root
    (fun b => SameLL s b ∧ (InfosOk env.st s.infos → InfosOk env.st b.infos)) ?_ ?_ ?_ ?_ fuel work s s' h
    ⟨SameLL.refl _, id⟩
  · intro a id u ha
    exact ⟨ha.1.trans (updInfo_same _ _ _), fun h => updInfo_infosOk _ _ _ _ (ha.2 h) (fun i hi => hi)⟩
  · intro a id b ha
    exact ⟨ha.1.trans (updInfo_same _ _ _), fun h => updInfo_infosOk _ _ _ _ (ha.2 h) (fun i hi => hi)⟩
  · intro a b t x dyn ht ha
    exact ⟨ha.1.trans (setAnchor_same _ _ _ _ _), fun h => setAnchor_infosOk _ _ _ _ _ _ (ha.2 h) ht⟩
  · intro a d u _ ha
    exact ⟨ha.1.trans (setDoc_same _ _), ha.2⟩

/-- what the open-recursion callback must satisfy -/
def RecSpec (env : Env) (recDoc : ResolveDoc) : Prop :=
  ∀ root base draft s s', recDoc root base draft s = .ok s' →
    Ext s s' ∧ (InfosOk env.st s.infos → InfosOk env.st s'.infos) ∧
    (LogOk s (some (Uri.toString base)) → LogOk s' none)

theorem info?_lookup (s : RState) (root id : NodeId) (i : Info) (h : s.info? root id = some i) :
    lookupNat id s.infos = some i := by
  unfold RState.info? at h
  split at h
  · split at h
    · exact h
    · simp at h
  · simp at h

theorem logOk_push (s : RState) (key : String) (h : LogOk s none) (hk : Json.lookup key s.loaded = none) :
    LogOk { s with log := s.log ++ [key] } (some key) := by
  obtain ⟨hn, hl⟩ := h
  have hnot : key ∉ s.log := by
    intro hm
    have := (hl key hm).resolve_left (by simp)
    rw [hk] at this; simp at this
  refine ⟨?_, ?_⟩
  · show (s.log ++ [key]).Nodup
    rw [List.nodup_append]
    refine ⟨hn, by simp, ?_⟩
    intro a ha b hb
    simp at hb; subst hb
    intro e; subst e; exact hnot ha
  · intro k hk'
    have hk'' : k ∈ s.log ++ [key] := hk'
    rcases List.mem_append.mp hk'' with hm | hm
    · exact Or.inr ((hl k hm).resolve_left (by simp))
    · simp at hm; subst hm; exact Or.inl rfl

theorem ext_push (s : RState) (key : String) : Ext s { s with log := s.log ++ [key] } :=
  ⟨⟨[key], rfl⟩, fun _ h => h⟩

def Good (st : Store) (s s' : RState) : Prop :=
  Ext s s' ∧ (InfosOk st s.infos → InfosOk st s'.infos) ∧ (LogOk s none → LogOk s' none)

theorem Good.refl (st : Store) (s : RState) : Good st s s := ⟨Ext.refl _, fun h => h, fun h => h⟩
theorem Good.trans {st : Store} {a b c : RState} (h1 : Good st a b) (h2 : Good st b c) : Good st a c :=
  ⟨h1.1.trans h2.1, fun h => h2.2.1 (h1.2.1 h), fun h => h2.2.2 (h1.2.2 h)⟩

theorem good_updInfo (st : Store) (s : RState) (id : NodeId) (f : Info → Info)
    (hf : InfosOk st s.infos → ∀ i, InfoOk st i → InfoOk st (f i)) : Good st s (s.updInfo id f) :=
  ⟨(updInfo_same _ _ _).ext, fun h => updInfo_infosOk _ _ _ _ h (hf h), fun h => (updInfo_same _ _ _).logOk h⟩

theorem good_mergeKnown (st : Store) (s : RState) (a b : NodeId) : Good st s (mergeKnown s a b) :=
  ⟨(mergeKnown_same _ _ _).ext, fun h => by rw [mergeKnown_infos]; exact h, fun h => (mergeKnown_same _ _ _).logOk h⟩

theorem resolveRef_spec (env : Env) (recDoc : ResolveDoc) (hrec : RecSpec env recDoc)
    (root : NodeId) (s : RState) (id : NodeId) (ref : String) (o : RefOut) (s' : RState)
    (h : resolveRef env recDoc root s id ref = .ok (o, s')) :
    Ext s s' ∧ (InfosOk env.st s.infos → InfosOk env.st s'.infos ∧ (env.st.get? o.target).isSome = true) ∧
    (LogOk s none → LogOk s' none) := by
  obtain ⟨refURI0, info, base, bInfo, bu, d, r, _, _, _, _, _, _, hloc, hfrag⟩ :=
    resolveRef_unfold env recDoc root s id ref o s' h
  have h1 : Good env.st s s' := by
    unfold Located at hloc
    simp only at hloc
    rcases hloc with ⟨_, rfl⟩ | ⟨_, _, rfl⟩ | ⟨_, hnone, tbl, s2, _, _, hdoc, rfl⟩
    · exact Good.refl _ _
    · exact good_mergeKnown _ _ _ _
    · obtain ⟨e, i, l⟩ := hrec _ _ _ _ _ hdoc
      exact Good.trans ⟨(ext_push s _).trans e, i, fun h => l (logOk_push s _ h hnone)⟩ (good_mergeKnown _ _ _ _)
  refine ⟨h1.1, fun hi => ⟨h1.2.1 hi, ?_⟩, h1.2.2⟩
  unfold TableFrag at hfrag
  split at hfrag
  · -- a plain name: the anchor entry of a record of the table
    obtain ⟨rInfo, a, hr, ha, ht, _⟩ := hfrag
    rw [ht]
    exact (h1.2.1 hi _ (lookupNat_mem _ _ _ (info?_lookup _ _ _ _ hr))).1 _ (Json.mem_of_lookup ha)
  · exact Pointer.dereference_ok_exists _ _ _ _ _ hfrag.1

theorem resolveRefsLoop_spec (env : Env) (recDoc : ResolveDoc) (hrec : RecSpec env recDoc) (root : NodeId) :
    ∀ ids s s', resolveRefsLoop env recDoc root ids s = .ok s' → Good env.st s s' := by
  intro ids s s' h
  -- the recorded target exists in the store
  have key : ∀ (f : NodeId → Info → Info), (∀ t i, (env.st.get? t).isSome = true → InfoOk env.st i → InfoOk env.st (f t i)) →
      ∀ a id ref o b, Good env.st s a → resolveRef env recDoc root a id ref = .ok (o, b) →
        Good env.st s (b.updInfo id (f o.target)) := by
    intro f hf a id ref o b ha hr
    obtain ⟨e, i, l⟩ := resolveRef_spec env recDoc hrec _ _ _ _ _ _ hr
    refine ha.trans ⟨e.trans (updInfo_same _ _ _).ext, fun h => ?_, fun h => (updInfo_same _ _ _).logOk (l h)⟩
    exact updInfo_infosOk _ _ _ _ (i h).1 (fun j hj => hf _ j (i h).2 hj)
  refine resolveRefsLoop_inv env recDoc root (Good env.st s) ?_ ?_ ids s s' h (Good.refl _ _)
  · exact fun a id ref o b => key (fun t i => { i with resolvedRef := some t })
      (fun t i ht hi => ⟨hi.1, fun t' e => by cases e; exact ht, hi.2.2⟩) a id ref o b
  · intro a id ref o b
    exact key (fun t i => { i with resolvedDynamicRef := some t, dynamicRefAnchor := o.dynFrag })
      (fun t i ht hi => ⟨hi.1, hi.2.1, fun t' e => by cases e; exact ht⟩) a id ref o b

theorem checkStructure_infosOk (st : Store) : ∀ fuel work acc res,
    checkStructure st fuel work acc = .ok res → InfosOk st acc → InfosOk st res := by
  refine RPerm.checkStructure_inv st (fun _ acc => InfosOk st acc) ?_
  intro id path n work acc _ _ hacc e he
  rcases List.mem_append.mp he with he | he
  · exact hacc e he
  · simp only [List.mem_singleton] at he
    subst he
    exact ⟨by simp [RPerm.infoOf], by simp [RPerm.infoOf], by simp [RPerm.infoOf]⟩

/-- the update of `r.loaded` in resolver.resolve -/
theorem loaded_update {α} (l : List (String × α)) (a b : String) (r : α) :
    (Json.lookup a (l.filter (fun e => e.1 != a && e.1 != b) ++ [(a, r), (b, r)])).isSome = true ∧
    (Json.lookup b (l.filter (fun e => e.1 != a && e.1 != b) ++ [(a, r), (b, r)])).isSome = true ∧
    ∀ k, (Json.lookup k l).isSome = true →
      (Json.lookup k (l.filter (fun e => e.1 != a && e.1 != b) ++ [(a, r), (b, r)])).isSome = true := by
  refine ⟨?_, ?_, ?_⟩
  · rw [Json.lookup_append_isSome]; simp
  · rw [Json.lookup_append_isSome]
    by_cases h : a = b
    · subst h; simp
    · simp [h]
  · intro k hk
    rw [Json.lookup_append_isSome]
    by_cases ha : a = k
    · subst ha; simp
    · by_cases hb : b = k
      · subst hb; simp
      · have := Json.lookup_filter_key k (fun x => x != a && x != b) l (by
          have ha' : k ≠ a := fun e => ha e.symm
          have hb' : k ≠ b := fun e => hb e.symm
          simp [ha', hb'])
        rw [this, hk]; rfl

theorem beforeURIs_same (root : NodeId) (baseURI : Url) (draft : Draft) (fresh : List (NodeId × Info))
    (s : RState) : SameLL s (RDraft.beforeURIs root baseURI draft fresh s) :=
  updInfo_same (({ s with infos := s.infos ++ fresh } : RState).setDoc _) root _

/-- the cache update of resolver.resolve discharges the URI being resolved -/
theorem logOk_afterURIs (root : NodeId) (baseURI : Url) (s sB : RState) (hlog : sB.log = s.log)
    (hloaded : sB.loaded = s.loaded) (h : LogOk s (some (Uri.toString baseURI))) :
    LogOk (RDraft.afterURIs root baseURI sB) none := by
  have hupd := fun b => loaded_update s.loaded (Uri.toString baseURI) b root
  refine ⟨?_, fun k hk => Or.inr ?_⟩
  · show sB.log.Nodup
    rw [hlog]; exact h.1
  · show (Json.lookup k (sB.loaded.filter _ ++ _)).isSome = true
    rw [hloaded]
    rcases h.2 k (hlog ▸ hk) with e | e
    · cases e; exact (hupd _).1
    · exact (hupd _).2.2 k e

theorem resolveDocStep_spec (env : Env) (recDoc : ResolveDoc) (hrec : RecSpec env recDoc) :
    RecSpec env (resolveDocStep env recDoc) := by
  intro root baseURI inherit s s' h
  obtain ⟨rn, fresh, sB, _, hfresh, hB, h⟩ := RDraft.resolveDocStep_unfold env recDoc root baseURI inherit s s' h
  obtain ⟨sameB, infB⟩ := resolveURIsLoop_spec _ _ _ _ _ _ _ hB
  obtain ⟨eC, iC, lC⟩ := resolveRefsLoop_spec env recDoc hrec _ _ _ _ h
  have sameB' : sB.log = s.log ∧ sB.loaded = s.loaded := (beforeURIs_same _ _ _ _ _).trans sameB
  have hupd := fun b => loaded_update sB.loaded (Uri.toString baseURI) b root
  refine ⟨?_, ?_, ?_⟩
  · refine Ext.trans ⟨⟨[], ?_⟩, ?_⟩ eC
    · show sB.log = s.log ++ []
      rw [sameB'.1]; simp
    · intro k hk
      refine (hupd _).2.2 k ?_
      rw [sameB'.2]; exact hk
  · intro hi
    apply iC
    apply infB
    refine updInfo_infosOk env.st _ root _ ?_ ?_
    · rw [setDoc_infos]
      intro e he
      rcases List.mem_append.mp he with he | he
      · exact hi e he
      · exact checkStructure_infosOk _ _ _ _ _ hfresh (fun _ h => absurd h (by simp)) e he
    · intro i hi; exact hi
  · exact fun hl => lC (logOk_afterURIs root baseURI s sB sameB'.1 sameB'.2 hl)

theorem resolveDocStep_loaded (env : Env) (recDoc : ResolveDoc) (hrec : RecSpec env recDoc)
    (root : NodeId) (baseURI : Url) (inherit : Draft) (s s' : RState)
    (h : resolveDocStep env recDoc root baseURI inherit s = .ok s') :
    (Json.lookup (Uri.toString baseURI) s'.loaded).isSome = true := by
  obtain ⟨rn, fresh, sB, _, _, _, h⟩ := RDraft.resolveDocStep_unfold env recDoc root baseURI inherit s s' h
  obtain ⟨eC, _, _⟩ := resolveRefsLoop_spec env recDoc hrec _ _ _ _ h
  exact eC.2 _ (loaded_update sB.loaded (Uri.toString baseURI) _ root).1

theorem resolveDoc_spec (env : Env) : ∀ fuel, RecSpec env (resolveDoc env fuel) := by
  intro fuel
  induction fuel with
  | zero => intro root base draft s s' h; simp [resolveDoc] at h
  | succ fuel ih => exact resolveDocStep_spec env _ ih

theorem logOk_init : LogOk {} none := ⟨List.nodup_nil, fun _ h => absurd h (by simp)⟩
theorem infosOk_init (st : Store) : InfosOk st ({} : RState).infos := fun _ h => absurd h (by simp)

theorem resolve_eq_ok (env : Env) (fuel : Nat) (root : NodeId) (base : String) (rs : Resolved)
    (h : resolve env fuel root base = .ok rs) :
    ∃ s b d, retrievalOf base = .ok b ∧
      resolveDoc env fuel root b .d2020 {} = .ok s ∧ s.doc? root = some d ∧ rs.root = root ∧
      rs.draft = d.draft ∧ rs.log = s.log ∧ rs.infos = s.infos.filter (fun e => d.known.contains e.1) := by
  rw [resolve_eq] at h
  obtain ⟨b, hb, h⟩ := Res.bind_eq_ok_iff.mp h
  obtain ⟨s, hs, h⟩ := Res.bind_eq_ok_iff.mp h
  split at h
  · cases h
  · rename_i d hd
    cases h
    exact ⟨s, b, d, hb, hs, hd, rfl, rfl, rfl, rfl⟩

theorem resolve_ok (env : Env) (fuel : Nat) (root : NodeId) (base : String) (rs : Resolved)
    (h : resolve env fuel root base = .ok rs) :
    ∃ s b d, resolveDoc env fuel root b .d2020 {} = .ok s ∧ s.doc? root = some d ∧
      rs.log = s.log ∧ rs.infos = s.infos.filter (fun e => d.known.contains e.1) :=
  let ⟨s, b, d, _, hs, hd, _, _, hlog, hinfos⟩ := resolve_eq_ok env fuel root base rs h
  ⟨s, b, d, hs, hd, hlog, hinfos⟩

end RInv
end Go
end JSV
