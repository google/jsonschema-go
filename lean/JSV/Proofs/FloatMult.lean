/-
  C01, `multipleOf`: the float64 quotient of the code decides like exact division on the domain of the property.

  The code (validate.go) evaluates `multipleOf` by

      nf, _ := n.Float64()
      if _, f := math.Modf(nf / *schema.MultipleOf); f != 0 { error }

  i.e. "the correctly rounded quotient `fl (nf / m)` has no fractional part".  The model and the Spec divide exactly
  (`(q / m).den == 1`).  This file relates the two over an ABSTRACT rounding function `fl : Rat → Rat` of which only two
  facts are used:

    (R1)  |fl x − x| ≤ |x| / 2^53          (relative error of round-to-nearest with a 53-bit significand)
    (R2)  fl z = z for integers |z| ≤ 2^53   (these are representable)

  Main statement (`float_int_iff`): if the NUMERATOR of the exact quotient `q` (in lowest terms) is below 2^53 in
  magnitude, then `fl q` is an integer iff `q` is.  `|q.num| = |q| · q.den`, so "|q| < 2^k, q.den ≤ 2^d, k + d ≤ 53" is a
  special case (`multipleOf_float_exact`), and so is the generators' domain `D_mult` (`dmult_num_lt`: numerators below
  2^20, binary exponents in [−10, 10] give |q.num| < 2^40).  The bound is sharp for (R1), (R2): at `q = 2^53 / 3` a
  rounding that satisfies both may return an integer (`flSharp`; `C01.multipleOf_float_exact_sharp`), and the real float64 division does so at
  `2^55 / 3` (`rne53_counterexample`; `2^55` is in the pool of large numbers: this is why the harness leaves operations
  that combine `multipleOf` with operands ≥ 2^50 outside the property).

  Core Lean only (`Init.Data.Rat`).
-/
namespace JSV.FloatMult

def IsInt (x : Rat) : Prop := ∃ z : Int, x = z

theorem isInt_iff_den (x : Rat) : IsInt x ↔ x.den = 1 := by
  constructor
  · rintro ⟨z, rfl⟩; rfl
  · intro h; exact ⟨x.num, Rat.ext rfl h⟩

instance (x : Rat) : Decidable (IsInt x) := decidable_of_iff _ (isInt_iff_den x).symm

theorem den_cast_pos (q : Rat) : (0 : Rat) < (q.den : Rat) := Rat.natCast_pos.2 q.den_pos

theorem mul_den (q : Rat) : q * (q.den : Rat) = (q.num : Rat) := by
  have h := Rat.mkRat_self q
  rw [Rat.mkRat_eq_div] at h
  have hd : (q.den : Rat) ≠ 0 := Rat.ne_of_gt (den_cast_pos q)
  grind

theorem abs_mul_den (q : Rat) : q.abs * (q.den : Rat) = (q.num.natAbs : Rat) := by
  have h := mul_den q
  by_cases h0 : 0 ≤ q
  · rw [Rat.abs_of_nonneg h0, h]
    have : 0 ≤ q.num := Rat.num_nonneg.2 h0
    have e : ((q.num.natAbs : Int)) = q.num := Int.natAbs_of_nonneg this
    rw [← Rat.intCast_natCast, e]
  · have h1 : q ≤ 0 := Rat.le_of_lt (Rat.not_le.1 h0)
    rw [Rat.abs_of_nonpos h1, Rat.neg_mul, h]
    have : q.num < 0 := by
      have := mt (Rat.num_nonneg (q := q)).1 h0
      omega
    have e : ((q.num.natAbs : Int)) = -q.num := by omega
    rw [← Rat.intCast_natCast, e]; rfl

theorem one_le_dist (q : Rat) (z : Int) (h : q ≠ z) : 1 ≤ ((z : Rat) - q).abs * (q.den : Rat) := by
  have hm := mul_den q
  have hdp := den_cast_pos q
  have hw : ((z : Rat) - q) * (q.den : Rat) = ((z * q.den - q.num : Int) : Rat) := by
    rw [Rat.intCast_sub, Rat.intCast_mul, Rat.intCast_natCast]; grind
  have hne : z * q.den - q.num ≠ 0 := by
    intro h0
    apply h
    have : (z : Rat) * q.den = q.num := by
      have : q.num = z * q.den := by omega
      rw [this, Rat.intCast_mul, Rat.intCast_natCast]
    have hd : (q.den : Rat) ≠ 0 := Rat.ne_of_gt hdp
    grind
  generalize z * q.den - q.num = w at hw hne
  by_cases h0 : 0 ≤ (z : Rat) - q
  · rw [Rat.abs_of_nonneg h0, hw]
    have : (0 : Rat) ≤ w := by rw [← hw]; exact Rat.mul_nonneg h0 (Rat.le_of_lt hdp)
    have : 0 ≤ w := Rat.intCast_nonneg.1 this
    have : (1 : Int) ≤ w := by omega
    exact Rat.intCast_le_intCast.2 this
  · have h1 : (z : Rat) - q ≤ 0 := Rat.le_of_lt (Rat.not_le.1 h0)
    rw [Rat.abs_of_nonpos h1, Rat.neg_mul, hw]
    have : (w : Rat) ≤ 0 := by
      rw [← hw]
      have := Rat.mul_nonneg (Rat.neg_le_neg h1) (Rat.le_of_lt hdp)
      grind
    have : w ≤ 0 := Rat.intCast_nonpos.1 this
    have : (1 : Int) ≤ -w := by omega
    have := Rat.intCast_le_intCast.2 this
    simpa using this

theorem two_pow_cast (k : Nat) : ((2 ^ k : Nat) : Rat) = (2 : Rat) ^ k := by
  rw [Rat.natCast_pow]; rfl

theorem two_pow_pos (k : Nat) : (0 : Rat) < 2 ^ k := Rat.pow_pos (by decide)

/-- (R1) relative error of round-to-nearest with 53 significant bits -/
def R1 (fl : Rat → Rat) : Prop := ∀ x : Rat, (fl x - x).abs ≤ x.abs / 2 ^ 53

/-- (R2) the integers up to 2^53 are representable -/
def R2 (fl : Rat → Rat) : Prop := ∀ z : Int, z.natAbs ≤ 2 ^ 53 → fl z = z

/-- the hypotheses are consistent: exact arithmetic satisfies them -/
theorem R1_id : R1 id := by
  intro x
  show (x - x).abs ≤ x.abs / 2 ^ 53
  rw [Rat.sub_self, Rat.abs_zero, Rat.div_def]
  exact Rat.mul_nonneg Rat.abs_nonneg (Rat.le_of_lt (Rat.inv_pos.2 (two_pow_pos 53)))
theorem R2_id : R2 id := fun _ _ => rfl

/-- **Main statement.**  If the numerator of `q` (in lowest terms) is below 2^53 in magnitude, the rounded `q` is an
    integer exactly when `q` is.
    (←) an integer below 2^53 is representable.  (→) a non-integer `q = a/b` is at distance ≥ 1/b from every integer while
    `|fl q − q| ≤ |q| / 2^53 = |a| / (b · 2^53) < 1/b`. -/
theorem float_int_iff (fl : Rat → Rat) (h1 : R1 fl) (h2 : R2 fl)
    (q : Rat) (hq : q.num.natAbs < 2 ^ 53) : IsInt (fl q) ↔ IsInt q := by
  constructor
  · rintro ⟨z, hz⟩
    apply Classical.byContradiction
    intro hni
    have hne : q ≠ z := fun h => hni ⟨z, h⟩
    have h1' := one_le_dist q z hne
    have h2' := h1 q
    rw [hz] at h2'
    have h3 := abs_mul_den q
    have h4 : (q.num.natAbs : Rat) < ((2 ^ 53 : Nat) : Rat) := Rat.natCast_lt_natCast.2 hq
    rw [two_pow_cast] at h4
    have hdp := den_cast_pos q
    have hp := two_pow_pos 53
    generalize ((z : Rat) - q).abs = e at h1' h2'
    generalize q.abs = a at h2' h3
    generalize (q.den : Rat) = b at *
    generalize (q.num.natAbs : Rat) = c at *
    generalize (2 : Rat) ^ 53 = P at *
    -- 1 ≤ e * b,  e ≤ a / P,  a * b = c,  c < P
    have h5 : e * P ≤ a := by
      have := Rat.mul_le_mul_of_nonneg_right h2' (Rat.le_of_lt hp)
      rwa [Rat.div_mul_cancel (Rat.ne_of_gt hp)] at this
    have h6 : e * P * b ≤ a * b := Rat.mul_le_mul_of_nonneg_right h5 (Rat.le_of_lt hdp)
    have h7 : 1 * P ≤ e * b * P := Rat.mul_le_mul_of_nonneg_right h1' (Rat.le_of_lt hp)
    grind
  · rintro ⟨z, hz⟩
    subst hz
    exact ⟨z, h2 z (Nat.le_of_lt hq)⟩

theorem num_lt_of_bounds (q : Rat) (k d : Nat) (hk : q.abs < 2 ^ k) (hd : q.den ≤ 2 ^ d) :
    q.num.natAbs < 2 ^ (k + d) := by
  have h3 := abs_mul_den q
  have h1 : q.abs * (q.den : Rat) < 2 ^ k * (q.den : Rat) := Rat.mul_lt_mul_of_pos_right hk (den_cast_pos q)
  have h2 : (q.den : Rat) ≤ ((2 ^ d : Nat) : Rat) := Rat.natCast_le_natCast.2 hd
  have h4 : (2 : Rat) ^ k * (q.den : Rat) ≤ 2 ^ k * ((2 ^ d : Nat) : Rat) :=
    Rat.mul_le_mul_of_nonneg_left h2 (Rat.le_of_lt (two_pow_pos k))
  rw [h3] at h1
  have h5 : (q.num.natAbs : Rat) < ((2 ^ k * 2 ^ d : Nat) : Rat) := by
    rw [Rat.natCast_mul, two_pow_cast k]
    grind
  have := Rat.natCast_lt_natCast.1 h5
  rwa [← Nat.pow_add] at this

/-- no `m ≠ 0` is needed: Lean's `n / 0` is `0` -/
theorem multipleOf_float_exact (fl : Rat → Rat) (h1 : R1 fl) (h2 : R2 fl)
    (n m : Rat) (k d : Nat) (hk : (n / m).abs < 2 ^ k) (hd : (n / m).den ≤ 2 ^ d) (hkd : k + d ≤ 53) :
    (∃ z : Int, fl (n / m) = z) ↔ (∃ z : Int, n / m = z) :=
  float_int_iff fl h1 h2 (n / m)
    (Nat.lt_of_lt_of_le (num_lt_of_bounds _ k d hk hd) (Nat.pow_le_pow_right (by decide) hkd))

/-- the fractional part returned by Go's `math.Modf`: the integer part is the truncation toward zero, the fractional part
    has the sign of the argument -/
def modfFrac (x : Rat) : Rat := x - ((if 0 ≤ x then x.floor else x.ceil : Int) : Rat)

theorem modfFrac_eq_zero_iff (x : Rat) : modfFrac x = 0 ↔ IsInt x := by
  constructor
  · intro h
    refine ⟨if 0 ≤ x then x.floor else x.ceil, ?_⟩
    unfold modfFrac at h
    grind
  · rintro ⟨z, rfl⟩
    unfold modfFrac
    rw [Rat.floor_intCast, Rat.ceil_intCast]
    split <;> exact Rat.sub_self

/-- the verdict of the code (`f == 0` after `math.Modf(fl(n/m))`) against the exact verdict `den (n/m) = 1` -/
theorem modf_verdict_exact (fl : Rat → Rat) (h1 : R1 fl) (h2 : R2 fl)
    (q : Rat) (hq : q.num.natAbs < 2 ^ 53) : modfFrac (fl q) = 0 ↔ q.den = 1 := by
  rw [modfFrac_eq_zero_iff, float_int_iff fl h1 h2 q hq, isInt_iff_den]

theorem num_div_le (x y : Int) : ((x : Rat) / (y : Rat)).num.natAbs ≤ x.natAbs := by
  rw [← Rat.divInt_eq_div, Rat.num_divInt]
  refine Nat.le_trans (Int.natAbs_ediv_le_natAbs _ _) ?_
  rw [Int.natAbs_mul, Int.natAbs_sign]
  split <;> omega

/-- a dyadic operand `a · 2^e / 2^e'` (binary exponent `e − e'`) -/
def dy (a : Int) (e e' : Nat) : Rat := (a : Rat) * 2 ^ e / 2 ^ e'

/-- **`D_mult`**: an instance `a · 2^(e − e')` with `|a| < 2^20`, `e ≤ 10`, and a divisor `b · 2^(f − f')` with `f' ≤ 10`
    (the generators draw `|a|, |b| < 2^20`, `b ≠ 0` and all four exponents ≤ 10; only these three bounds matter for the
    quotient, the others make the operands themselves float64 values): the numerator of the quotient is below 2^40. -/
theorem dmult_num_lt (a b : Int) (e e' f f' : Nat) (ha : a.natAbs < 2 ^ 20) (he : e ≤ 10) (hf' : f' ≤ 10) :
    (dy a e e' / dy b f f').num.natAbs < 2 ^ 40 := by
  have hE : dy a e e' / dy b f f' =
      ((a * 2 ^ e * 2 ^ f' : Int) : Rat) / ((b * 2 ^ f * 2 ^ e' : Int) : Rat) := by
    unfold dy
    have h1 : (2 : Rat) ^ e' ≠ 0 := Rat.ne_of_gt (two_pow_pos e')
    have h2 : (2 : Rat) ^ f' ≠ 0 := Rat.ne_of_gt (two_pow_pos f')
    have h3 : (2 : Rat) ^ f ≠ 0 := Rat.ne_of_gt (two_pow_pos f)
    simp only [Rat.intCast_mul, Rat.intCast_pow]
    by_cases hb : (b : Rat) = 0
    · simp [hb, Rat.div_def]
    · show (a : Rat) * 2 ^ e / 2 ^ e' / ((b : Rat) * 2 ^ f / 2 ^ f') =
        (a : Rat) * 2 ^ e * 2 ^ f' / ((b : Rat) * 2 ^ f * 2 ^ e')
      grind
  rw [hE]
  refine Nat.lt_of_le_of_lt (num_div_le _ _) ?_
  rw [Int.natAbs_mul, Int.natAbs_mul, Int.natAbs_pow, Int.natAbs_pow]
  show a.natAbs * 2 ^ e * 2 ^ f' < 2 ^ 40
  have h1 : 2 ^ e ≤ 2 ^ 10 := Nat.pow_le_pow_right (by decide) he
  have h2 : 2 ^ f' ≤ 2 ^ 10 := Nat.pow_le_pow_right (by decide) hf'
  calc a.natAbs * 2 ^ e * 2 ^ f' ≤ a.natAbs * 2 ^ 10 * 2 ^ 10 := Nat.mul_le_mul (Nat.mul_le_mul_left _ h1) h2
    _ < 2 ^ 20 * 2 ^ 10 * 2 ^ 10 := by omega
    _ = 2 ^ 40 := by decide

/-- on `D_mult` the float verdict is the exact verdict -/
theorem dmult_float_exact (fl : Rat → Rat) (h1 : R1 fl) (h2 : R2 fl)
    (a b : Int) (e e' f f' : Nat) (ha : a.natAbs < 2 ^ 20) (he : e ≤ 10) (hf' : f' ≤ 10) :
    modfFrac (fl (dy a e e' / dy b f f')) = 0 ↔ (dy a e e' / dy b f f').den = 1 :=
  modf_verdict_exact fl h1 h2 _
    (Nat.lt_trans (dmult_num_lt a b e e' f f' ha he hf') (by decide))

/-- `2^53 / 3 = 3002399751580330 + 2/3`; the integer above it is within the relative error (R1) allows -/
def sharpQ : Rat := 2 ^ 53 / 3

def flSharp (x : Rat) : Rat := if x = sharpQ then 3002399751580331 else x

theorem flSharp_R1 : R1 flSharp := by
  intro x
  unfold flSharp
  split
  · next h => subst h; decide +kernel
  · exact R1_id x

theorem flSharp_R2 : R2 flSharp := by
  intro z _
  unfold flSharp
  rw [if_neg]
  intro h
  have h3 : ((z : Rat)).den = sharpQ.den := by rw [h]
  have h4 : sharpQ.den = 3 := by decide +kernel
  have h5 : ((z : Rat)).den = 1 := rfl
  rw [h4, h5] at h3
  exact absurd h3 (by decide)


/-- the nearest multiple of `u`, ties to the even multiple -/
def roundGrid (x u : Rat) : Rat :=
  let t := x / u
  let f := t.floor
  let r := t - (f : Rat)
  ((if r < 1/2 then f else if 1/2 < r then f + 1 else if f % 2 = 0 then f else f + 1 : Int) : Rat) * u

/-- the binade of `x ≠ 0`: `2^e ≤ |x| < 2^(e+1)` -/
def binade (x : Rat) : Int :=
  let e0 : Int := (x.num.natAbs.log2 : Int) - (x.den.log2 : Int)
  if x.abs < 2 ^ e0 then e0 - 1 else e0

/-- round to nearest even with a 53-bit significand (no overflow, no subnormals).  Used for the counterexample
    `rne53_counterexample` only: it is not shown to satisfy `R1` or `R2`. -/
def rne53 (x : Rat) : Rat := if x = 0 then 0 else roundGrid x (2 ^ (binade x - 52))

/-- sanity: `0.1` becomes the float64 `0x3FB999999999999A`, `1/3` becomes `0x3FD5555555555555`, short dyadics and 2^53 are
    unchanged, `2^53 + 1` is a tie and goes to the even neighbour -/
example : rne53 (1 / 10) = 7205759403792794 / 2 ^ 56 := by decide +kernel
example : rne53 (1 / 3) = 6004799503160661 / 2 ^ 54 := by decide +kernel
example : rne53 (15 / 2) = 15 / 2 := by decide +kernel
example : rne53 (-3 / 1024) = -3 / 1024 := by decide +kernel
example : rne53 (2 ^ 53) = 2 ^ 53 := by decide +kernel
example : rne53 (2 ^ 53 + 1) = 2 ^ 53 := by decide +kernel
example : rne53 (2 ^ 53 + 3) = 2 ^ 53 + 4 := by decide +kernel

/-- **Counterexample outside the domain** (`n = 2^55 = 36028797018963968`, `m = 3`, both float64 values): the exact
    quotient `12009599006321322 + 2/3` is not an integer, its float64 rounding (the doubles are 2 apart there) is the
    integer `12009599006321322`; the distance `2/3` is within the relative error `|q| / 2^53 = 4/3`.  The code accepts
    `2^55` as a multiple of `3`; exact division does not. -/
theorem rne53_counterexample :
    let q : Rat := 2 ^ 55 / 3
    q.num.natAbs = 2 ^ 55 ∧ q.den = 3 ∧ ¬ IsInt q ∧
    rne53 q = 12009599006321322 ∧ IsInt (rne53 q) ∧ modfFrac (rne53 q) = 0 ∧
    (rne53 q - q).abs = 2 / 3 ∧ q.abs / 2 ^ 53 = 4 / 3 := by
  decide +kernel

/-- inside the domain the same function agrees with exact division, e.g. `7.5 / 0.25 = 30` and `1 / 3` -/
example : modfFrac (rne53 ((15 / 2) / (1 / 4))) = 0 ∧ ((15 / 2 : Rat) / (1 / 4)).den = 1 := by decide +kernel
example : modfFrac (rne53 (1 / 3)) ≠ 0 ∧ ((1 : Rat) / 3).den ≠ 1 := by decide +kernel

end JSV.FloatMult
