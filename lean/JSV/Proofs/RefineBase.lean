/-
  For the refinement proof: `StoreWF`, facts about `ofJson`, the assertion blocks, the representation lemmas of
  the compressed annotation record (`Ext`, `Blk`), and the list combinators of the Spec.
-/
import JSV.Proofs.Vocab
import JSV.Proofs.Equal
namespace JSV
namespace Refine
open Go GoVal

/-- keys of the `properties` map of every schema node are distinct (Go maps have unique keys) -/
def StoreWF (st : Store) : Prop :=
  ∀ s n, st.get? s = some n → (Json.nodupKeys ((n.properties.getD []).map (·.1))) = true

theorem ofJsonList_eq_map (xs : List Json) :
    ofJsonList xs = xs.map (fun x => GoVal.iface (ofJson x)) := by
  induction xs with
  | nil => simp [ofJsonList]
  | cons x xs ih => simp [ofJsonList, ih]

theorem ofJsonObj_eq_map (kvs : List (String × Json)) :
    ofJsonObj kvs = kvs.map (fun p => (p.1, GoVal.iface (ofJson p.2))) := by
  induction kvs with
  | nil => simp [ofJsonObj]
  | cons p kvs ih => obtain ⟨k, v⟩ := p; simp [ofJsonObj, ih]

@[simp] theorem strip_iface (v : GoVal) : strip (.iface v) = strip v := by simp [strip]

theorem strip_ofJson (j : Json) : strip (ofJson j) = ofJson j := by
  cases j <;> simp [ofJson, strip]

theorem denoteList_ofJsonList : ∀ (xs : List Json), (∀ x, x ∈ xs → denote (ofJson x) = some x) →
    denoteList (ofJsonList xs) = some xs
  | [], _ => by simp [ofJsonList, denoteList]
  | x :: xs, h => by
    have h1 := h x (by simp)
    have h2 := denoteList_ofJsonList xs (fun y hy => h y (by simp [hy]))
    simp [ofJsonList, denoteList, denote, h1, h2]

theorem denoteObj_ofJsonObj : ∀ (kvs : List (String × Json)), (∀ k v, (k, v) ∈ kvs → denote (ofJson v) = some v) →
    denoteObj (ofJsonObj kvs) = some kvs
  | [], _ => by simp [ofJsonObj, denoteObj]
  | (k, v) :: kvs, h => by
    have h1 := h k v (by simp)
    have h2 := denoteObj_ofJsonObj kvs (fun k' v' hy => h k' v' (by simp [hy]))
    simp [ofJsonObj, denoteObj, denote, h1, h2]

theorem denote_ofJson : ∀ j : Json, denote (ofJson j) = some j := by
  apply Json.induct
  · simp [ofJson, denote]
  · intro b; simp [ofJson, denote]
  · intro q; simp [ofJson, denote]
  · intro s; simp [ofJson, denote]
  · intro xs ih; simp [ofJson, denote, denoteList_ofJsonList xs ih]
  · intro kvs ih; simp [ofJson, denote, denoteObj_ofJsonObj kvs ih]

theorem jsonType_ofJson (j : Json) : jsonType (ofJson j) = some j.typeName := by
  cases j <;> simp [ofJson, jsonType, Json.typeName]

theorem jsonNumber_ofJson_num (q : Rat) : jsonNumber (ofJson (.num q)) = some q := by
  simp [ofJson, jsonNumber]

theorem jsonNumber_ofJson_of_not_num (j : Json) (h : ∀ q, j ≠ .num q) : jsonNumber (ofJson j) = none := by
  cases j <;> simp [ofJson, jsonNumber] at *

theorem stringOf_ofJson_str (s : String) : stringOf (ofJson (.str s)) = some s := by
  simp [ofJson, stringOf]

theorem stringOf_ofJson_of_not_str (j : Json) (h : ∀ s, j ≠ .str s) : stringOf (ofJson j) = none := by
  cases j <;> simp [ofJson, stringOf] at *

theorem lookup_ofJsonObj (k : String) (kvs : List (String × Json)) :
    Json.lookup k (ofJsonObj kvs) = (Json.lookup k kvs).map (fun v => GoVal.iface (ofJson v)) := by
  rw [ofJsonObj_eq_map]; exact Json.lookup_map_snd (fun v => GoVal.iface (ofJson v)) k kvs

theorem any_typeMatches (got : String) (ts : List String) :
    (ts.any fun t => got == t || (got == "integer" && t == "number"))
      = (ts.contains got || (got == "integer" && ts.contains "number")) := by
  induction ts with
  | nil => simp
  | cons t ts ih =>
    simp only [List.any_cons, ih, List.contains_cons]
    have : ("number" == t) = (t == "number") := by
      rw [Bool.eq_iff_iff, beq_iff_eq, beq_iff_eq]; exact eq_comm
    rw [this]
    cases (got == t) <;> cases (got == "integer") <;> cases (t == "number") <;>
      cases (List.contains ts got) <;> cases (List.contains ts "number") <;> rfl

/-- an assertion block's outcome: nil or an error, nothing else -/
def okIf (b : Bool) : Res Unit := if b then .ok () else .err
@[simp] theorem okIf_true : okIf true = .ok () := rfl
@[simp] theorem okIf_false : okIf false = .err := rfl
theorem ite_err_okIf (c : Bool) (b : Bool) : (if c = true then Res.err else okIf b) = okIf (!c && b) := by
  cases c <;> simp
theorem ite_okIf (b : Bool) : (if b = true then Res.ok () else Res.err) = okIf b := rfl

theorem bind_okIf {β} (b : Bool) (f : Unit → Res β) : Res.bind (okIf b) f = if b = true then f () else .err := by
  cases b <;> rfl

theorem bType_eq (n : Node) (j : Json) : bType n (ofJson j) = okIf (Spec.typeOk n j) := by
  unfold bType Spec.typeOk okIf
  rw [jsonType_ofJson]
  by_cases h1 : n.type = ""
  · cases h2 : n.types with
    | none => simp [h1]
    | some ts => simp [h1, Spec.typeMatches, any_typeMatches]
  · simp [h1, Spec.typeMatches]

theorem equalValue_ofJson (e j : Json) : equalValue (ofJson e) (ofJson j) = .ok (Json.eqv e j) :=
  Go.equalValue_eq (ofJson e) (ofJson j) e j (denote_ofJson e) (denote_ofJson j)

theorem enumLoop_eq (j : Json) : ∀ es, enumLoop (ofJson j) es = .ok (es.any fun e => Json.eqv e j)
  | [] => by simp [enumLoop]
  | e :: es => by
    rw [enumLoop, equalValue_ofJson]
    simp only [Res.bind_ok, List.any_cons]
    cases Json.eqv e j <;> simp [enumLoop_eq j es]

theorem bEnum_eq (n : Node) (j : Json) : bEnum n (ofJson j) = okIf (Spec.enumOk n j) := by
  unfold bEnum Spec.enumOk
  cases n.enum with
  | none => simp
  | some es => simp only [enumLoop_eq, Res.bind_ok, ite_okIf]

theorem bConst_eq (n : Node) (j : Json) : bConst n (ofJson j) = okIf (Spec.constOk n j) := by
  unfold bConst Spec.constOk
  cases n.const with
  | none => simp
  | some c => simp only [equalValue_ofJson, Res.bind_ok, ite_okIf]

theorem rat_le (a b : Rat) : decide (a ≤ b) = !decide (b < a) := by
  by_cases h : b < a
  · have := Rat.not_le.2 h; simp [h, this]
  · have := Rat.not_lt.1 h; simp [h, this]

theorem int_le (a b : Int) : decide (a ≤ b) = !decide (b < a) := by
  by_cases h : b < a
  · have := Int.not_le.2 h; simp [h, this]
  · have := Int.not_lt.1 h; simp [h, this]

theorem and_eq_and {a a' b b' : Bool} (ha : a = a') (hb : b = b') : (a && b) = (a' && b') := by rw [ha, hb]

/-- a block guarded by "some keyword of the group is present" -/
theorem ite_okIf_of {c b b' : Bool} (hb : b = b') (h : c = false → b' = true) :
    (if c = true then okIf b else okIf true) = okIf b' := by
  subst hb; cases c
  · rw [h rfl]; rfl
  · rfl

/-- The guards of a block are compared with the Spec's conjunction one keyword at a time. -/
theorem bNumeric_eq (n : Node) (j : Json) : bNumeric n (ofJson j) = okIf (Spec.numericOk n j) := by
  unfold bNumeric
  cases j with
  | num q =>
    simp only [jsonNumber_ofJson_num]
    -- the innermost `.ok ()` read as `okIf true`, so that `ite_err_okIf` folds the cascade of guards into one `okIf`
    rw [← okIf_true]
    simp only [ite_err_okIf, Bool.and_true]
    refine ite_okIf_of ?_ fun hc => ?_
    · simp only [Spec.numericOk, Bool.and_assoc]
      refine and_eq_and ?_ (and_eq_and ?_ (and_eq_and ?_ (and_eq_and ?_ ?_)))
      · cases n.multipleOf <;> simp only [multipleOk, Bool.not_false, Bool.not_not]
      · cases n.minimum <;> simp only [rat_le, Bool.not_false]
      · cases n.maximum <;> simp only [rat_le, Bool.not_false, GT.gt]
      · cases n.exclusiveMinimum <;> simp only [rat_le, Bool.not_false, Bool.not_not]
      · cases n.exclusiveMaximum <;> simp only [rat_le, Bool.not_false, Bool.not_not, GE.ge]
    · simp only [Bool.or_eq_false_iff, Option.isSome_eq_false_iff, Option.isNone_iff_eq_none] at hc
      obtain ⟨⟨⟨⟨h1, h2⟩, h3⟩, h4⟩, h5⟩ := hc
      simp only [Spec.numericOk, h1, h2, h3, h4, h5]
      rfl
  | _ => simp only [ofJson, jsonNumber, ite_self, Spec.numericOk, okIf_true]

theorem bString_eq (env : VEnv) (n : Node) (i : Info) (j : Json) :
    bString env n (some i) (ofJson j) = okIf (Spec.stringOk (specEnvOf env) n j) := by
  unfold bString
  cases j with
  | str s =>
    have hpat : (if (n.pattern != "") = true then (if env.reMatch n.pattern s = true then Res.ok () else .err)
        else .ok ()) = okIf (n.pattern == "" || env.reMatch n.pattern s) := by
      by_cases hp : n.pattern = ""
      · simp only [hp, bne_self_eq_false, Bool.false_eq_true, if_false, beq_self_eq_true, Bool.true_or, okIf_true]
      · simp only [bne_iff_ne, ne_eq, hp, not_false_eq_true, if_true, beq_eq_false_iff_ne.2 hp, Bool.false_or, ite_okIf]
    simp only [stringOf_ofJson_str, hpat]
    rw [← okIf_true]
    simp only [ite_err_okIf]
    refine ite_okIf_of ?_ fun hc => ?_
    · simp only [Spec.stringOk, specEnvOf, Bool.and_assoc]
      refine and_eq_and ?_ (and_eq_and ?_ rfl)
      · cases n.minLength <;> simp only [int_le, Bool.not_false]
      · cases n.maxLength <;> simp only [int_le, Bool.not_false, GT.gt]
    · simp only [Bool.or_eq_false_iff, Option.isSome_eq_false_iff, Option.isNone_iff_eq_none, bne_eq_false_iff_eq] at hc
      obtain ⟨⟨h1, h2⟩, h3⟩ := hc
      simp only [Spec.stringOk, h1, h2, h3, beq_self_eq_true, Bool.true_or, Bool.and_self]
  | _ => simp only [ofJson, stringOf, Spec.stringOk, okIf_true]

theorem γprop_merge (a b : Anns) (k : String) : γprop (a.merge b) k = (γprop a k || γprop b k) := by
  simp only [γprop, Anns.merge, List.contains_append]
  ac_rfl

theorem decide_lt_max (i x y : Nat) :
    decide (i < (if y > x then y else x)) = (decide (i < x) || decide (i < y)) := by
  rw [Bool.eq_iff_iff]
  simp only [decide_eq_true_eq, Bool.or_eq_true]
  split <;> omega

theorem γitem_merge (a b : Anns) (i : Nat) : γitem (a.merge b) i = (γitem a i || γitem b i) := by
  have hE : decide (i < (a.merge b).endIndex) = (decide (i < a.endIndex) || decide (i < b.endIndex)) :=
    decide_lt_max i a.endIndex b.endIndex
  have h1 : (a.merge b).allItems = (a.allItems || b.allItems) := rfl
  have h2 : (a.merge b).evaluatedIndexes = a.evaluatedIndexes ++ b.evaluatedIndexes := rfl
  unfold γitem
  rw [hE, h1, h2, List.contains_append]
  ac_rfl

theorem γprop_noteProperties (a : Anns) (ps : List String) (k : String) :
    γprop (a.noteProperties ps) k = (γprop a k || ps.contains k) := by
  simp only [γprop, Anns.noteProperties, List.contains_append, Bool.or_assoc]

theorem γitem_noteProperties (a : Anns) (ps : List String) (i : Nat) :
    γitem (a.noteProperties ps) i = γitem a i := rfl

theorem γitem_noteEndIndex (a : Anns) (e i : Nat) :
    γitem (a.noteEndIndex e) i = (γitem a i || decide (i < e)) := by
  by_cases hgt : e > a.endIndex
  · rw [Anns.noteEndIndex, if_pos hgt]
    have : decide (i < e) = (decide (i < a.endIndex) || decide (i < e)) := by
      rw [Bool.eq_iff_iff]; simp only [decide_eq_true_eq, Bool.or_eq_true]; omega
    unfold γitem
    show (a.allItems || decide (i < e) || a.evaluatedIndexes.contains i) = _
    rw [this]
    ac_rfl
  · rw [Anns.noteEndIndex, if_neg hgt]
    have : decide (i < a.endIndex) = (decide (i < a.endIndex) || decide (i < e)) := by
      rw [Bool.eq_iff_iff]; simp only [decide_eq_true_eq, Bool.or_eq_true]; omega
    unfold γitem
    rw [this]
    ac_rfl

theorem γprop_noteEndIndex (a : Anns) (e : Nat) (k : String) : γprop (a.noteEndIndex e) k = γprop a k := by
  simp only [γprop, Anns.noteEndIndex]; split <;> rfl

theorem γitem_noteIndex (a : Anns) (i' i : Nat) :
    γitem (a.noteIndex i') i = (γitem a i || decide (i = i')) := by
  have : [i'].contains i = decide (i = i') := by simp
  unfold γitem
  show (a.allItems || decide (i < a.endIndex) || (a.evaluatedIndexes ++ [i']).contains i) = _
  rw [List.contains_append, this]
  simp only [Bool.or_assoc]

theorem γprop_noteIndex (a : Anns) (i' : Nat) (k : String) : γprop (a.noteIndex i') k = γprop a k := rfl

theorem γitem_allItems (a : Anns) (i : Nat) : γitem { a with allItems := true } i = true := by simp [γitem]
theorem γprop_allItems (a : Anns) (k : String) : γprop { a with allItems := true } k = γprop a k := rfl
theorem γprop_allProperties (a : Anns) (k : String) : γprop { a with allProperties := true } k = true := by
  simp [γprop]
theorem γitem_allProperties (a : Anns) (i : Nat) : γitem { a with allProperties := true } i = γitem a i := rfl
theorem γprop_empty (k : String) : γprop {} k = false := by simp [γprop]
theorem γitem_empty (i : Nat) : γitem {} i = false := by simp [γitem]

/-- `a'` stands for what `a` stands for, plus `ev` (on the properties / items of `j`) -/
def Ext (j : Json) (a a' : Anns) (ev : Spec.Ev) : Prop :=
  (∀ k, k ∈ keysOf j → γprop a' k = (γprop a k || ev.props.contains k)) ∧
  (∀ i, i < lenOf j → γitem a' i = (γitem a i || ev.items.contains i))

theorem Ext_refl (j : Json) (a : Anns) : Ext j a a {} := by
  constructor <;> intros <;> simp

theorem Ext_trans {j : Json} {a b c : Anns} {e1 e2 : Spec.Ev} (h1 : Ext j a b e1) (h2 : Ext j b c e2) :
    Ext j a c (e1.union e2) := by
  constructor
  · intro k hk; rw [h2.1 k hk, h1.1 k hk]; simp only [Spec.Ev.union, List.contains_append, Bool.or_assoc]
  · intro i hi; rw [h2.2 i hi, h1.2 i hi]; simp only [Spec.Ev.union, List.contains_append, Bool.or_assoc]

theorem Ext_merge {j : Json} (a : Anns) {b : Anns} {ev : Spec.Ev} (h : AnnsMatch j b ev) :
    Ext j a (a.merge b) ev := by
  constructor
  · intro k hk; rw [γprop_merge, h.1 k hk]
  · intro i hi; rw [γitem_merge, h.2 i hi]

theorem AnnsMatch_empty (j : Json) : AnnsMatch j {} {} := by
  constructor <;> intros <;> simp [γprop, γitem]

theorem AnnsMatch_of_Ext {j : Json} {a a' : Anns} {e0 e : Spec.Ev} (h0 : AnnsMatch j a e0) (h : Ext j a a' e) :
    AnnsMatch j a' (e0.union e) := by
  constructor
  · intro k hk; rw [h.1 k hk, h0.1 k hk]; simp only [Spec.Ev.union, List.contains_append]
  · intro i hi; rw [h.2 i hi, h0.2 i hi]; simp only [Spec.Ev.union, List.contains_append]

/-- what a block that threads the annotations must do when its keyword evaluates to `r` -/
def Blk (j : Json) (a : Anns) (r : Spec.R) (m : Res Anns) : Prop :=
  match r with
  | none => m = .err
  | some ev => ∃ a', m = .ok a' ∧ Ext j a a' ev

/-- `Spec.conj` of two results (`conj_cons`) -/
def conj2 (r1 r2 : Spec.R) : Spec.R :=
  match r1, r2 with
  | some e1, some e2 => some (e1.union e2)
  | _, _ => none

@[simp] theorem conj2_none_left (r : Spec.R) : conj2 none r = none := rfl
@[simp] theorem conj2_none_right (r : Spec.R) : conj2 r none = none := by cases r <;> rfl
@[simp] theorem conj2_some (e1 e2 : Spec.Ev) : conj2 (some e1) (some e2) = some (e1.union e2) := rfl

theorem Blk_of_Ext {j : Json} {a a1 : Anns} {e : Spec.Ev} {r : Spec.R} {m : Res Anns}
    (hx : Ext j a a1 e) (hb : Blk j a1 r m) : Blk j a (conj2 (some e) r) m := by
  cases r with
  | none => exact hb
  | some e2 => obtain ⟨a2, hm, hx2⟩ := hb; exact ⟨a2, hm, Ext_trans hx hx2⟩

theorem Blk_bind {j : Json} {a : Anns} {r1 r2 : Spec.R} {m1 : Res Anns} {f : Anns → Res Anns}
    (h1 : Blk j a r1 m1) (h2 : ∀ a1, Blk j a1 r2 (f a1)) : Blk j a (conj2 r1 r2) (Res.bind m1 f) := by
  cases r1 with
  | none => simp only [Blk] at h1; simp [h1, Blk]
  | some e1 =>
    obtain ⟨a1, rfl, hx⟩ := h1
    exact Blk_of_Ext hx (h2 a1)

theorem Blk_ok (j : Json) (a : Anns) : Blk j a (some {}) (.ok a) := ⟨a, rfl, Ext_refl j a⟩

open Spec in
theorem sequence_eq_some {α} : ∀ {l : List (Option α)} {rs : List α}, sequence l = some rs ↔ l = rs.map some
  | [], rs => by cases rs <;> simp [sequence]
  | none :: l, rs => by cases rs <;> simp [sequence]
  | some a :: l, rs => by
    cases rs with
    | nil => simp [sequence]
    | cons r rs =>
      simp only [sequence, Option.map_eq_some_iff, List.map_cons, List.cons.injEq, Option.some.injEq]
      constructor
      · rintro ⟨rs', h, rfl, rfl⟩; exact ⟨rfl, sequence_eq_some.1 h⟩
      · rintro ⟨rfl, h⟩; exact ⟨rs, sequence_eq_some.2 h, rfl, rfl⟩

theorem sequence_cons_eq_some {α} {o : Option α} {l : List (Option α)} {rs : List α}
    (h : Spec.sequence (o :: l) = some rs) :
    ∃ r rs', o = some r ∧ Spec.sequence l = some rs' ∧ rs = r :: rs' := by
  have := sequence_eq_some.1 h
  cases rs with
  | nil => simp at this
  | cons r rs' =>
    simp only [List.map_cons, List.cons.injEq] at this
    exact ⟨r, rs', this.1, sequence_eq_some.2 this.2, rfl⟩

theorem sequence_map_some {α} (rs : List α) : Spec.sequence (rs.map some) = some rs :=
  sequence_eq_some.2 rfl

theorem foldl_union (es : List Spec.Ev) (e0 : Spec.Ev) :
    es.foldl Spec.Ev.union e0 = ⟨e0.props ++ es.flatMap (·.props), e0.items ++ es.flatMap (·.items)⟩ := by
  induction es generalizing e0 with
  | nil => simp
  | cons e es ih => simp [ih, Spec.Ev.union, List.append_assoc]

theorem unions_eq (es : List Spec.Ev) : Spec.Ev.unions es = ⟨es.flatMap (·.props), es.flatMap (·.items)⟩ := by
  simp [Spec.Ev.unions, foldl_union]

theorem unions_nil : Spec.Ev.unions [] = {} := rfl
theorem unions_cons (e : Spec.Ev) (es : List Spec.Ev) :
    Spec.Ev.unions (e :: es) = e.union (Spec.Ev.unions es) := by
  simp [unions_eq, Spec.Ev.union]

theorem conj_nil : Spec.conj [] = some {} := rfl

theorem conj_cons (r : Spec.R) (rs : List Spec.R) : Spec.conj (r :: rs) = conj2 r (Spec.conj rs) := by
  cases r with
  | none => simp [Spec.conj]
  | some e =>
    by_cases h : rs.all Option.isSome = true
    · simp [Spec.conj, h, unions_cons]
    · simp [Spec.conj, h]

theorem validCount_cons (r : Spec.R) (rs : List Spec.R) :
    Spec.validCount (r :: rs) = (if r.isSome then 1 else 0) + Spec.validCount rs := by
  cases r <;> simp [Spec.validCount] <;> omega

theorem validUnion_cons_none (rs : List Spec.R) : Spec.validUnion (none :: rs) = Spec.validUnion rs := by
  simp [Spec.validUnion]

theorem validUnion_cons_some (e : Spec.Ev) (rs : List Spec.R) :
    Spec.validUnion (some e :: rs) = e.union (Spec.validUnion rs) := by
  simp [Spec.validUnion, unions_cons]

def okOut (o : Spec.Out) : Bool :=
  match o with
  | some (some _) => true
  | _ => false

theorem allHold_map_some (rs : List Spec.R) : Spec.allHold rs = (rs.map some).all okOut := by
  rw [Spec.allHold, List.all_map]
  congr 1
  funext r
  cases r <;> rfl

/-- the shape shared by the keywords that only require every sub-application to hold -/
theorem sequence_allHold {l : List Spec.Out} {rs : List Spec.R} (h : Spec.sequence l = some rs) :
    (∀ o, o ∈ l → ∃ r, o = some r) ∧ Spec.allHold rs = l.all okOut := by
  have hl := sequence_eq_some.1 h
  subst hl
  refine ⟨?_, allHold_map_some rs⟩
  intro o ho
  obtain ⟨r, _, hr⟩ := List.mem_map.1 ho
  exact ⟨r, hr.symm⟩

end Refine
end JSV
