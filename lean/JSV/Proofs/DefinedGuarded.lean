/-
  The rank certificate is complete: on an environment whose edge targets are nodes of the store (`Go.closed`),
  the cycle search `Go.guarded` succeeds iff the rank table is a certificate (`Go.ranked`).
  `ranked → guarded` is `Refine.ranked_guarded` (JSV/Proofs/Defined.lean); here the converse:

  * the breadth-first search of `guarded`, run with `size + 1` rounds, returns a set that contains the successors of
    its starting point and is closed under successors (it cannot run out of rounds: every round adds a new node of the
    store), so a schema that reaches itself in place is found;
  * a table entry `m` after `k` rounds of relaxation is witnessed by an in-place walk of length `m`; a walk of length
    `size + 1` repeats a schema (pigeonhole), i.e. contains a cycle; hence without cycles the entries are `≤ size`;
  * an entry `≤ k` after `k + 1` rounds is already there after `k` rounds, so after `size + 1` rounds the table is a
    fixed point of the relaxation, which is what `ranked` checks.
-/
import JSV.Proofs.Defined
import JSV.Proofs.ListFacts
namespace JSV
namespace Refine
open Go

theorem supFrom_congr (r r' : Array Nat) (ts : List NodeId) (a : Nat)
    (h : ∀ t, t ∈ ts → r.getD t 0 = r'.getD t 0) : supFrom r ts a = supFrom r' ts a := by
  rw [supFrom_eq, supFrom_eq, List.map_congr_left fun t ht => congrArg (· + 1) (h t ht)]

theorem inPlaceEdges_nil_of_ge (env : VEnv) (s : NodeId) (h : env.st.size ≤ s) : inPlaceEdges env s = [] := by
  unfold inPlaceEdges
  have : env.st.get? s = none := Array.getElem?_eq_none h
  rw [this]

theorem relaxRanks_getD (env : VEnv) (r : Array Nat) (s : NodeId) :
    (relaxRanks (inPlaceTable env) r).getD s 0 = supFrom r (inPlaceEdges env s) 0 := by
  unfold relaxRanks inPlaceTable
  rw [Array.getD_eq_getD_getElem?, List.getElem?_toArray, List.map_map, List.getElem?_map]
  by_cases hs : s < env.st.size
  · rw [List.getElem?_range hs]
    rfl
  · have hs' : env.st.size ≤ s := Nat.le_of_not_lt hs
    rw [List.getElem?_eq_none (by rw [List.length_range]; exact hs'), inPlaceEdges_nil_of_ge env s hs']
    rfl

theorem iterRanks_succ (edges : List (List NodeId)) : ∀ (k : Nat) (r : Array Nat),
    iterRanks edges (k + 1) r = relaxRanks edges (iterRanks edges k r)
  | 0, _ => rfl
  | k + 1, r => by
    show iterRanks edges (k + 1) (relaxRanks edges r) = _
    rw [iterRanks_succ edges k (relaxRanks edges r)]
    rfl

/-- the rank table after `k` rounds of relaxation (`Go.rankTable` is `tableAt env (size + 1)`) -/
def tableAt (env : VEnv) (k : Nat) : Array Nat := iterRanks (inPlaceTable env) k #[]

theorem tableAt_zero (env : VEnv) (s : NodeId) : (tableAt env 0).getD s 0 = 0 := rfl

theorem tableAt_succ (env : VEnv) (k : Nat) (s : NodeId) :
    (tableAt env (k + 1)).getD s 0 = supFrom (tableAt env k) (inPlaceEdges env s) 0 := by
  unfold tableAt
  rw [iterRanks_succ, relaxRanks_getD]

theorem tableAt_stable (env : VEnv) : ∀ (k : Nat) (s : NodeId), (tableAt env (k + 1)).getD s 0 ≤ k →
    (tableAt env (k + 1)).getD s 0 = (tableAt env k).getD s 0
  | 0, s, h => by
    rw [tableAt_zero]
    omega
  | k + 1, s, h => by
    rw [tableAt_succ env (k + 1) s] at h ⊢
    rw [tableAt_succ env k s]
    apply supFrom_congr
    intro t ht
    have h1 := mem_le_supFrom (tableAt env (k + 1)) (inPlaceEdges env s) 0 t ht
    exact tableAt_stable env k t (by omega)

inductive Reach (env : VEnv) : NodeId → NodeId → Prop where
  | step {s t : NodeId} : t ∈ inPlaceEdges env s → Reach env s t
  | cons {s t u : NodeId} : t ∈ inPlaceEdges env s → Reach env t u → Reach env s u

theorem tableAt_walk (env : VEnv) : ∀ (k : Nat) (s : NodeId) (m : Nat), (tableAt env k).getD s 0 = m →
    ∃ f : Nat → NodeId, f 0 = s ∧ ∀ i, i < m → f (i + 1) ∈ inPlaceEdges env (f i)
  | 0, s, m, h => by
    rw [tableAt_zero] at h
    exact ⟨fun _ => s, rfl, fun i hi => by omega⟩
  | k + 1, s, m, h => by
    rw [tableAt_succ] at h
    rcases supFrom_witness (tableAt env k) (inPlaceEdges env s) 0 with h0 | ⟨t, ht, hw⟩
    · exact ⟨fun _ => s, rfl, fun i hi => by omega⟩
    · obtain ⟨f, hf0, hf⟩ := tableAt_walk env k t ((tableAt env k).getD t 0) rfl
      refine ⟨fun i => match i with | 0 => s | i + 1 => f i, rfl, ?_⟩
      intro i hi
      cases i with
      | zero =>
        show f 0 ∈ inPlaceEdges env s
        rw [hf0]
        exact ht
      | succ i =>
        show f (i + 1) ∈ inPlaceEdges env (f i)
        exact hf i (by omega)

theorem walk_reach (env : VEnv) (f : Nat → NodeId) (m : Nat) (hf : ∀ i, i < m → f (i + 1) ∈ inPlaceEdges env (f i)) :
    ∀ (d i : Nat), i + d + 1 ≤ m → Reach env (f i) (f (i + d + 1))
  | 0, i, h => Reach.step (hf i (by omega))
  | d + 1, i, h => by
    have h1 := walk_reach env f m hf d (i + 1) (by omega)
    rw [show i + 1 + d + 1 = i + (d + 1) + 1 by omega] at h1
    exact Reach.cons (hf i (by omega)) h1

theorem tableAt_le_size (env : VEnv) (hac : ∀ u, u < env.st.size → ¬ Reach env u u) (k : Nat) (s : NodeId) :
    (tableAt env k).getD s 0 ≤ env.st.size := by
  apply Classical.byContradiction
  intro hgt
  obtain ⟨f, _, hf⟩ := tableAt_walk env k s _ rfl
  have hlt : ∀ i, i ≤ env.st.size → f i < env.st.size := fun i hi =>
    inPlaceEdges_lt_size env (f i) (f (i + 1)) (hf i (by omega))
  obtain ⟨i, j, hij, hj, he⟩ := pigeon env.st.size f hlt
  have hr := walk_reach env f _ hf (j - i - 1) i (by omega)
  rw [show i + (j - i - 1) + 1 = j by omega, ← he] at hr
  exact hac (f i) (hlt i (by omega)) hr

theorem ranked_of_acyclic (env : VEnv) (hac : ∀ u, u < env.st.size → ¬ Reach env u u) : ranked env = true := by
  unfold ranked rankedBy
  apply List.all_eq_true.2
  intro s _
  apply List.all_eq_true.2
  intro t ht
  apply decide_eq_true
  show (tableAt env (env.st.size + 1)).getD t 0 < (tableAt env (env.st.size + 1)).getD s 0
  have h1 := tableAt_stable env env.st.size t (tableAt_le_size env hac _ t)
  have h2 := mem_le_supFrom (tableAt env env.st.size) (inPlaceEdges env s) 0 t ht
  rw [← tableAt_succ] at h2
  omega

/-- what the search maintains: the nodes seen are distinct nodes of the store, every round so far added one, and the
    successors of everything handled (the start `u`, the nodes seen that are not on the frontier) have been seen -/
structure BfsInv (env : VEnv) (u : NodeId) (fuel : Nat) (frontier seen : List NodeId) : Prop where
  nodup : seen.Nodup
  bound : ∀ x, x ∈ seen → x < env.st.size
  count : env.st.size + 1 ≤ fuel + seen.length
  handled : ∀ y, (y = u ∨ y ∈ seen) → y ∉ frontier → ∀ x, x ∈ inPlaceEdges env y → x ∈ seen

def SuccClosed (env : VEnv) (u : NodeId) (R : List NodeId) : Prop :=
  ∀ y, (y = u ∨ y ∈ R) → ∀ x, x ∈ inPlaceEdges env y → x ∈ R

theorem reachFrom_closed (env : VEnv) (hin : ∀ y x, x ∈ inPlaceEdges env y → x < env.st.size) (u : NodeId) :
    ∀ (fuel : Nat) (frontier seen : List NodeId), BfsInv env u fuel frontier seen →
      SuccClosed env u (reachFrom env fuel frontier seen)
  | 0, frontier, seen, inv => by
    have hsub : seen ⊆ List.range env.st.size := fun x hx => List.mem_range.2 (inv.bound x hx)
    have h1 := inv.nodup.length_le_of_subset hsub
    rw [List.length_range] at h1
    have h2 := inv.count
    omega
  | fuel + 1, frontier, seen, inv => by
    unfold reachFrom
    simp only
    generalize hnext : ((frontier.flatMap (inPlaceEdges env)).eraseDups.filter fun x => !seen.contains x) = next
    have hmem : ∀ x, x ∈ next ↔ (∃ y, y ∈ frontier ∧ x ∈ inPlaceEdges env y) ∧ x ∉ seen := by
      intro x
      rw [← hnext, List.mem_filter, List.mem_eraseDups, List.mem_flatMap]
      simp only [Bool.not_eq_true', List.contains_eq_mem, decide_eq_false_iff_not]
    have hnd : next.Nodup := by
      rw [← hnext]
      exact (nodup_eraseDups _).filter _
    split
    · rename_i he
      have hnil : next = [] := List.isEmpty_iff.1 he
      intro y hy x hx
      by_cases hyf : y ∈ frontier
      · exact Classical.byContradiction fun hxs => List.ne_nil_of_mem ((hmem x).2 ⟨⟨y, hyf, hx⟩, hxs⟩) hnil
      · exact inv.handled y hy hyf x hx
    · rename_i he
      have hpos : 1 ≤ next.length := List.length_pos_iff.2 (mt List.isEmpty_iff.2 he)
      apply reachFrom_closed env hin u fuel next (seen ++ next)
      refine ⟨?_, ?_, ?_, ?_⟩
      · exact List.nodup_append.2 ⟨inv.nodup, hnd, fun a ha b hb hab => ((hmem b).1 hb).2 (hab ▸ ha)⟩
      · intro x hx
        rcases List.mem_append.1 hx with hx | hx
        · exact inv.bound x hx
        · obtain ⟨⟨y, _, hxy⟩, _⟩ := (hmem x).1 hx
          exact hin y x hxy
      · have h2 := inv.count
        rw [List.length_append]
        omega
      · intro y hy hyn x hx
        have hy' : y = u ∨ y ∈ seen := hy.imp_right fun hy => (List.mem_append.1 hy).resolve_right hyn
        by_cases hyf : y ∈ frontier
        · by_cases hxs : x ∈ seen
          · exact List.mem_append_left _ hxs
          · exact List.mem_append_right _ ((hmem x).2 ⟨⟨y, hyf, hx⟩, hxs⟩)
        · exact List.mem_append_left _ (inv.handled y hy' hyf x hx)

theorem reach_mem_closed (env : VEnv) (u : NodeId) (R : List NodeId) (hR : SuccClosed env u R) {y x : NodeId}
    (h : Reach env y x) : (y = u ∨ y ∈ R) → x ∈ R := by
  induction h with
  | step hxs => intro hy; exact hR _ hy _ hxs
  | cons hts _ ih => intro hy; exact ih (Or.inr (hR _ hy _ hts))

theorem acyclic_of_guarded (env : VEnv) (hc : closed env = true) (hg : guarded env = true) :
    ∀ u, u < env.st.size → ¬ Reach env u u := by
  intro u hu hr
  have hin : ∀ y x, x ∈ inPlaceEdges env y → x < env.st.size := by
    intro y x hx
    have hy := inPlaceEdges_lt_size env y x hx
    have hn : env.st.get? y = some env.st[y] := Array.getElem?_eq_getElem hy
    exact (closed_spec env hc y _ hn).2 x (List.mem_append_left _ hx)
  have inv : BfsInv env u (env.st.size + 1) [u] [] := by
    refine ⟨List.nodup_nil, (fun _ hx => nomatch hx), ?_, ?_⟩
    · simp only [List.length_nil]
      omega
    · intro y hy hyf x _
      rcases hy with hy | hy
      · exact absurd (List.mem_singleton.2 hy) hyf
      · cases hy
  have hcl := reachFrom_closed env hin u (env.st.size + 1) [u] [] inv
  have hmem := reach_mem_closed env u _ hcl hr (Or.inl rfl)
  unfold guarded at hg
  have h1 := List.all_eq_true.1 hg u (List.mem_range.2 hu)
  simp only [Bool.not_eq_true', List.contains_eq_mem, decide_eq_false_iff_not] at h1
  exact h1 hmem

/-- **guarded ⇒ ranked**: the rank table is a complete certificate -/
theorem guarded_ranked (env : VEnv) (hc : closed env = true) (hg : guarded env = true) : ranked env = true :=
  ranked_of_acyclic env (acyclic_of_guarded env hc hg)

end Refine
end JSV
