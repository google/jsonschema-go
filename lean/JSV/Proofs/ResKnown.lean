/-
  The schemas visited by `allNodes` (Schema.all, traversal by `children`) are among those registered by checkStructure
  (traversal by `childEntries`), and the root's Resolved keeps knowing them (`DocsOk`, `resolve_lookup_all`).  Also:
  what holds of a set closed under children holds of what the traversals meet (`allNodes_pred`, `cs_ids_pred`), and
  `doc?` after `setDoc`.
-/
import JSV.Proofs.ResRefs
import JSV.Proofs.PtrPaths
import JSV.Proofs.Children
namespace JSV
namespace Go
namespace RInv
open Uri

theorem checkStructure_closed (st : Store) : ∀ fuel work acc res,
    checkStructure st fuel work acc = .ok res →
    (∀ id ∈ ids acc, ∀ n, st.get? id = some n → ∀ c ∈ n.children, c ∈ ids acc ∨ c ∈ work.map (·.1)) →
    ∀ id ∈ ids res, ∀ n, st.get? id = some n → ∀ c ∈ n.children, c ∈ ids res := by
  intro fuel work acc res h hinv id hid n hn c hc
  refine (RPerm.checkStructure_inv st
    (fun work acc => ∀ id ∈ ids acc, ∀ n, st.get? id = some n → ∀ c ∈ n.children, c ∈ ids acc ∨ c ∈ work.map (·.1))
    ?_ fuel work acc res h hinv id hid n hn c hc).resolve_right (by simp)
  -- the children of the visited schema are among the entries pushed
  intro id path n work acc hn _ hJ id' hid' n' hn' c hc
  simp only [ids, List.map_append, List.map_cons, List.map_nil, List.mem_append, List.mem_singleton] at hid' ⊢
  rcases hid' with hid' | rfl
  · rcases hJ id' hid' n' hn' c hc with h1 | h1
    · exact Or.inl (Or.inl h1)
    · rcases List.mem_cons.mp h1 with h1 | h1
      · exact Or.inl (Or.inr h1)
      · exact Or.inr (Or.inr h1)
  · obtain rfl : n = n' := Option.some.inj (hn.symm.trans hn')
    obtain ⟨q, hq⟩ := mem_children_iff_entries (path := path).1 hc
    exact Or.inr (Or.inl (List.mem_map.mpr ⟨(c, q), hq, rfl⟩))

theorem cs_ids_pred (st : Store) (P : NodeId → Prop)
    (hP : ∀ x n, P x → st.get? x = some n → ∀ c, c ∈ n.children → P c)
    (fuel : Nat) (work : List (NodeId × String)) (acc res : List (NodeId × Info))
    (h : checkStructure st fuel work acc = .ok res) (hwork : ∀ w, w ∈ work → P w.1) (hacc : ∀ e, e ∈ acc → P e.1) :
    ∀ e, e ∈ res → P e.1 := by
  refine (RPerm.checkStructure_inv st (fun work acc => (∀ w, w ∈ work → P w.1) ∧ ∀ e, e ∈ acc → P e.1) ?_
    fuel work acc res h ⟨hwork, hacc⟩).2
  intro id path n work acc hn _ ⟨hwork, hacc⟩
  have hid : P id := hwork (id, path) List.mem_cons_self
  refine ⟨fun w hw => ?_, fun e he => ?_⟩
  · rcases List.mem_append.1 hw with hw | hw
    · exact hP id n hid hn w.1 (mem_children_iff_entries.2 ⟨w.2, hw⟩)
    · exact hwork w (List.mem_cons_of_mem _ hw)
  · rcases List.mem_append.1 he with he | he
    · exact hacc e he
    · cases List.mem_singleton.1 he
      exact hid

theorem checkStructure_root_mem (st : Store) (fuel : Nat) (root : NodeId) (res : List (NodeId × Info))
    (h : checkStructure st fuel [(root, "")] [] = .ok res) : root ∈ ids res := by
  cases fuel with
  | zero => rw [RPerm.cs_zero] at h; cases h
  | succ fuel =>
    obtain ⟨n, _, _, h⟩ := (RPerm.cs_cons_ok st fuel root "" [] [] res).mp h
    exact List.mem_map.mpr ⟨_, Pointer.checkStructure_acc_subset st _ _ _ _ h (root, RPerm.infoOf "") (by simp), rfl⟩

theorem allNodes_pred (st : Store) (P : NodeId → Prop)
    (hP : ∀ id, P id → ∀ n, st.get? id = some n → ∀ c ∈ n.children, P c) :
    ∀ fuel work, (∀ w ∈ work, P w) → ∀ id ∈ allNodes st fuel work, P id := by
  intro fuel
  induction fuel with
  | zero => intro work _ id h; simp [allNodes] at h
  | succ fuel ih =>
    intro work hw id h
    cases work with
    | nil => simp [allNodes] at h
    | cons w work =>
      rw [allNodes] at h
      split at h
      · rename_i n hn
        rcases List.mem_cons.mp h with h | h
        · subst h; exact hw _ (by simp)
        · apply ih _ _ id h
          intro x hx
          rcases List.mem_append.mp hx with hx | hx
          · exact hP w (hw w (by simp)) n hn x hx
          · exact hw x (List.mem_cons_of_mem _ hx)
      · exact ih _ (fun x hx => hw x (List.mem_cons_of_mem _ hx)) id h

theorem allNodes_sub_checkStructure (st : Store) (fuel fuel' : Nat) (root : NodeId)
    (res : List (NodeId × Info)) (h : checkStructure st fuel [(root, "")] [] = .ok res) :
    ∀ id ∈ allNodes st fuel' [root], id ∈ ids res := by
  apply allNodes_pred st (· ∈ ids res)
    (checkStructure_closed st _ _ _ _ h (fun _ hid => absurd hid (by simp [ids])))
  intro w hw
  simp only [List.mem_singleton] at hw
  subst hw
  exact checkStructure_root_mem st fuel _ res h

theorem find?_map_replace (d : DocRes) (r : NodeId) (hne : d.root ≠ r) (docs : List DocRes) :
    (docs.map fun x => if x.root == d.root then d else x).find? (·.root == r) = docs.find? (·.root == r) := by
  induction docs with
  | nil => rfl
  | cons x xs ih =>
    simp only [List.map_cons, List.find?_cons]
    by_cases hx : x.root = d.root
    · have h1 : (d.root == r) = false := by simpa using hne
      have h2 : (x.root == r) = false := by rw [hx]; exact h1
      have hxb : (x.root == d.root) = true := by simpa using hx
      simp only [hxb, if_true, h1, h2]
      exact ih
    · have h1 : (x.root == d.root) = false := by simpa using hx
      simp only [h1, Bool.false_eq_true, if_false]
      split
      · rfl
      · exact ih

theorem find?_map_replace_self (d : DocRes) (docs : List DocRes)
    (h : docs.any (·.root == d.root) = true) :
    (docs.map fun x => if x.root == d.root then d else x).find? (·.root == d.root) = some d := by
  induction docs with
  | nil => simp at h
  | cons x xs ih =>
    simp only [List.map_cons, List.find?_cons]
    by_cases hx : x.root = d.root
    · simp [hx]
    · have h1 : (x.root == d.root) = false := by simpa using hx
      simp only [List.any_cons, h1, Bool.false_or] at h
      simp only [h1, Bool.false_eq_true, if_false]
      exact ih h

theorem doc?_setDoc (s : RState) (d : DocRes) (r : NodeId) :
    (s.setDoc d).doc? r = if d.root = r then some d else s.doc? r := by
  unfold RState.setDoc RState.doc?
  simp only
  split
  · rename_i hany
    split
    · rename_i h; subst h; exact find?_map_replace_self d _ hany
    · rename_i h; exact find?_map_replace d r h _
  · rename_i hany
    rw [List.find?_append]
    split
    · rename_i h; subst h
      have : s.docs.find? (·.root == d.root) = none := by
        rw [List.find?_eq_none]
        intro x hx hp
        exact hany (List.any_eq_true.mpr ⟨x, hx, hp⟩)
      rw [this]; simp
    · rename_i h
      have h1 : (d.root == r) = false := by simpa using h
      simp [h1]

theorem doc?_root (s : RState) (r : NodeId) (d : DocRes) (h : s.doc? r = some d) : d.root = r := by
  unfold RState.doc? at h
  have := List.find?_some h
  simpa using this

theorem beforeURIs_doc? (root : NodeId) (baseURI : Url) (draft : Draft) (fresh : List (NodeId × Info)) (s : RState)
    (r : NodeId) :
    (RDraft.beforeURIs root baseURI draft fresh s).doc? r =
      if root = r then
        some { root := root, draft := draft, uris := [(Uri.toString baseURI, root)], known := fresh.map (·.1) }
      else s.doc? r := by
  unfold RDraft.beforeURIs
  rw [doc?_of_docs_eq (updInfo_docs _ _ _), doc?_setDoc]
  rfl

def DocsOk (env : Env) (s : RState) : Prop :=
  ∀ r d, s.doc? r = some d → ∀ fresh, checkStructure env.st (env.st.size + 2) [(r, "")] [] = .ok fresh →
    ∀ id ∈ ids fresh, d.known.contains id = true

theorem DocsOk.of_docs_eq {env : Env} {a b : RState} (h : b.docs = a.docs) (ha : DocsOk env a) : DocsOk env b := by
  intro r d hd
  have : a.doc? r = some d := by unfold RState.doc? at hd ⊢; rw [← h]; exact hd
  exact ha r d this

theorem docsOk_setDoc_grow (env : Env) (s : RState) (d0 d : DocRes) (r0 : NodeId)
    (h0 : s.doc? r0 = some d0) (hr : d.root = d0.root) (hk : ∀ id, d0.known.contains id = true → d.known.contains id = true)
    (hs : DocsOk env s) : DocsOk env (s.setDoc d) := by
  intro r d' hd' fresh hf id hid
  rw [doc?_setDoc] at hd'
  split at hd'
  · rename_i h
    simp only [Option.some.injEq] at hd'
    subst hd'
    have : r0 = r := by rw [← doc?_root s r0 d0 h0, ← hr, h]
    subst this
    exact hk id (hs r0 d0 h0 fresh hf id hid)
  · exact hs r d' hd' fresh hf id hid

theorem docsOk_setDoc_fresh (env : Env) (s : RState) (d : DocRes) (fresh : List (NodeId × Info))
    (hf : checkStructure env.st (env.st.size + 2) [(d.root, "")] [] = .ok fresh)
    (hk : d.known = ids fresh) (hs : DocsOk env s) : DocsOk env (s.setDoc d) := by
  intro r d' hd' fresh' hf' id hid
  rw [doc?_setDoc] at hd'
  split at hd'
  · rename_i h
    simp only [Option.some.injEq] at hd'
    subst hd'
    subst h
    cases hf.symm.trans hf'
    rw [hk]
    simpa using hid
  · exact hs r d' hd' fresh' hf' id hid

theorem docsOk_updInfo (env : Env) (s : RState) (id : NodeId) (f : Info → Info) (h : DocsOk env s) :
    DocsOk env (s.updInfo id f) := DocsOk.of_docs_eq (updInfo_docs s id f) h

theorem docsOk_mergeKnown (env : Env) (s : RState) (a b : NodeId) (h : DocsOk env s) :
    DocsOk env (mergeKnown s a b) := by
  unfold mergeKnown
  split
  · rename_i d l hd hl
    refine docsOk_setDoc_grow env s d _ a hd ?_ ?_ h
    · rfl
    intro id hid
    simp only [List.contains_eq_mem, List.mem_append, decide_eq_true_eq] at hid ⊢
    exact Or.inl hid
  · exact h

theorem resolveURIsLoop_docs (env : Env) (draft : Draft) (root : NodeId) :
    ∀ fuel work s s', resolveURIsLoop env draft root fuel work s = .ok s' → DocsOk env s → DocsOk env s' :=
  RDraft.resolveURIsLoop_pres env draft root (DocsOk env) (docsOk_updInfo env)
    (fun a d _ ha hd => docsOk_setDoc_grow env a d _ root hd rfl (fun _ h => h) ha)

def RecDocs (env : Env) (recDoc : ResolveDoc) : Prop :=
  ∀ root base draft s s', recDoc root base draft s = .ok s' → DocsOk env s → DocsOk env s'

theorem resolveRef_docs (env : Env) (recDoc : ResolveDoc) (hrec : RecDocs env recDoc)
    (root : NodeId) (s : RState) (id : NodeId) (ref : String) (o : RefOut) (s' : RState)
    (h : resolveRef env recDoc root s id ref = .ok (o, s')) (hs : DocsOk env s) : DocsOk env s' := by
  obtain ⟨d, _, hc⟩ := RDraft.resolveRef_cases env recDoc root s id ref o s' h
  rcases hc with rfl | ⟨r, rfl⟩ | ⟨u, tbl, r, a2, _, _, _, hcall, rfl⟩
  · exact hs
  · exact docsOk_mergeKnown _ _ _ _ hs
  · exact docsOk_mergeKnown _ _ _ _ (hrec _ _ _ _ _ hcall (DocsOk.of_docs_eq rfl hs))

theorem resolveRefsLoop_docs (env : Env) (recDoc : ResolveDoc) (hrec : RecDocs env recDoc) (root : NodeId) :
    ∀ ids s s', resolveRefsLoop env recDoc root ids s = .ok s' → DocsOk env s → DocsOk env s' :=
  RDraft.resolveRefsLoop_pres env recDoc root (DocsOk env) (fun _ _ _ ha => docsOk_updInfo _ _ _ _ ha)
    (fun a id ref o b ha hr => resolveRef_docs env recDoc hrec root a id ref o b hr ha)

theorem resolveDocStep_docs (env : Env) (recDoc : ResolveDoc) (hrec : RecDocs env recDoc)
    (root : NodeId) (baseURI : Url) (inherit : Draft) (s s' : RState)
    (h : resolveDocStep env recDoc root baseURI inherit s = .ok s') (hs : DocsOk env s) :
    DocsOk env s' ∧ ∃ fresh, checkStructure env.st (env.st.size + 2) [(root, "")] [] = .ok fresh := by
  obtain ⟨rn, fresh, sB, _, hfresh, hB, h⟩ := RDraft.resolveDocStep_unfold env recDoc root baseURI inherit s s' h
  refine ⟨?_, fresh, hfresh⟩
  apply resolveRefsLoop_docs env recDoc hrec _ _ _ _ h
  apply DocsOk.of_docs_eq (a := sB) rfl
  apply resolveURIsLoop_docs _ _ _ _ _ _ _ hB
  apply docsOk_updInfo
  apply docsOk_setDoc_fresh env _ _ fresh hfresh rfl
  exact DocsOk.of_docs_eq rfl hs

theorem resolveDocStep_table (env : Env) (recDoc : ResolveDoc) (hrec : RecKeeps recDoc)
    (root : NodeId) (baseURI : Url) (inherit : Draft) (s s' : RState)
    (h : resolveDocStep env recDoc root baseURI inherit s = .ok s') :
    ∀ fresh, checkStructure env.st (env.st.size + 2) [(root, "")] [] = .ok fresh →
      ∀ id ∈ ids fresh, (lookupNat id s'.infos).isSome = true := by
  obtain ⟨rn, fresh, sB, _, hfresh, hB, h⟩ := RDraft.resolveDocStep_unfold env recDoc root baseURI inherit s s' h
  have kB := resolveURIsLoop_keeps _ _ _ _ _ _ _ hB
  obtain ⟨kC, _⟩ := resolveRefsLoop_keeps env recDoc hrec _ _ _ _ h
  intro fresh' hfresh' id hid
  cases hfresh.symm.trans hfresh'
  obtain ⟨⟨id', info⟩, hm, he⟩ := List.mem_map.mp hid
  simp only at he; subst he
  have hA : (lookupNat id' (s.infos ++ fresh)).isSome = true :=
    lookupNat_isSome_of_mem (List.mem_map_of_mem (f := (·.1)) (List.mem_append_right _ hm))
  have k1 : Keeps { s with infos := s.infos ++ fresh } s' :=
    ((Keeps.of_infos_eq (setDoc_infos _ _)).trans
      (updInfo_keeps _ _ _ (by intro i t ht; exact ⟨t, ht⟩))).trans
      (kB.trans (Keeps.trans (Keeps.of_infos_eq rfl) kC))
  exact k1.1 id' hA

theorem resolveDoc_docs (env : Env) : ∀ fuel, RecDocs env (resolveDoc env fuel) := by
  intro fuel
  induction fuel with
  | zero => intro root base draft s s' h; simp [resolveDoc] at h
  | succ fuel ih => intro root base draft s s' h hs; exact (resolveDocStep_docs env _ ih _ _ _ _ _ h hs).1

theorem docsOk_init (env : Env) : DocsOk env {} := by
  intro r d h; simp [RState.doc?] at h

/-- the Resolved of the top document knows every schema of `root.all()`: in the table Schema.Resolve returns (the
    records of the known schemas) they are looked up as in the final state -/
theorem resolve_lookup_all (env : Env) (fuel : Nat) (root : NodeId) (b : Url) (dr : Draft) (s : RState) (d : DocRes)
    (hs : resolveDoc env fuel root b dr {} = .ok s) (hd : s.doc? root = some d) (id : NodeId)
    (hid : id ∈ allNodes env.st (env.st.size + 2) [root]) :
    lookupNat id (s.infos.filter fun e => d.known.contains e.1) = lookupNat id s.infos := by
  cases fuel with
  | zero => cases hs
  | succ fuel =>
    obtain ⟨hdocs, fresh, hfr⟩ := resolveDocStep_docs env _ (resolveDoc_docs env fuel) _ _ _ _ _ hs (docsOk_init env)
    exact lookupNat_filter_key id (fun x => d.known.contains x) s.infos
      (hdocs root d hd fresh hfr id (allNodes_sub_checkStructure env.st _ _ root fresh hfr id hid))

end RInv
end Go
end JSV
