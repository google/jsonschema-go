/-
  resolveRef / resolveRefs / resolver.resolve / Schema.Resolve never panic when the documents share no schema object
  (`Sep`).  Open recursion on the loader callback + induction on fuel.
-/
import JSV.Proofs.ResBase
import JSV.Proofs.ResUris
namespace JSV
namespace Go
namespace RTot
open RInv
open Uri

/-- what the open-recursion callback must satisfy -/
def RecNP (env : Env) (R : List NodeId) (recDoc : ResolveDoc) : Prop :=
  ∀ root base draft s, root ∈ R → Inv env R s →
    Tot (recDoc root base draft s) (fun s' => Inv env R s' ∧ DocsKeep s s' ∧ (s'.doc? root).isSome = true)

theorem findDoc_tot (env : Env) (R : List NodeId) (hroots : RootsIn env R) (recDoc : ResolveDoc)
    (hrec : RecNP env R recDoc) (root : NodeId) (s : RState) (d : DocRes) (u : Url) (hinv : Inv env R s)
    (hd : s.doc? root = some d) :
    Tot (findDoc env recDoc root s d u) (fun p => Inv env R p.2 ∧ DocsKeep s p.2 ∧ Knows p.2 root p.1) := by
  have hroot : (s.doc? root).isSome = true := by rw [hd]; rfl
  unfold findDoc
  split
  · rename_i t ht
    exact Tot.ok ⟨hinv, DocsKeep.refl s, hinv.doc.knows hd ((hinv.doc root d hd).2.2.2 _ (Json.mem_of_lookup ht))⟩
  split
  · rename_i lroot hl
    have hlr : (s.doc? lroot).isSome = true := hinv.loaded _ (Json.mem_of_lookup hl)
    obtain ⟨im, dk⟩ := hinv.mergeKnown root lroot
    exact Tot.ok ⟨im, dk, mergeKnown_knows hinv root lroot hroot hlr⟩
  refine Tot.bind (Tot.of_ne_panic (loaderDoc_NoPF env _).1) fun lroot hl _ => ?_
  obtain ⟨tbl, htbl, hlk⟩ := loaderDoc_eq_ok_iff.mp hl
  refine Tot.bind (hrec lroot _ d.draft _ (hroots tbl _ lroot htbl hlk) (hinv.gentle rfl rfl (InfoLe.refl _ _)))
    fun s2 _ hs2 => ?_
  obtain ⟨inv2, dk2, hl2⟩ := hs2
  obtain ⟨im, dk⟩ := inv2.mergeKnown root lroot
  exact Tot.ok ⟨im, fun r hr => dk r (dk2 r hr), mergeKnown_knows inv2 root lroot (dk2 root hroot) hl2⟩

theorem fragOut_ne_panic (env : Env) (s : RState) (root r : NodeId) (frag : String) (h : Knows s root r) :
    fragOut env s root r frag ≠ .panic := by
  unfold fragOut
  split
  · obtain ⟨ri, hri, _⟩ := h.info?
    rw [hri]
    dsimp only
    split <;> exact fun e => nomatch e
  · exact (C10.NoPF_bind (C10.dereference_NoPF _ _ _ _ _) fun _ _ => C10.NoPF_ok _).1

theorem resolveRef_tot (env : Env) (R : List NodeId) (hroots : RootsIn env R) (recDoc : ResolveDoc)
    (hrec : RecNP env R recDoc) (root : NodeId) (s : RState) (id : NodeId) (ref : String)
    (hinv : Inv env R s) (hroot : (s.doc? root).isSome = true) (hid : id ∈ docAll env root) :
    Tot (resolveRef env recDoc root s id ref) (fun p => Inv env R p.2 ∧ DocsKeep s p.2) := by
  obtain ⟨d, hd⟩ := Option.isSome_iff_exists.mp hroot
  obtain ⟨hR, hrr, hkn, hur⟩ := hinv.doc root d hd
  obtain ⟨i, b, hi, hb, hbN, bi, hbi, hbu⟩ := hinv.base root hroot (by simp) id hid
  obtain ⟨bu, hbu⟩ := Option.isSome_iff_exists.mp hbu
  -- the table lookups of resolveRef succeed: `id` and its base are schemas the Resolved knows
  have hbase : refBase s root id = some bu := by
    obtain ⟨i', e1, e1'⟩ := (hinv.doc.knows hd (docAll_sub env root hrr id hid)).info?
    obtain ⟨bi', e2, e2'⟩ := (hinv.doc.knows hd hbN).info?
    cases hi.symm.trans e1'
    cases hbi.symm.trans e2'
    exact refBase_eq_some_iff.mpr ⟨_, e1, _, hb, _, e2, hbu⟩
  rw [resolveRef_eq, hbase, hd]
  refine Tot.bind (Tot.of_ne_panic (parse_NoPF ref).1) fun refURI0 _ _ => ?_
  refine Tot.bind (findDoc_tot env R hroots recDoc hrec root s d _ hinv hd) fun p _ hp => ?_
  exact Tot.bind (Tot.of_ne_panic (fragOut_ne_panic env p.2 root p.1 _ hp.2.2)) fun o _ _ => Tot.ok ⟨hp.1, hp.2.1⟩

theorem refStep_tot (env : Env) (R : List NodeId) (hroots : RootsIn env R) (recDoc : ResolveDoc)
    (hrec : RecNP env R recDoc) (root id : NodeId) (hid : id ∈ docAll env root) (on : Bool) (ref : String)
    (upd : RefOut → Info → Info) (hb : ∀ o i, (upd o i).base = i.base) (hu : ∀ o i, (upd o i).uri = i.uri)
    (s : RState) (hinv : Inv env R s) (hroot : (s.doc? root).isSome = true) :
    Tot (refStep env recDoc root id on ref upd s) (fun s' => Inv env R s' ∧ DocsKeep s s') := by
  unfold refStep
  split
  · refine Tot.bind (resolveRef_tot env R hroots recDoc hrec root s id _ hinv hroot hid) fun p _ hp => ?_
    exact Tot.ok ⟨hp.1.updInfo id _ (hb p.1) (fun i h => by rw [hu]; exact h),
      hp.2.trans (DocsKeep.of_docs_eq (updInfo_docs _ _ _))⟩
  · exact Tot.ok ⟨hinv, DocsKeep.refl s⟩

theorem resolveRefsLoop_tot (env : Env) (R : List NodeId) (hroots : RootsIn env R) (recDoc : ResolveDoc)
    (hrec : RecNP env R recDoc) (root : NodeId) :
    ∀ ids s, (∀ id ∈ ids, id ∈ docAll env root) → Inv env R s → (s.doc? root).isSome = true →
      Tot (resolveRefsLoop env recDoc root ids s) (fun s' => Inv env R s' ∧ DocsKeep s s') := by
  intro ids
  induction ids with
  | nil => intro s _ hinv _; rw [resolveRefsLoop]; exact Tot.ok ⟨hinv, DocsKeep.refl s⟩
  | cons id rest ih =>
    intro s hids hinv hroot
    have hid := hids id (by simp)
    rw [resolveRefsLoop_cons]
    split
    · rename_i hn
      have := allNodes_store env.st _ _ id hid
      rw [hn] at this; cases this
    · have step := refStep_tot env R hroots recDoc hrec root id hid
      refine Tot.bind (step _ _ _ (by intros; rfl) (by intros; rfl) s hinv hroot) fun s1 _ hs1 => ?_
      refine Tot.bind (step _ _ _ (by intros; rfl) (by intros; rfl) s1 hs1.1 (hs1.2 root hroot)) fun s2 _ hs2 => ?_
      refine (ih s2 (fun x hx => hids x (List.mem_cons_of_mem _ hx)) hs2.1 (hs2.2 root (hs1.2 root hroot))).mono ?_
      intro s' hs'
      exact ⟨hs'.1, hs1.2.trans (hs2.2.trans hs'.2)⟩

theorem beforeURIs_spec (env : Env) (R : List NodeId) (s : RState) (fresh : List (NodeId × Info)) (root : NodeId)
    (draft : Draft) (baseURI : Url) (hinv : DocInv env R s) (hrootR : root ∈ R)
    (hfresh : checkStructure env.st (env.st.size + 2) [(root, "")] [] = .ok fresh) :
    InfoLe [] s.infos (RDraft.beforeURIs root baseURI draft fresh s).infos ∧
    (RDraft.beforeURIs root baseURI draft fresh s).loaded = s.loaded ∧
    (RDraft.beforeURIs root baseURI draft fresh s).log = s.log ∧
    DocInv env R (RDraft.beforeURIs root baseURI draft fresh s) ∧
    (∀ r, ((RDraft.beforeURIs root baseURI draft fresh s).doc? r).isSome = (decide (root = r) || (s.doc? r).isSome)) := by
  have hV : docNodes env root = ids fresh := docNodes_eq env root fresh hfresh
  have hrootV : root ∈ docNodes env root := docNodes_root env root fresh hfresh
  have le0 : InfoLe [] s.infos (s.infos ++ fresh) := infoLe_append [] _ _
  have inv0 : DocInv env R ({ s with infos := s.infos ++ fresh } : RState) :=
    docInv_infos hinv rfl (fun x hx => le0.isSome x hx)
  have h3 : ∀ x ∈ docNodes env root,
      (fresh.map (·.1)).contains x = true ∧ (lookupNat x (s.infos ++ fresh)).isSome = true := by
    intro x hx
    rw [hV] at hx
    refine ⟨by simpa [ids] using hx, lookupNat_isSome_of_mem ?_⟩
    rw [List.map_append]; exact List.mem_append_right _ hx
  have inv1 := docInv_setDoc inv0
    { root := root, draft := draft, uris := [(Uri.toString baseURI, root)], known := fresh.map (·.1) }
    hrootR hrootV h3 (fun e he => by rw [List.mem_singleton.mp he]; exact hrootV)
  have le2 := infoLe_updInfo [] (({ s with infos := s.infos ++ fresh } : RState).setDoc
      { root := root, draft := draft, uris := [(Uri.toString baseURI, root)], known := fresh.map (·.1) }) root
      (fun i => { i with uri := some baseURI }) (fun _ => rfl) (fun _ _ => rfl)
  refine ⟨le0.trans le2, (updInfo_same _ _ _).2, (updInfo_same _ _ _).1,
    docInv_infos inv1 (updInfo_docs _ _ _) (fun x hx => le2.isSome x hx), ?_⟩
  intro r
  rw [beforeURIs_doc?]
  by_cases hr : root = r
  · simp only [hr, if_true, decide_true, Bool.true_or, Option.isSome_some]
  · simp only [hr, if_false, decide_false, Bool.false_or]

/-- The invariant crosses resolver.resolve.  The idea: the documents share no schema (`Sep`), and resolveURIs leaves
    the records of schemas outside its document alone (`URIsPost.others`), so what the invariant says of the other
    documents still holds afterwards; of this document `URIsPost.done` says it -/
theorem resolveDocStep_np (env : Env) (R : List NodeId) (hsep : Sep env R) (hroots : RootsIn env R)
    (recDoc : ResolveDoc) (hrec : RecNP env R recDoc) : RecNP env R (resolveDocStep env recDoc) := by
  intro root baseURI inherit s hrootR hinv
  rw [RDraft.resolveDocStep_eq]
  split
  · exact Tot.err
  split
  · exact Tot.err
  rename_i rn hrn
  refine Tot.bind (P := fun _ => True) (Tot.of_ne_panic (C10.checkStructure_no_panic_gen _ _ _ _))
    fun fresh hfresh _ => ?_
  split
  · exact Tot.err
  have hV : docNodes env root = ids fresh := docNodes_eq env root fresh hfresh
  obtain ⟨leA, loadedA, logA, invA, docsA⟩ :=
    beforeURIs_spec env R s fresh root (RDraft.docDraft env rn inherit) baseURI hinv.doc hrootR hfresh
  have hrootA : ((RDraft.beforeURIs root baseURI (RDraft.docDraft env rn inherit) fresh s).doc? root).isSome = true := by
    rw [docsA]; simp
  obtain ⟨dA, hdA⟩ := Option.isSome_iff_exists.mp hrootA
  let D : Spec.Doc := ⟨env.st, RDraft.docDraft env rn inherit, root⟩
  have T : Tree D.st D.root (ids fresh) := checkStructure_tree env.st _ root fresh hfresh
  have sp := resolveURIs_sp env D rfl baseURI _ fresh hfresh (env.st.size + 2) _
    (beforeURIs_root_uri env.st _ root baseURI (RDraft.docDraft env rn inherit) fresh s hfresh)
  refine Tot.bind (P := URIsPost D baseURI (RDraft.beforeURIs root baseURI (RDraft.docDraft env rn inherit) fresh s))
    ⟨fun h => ?_, fun sB h => ?_⟩ fun sB hBeq post => ?_
  · rw [show resolveURIsLoop env _ _ _ _ _ = Res.panic from h] at sp
    exact sp fun p hp => ((invA root dA hdA).2.2.1 p (hV ▸ hp)).2
  · rw [show resolveURIsLoop env _ _ _ _ _ = Res.ok sB from h] at sp
    exact sp.2
  have keepI := (resolveURIsLoop_keeps _ _ _ _ _ _ _ hBeq).1
  have sameB := (resolveURIsLoop_spec _ _ _ _ _ _ _ hBeq).1
  obtain ⟨dB, hdB, _, hkn, hur⟩ := post.rootDoc dA hdA
  have hrootB : (sB.doc? root).isSome = true := by rw [hdB]; rfl
  have docsB : ∀ r, (sB.doc? r).isSome = ((RDraft.beforeURIs root baseURI (RDraft.docDraft env rn inherit) fresh s).doc? r).isSome := by
    intro r
    by_cases hr : r = root
    · rw [hr, hdB, hdA]; rfl
    · rw [post.docs r hr]
  have invB : DocInv env R sB := by
    intro r d hd
    by_cases hr : r = root
    · rw [hr] at hd ⊢
      cases hdB.symm.trans hd
      obtain ⟨h1, h2, h3, h4⟩ := invA root dA hdA
      refine ⟨h1, h2, fun x hx => ⟨by rw [hkn]; exact (h3 x hx).1, keepI x (h3 x hx).2⟩, fun e he => ?_⟩
      rcases hur e he with h | ⟨l, hl⟩
      · exact h4 e h
      · rw [hV]; exact T.has_mem l e.2 hl
    · rw [post.docs r hr] at hd
      obtain ⟨h1, h2, h3, h4⟩ := invA r d hd
      exact ⟨h1, h2, fun x hx => ⟨(h3 x hx).1, keepI x (h3 x hx).2⟩, h4⟩
  have keepB : DocsKeep s sB := by
    intro r hr
    rw [docsB, docsA, hr]; simp
  have invC : Inv env R (RDraft.afterURIs root baseURI sB) := by
    refine ⟨docInv_infos invB rfl (fun _ h => h), ?_, ?_⟩
    · intro e he
      show (sB.doc? e.2).isSome = true
      rcases List.mem_append.mp (show e ∈ sB.loaded.filter _ ++ [_, _] from he) with he | he
      · have he' : e ∈ s.loaded := by
          have := (List.mem_filter.mp he).1
          rw [sameB.2, loadedA] at this; exact this
        exact keepB _ (hinv.loaded e he')
      · simp only [List.mem_cons, List.not_mem_nil, or_false] at he
        rcases he with he | he <;> rw [he] <;> exact hrootB
    · intro r hr _ x hx
      have hr' : (sB.doc? r).isSome = true := hr
      show HasBase env sB.infos r x
      by_cases hroot : root = r
      · subst hroot
        obtain ⟨_, b, ⟨i, hi, hb⟩, ib, lb, hib, hlb, hub⟩ := post.done x (allNodes_has D _ _ (by
          intro w hw
          rw [List.mem_singleton.mp hw]
          exact ResourceRoot.has (resourceRoot_root D)) x hx)
        exact ⟨i, b, hi, hb, by rw [hV]; exact T.has_mem lb b hlb, ib, hib, by rw [hub]; rfl⟩
      · have hrs : (s.doc? r).isSome = true := by
          rw [docsB, docsA] at hr'
          simpa [hroot] using hr'
        cases hd : s.doc? r with
        | none => rw [hd] at hrs; cases hrs
        | some d =>
          obtain ⟨hrR, hrr, _, _⟩ := hinv.doc r d hd
          obtain ⟨i, b, hi, hb, hbN, ib, hib, hibu⟩ :=
            HasBase.mono leA (fun h => nomatch h) (hinv.base r hrs (by simp) x hx)
          have out : ∀ y ∈ docNodes env r, lookupNat y sB.infos =
              lookupNat y (RDraft.beforeURIs root baseURI (RDraft.docDraft env rn inherit) fresh s).infos := fun y hy =>
            post.others y fun ⟨l, hl⟩ =>
              hsep r hrR root hrootR (fun e => hroot e.symm) y hy (hV ▸ T.has_mem l y hl)
          exact ⟨i, b, by rw [out x (docAll_sub env r hrr x hx)]; exact hi, hb, hbN, ib,
            by rw [out b hbN]; exact hib, hibu⟩
  refine (resolveRefsLoop_tot env R hroots recDoc hrec root _ _ (fun _ h => h) invC hrootB).mono ?_
  intro s' hs'
  exact ⟨hs'.1, keepB.trans hs'.2, hs'.2 root hrootB⟩

theorem resolveDoc_np (env : Env) (R : List NodeId) (hsep : Sep env R) (hroots : RootsIn env R) :
    ∀ fuel, RecNP env R (resolveDoc env fuel) := by
  intro fuel
  induction fuel with
  | zero => intro root base draft s _ _; rw [resolveDoc]; exact Tot.fuel
  | succ fuel ih => exact resolveDocStep_np env R hsep hroots _ ih

theorem inv_init (env : Env) (R : List NodeId) : Inv env R {} :=
  ⟨fun r d h => (by simp [RState.doc?] at h), fun e he => (by cases he),
   fun r h => (by simp [RState.doc?] at h)⟩

/-- the roots of the documents: the schema `Resolve` is called on, and the documents of the loader table -/
def docRoots (env : Env) (root : NodeId) : List NodeId :=
  root :: (env.loader.getD []).filterMap fun e => match e.2 with
    | .doc r => some r
    | _ => none

/-- documents with different roots share no schema object (decidable form of `Sep`) -/
def docsDisjoint (env : Env) (root : NodeId) : Bool :=
  (docRoots env root).all fun r1 => (docRoots env root).all fun r2 =>
    r1 == r2 || (docNodes env r1).all fun x => !(docNodes env r2).contains x

theorem docsDisjoint_noloader (env : Env) (root : NodeId) (h : env.loader = none) : docsDisjoint env root = true := by
  unfold docsDisjoint docRoots
  rw [h]
  simp

theorem sep_of_docsDisjoint (env : Env) (root : NodeId) (h : docsDisjoint env root = true) :
    Sep env (docRoots env root) := by
  intro r1 h1 r2 h2 hne x hx hx2
  simp only [docsDisjoint, List.all_eq_true, Bool.or_eq_true, beq_iff_eq, Bool.not_eq_true',
    List.contains_eq_mem, decide_eq_false_iff_not] at h
  exact (h r1 h1 r2 h2).resolve_left hne x hx hx2

theorem rootsIn_docRoots (env : Env) (root : NodeId) : RootsIn env (docRoots env root) := by
  intro tbl k lroot htbl hk
  unfold docRoots
  rw [htbl]
  refine List.mem_cons_of_mem _ (List.mem_filterMap.mpr ⟨(k, .doc lroot), Json.mem_of_lookup hk, rfl⟩)

theorem resolve_ne_panic (env : Env) (fuel : Nat) (root : NodeId) (base : String)
    (h : docsDisjoint env root = true) : resolve env fuel root base ≠ .panic := by
  have hT : Tot (resolve env fuel root base) (fun _ => True) := by
    rw [resolve_eq]
    refine Tot.bind (Tot.of_ne_panic (retrievalOf_NoPF base).1) fun b _ _ => ?_
    · refine Tot.bind (resolveDoc_np env (docRoots env root) (sep_of_docsDisjoint env root h)
        (rootsIn_docRoots env root) fuel root b .d2020 {} (by simp [docRoots]) (inv_init env _)) fun s _ hs => ?_
      split
      · rename_i hnone
        have := hs.2.2
        rw [hnone] at this; cases this
      · exact Tot.ok trivial
  exact hT.1

end RTot
end Go
end JSV
