/-
  One call of `forType` for both type languages: `inferStep` and `inferStepE` are `stepG`, the struct loop being a
  parameter (`inferStep_eq`, `inferStepE_eq`).  What holds of one call is proved of `stepG`.  A fact about `stripPtrs` has
  two cases, a pointer and a type that is not a pointer (`GoType.ptr_ind`, `GoTypeE.ptr_ind`).
-/
import JSV.Proofs.InfStruct
namespace JSV
namespace Go

/-- the PropertyOrder clean-up at the end of the struct case -/
def finalOrder (n : Node) : Node :=
  match n.propertyOrder with
  | some po => if po.length > 1 then { n with propertyOrder := some (dedupKeepLast po) } else n
  | none => n

theorem finalOrder_eq (n : Node) : finalOrder n = { n with propertyOrder := (finalOrder n).propertyOrder } := by
  unfold finalOrder
  split
  · split <;> rfl
  · rfl

theorem finalOrder_children (n : Node) : (finalOrder n).children = n.children := by
  rw [finalOrder_eq]
  rfl

def basicNode (ty : String) (mn mx : Option Int) : Node :=
  { type := ty, minimum := mn.map fun i => (i : Rat), maximum := mx.map fun i => (i : Rat) }

def sliceNode (nullForSlices : Bool) (eid : NodeId) : Node :=
  if nullForSlices then { types := some ["null", "array"], items := some eid }
  else { type := "array", items := some eid }

def arrayNode (len : Nat) (eid : NodeId) : Node :=
  { type := "array", items := some eid, minItems := some len, maxItems := some len }

def mapNode (eid : NodeId) : Node := { type := "object", additionalProperties := some eid }

def structNode0 (falseId : NodeId) : Node := { type := "object", additionalProperties := some falseId }

def falseNode (notId : NodeId) : Node := { emptyNode with not := some notId }

/-- a named type found in the type table: the entry is cloned, `null` is added to the clone for pointers -/
def tableNull (b : Bool) (cn : Node) : Node :=
  if b then
    (if cn.type != "" then { cn with types := some ["null", cn.type], type := "" }
     else if !(cn.types.getD []).contains "null" then { cn with types := some ("null" :: (cn.types.getD [])) } else cn)
  else cn

theorem tableNull_eq (b : Bool) (n : Node) :
    tableNull b n = { n with type := (tableNull b n).type, types := (tableNull b n).types } := by
  unfold tableNull
  split
  · split
    · rfl
    · split <;> rfl
  · rfl

/-- what one call sees of the type once pointers and the declared name are stripped: a type it refuses outright
    (`fail`: a back reference, a pointer or declared type that should have been stripped), a type without a schema
    (`invalid`: an error, or dropped with IgnoreInvalidTypes), a node without children, a node with one child for the
    element type, or a struct with its field loop -/
inductive Shape (τ : Type) where
  | fail (r : Res (Option NodeId × Store))
  | invalid
  | leaf (n : Node)
  | elem (e : τ) (mk : NodeId → Node)
  | struct (loop : List String → Node → Store → Res (Node × Store))

/-- `tn` is the name of the type if it is a declared one, `an` says whether a pointer was stripped -/
def stepG {τ : Type} (opts : IOpts) (rec : IRecG τ)
    (tn : Option String) (an : Bool) (sh : Shape τ) (seen : List String) (st : Store) :
    Res (Option NodeId × Store) :=
  match (match tn with
         | some nm => if seen.contains nm then none else some (nm :: seen)
         | none => some seen) with
  | none => .err
  | some seen' =>
    match tn.bind fun nm => Json.lookup nm opts.schemas with
    | some sid =>
      Res.bind (clone st sid) fun r =>
        match r.2.get? r.1 with
        | none => .panic
        | some cn => .ok (some r.1, r.2.set! r.1 (tableNull (opts.nullForSlices && an) cn))
    | none =>
      match sh with
      | .fail r => r
      | .invalid => if opts.ignore then .ok (none, st) else .err
      | .leaf n => .ok (some st.size, st.push (addNull an n))
      | .elem e mk =>
        Res.bind (rec e seen' st) fun r =>
          match r.1 with
          | none => .ok (none, r.2)
          | some eid => .ok (some r.2.size, r.2.push (addNull an (mk eid)))
      | .struct loop =>
        -- `s.AdditionalProperties = falseSchema()`, i.e. `{"not": {}}`: two allocations, `{}` and the `not` around it
        Res.bind (loop seen' (structNode0 (st.size + 1)) ((st.push emptyNode).push (falseNode st.size))) fun r =>
          .ok (some r.2.size, r.2.push (addNull an (finalOrder r.1)))

theorem GoType.ptr_ind {P : GoType → Prop} (ptr : ∀ e, P e → P (.ptr e)) (base : ∀ t, (∀ e, t ≠ .ptr e) → P t) :
    ∀ T, P T
  | .ptr e => ptr e (GoType.ptr_ind ptr base e)
  | .basic _ | .named _ _ | .ref _ | .slice _ | .array _ _ | .map _ _ | .struct _ => base _ fun _ h => nomatch h

theorem stripPtrs_nonptr {t : GoType} (h : ∀ e, t ≠ .ptr e) : stripPtrs t = (t, false) := by
  cases t <;> first | rfl | exact absurd rfl (h _)

def under : GoType → GoType
  | .named _ u => u
  | t => t

def shapeOf (opts : IOpts) (rec : IRec) : GoType → Shape GoType
  | .ref _ => .fail .err
  | .ptr _ => .fail .panic
  | .named _ _ => .fail .panic
  | .basic k => match kindEntry k with
    | some (ty, mn, mx) => .leaf (basicNode ty mn mx)
    | none => .invalid
  | .map k e => if k != "String" then .invalid else .elem e mapNode
  | .slice e => .elem e (sliceNode opts.nullForSlices)
  | .array n e => .elem e (arrayNode n)
  | .struct fs => .struct fun seen' => structLoop rec seen' fs

theorem inferStep_eq (opts : IOpts) (rec : IRec) (t0 : GoType) (seen : List String) (st : Store) :
    inferStep opts rec t0 seen st =
      stepG opts rec (typeName (stripPtrs t0).1) (stripPtrs t0).2 (shapeOf opts rec (under (stripPtrs t0).1)) seen st := by
  unfold inferStep
  generalize stripPtrs t0 = p
  obtain ⟨t, an⟩ := p
  cases t with
  | named nm u =>
    cases u with
    | basic k => simp only [under, shapeOf]; cases kindEntry k <;> rfl
    | map k e => simp only [under, shapeOf]; cases (k != "String") <;> rfl
    | struct fs => simp only [Store.alloc, Array.size_push]; rfl
    | _ => rfl
  | basic k => simp only [under, shapeOf]; cases kindEntry k <;> rfl
  | map k e => simp only [under, shapeOf]; cases (k != "String") <;> rfl
  | struct fs => simp only [Store.alloc, Array.size_push]; rfl
  | _ => rfl

theorem GoTypeE.ptr_ind {P : GoTypeE → Prop} (ptr : ∀ e, P e → P (.ptr e)) (base : ∀ t, (∀ e, t ≠ .ptr e) → P t) :
    ∀ T, P T
  | .ptr e => ptr e (GoTypeE.ptr_ind ptr base e)
  | .basic _ | .named _ _ | .ref _ | .slice _ | .array _ _ | .map _ _ | .struct _ => base _ fun _ h => nomatch h

theorem stripPtrsE_nonptr {t : GoTypeE} (h : ∀ e, t ≠ .ptr e) : stripPtrsE t = (t, false) := by
  cases t <;> first | rfl | exact absurd rfl (h _)

def underE : GoTypeE → GoTypeE
  | .named _ u => u
  | t => t

def shapeOfE (opts : IOpts) (rec : IRecE) : GoTypeE → Shape GoTypeE
  | .ref _ => .fail .err
  | .ptr _ => .fail .panic
  | .named _ _ => .fail .panic
  | .basic k => match kindEntry k with
    | some (ty, mn, mx) => .leaf (basicNode ty mn mx)
    | none => .invalid
  | .map k e => if k != "String" then .invalid else .elem e mapNode
  | .slice e => .elem e (sliceNode opts.nullForSlices)
  | .array n e => .elem e (arrayNode n)
  | .struct fs => .struct fun seen' => structLoopE opts rec seen' (visibleFields fs) none

theorem inferStepE_eq (opts : IOpts) (rec : IRecE) (t0 : GoTypeE) (seen : List String) (st : Store) :
    inferStepE opts rec t0 seen st =
      stepG opts rec (typeNameE (stripPtrsE t0).1) (stripPtrsE t0).2 (shapeOfE opts rec (underE (stripPtrsE t0).1)) seen st := by
  unfold inferStepE
  generalize stripPtrsE t0 = p
  obtain ⟨t, an⟩ := p
  cases t with
  | named nm u =>
    cases u with
    | basic k => simp only [underE, shapeOfE]; cases kindEntry k <;> rfl
    | map k e => simp only [underE, shapeOfE]; cases (k != "String") <;> rfl
    | struct fs => simp only [Store.alloc, Array.size_push]; rfl
    | _ => rfl
  | basic k => simp only [underE, shapeOfE]; cases kindEntry k <;> rfl
  | map k e => simp only [underE, shapeOfE]; cases (k != "String") <;> rfl
  | struct fs => simp only [Store.alloc, Array.size_push]; rfl
  | _ => rfl

section
variable {τ : Type} {opts : IOpts} {rec : IRecG τ} {nm : String}
  {an : Bool} {sh : Shape τ} {seen : List String} {st : Store}

theorem stepG_seen (hseen : seen.contains nm = true) : stepG opts rec (some nm) an sh seen st = .err := by
  simp only [stepG, hseen, if_true]

theorem stepG_table {sid : NodeId} (hseen : seen.contains nm = false) (hs : Json.lookup nm opts.schemas = some sid) :
    stepG opts rec (some nm) an sh seen st =
      Res.bind (clone st sid) fun r =>
        match r.2.get? r.1 with
        | none => .panic
        | some cn => .ok (some r.1, r.2.set! r.1 (tableNull (opts.nullForSlices && an) cn)) := by
  simp only [stepG, hseen, Option.bind_some, hs, Bool.false_eq_true, if_false]

theorem stepG_named (hseen : seen.contains nm = false) (hs : Json.lookup nm opts.schemas = none) :
    stepG opts rec (some nm) an sh seen st = stepG opts rec none an sh (nm :: seen) st := by
  simp only [stepG, hseen, Option.bind_some, hs, Bool.false_eq_true, if_false, Option.bind_none]

end

theorem stepG_elem_congr {τ σ : Type} {opts : IOpts} {rec : IRecG τ}
    {rec' : IRecG σ} {e : τ} {e' : σ}
    (h : ∀ seen st, rec' e' seen st = rec e seen st) (tn : Option String) (an : Bool) (mk : NodeId → Node)
    (seen : List String) (st : Store) :
    stepG opts rec' tn an (.elem e' mk) seen st = stepG opts rec tn an (.elem e mk) seen st := by
  simp only [stepG, h]

theorem stepG_struct_congr {τ σ : Type} {opts : IOpts} {rec : IRecG τ}
    {rec' : IRecG σ}
    {loop loop' : List String → Node → Store → Res (Node × Store)} (h : ∀ seen n st, loop' seen n st = loop seen n st)
    (tn : Option String) (an : Bool) (seen : List String) (st : Store) :
    stepG opts rec' tn an (.struct loop') seen st = stepG opts rec tn an (.struct loop) seen st := by
  simp only [stepG, h]

/-- what `stepG_some` asks of the shape: a step that returns normally returns a schema, not `nil` -/
def ShapeSome {τ : Type} (opts : IOpts) (rec : IRecG τ) : Shape τ → Prop
  | .fail r => ∀ x, r ≠ .ok x
  | .invalid => opts.ignore = false
  | .elem e _ => ∀ seen st r st1, rec e seen st = .ok (r, st1) → ∃ id, r = some id
  | _ => True

theorem stepG_some {τ : Type} {opts : IOpts} {rec : IRecG τ}
    {tn : Option String} {an : Bool} {sh : Shape τ} (hsh : ShapeSome opts rec sh) {seen : List String} {st : Store}
    {r : Option NodeId} {st' : Store} (h : stepG opts rec tn an sh seen st = .ok (r, st')) : ∃ id, r = some id := by
  unfold stepG at h
  split at h
  · cases h
  · split at h
    · obtain ⟨⟨cid, stc⟩, _, h⟩ := Res.bind_eq_ok h
      simp only at h
      split at h
      · cases h
      · cases h; exact ⟨_, rfl⟩
    · cases sh with
      | fail r0 => exact absurd h (hsh _)
      | invalid =>
        rw [show opts.ignore = false from hsh] at h
        cases h
      | leaf n => cases h; exact ⟨_, rfl⟩
      | elem e mk =>
        obtain ⟨⟨es, st1⟩, he, h⟩ := Res.bind_eq_ok h
        obtain ⟨eid, rfl⟩ := hsh _ _ _ _ he
        cases h; exact ⟨_, rfl⟩
      | struct loop =>
        obtain ⟨_, _, h⟩ := Res.bind_eq_ok h
        cases h; exact ⟨_, rfl⟩

/-- what `stepG_inv` needs of the shape: the children of a new node are the element's schema, the loop is `LoopInv` -/
def ShapeInv {τ : Type} : Shape τ → Prop
  | .fail r => ∀ x, r ≠ .ok x
  | .invalid => True
  | .leaf n => n.children = []
  | .elem _ mk => ∀ eid x, x ∈ (mk eid).children → x = eid
  | .struct loop => ∀ seen n st n' st', loop seen n st = .ok (n', st') → LoopInv n st n' st'

theorem stepG_inv {τ : Type} {opts : IOpts} {rec : IRecG τ}
    (hrec : IRecInv rec)
    {tn : Option String} {an : Bool} {sh : Shape τ} (hsh : ShapeInv sh) {seen : List String} {st : Store}
    {r : Option NodeId} {st' : Store} (h : stepG opts rec tn an sh seen st = .ok (r, st')) : StepInv st r st' := by
  unfold stepG at h
  split at h
  · cases h
  · split at h
    · -- the type table: a clone, whose root is rewritten
      obtain ⟨⟨cid, stc⟩, hc, h⟩ := Res.bind_eq_ok h
      simp only at h
      split at h
      · cases h
      · rename_i cn hcn
        cases h
        have hext := cloneFuel_ext _ hc
        have hfr := fun s0 hs => cloneFuel_fresh s0 _ hs hc
        have hcid := (hfr st.size (Nat.le_refl _)).1
        refine ⟨hext.set! hcid _, fun id hid => ?_, fun s0 hs hf => ?_⟩
        · cases hid
          rw [size_set!]
          exact ⟨hcid, lt_size_of_get? hcn⟩
        · refine ((hfr s0 hs).2 hf).set! hcn ?_
          rw [tableNull_eq]
          rfl
    · cases sh with
      | fail r0 => exact absurd h (hsh _)
      | invalid =>
        simp only at h
        split at h
        · cases h; exact StepInv.refl _
        · cases h
      | leaf n =>
        cases h
        refine (StepInv.refl st).alloc _ fun x hx => ?_
        rw [addNull_children, show n.children = [] from hsh] at hx
        cases hx
      | elem e mk =>
        obtain ⟨⟨es, st1⟩, he, h⟩ := Res.bind_eq_ok h
        have h1 := hrec _ _ _ _ _ he
        cases es with
        | none => cases h; exact ⟨h1.1, (fun _ hid => nomatch hid), h1.2.2⟩
        | some eid =>
          cases h
          refine h1.alloc _ fun x hx => ?_
          rw [addNull_children] at hx
          rw [hsh eid x hx]
          exact (h1.2.1 _ rfl).1
      | struct loop =>
        obtain ⟨⟨n, st1⟩, hl, h⟩ := Res.bind_eq_ok h
        cases h
        obtain ⟨hext, hr⟩ := hsh _ _ _ _ _ hl
        have he0 : Ext st ((st.push emptyNode).push (falseNode st.size)) := (Ext.push _ _).trans (Ext.push _ _)
        rw [Array.size_push, Array.size_push] at hr
        refine ⟨he0.trans (hext.trans (Ext.push _ _)), fun id hid => ?_, fun s0 hs hf => ?_⟩
        · cases hid
          rw [Array.size_push]
          exact ⟨Nat.le_trans he0.1 hext.1, Nat.lt_succ_self _⟩
        · have hf0 : FreshAbove s0 ((st.push emptyNode).push (falseNode st.size)) := by
            refine (hf.push emptyNode fun x hx => nomatch hx).push _ fun x hx => ?_
            have : x = st.size := by simpa [Node.children, Node.childFields, sortByKey, falseNode, emptyNode] using hx
            rw [this]
            exact hs
          obtain ⟨h1, h2⟩ := hr s0 (by omega)
          refine (h1 hf0).push _ fun x hx => ?_
          rw [addNull_children] at hx
          refine h2 (fun y hy => ?_) x ?_
          · have : y = st.size + 1 := by simpa [Node.children, Node.childFields, sortByKey, structNode0] using hy
            rw [this]; omega
          · rwa [finalOrder_children] at hx

theorem children_elemNodes (nfs : Bool) (len : Nat) (eid x : NodeId) :
    (x ∈ (mapNode eid).children → x = eid) ∧ (x ∈ (sliceNode nfs eid).children → x = eid) ∧
    (x ∈ (arrayNode len eid).children → x = eid) := by
  refine ⟨fun h => ?_, fun h => ?_, fun h => ?_⟩
  · simpa [Node.children, Node.childFields, sortByKey, mapNode] using h
  · cases nfs <;> simpa [Node.children, Node.childFields, sortByKey, sliceNode] using h
  · simpa [Node.children, Node.childFields, sortByKey, arrayNode] using h

theorem shapeOf_inv (opts : IOpts) {rec : IRec} (hrec : IRecInv rec) : ∀ t : GoType, ShapeInv (shapeOf opts rec t)
  | .ref _ => fun _ h => nomatch h
  | .ptr _ => fun _ h => nomatch h
  | .named _ _ => fun _ h => nomatch h
  | .basic k => by
    simp only [shapeOf]
    split
    · rfl
    · trivial
  | .map k e => by
    simp only [shapeOf]
    split
    · trivial
    · exact fun eid x => (children_elemNodes false 0 eid x).1
  | .slice e => fun eid x => (children_elemNodes _ 0 eid x).2.1
  | .array n e => fun eid x => (children_elemNodes false n eid x).2.2
  | .struct fs => fun seen n st n' st' h => structLoop_inv hrec seen fs n st n' st' h

theorem inferStep_inv (opts : IOpts) (rec : IRec) (hrec : IRecInv rec) : IRecInv (inferStep opts rec) := by
  intro t0 seen st r st' h
  rw [inferStep_eq] at h
  exact stepG_inv hrec (shapeOf_inv opts hrec _) h

theorem inferFuel_inv (opts : IOpts) : ∀ fuel, IRecInv (inferFuel opts fuel)
  | 0 => fun _ _ _ _ _ h => by cases h
  | fuel + 1 => inferStep_inv opts _ (inferFuel_inv opts fuel)

theorem shapeOfE_inv (opts : IOpts) {rec : IRecE} (hrec : IRecInv rec) : ∀ t : GoTypeE, ShapeInv (shapeOfE opts rec t)
  | .ref _ => fun _ h => nomatch h
  | .ptr _ => fun _ h => nomatch h
  | .named _ _ => fun _ h => nomatch h
  | .basic k => by
    simp only [shapeOfE]
    split
    · rfl
    · trivial
  | .map k e => by
    simp only [shapeOfE]
    split
    · trivial
    · exact fun eid x => (children_elemNodes false 0 eid x).1
  | .slice e => fun eid x => (children_elemNodes _ 0 eid x).2.1
  | .array n e => fun eid x => (children_elemNodes false n eid x).2.2
  | .struct fs => fun seen n st n' st' h => structLoopE_inv opts hrec seen _ _ n st n' st' h

theorem inferStepE_inv (opts : IOpts) (rec : IRecE) (hrec : IRecInv rec) : IRecInv (inferStepE opts rec) := by
  intro t0 seen st r st' h
  rw [inferStepE_eq] at h
  exact stepG_inv hrec (shapeOfE_inv opts hrec _) h

theorem inferFuelE_inv (opts : IOpts) : ∀ fuel, IRecInv (inferFuelE opts fuel)
  | 0 => fun _ _ _ _ _ h => by cases h
  | fuel + 1 => inferStepE_inv opts _ (inferFuelE_inv opts fuel)

end Go
end JSV
