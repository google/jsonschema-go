/-
  C02 helpers: what an evaluation under draft `d` reads of a schema object (`view d n`): the fields the evaluator
  selects at all (`readsOf`) without the keywords the draft does not know.  Any node-wise rewriting `st.map f` that keeps the
  views (and, for `Go.validate`, `$schema`) changes no outcome; the erasures of C02 are instances.  `eraseAnchors` is defined here for Resolve (ResLater).
  Also the draft-07 `$ref` step of the evaluator.
-/
import JSV.Proofs.InvMeta
import JSV.Proofs.SpecStep
import JSV.Proofs.Vocab
namespace JSV
namespace Inv
open Go GoVal Refine

/-- clear the keywords only draft 2020-12 gives a meaning to, among those the evaluator dispatches on the draft -/
def erase2020only (n : Node) : Node :=
  { n with prefixItems := none, dependentRequired := none, dependentSchemas := none }

def erase7only (n : Node) : Node :=
  { n with itemsArray := none, additionalItems := none, dependencyStrings := none, dependencySchemas := none }

theorem stepBody_d7 (env : VEnv) (hd : env.draft = .d7) (rec : Go.Rec) (stack : List NodeId) (i : GoVal) (s : NodeId)
    (n : Node) : stepBody env rec stack i s (erase2020only n) = stepBody env rec stack i s n := by
  unfold stepBody bArray bObject bItems bDependencies
  rw [hd]
  rfl

theorem stepBody_d2020 (env : VEnv) (hd : env.draft = .d2020) (rec : Go.Rec) (stack : List NodeId) (i : GoVal)
    (s : NodeId) (n : Node) : stepBody env rec stack i s (erase7only n) = stepBody env rec stack i s n := by
  unfold stepBody bArray bObject bItems bDependencies
  rw [hd]
  rfl

theorem validateStep_ref7 (env : VEnv) (hd : env.draft = .d7) (rec : Go.Rec) (stack : List NodeId) (inst : GoVal)
    (s : NodeId) (n : Node) (i : Info) (t : NodeId) (hn : env.st.get? s = some n) (hr : n.ref ≠ "")
    (hi : env.info? s = some i) (ht : i.resolvedRef = some t) :
    validateStep env rec stack inst s = (rec (stack ++ [s]) (strip inst) t).bind fun _ => .ok {} := by
  have h1 : (n.ref != "") = true := by simp [hr]
  rw [validateStep_eq_body, hn]
  unfold stepBody bRef
  simp only [hi, Option.isNone_some, Bool.and_false, Bool.false_eq_true, if_false, h1, if_true, ht, hd, mustValid]
  cases rec (stack ++ [s]) (strip inst) t <;> simp

/-- clear the keywords that later drafts added to draft-07 -/
def eraseLater (n : Node) : Node :=
  { n with dynamicRef := "", minContains := none, maxContains := none, unevaluatedItems := none,
           unevaluatedProperties := none }

theorem eraseLater_eq_vocab (n : Node) : eraseLater n = Spec.vocab .d7 n := rfl

theorem eraseLater_eq_eraseField (n : Node) :
    eraseLater n = eraseField "DynamicRef" (eraseField "MinContains" (eraseField "MaxContains"
      (eraseField "UnevaluatedItems" (eraseField "UnevaluatedProperties" n)))) := by
  obtain ⟨-, -, hDR, -, hMin, hMax, hUI, -, hUP, -⟩ := eraseField_draft
  rw [hUP, hUI, hMax, hMin, hDR]
  rfl

/-- clear `$dynamicRef` alone (Schema.Resolve reads none of the five, but `unevaluatedItems` / `unevaluatedProperties` hold
    subschemas, which it visits) -/
def eraseDynRef (n : Node) : Node := { n with dynamicRef := "" }

theorem eraseDynRef_eq_eraseField (n : Node) : eraseDynRef n = eraseField "DynamicRef" n :=
  (eraseField_draft.2.2.1 n).symm

/-- the fields of a schema object that an evaluation under draft `d` reads: those the evaluator selects at all
    (`readsOf`), without the keywords the draft does not know -/
def view (d : Draft) (n : Node) : Node :=
  readsOf (match d with
    | .d7 => erase2020only (eraseLater n)
    | .d2020 => erase7only n)

/-- the evaluator guards its reads of the later keywords by the draft -/
theorem stepBody_vocab (env : VEnv) (rec : Go.Rec) (stack : List NodeId) (i : GoVal) (s : NodeId) (n : Node) :
    stepBody env rec stack i s (Spec.vocab env.draft n) = stepBody env rec stack i s n := by
  unfold stepBody bArray bObject
  simp only [bContains_vocab env.draft, bArrayLimits_vocab env.draft, bUnevaluatedItems_vocab env.draft,
    bUnevaluatedProps_vocab env.draft, bDynamicRef_vocab env, vocab_idem]
  rfl

theorem stepBody_view (env : VEnv) (rec : Go.Rec) (stack : List NodeId) (i : GoVal) (s : NodeId) (n : Node) :
    stepBody env rec stack i s (view env.draft n) = stepBody env rec stack i s n := by
  have hv := stepBody_vocab env rec stack i s n
  cases hd : env.draft with
  | d7 =>
    rw [hd] at hv
    exact (stepBody_reads ..).trans ((stepBody_d7 env hd ..).trans hv)
  | d2020 => exact (stepBody_reads ..).trans (stepBody_d2020 env hd ..)

theorem stepBody_of_view_eq (env : VEnv) (rec : Go.Rec) (stack : List NodeId) (i : GoVal) (s : NodeId) {n n' : Node}
    (h : view env.draft n' = view env.draft n) : stepBody env rec stack i s n' = stepBody env rec stack i s n := by
  rw [← stepBody_view env rec stack i s n', h, stepBody_view]

theorem validateFuel_map_view (env : VEnv) (f : Node → Node) (d : Draft) (hd : env.draft = d)
    (hf : ∀ n, view d (f n) = view d n) : ∀ fuel stack i s,
    validateFuel { env with st := env.st.map f } fuel stack i s = validateFuel env fuel stack i s :=
  validateFuel_map_of env f (fun rec stack i s n => stepBody_of_view_eq env rec stack i s (hd ▸ hf n))

theorem specBody_vocab (env : Spec.Env) (rec : Spec.Rec) (scope : List NodeId) (s : NodeId) (j : Json) (n : Node) :
    specBody env rec scope s j (Spec.vocab env.draft n) = specBody env rec scope s j n := by
  unfold specBody kwList
  rw [vocab_idem]
  rfl

theorem specBody_d7 (env : Spec.Env) (hd : env.draft = .d7) (rec : Spec.Rec) (scope : List NodeId) (s : NodeId)
    (j : Json) (n : Node) : specBody env rec scope s j (erase2020only n) = specBody env rec scope s j n := by
  unfold specBody kwList assertsOf Spec.kwItems Spec.arrayShape Spec.objectLimitsOk Spec.kwDependentSchemas
  rw [hd]
  rfl

theorem specBody_d2020 (env : Spec.Env) (hd : env.draft = .d2020) (rec : Spec.Rec) (scope : List NodeId) (s : NodeId)
    (j : Json) (n : Node) : specBody env rec scope s j (erase7only n) = specBody env rec scope s j n := by
  unfold specBody kwList assertsOf Spec.kwItems Spec.arrayShape Spec.objectLimitsOk Spec.kwDependentSchemas
  rw [hd]
  rfl

theorem specBody_reads (env : Spec.Env) (rec : Spec.Rec) (scope : List NodeId) (s : NodeId) (j : Json) (n : Node) :
    specBody env rec scope s j (readsOf n) = specBody env rec scope s j n := by rfl

theorem specBody_view (env : Spec.Env) (rec : Spec.Rec) (scope : List NodeId) (s : NodeId) (j : Json) (n : Node) :
    specBody env rec scope s j (view env.draft n) = specBody env rec scope s j n := by
  have hv := specBody_vocab env rec scope s j n
  cases hd : env.draft with
  | d7 =>
    rw [hd] at hv
    exact (specBody_reads ..).trans ((specBody_d7 env hd ..).trans hv)
  | d2020 => exact (specBody_reads ..).trans (specBody_d2020 env hd ..)

theorem specBody_of_view_eq (env : Spec.Env) (rec : Spec.Rec) (scope : List NodeId) (s : NodeId) (j : Json) {n n' : Node}
    (h : view env.draft n' = view env.draft n) : specBody env rec scope s j n' = specBody env rec scope s j n := by
  rw [← specBody_view env rec scope s j n', h, specBody_view]

theorem evalFuel_map_of (env : Spec.Env) (f : Node → Node)
    (hf : ∀ rec scope s j n, specBody env rec scope s j (f n) = specBody env rec scope s j n) (fuel : Nat) :
    Spec.evalFuel { env with st := env.st.map f } fuel = Spec.evalFuel env fuel := by
  refine evalFuel_store_congr env _ (fun rec scope s j => ?_) fuel
  cases hn : Store.get? env.st s with
  | none => rw [evalStep_none hn, evalStep_store_none env ((get?_map ..).trans (congrArg (Option.map f) hn))]
  | some n => rw [evalStep_get hn, evalStep_store_get env ((get?_map ..).trans (congrArg (Option.map f) hn)), hf]

theorem evalFuel_map_view (env : Spec.Env) (f : Node → Node) (d : Draft) (hd : env.draft = d)
    (hf : ∀ n, view d (f n) = view d n) (fuel : Nat) (scope : List NodeId) (s : NodeId) (j : Json) :
    Spec.evalFuel { env with st := env.st.map f } fuel scope s j = Spec.evalFuel env fuel scope s j :=
  congrFun (congrFun (congrFun
    (evalFuel_map_of env f (fun rec scope s j n => specBody_of_view_eq env rec scope s j (hd ▸ hf n)) fuel) scope) s) j

theorem validate_map_view (env : VEnv) (f : Node → Node) (d : Draft) (hd : env.draft = d)
    (hf : ∀ n, view d (f n) = view d n) (hs : ∀ n, (f n).schema = n.schema) :
    (∀ fuel scope s j,
      Spec.evalFuel (specEnvOf { env with st := env.st.map f }) fuel scope s j
        = Spec.evalFuel (specEnvOf env) fuel scope s j) ∧
    (∀ fuel stack i s, validateFuel { env with st := env.st.map f } fuel stack i s = validateFuel env fuel stack i s) ∧
    (∀ supported fuel root inst,
      Go.validate { env with st := env.st.map f } supported fuel root inst = Go.validate env supported fuel root inst) :=
  ⟨evalFuel_map_view (specEnvOf env) f d hd hf, validateFuel_map_view env f d hd hf,
   validate_map_of env f hs (validateFuel_map_view env f d hd hf)⟩

theorem view_eraseLater (n : Node) : view .d7 (eraseLater n) = view .d7 n := by rfl
theorem view_eraseDynRef (n : Node) : view .d7 (eraseDynRef n) = view .d7 n := by rfl
theorem view_erase2020only (n : Node) : view .d7 (erase2020only n) = view .d7 n := by rfl
theorem view_erase7only (n : Node) : view .d2020 (erase7only n) = view .d2020 n := by rfl

/-- clear `$anchor` and `$dynamicAnchor` (2020-12 only; draft-07 spells a plain-name anchor `"$id": "#name"`) -/
def eraseAnchors (n : Node) : Node := { n with anchor := "", dynamicAnchor := "" }

/-- `eraseLater`, `erase2020only` and `eraseAnchors` together: every 2020-12-only keyword the draft-07 evaluation
    ignores -/
def eraseNon7 (n : Node) : Node :=
  { n with dynamicRef := "", minContains := none, maxContains := none, unevaluatedItems := none,
           unevaluatedProperties := none, prefixItems := none, dependentRequired := none, dependentSchemas := none,
           anchor := "", dynamicAnchor := "" }

def eraseNon2020 (n : Node) : Node :=
  { n with dependencySchemas := none, dependencyStrings := none, itemsArray := none, additionalItems := none }

theorem eraseNon2020_eq (n : Node) : eraseNon2020 n = erase7only n := rfl

def non7Fields : List String :=
  ["Anchor", "DynamicAnchor", "DynamicRef", "PrefixItems", "MinContains", "MaxContains", "UnevaluatedItems",
   "DependentRequired", "UnevaluatedProperties", "DependentSchemas"]

def non2020Fields : List String := ["DependencySchemas", "DependencyStrings", "ItemsArray", "AdditionalItems"]

theorem eraseNon7_eq_foldr (n : Node) : eraseNon7 n = non7Fields.foldr eraseField n := by
  obtain ⟨hA, hDA, hDR, hPI, hMin, hMax, hUI, hDReq, hUP, hDS, -⟩ := eraseField_draft
  simp only [non7Fields, List.foldr_cons, List.foldr_nil]
  rw [hDS, hUP, hDReq, hUI, hMax, hMin, hPI, hDR, hDA, hA]
  rfl

theorem eraseNon2020_eq_foldr (n : Node) : eraseNon2020 n = non2020Fields.foldr eraseField n := by
  obtain ⟨-, -, -, -, -, -, -, -, -, -, hDSc, hDSt, hIA, hAI⟩ := eraseField_draft
  simp only [non2020Fields, List.foldr_cons, List.foldr_nil]
  rw [hAI, hIA, hDSt, hDSc]
  rfl

theorem view_eraseNon7 (n : Node) : view .d7 (eraseNon7 n) = view .d7 n := by rfl

end Inv
end JSV
