/-
  The invariant of the resolver state that rules out the nil map entries of resolveRef (`Inv`), and the updates that
  keep it:

    * `DocInv`    every Resolved knows the schemas checkStructure registers for its root, each of them has an
                  info record, and the `resolvedURIs` of the Resolved point to such schemas;
    * `LoadedInv` every cached URI belongs to a Resolved that exists;
    * `BaseInv`   every schema of `root.all()` of every Resolved has a base, the base is a schema of the same
                  document, and the base has a URI.

  `BaseInv` needs the assumption the model states in its header ("fresh nodes per loader document"): the documents
  (the root and the documents of the loader table) with different roots share no schema object (`Sep`).  The model
  keeps ONE info record per schema object; when two documents share a schema, the `base` recorded for it by one
  document is overwritten by the other, and `resolveRef` can then look up a base its own Resolved does not know: a
  reachable `.panic` of the model (JSV/Props/C10.lean, `resolve_panic_reachable`).
-/
import JSV.Proofs.ResTot
namespace JSV
namespace Go
namespace RTot
open RInv

def HasBase (env : Env) (infos : List (NodeId × Info)) (r x : NodeId) : Prop :=
  ∃ i b, lookupNat x infos = some i ∧ i.base = some b ∧ b ∈ docNodes env r ∧ HasUri infos b

theorem HasBase.mono {env : Env} {V a b r x} (hle : InfoLe V a b)
    (hV : x ∈ V → ∀ b' ∈ V, b' ∈ docNodes env r) (h : HasBase env a r x) : HasBase env b r x := by
  obtain ⟨i, bb, hl, hb, hbN, hU⟩ := h
  obtain ⟨i', hl', _, hb'⟩ := hle x i hl
  rcases hb' with e | ⟨hx, b', hb', hb'V, hU'⟩
  · exact ⟨i', bb, hl', by rw [e, hb], hbN, HasUri.mono hle hU⟩
  · exact ⟨i', b', hl', hb', hV hx b' hb'V, hU'⟩

/-- every Resolved: its root is one of the document roots `R`, checkStructure accepts the root, the Resolved knows
    every schema checkStructure registers, each has an info record, and `resolvedURIs` points to such schemas -/
def DocInv (env : Env) (R : List NodeId) (s : RState) : Prop :=
  ∀ r d, s.doc? r = some d → r ∈ R ∧ r ∈ docNodes env r ∧
    (∀ x ∈ docNodes env r, d.known.contains x = true ∧ (lookupNat x s.infos).isSome = true) ∧
    (∀ e ∈ d.uris, e.2 ∈ docNodes env r)

def LoadedInv (s : RState) : Prop := ∀ e ∈ s.loaded, (s.doc? e.2).isSome = true

/-- every schema of `r.all()` of every Resolved (except the one whose resolveURIs is running) has a base with a URI -/
def BaseInv (env : Env) (s : RState) (ex : Option NodeId) : Prop :=
  ∀ r, (s.doc? r).isSome = true → some r ≠ ex → ∀ x ∈ docAll env r, HasBase env s.infos r x

/-- documents with different roots share no schema object -/
def Sep (env : Env) (R : List NodeId) : Prop :=
  ∀ r1 ∈ R, ∀ r2 ∈ R, r1 ≠ r2 → ∀ x ∈ docNodes env r1, x ∉ docNodes env r2

def RootsIn (env : Env) (R : List NodeId) : Prop :=
  ∀ tbl k lroot, env.loader = some tbl → Json.lookup k tbl = some (.doc lroot) → lroot ∈ R

def DocsKeep (s s' : RState) : Prop := ∀ r, (s.doc? r).isSome = true → (s'.doc? r).isSome = true

theorem DocsKeep.refl (s : RState) : DocsKeep s s := fun _ h => h
theorem DocsKeep.trans {a b c : RState} (h1 : DocsKeep a b) (h2 : DocsKeep b c) : DocsKeep a c :=
  fun r h => h2 r (h1 r h)
theorem DocsKeep.of_docs_eq {s s' : RState} (h : s'.docs = s.docs) : DocsKeep s s' :=
  fun r hr => by rw [doc?_of_docs_eq h]; exact hr

structure Inv (env : Env) (R : List NodeId) (s : RState) : Prop where
  doc : DocInv env R s
  loaded : LoadedInv s
  base : BaseInv env s none

def Knows (s : RState) (r x : NodeId) : Prop :=
  ∃ d, s.doc? r = some d ∧ d.known.contains x = true ∧ (lookupNat x s.infos).isSome = true

theorem Knows.info? {s : RState} {r x : NodeId} (h : Knows s r x) :
    ∃ i, s.info? r x = some i ∧ lookupNat x s.infos = some i := by
  obtain ⟨d, hd, hk, hl⟩ := h
  cases hi : lookupNat x s.infos with
  | none => rw [hi] at hl; cases hl
  | some i =>
    refine ⟨i, ?_, rfl⟩
    unfold RState.info?
    rw [hd]
    simp only [hk, if_true]
    exact hi

theorem DocInv.knows {env : Env} {R s r d x} (h : DocInv env R s) (hd : s.doc? r = some d)
    (hx : x ∈ docNodes env r) : Knows s r x :=
  ⟨d, hd, ((h r d hd).2.2.1 x hx).1, ((h r d hd).2.2.1 x hx).2⟩

theorem docInv_infos {env : Env} {R s s'} (h : DocInv env R s) (hd : s'.docs = s.docs)
    (hi : ∀ x, (lookupNat x s.infos).isSome = true → (lookupNat x s'.infos).isSome = true) : DocInv env R s' := by
  intro r d hd'
  rw [doc?_of_docs_eq hd] at hd'
  obtain ⟨h1, h2, h3, h4⟩ := h r d hd'
  exact ⟨h1, h2, fun x hx => ⟨(h3 x hx).1, hi x (h3 x hx).2⟩, h4⟩

theorem docInv_setDoc {env : Env} {R s} (h : DocInv env R s) (dn : DocRes) (h1 : dn.root ∈ R)
    (h2 : dn.root ∈ docNodes env dn.root)
    (h3 : ∀ x ∈ docNodes env dn.root, dn.known.contains x = true ∧ (lookupNat x s.infos).isSome = true)
    (h4 : ∀ e ∈ dn.uris, e.2 ∈ docNodes env dn.root) : DocInv env R (s.setDoc dn) := by
  intro r d hd
  rw [doc?_setDoc] at hd
  split at hd
  · rename_i hr
    subst hr
    cases hd
    exact ⟨h1, h2, h3, h4⟩
  · exact h r d hd

theorem docsKeep_setDoc (s : RState) (dn : DocRes) : DocsKeep s (s.setDoc dn) := by
  intro r hr
  rw [doc?_setDoc]
  split
  · rfl
  · exact hr

theorem doc?_setDoc_isSome (s : RState) (dn : DocRes) (h : (s.doc? dn.root).isSome = true) (r : NodeId) :
    ((s.setDoc dn).doc? r).isSome = (s.doc? r).isSome := by
  rw [doc?_setDoc]
  split
  · rename_i hr; subst hr; rw [h]; rfl
  · rfl

theorem loadedInv_of {s s' : RState} (h : LoadedInv s) (hl : s'.loaded = s.loaded) (hk : DocsKeep s s') :
    LoadedInv s' := by
  intro e he
  rw [hl] at he
  exact hk _ (h e he)

theorem baseInv_of {env : Env} {s s' : RState} {ex V} (h : BaseInv env s ex)
    (hd : ∀ r, (s'.doc? r).isSome = true → (s.doc? r).isSome = true)
    (hle : InfoLe V s.infos s'.infos)
    (hV : ∀ r, (s.doc? r).isSome = true → some r ≠ ex → ∀ x ∈ docAll env r, x ∈ V → ∀ b' ∈ V, b' ∈ docNodes env r) :
    BaseInv env s' ex := by
  intro r hr hne x hx
  exact HasBase.mono hle (hV r (hd r hr) hne x hx) (h r (hd r hr) hne x hx)

/-- updates of info records that keep `base` and URIs -/
theorem Inv.gentle {env : Env} {R s s'} (h : Inv env R s) (hd : s'.docs = s.docs) (hl : s'.loaded = s.loaded)
    (hle : InfoLe [] s.infos s'.infos) : Inv env R s' :=
  ⟨docInv_infos h.doc hd (fun x hx => hle.isSome x hx),
   loadedInv_of h.loaded hl (DocsKeep.of_docs_eq hd),
   baseInv_of h.base (fun r hr => by rw [doc?_of_docs_eq hd] at hr; exact hr) hle
     (fun _ _ _ _ _ hx => absurd hx (by simp))⟩

theorem Inv.updInfo {env : Env} {R s} (h : Inv env R s) (id : NodeId) (f : Info → Info)
    (hb : ∀ i, (f i).base = i.base) (hu : ∀ i, i.uri.isSome = true → (f i).uri.isSome = true) :
    Inv env R (s.updInfo id f) :=
  h.gentle (updInfo_docs s id f) (updInfo_same s id f).2 (infoLe_updInfo [] s id f hb hu)

theorem Inv.mergeKnown {env : Env} {R s} (h : Inv env R s) (a b : NodeId) :
    Inv env R (mergeKnown s a b) ∧ DocsKeep s (mergeKnown s a b) := by
  unfold Go.mergeKnown
  split
  · rename_i d l hd hl
    obtain ⟨h1, h2, h3, h4⟩ := h.doc a d hd
    have hroot := doc?_root s a d hd
    subst hroot
    refine ⟨⟨docInv_setDoc h.doc _ h1 h2 (fun x hx => ⟨?_, (h3 x hx).2⟩) h4, ?_, ?_⟩, docsKeep_setDoc _ _⟩
    · have := (h3 x hx).1
      simp only [List.contains_eq_mem, List.mem_append, decide_eq_true_eq] at this ⊢
      exact Or.inl this
    · exact loadedInv_of h.loaded rfl (docsKeep_setDoc _ _)
    · refine baseInv_of h.base ?_ (InfoLe.refl [] _) (fun _ _ _ _ _ hx => absurd hx (by simp))
      intro r hr
      rw [doc?_setDoc_isSome _ _ (by rw [hd]; rfl)] at hr
      exact hr
  · exact ⟨h, fun _ h => h⟩

theorem mergeKnown_knows {env : Env} {R s} (h : Inv env R s) (a b : NodeId) (ha : (s.doc? a).isSome = true)
    (hb : (s.doc? b).isSome = true) : Knows (mergeKnown s a b) a b := by
  cases hd : s.doc? a with
  | none => rw [hd] at ha; cases ha
  | some d =>
    cases hl : s.doc? b with
    | none => rw [hl] at hb; cases hb
    | some l =>
      obtain ⟨_, hbb, hkn, _⟩ := h.doc b l hl
      have hroot := doc?_root s a d hd
      unfold Go.mergeKnown
      rw [hd, hl]
      simp only []
      refine ⟨{ d with known := d.known ++ l.known.filter (fun x => !d.known.contains x) }, ?_, ?_, (hkn b hbb).2⟩
      · rw [doc?_setDoc, if_pos hroot]
      · have := (hkn b hbb).1
        simp only [List.contains_eq_mem, List.mem_append, List.mem_filter, decide_eq_true_eq,
          Bool.not_eq_true', decide_eq_false_iff_not] at this ⊢
        by_cases hm : b ∈ d.known
        · exact Or.inl hm
        · exact Or.inr ⟨this, hm⟩

end RTot
end Go
end JSV
