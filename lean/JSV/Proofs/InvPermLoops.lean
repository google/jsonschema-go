/-
  C14 helpers on the evaluator's side: its presence checks do not depend on the order of the instance's members
  (`hasProperty_perm`, `allPresent_perm_inst`), its loops over the maps of the schema (dependentRequired, properties)
  not on the iteration order of the map; and a store with its maps reordered is as well formed as the original
  (`permStore_get`, `StoreWF_perm`, `EnvWF_perm`).
-/
import JSV.Proofs.InvPermStore
namespace JSV
namespace Inv
open Go GoVal Refine

theorem hasProperty_perm {kvs1 kvs2 : List (String × GoVal)} (h : kvs1.Perm kvs2) (p : String) :
    hasProperty kvs1 p = hasProperty kvs2 p := by
  unfold hasProperty
  rw [Bool.eq_iff_iff, Json.lookup_isSome_iff, Json.lookup_isSome_iff]
  exact (h.map _).mem_iff

theorem allPresent_perm_inst {kvs1 kvs2 : List (String × GoVal)} (h : kvs1.Perm kvs2) (ps : List String) :
    allPresent kvs1 ps = allPresent kvs2 ps := by
  unfold allPresent
  congr 1
  funext p
  exact hasProperty_perm h p

theorem depRequiredLoop_eq_all (kvs : List (String × GoVal)) : ∀ ds : List (String × Option (List String)),
    depRequiredLoop kvs ds =
      if ds.all (fun d => !(hasProperty kvs d.1 && !allPresent kvs (d.2.getD []))) then .ok () else .err
  | [] => rfl
  | (dprop, reqs) :: rest => by
    simp only [depRequiredLoop, List.all_cons, depRequiredLoop_eq_all kvs rest]
    by_cases hb : (hasProperty kvs dprop && !allPresent kvs (reqs.getD [])) = true
    · simp [hb]
    · have hb' : (hasProperty kvs dprop && !allPresent kvs (reqs.getD [])) = false := by
        cases h : (hasProperty kvs dprop && !allPresent kvs (reqs.getD [])) <;> simp_all
      simp only [hb', Bool.false_eq_true, if_false, Bool.not_false, Bool.true_and]

theorem depRequiredLoop_perm (kvs : List (String × GoVal)) {ds1 ds2 : List (String × Option (List String))}
    (h : ds1.Perm ds2) : depRequiredLoop kvs ds1 = depRequiredLoop kvs ds2 := by
  rw [depRequiredLoop_eq_all, depRequiredLoop_eq_all, h.all_eq]

/-- every call the `properties` loop can make returns a verdict (no panic, enough fuel) -/
def PropsDecided (rec : Go.Rec) (stack : List NodeId) (kvs : List (String × GoVal)) (props : List (String × NodeId)) :
    Prop :=
  ∀ e, e ∈ props → ∀ v, Json.lookup e.1 kvs = some v → rec stack v e.2 = .err ∨ ∃ a, rec stack v e.2 = .ok a

theorem propertiesLoop_decided (rec : Go.Rec) (stack : List NodeId) (kvs : List (String × GoVal)) :
    ∀ (props : List (String × NodeId)) (ev : List String), PropsDecided rec stack kvs props →
    propertiesLoop rec stack kvs props ev =
      if props.all (fun e => match Json.lookup e.1 kvs with
          | none => true
          | some v => (rec stack v e.2).isOk) then
        .ok (ev ++ (props.filter fun e => (Json.lookup e.1 kvs).isSome).map (·.1))
      else .err
  | [], ev, _ => by simp [propertiesLoop]
  | (prop, sub) :: rest, ev, hdec => by
    have hrest : PropsDecided rec stack kvs rest := fun e he => hdec e (List.mem_cons_of_mem _ he)
    simp only [propertiesLoop, List.all_cons, List.filter_cons]
    cases hl : Json.lookup prop kvs with
    | none =>
      simp only [Option.isSome_none, Bool.false_eq_true, if_false, Bool.true_and]
      exact propertiesLoop_decided rec stack kvs rest ev hrest
    | some val =>
      simp only [Option.isSome_some, if_true, List.map_cons, mustValidChild]
      rcases hdec (prop, sub) List.mem_cons_self val hl with he | ⟨a, ha⟩
      · rw [he]
        have : (Res.err : Res Anns).isOk = false := rfl
        simp only [Res.bind_err, this, Bool.false_and, Bool.false_eq_true, if_false]
      · rw [ha]
        have : (Res.ok a : Res Anns).isOk = true := rfl
        simp only [Res.bind_ok, this, Bool.true_and]
        rw [propertiesLoop_decided rec stack kvs rest (ev ++ [prop]) hrest]
        simp only [List.append_assoc, List.singleton_append]

theorem propertiesLoop_perm (rec : Go.Rec) (stack : List NodeId) (kvs : List (String × GoVal))
    {props1 props2 : List (String × NodeId)} (h : props1.Perm props2) (hdec : PropsDecided rec stack kvs props1)
    (ev : List String) :
    (match propertiesLoop rec stack kvs props1 ev, propertiesLoop rec stack kvs props2 ev with
     | .ok e1, .ok e2 => e1.Perm e2
     | .err, .err => True
     | _, _ => False) := by
  have hdec2 : PropsDecided rec stack kvs props2 := fun e he => hdec e (h.mem_iff.2 he)
  rw [propertiesLoop_decided rec stack kvs props1 ev hdec, propertiesLoop_decided rec stack kvs props2 ev hdec2,
    h.all_eq]
  by_cases hall : (props2.all fun e => match Json.lookup e.1 kvs with
      | none => true
      | some v => (rec stack v e.2).isOk) = true
  · simp only [hall, if_true]
    exact List.Perm.append_left _ ((h.filter _).map _)
  · simp only [hall, Bool.false_eq_true, if_false]

theorem permNode_schema {a b : Node} (h : permNode a b) : b.schema = a.schema := by
  obtain ⟨p, pp, d, df, ds, dst, dr, dsc, _, _, _, _, _, _, _, _, rfl⟩ := h
  rfl

theorem permNode_properties {a b : Node} (h : permNode a b) : (a.properties.getD []).Perm (b.properties.getD []) := by
  obtain ⟨p, pp, d, df, ds, dst, dr, dsc, h1, _, _, _, _, _, _, _, rfl⟩ := h
  exact h1.getD

theorem permStore_get {st1 st2 : Store} (h : permStore st1 st2) {s : NodeId} {n2 : Node} (h2 : st2.get? s = some n2) :
    ∃ n1, st1.get? s = some n1 ∧ permNode n1 n2 :=
  Go.OptRel.of_some (Go.OptRel.flip (h2 ▸ h.optRel s))

theorem permStore_get' {st1 st2 : Store} (h : permStore st1 st2) {s : NodeId} {n1 : Node} (h1 : st1.get? s = some n1) :
    ∃ n2, st2.get? s = some n2 ∧ permNode n1 n2 :=
  Go.OptRel.of_some (h1 ▸ h.optRel s)

theorem StoreWF_perm {st1 st2 : Store} (h : permStore st1 st2) (hwf : StoreWF st1) : StoreWF st2 := by
  intro s n2 h2
  obtain ⟨n1, h1, hn⟩ := permStore_get h h2
  have := Json.nodupKeys_iff.1 (hwf s n1 h1)
  exact Json.nodupKeys_iff.2 (((permNode_properties hn).map _).nodup_iff.1 this)

theorem EnvWF_perm (env : VEnv) (st2 : Store) (h : permStore env.st st2) (hwf : EnvWF env) :
    EnvWF { env with st := st2 } where
  info_total := by
    intro s n2 h2
    obtain ⟨n1, h1, _⟩ := permStore_get h h2
    exact hwf.info_total s n1 h1
  base_total := hwf.base_total
  hash_respects := hwf.hash_respects

end Inv
end JSV
