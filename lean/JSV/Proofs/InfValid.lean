/-
  The Spec's `evalStep` on the keyword fragment that `forType` emits
  (type / types, minimum, maximum, items, minItems, maxItems, properties, required,
  additionalProperties, and `not` for the false schema).
-/
import JSV.Spec.Valid
import JSV.Proofs.SpecAbsent
namespace JSV
namespace Spec
open Go (Draft)

/-- the environment of an inferred schema: draft 2020-12, no `$ref` / `$dynamicRef` anywhere, any regexp
    matcher (no `pattern` is emitted) -/
def specEnvNoRefs (st : Store) (reMatch : String → String → Bool := fun _ _ => false) : Env :=
  { st := st, draft := .d2020, refTarget := fun _ => none, dynInitial := fun _ => none,
    dynName := fun _ => "", resource := fun _ => none, dynDecl := fun _ _ => none, reMatch := reMatch }

def AllValid (l : List (Option R)) : Prop := ∀ o, o ∈ l → ∃ e, o = some (some e)

theorem sequence_allValid : ∀ {l : List (Option R)}, AllValid l →
    ∃ rs, sequence l = some rs ∧ allHold rs = true
  | [], _ => ⟨[], rfl, rfl⟩
  | o :: l, h => by
    obtain ⟨e, rfl⟩ := h o List.mem_cons_self
    obtain ⟨rs, h1, h2⟩ := sequence_allValid (l := l) fun o ho => h o (List.mem_cons_of_mem _ ho)
    refine ⟨some e :: rs, by simp [sequence, h1], ?_⟩
    simpa [allHold] using h2

theorem allValid_of_sequence : ∀ {l : List (Option R)} {rs : List R}, sequence l = some rs → allHold rs = true →
    AllValid l
  | [], _, _, _ => fun _ ho => nomatch ho
  | none :: l, rs, h, _ => by simp [sequence] at h
  | some r :: l, rs, h, ha => by
    simp only [sequence, Option.map_eq_some_iff] at h
    obtain ⟨rs', h1, rfl⟩ := h
    simp only [allHold, List.all_cons, Bool.and_eq_true] at ha
    intro o ho
    rcases List.mem_cons.1 ho with rfl | ho
    · cases r with
      | none => simp at ha
      | some e => exact ⟨e, rfl⟩
    · exact allValid_of_sequence h1 (by simpa [allHold] using ha.2) o ho

/-- the shape every array / object keyword has -/
theorem seq_guard_valid {l : List (Option R)} (c : Ev) (h : AllValid l) :
    ((sequence l).map fun rs => if allHold rs then some c else none) = some (some c) := by
  obtain ⟨rs, h1, h2⟩ := sequence_allValid h
  simp [h1, h2]

theorem seq_guard_inv {l : List (Option R)} {c e : Ev}
    (h : ((sequence l).map fun rs => if allHold rs then some c else none) = some (some e)) : AllValid l := by
  cases hs : sequence l with
  | none => simp [hs] at h
  | some rs =>
    simp only [hs, Option.map_some, Option.some.injEq] at h
    split at h
    · rename_i ha; exact allValid_of_sequence hs ha
    · cases h

theorem kwDependentSchemas_none {env : Env} {sub : NodeId → Json → Out} {n : Node} (hd : env.draft = .d2020)
    (h : n.dependentSchemas = none) (j : Json) :
    ∃ ev, kwDependentSchemas env sub n j = some (some ev) := by
  unfold kwDependentSchemas
  cases j <;> simp [h, hd, sequence, conj]

def asserts (env : Env) (n : Node) (j : Json) : Bool :=
  typeOk n j && enumOk n j && constOk n j && numericOk n j && stringOk env n j &&
    arrayLimitsOk n j && objectLimitsOk env n j

/-- none of the applicators outside the fragment is present -/
structure Plain (n : Node) : Prop where
  ref : n.ref = ""
  dynamicRef : n.dynamicRef = ""
  allOf : n.allOf = none
  anyOf : n.anyOf = none
  oneOf : n.oneOf = none
  if_ : n.if_ = none
  contains : n.contains = none
  propertyNames : n.propertyNames = none
  dependentSchemas : n.dependentSchemas = none
  unevaluatedItems : n.unevaluatedItems = none
  unevaluatedProperties : n.unevaluatedProperties = none

def Valid (o : Out) : Prop := ∃ e, o = some (some e)

theorem evalStep_plain {env : Env} {rec : Rec} {scope : List NodeId} {s : NodeId} {n : Node} {j : Json}
    (hd : env.draft = .d2020) (hn : env.st.get? s = some n) (P : Plain n) :
    Valid (evalStep env rec scope s j) ↔
      (Valid (kwNot (rec (scope ++ [s])) n j) ∧ Valid (kwItems env (rec (scope ++ [s])) n j) ∧
       Valid (kwProps env (rec (scope ++ [s])) n j) ∧ asserts env n j = true) := by
  unfold evalStep
  rw [hn]
  obtain ⟨evd, hds⟩ := kwDependentSchemas_none (sub := rec (scope ++ [s])) hd P.dependentSchemas j
  simp only [hd, show vocab Draft.d2020 n = n from rfl, P.ref, kwRef, inPlace, kwDynamicRef, P.dynamicRef, kwAllOf, P.allOf, kwAnyOf, P.anyOf, kwOneOf, P.oneOf,
    kwIf, P.if_, Laws.kwContains_absent _ _ _ P.contains, Laws.kwPropertyNames_absent _ _ _ P.propertyNames, hds,
    Laws.kwUnevaluatedItems_absent _ _ _ _ P.unevaluatedItems, Laws.kwUnevaluatedProps_absent _ _ _ _ P.unevaluatedProperties]
  simp only [asserts]
  generalize kwNot (rec (scope ++ [s])) n j = a
  generalize kwItems env (rec (scope ++ [s])) n j = b
  generalize kwProps env (rec (scope ++ [s])) n j = c
  generalize (typeOk n j && enumOk n j && constOk n j && numericOk n j && stringOk env n j && arrayLimitsOk n j &&
    objectLimitsOk env n j) = A
  have e : ("" != "") = false := rfl
  simp only [e, Bool.and_false, Bool.false_eq_true, if_false, sequence, Option.map_some]
  unfold Valid
  rcases a with _ | a <;> rcases b with _ | b <;> rcases c with _ | c <;> simp [sequence]
  cases a <;> cases b <;> cases c <;> cases A <;> simp [conj]

theorem kwItems_none {env : Env} {sub : NodeId → Json → Out} {n : Node} (hd : env.draft = .d2020)
    (hp : n.prefixItems = none) (hi : n.items = none) (j : Json) :
    ∃ ev, kwItems env sub n j = some (some ev) := by
  unfold kwItems
  cases j <;> simp [arrayShape, hd, hp, hi, sequence, allHold]

theorem kwItems_nonarr {env : Env} {sub : NodeId → Json → Out} {n : Node} {j : Json} (h : j.isArr = false) :
    kwItems env sub n j = some (some {}) := by
  unfold kwItems
  cases j <;> simp_all [Json.isArr]

theorem kwItems_arr {env : Env} {sub : NodeId → Json → Out} {n : Node} (hd : env.draft = .d2020)
    (hp : n.prefixItems = none) {eid : NodeId} (hi : n.items = some eid) (xs : List Json) :
    kwItems env sub n (.arr xs) =
      (sequence (xs.map fun x => sub eid x)).map fun rs =>
        if allHold rs then some { items := indices xs.length } else none := by
  unfold kwItems
  simp [arrayShape, hd, hp, hi]

theorem kwItems_arr_valid {env : Env} {sub : NodeId → Json → Out} {n : Node} (hd : env.draft = .d2020)
    (hp : n.prefixItems = none) {eid : NodeId} (hi : n.items = some eid) {xs : List Json}
    (h : ∀ x, x ∈ xs → Valid (sub eid x)) : Valid (kwItems env sub n (.arr xs)) := by
  rw [kwItems_arr hd hp hi]
  refine ⟨_, seq_guard_valid _ ?_⟩
  intro o ho
  obtain ⟨x, hx, rfl⟩ := List.mem_map.1 ho
  exact h x hx

theorem kwItems_arr_inv {env : Env} {sub : NodeId → Json → Out} {n : Node} (hd : env.draft = .d2020)
    (hp : n.prefixItems = none) {eid : NodeId} (hi : n.items = some eid) {xs : List Json}
    (h : Valid (kwItems env sub n (.arr xs))) : ∀ x, x ∈ xs → Valid (sub eid x) := by
  rw [kwItems_arr hd hp hi] at h
  obtain ⟨e, h⟩ := h
  intro x hx
  exact seq_guard_inv h _ (List.mem_map_of_mem hx)

theorem kwItems_valid_iff {env : Env} {sub : NodeId → Json → Out} {n : Node} (hd : env.draft = .d2020)
    (hp : n.prefixItems = none) (j : Json) :
    Valid (kwItems env sub n j) ↔ ∀ xs, j = .arr xs → ∀ eid, n.items = some eid → ∀ x, x ∈ xs → Valid (sub eid x) := by
  cases hi : n.items with
  | none => exact ⟨fun _ _ _ _ h => (nomatch h), fun _ => kwItems_none hd hp hi j⟩
  | some eid =>
    cases j with
    | arr xs =>
      constructor
      · intro h _ hxs _ he
        cases hxs; cases he
        exact kwItems_arr_inv hd hp hi h
      · exact fun h => kwItems_arr_valid hd hp hi (h xs rfl eid rfl)
    | _ => exact ⟨fun _ _ h => (nomatch h), fun _ => ⟨_, kwItems_nonarr rfl⟩⟩

/-- the calls `properties` makes -/
def namedOf (sub : NodeId → Json → Out) (props : List (String × NodeId)) (kvs : List (String × Json)) :
    List (String × Out) :=
  kvs.filterMap fun p => (Json.lookup p.1 props).map fun t => (p.1, sub t p.2)

/-- the calls `additionalProperties` makes -/
def additionalOf (sub : NodeId → Json → Out) (ap : Option NodeId) (covered : List String) (kvs : List (String × Json)) :
    List (String × Out) :=
  match ap with
  | some t => (kvs.filter fun p => !covered.contains p.1).map fun p => (p.1, sub t p.2)
  | none => []

theorem kwProps_obj {env : Env} {sub : NodeId → Json → Out} {n : Node} (hpp : n.patternProperties = none)
    (kvs : List (String × Json)) :
    kwProps env sub n (.obj kvs) =
      (sequence ((namedOf sub (n.properties.getD []) kvs ++
          additionalOf sub n.additionalProperties ((namedOf sub (n.properties.getD []) kvs).map (·.1)) kvs).map (·.2))).map
        fun rs => if allHold rs then
          some { props := (namedOf sub (n.properties.getD []) kvs ++
            additionalOf sub n.additionalProperties ((namedOf sub (n.properties.getD []) kvs).map (·.1)) kvs).map (·.1) }
        else none := by
  unfold kwProps
  simp only [hpp, Option.getD_none, List.filter_nil, List.map_nil, flatMap_nil_fun, List.append_nil]
  cases hap : n.additionalProperties <;> rfl

theorem mem_namedOf {sub : NodeId → Json → Out} {props : List (String × NodeId)} {kvs : List (String × Json)}
    {q : String × Out} : q ∈ namedOf sub props kvs ↔ ∃ p t, p ∈ kvs ∧ Json.lookup p.1 props = some t ∧ q = (p.1, sub t p.2) := by
  unfold namedOf
  simp only [List.mem_filterMap, Option.map_eq_some_iff]
  constructor
  · rintro ⟨p, hp, t, ht, rfl⟩
    exact ⟨p, t, hp, ht, rfl⟩
  · rintro ⟨p, t, hp, ht, rfl⟩
    exact ⟨p, hp, t, ht, rfl⟩

theorem mem_namedOf_keys {sub : NodeId → Json → Out} {props : List (String × NodeId)} {kvs : List (String × Json)}
    {k : String} : k ∈ (namedOf sub props kvs).map (·.1) ↔ (∃ v, (k, v) ∈ kvs) ∧ (Json.lookup k props).isSome = true := by
  simp only [List.mem_map, mem_namedOf]
  constructor
  · rintro ⟨q, ⟨p, t, hp, ht, rfl⟩, rfl⟩
    exact ⟨⟨p.2, hp⟩, by simp [ht]⟩
  · rintro ⟨⟨v, hv⟩, hs⟩
    obtain ⟨t, ht⟩ := Option.isSome_iff_exists.1 hs
    exact ⟨_, ⟨(k, v), t, hv, ht, rfl⟩, rfl⟩

/-- `properties` and `additionalProperties` (no `patternProperties`) as a condition on the members of the object -/
def PropsValid (sub : NodeId → Json → Out) (n : Node) (kvs : List (String × Json)) : Prop :=
  ∀ p, p ∈ kvs →
    (∀ t, Json.lookup p.1 (n.properties.getD []) = some t → Valid (sub t p.2)) ∧
    (Json.lookup p.1 (n.properties.getD []) = none → ∀ t, n.additionalProperties = some t → Valid (sub t p.2))

theorem kwProps_obj_valid {env : Env} {sub : NodeId → Json → Out} {n : Node} (hpp : n.patternProperties = none)
    {kvs : List (String × Json)} (h : PropsValid sub n kvs) : Valid (kwProps env sub n (.obj kvs)) := by
  rw [kwProps_obj hpp]
  refine ⟨_, seq_guard_valid _ ?_⟩
  intro o ho
  obtain ⟨q, hq, rfl⟩ := List.mem_map.1 ho
  rcases List.mem_append.1 hq with hq | hq
  · obtain ⟨p, t, hp, ht, rfl⟩ := mem_namedOf.1 hq
    exact (h p hp).1 t ht
  · unfold additionalOf at hq
    cases hap : n.additionalProperties with
    | none => rw [hap] at hq; cases hq
    | some t =>
      rw [hap] at hq
      obtain ⟨p, hp, rfl⟩ := List.mem_map.1 hq
      obtain ⟨hp, hc⟩ := List.mem_filter.1 hp
      refine (h p hp).2 ?_ t hap
      cases hl : Json.lookup p.1 (n.properties.getD []) with
      | none => rfl
      | some t0 =>
        have : p.1 ∈ (namedOf sub (n.properties.getD []) kvs).map (·.1) :=
          mem_namedOf_keys.2 ⟨⟨p.2, hp⟩, by simp [hl]⟩
        simp [this] at hc

theorem kwProps_obj_inv {env : Env} {sub : NodeId → Json → Out} {n : Node} (hpp : n.patternProperties = none)
    {kvs : List (String × Json)} (h : Valid (kwProps env sub n (.obj kvs))) : PropsValid sub n kvs := by
  rw [kwProps_obj hpp] at h
  obtain ⟨e, h⟩ := h
  have hv := seq_guard_inv h
  intro p hp
  constructor
  · intro t ht
    refine hv _ (List.mem_map.2 ⟨(p.1, sub t p.2), List.mem_append_left _ (mem_namedOf.2 ⟨p, t, hp, ht, rfl⟩), rfl⟩)
  · intro hl t hap
    refine hv _ (List.mem_map.2 ⟨(p.1, sub t p.2), List.mem_append_right _ ?_, rfl⟩)
    unfold additionalOf
    rw [hap]
    refine List.mem_map.2 ⟨p, List.mem_filter.2 ⟨hp, ?_⟩, rfl⟩
    have : ¬ p.1 ∈ (namedOf sub (n.properties.getD []) kvs).map (·.1) := fun hm => by
      have := (mem_namedOf_keys.1 hm).2
      rw [hl] at this
      cases this
    simpa using this

theorem kwProps_nonobj {env : Env} {sub : NodeId → Json → Out} {n : Node} {j : Json} (h : j.isObj = false) :
    kwProps env sub n j = some (some {}) := by
  unfold kwProps
  cases j <;> simp_all [Json.isObj]

theorem kwProps_valid_iff {env : Env} {sub : NodeId → Json → Out} {n : Node} (hpp : n.patternProperties = none)
    (j : Json) : Valid (kwProps env sub n j) ↔ ∀ kvs, j = .obj kvs → PropsValid sub n kvs := by
  cases j with
  | obj kvs =>
    exact ⟨fun h _ hk => by cases hk; exact kwProps_obj_inv hpp h, fun h => kwProps_obj_valid hpp (h kvs rfl)⟩
  | _ => exact ⟨fun _ _ h => (nomatch h), fun _ => ⟨_, kwProps_nonobj rfl⟩⟩

theorem valid_fuel_pos {env : Env} {f : Nat} {sc : List NodeId} {s : NodeId} {j : Json}
    (h : Valid (evalFuel env f sc s j)) : ∃ f', f = f' + 1 := by
  cases f with
  | zero => obtain ⟨e, he⟩ := h; cases he
  | succ f => exact ⟨f, rfl⟩

end Spec
end JSV
