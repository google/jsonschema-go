/-
  `Models nfs st T allowNull id` — the schema rooted at `id` in `st` is the schema `forType` builds for the type `T`
  of the fragment (up to the `description` fields, which the struct loop may set from `jsonschema` tags) — and the
  proof that `forType` produces it; the kind table of `forType` against the kinds of the domain (`int_rows`, `kind_rows`).
-/
import JSV.Proofs.InfEqns
import JSV.Proofs.InfValid
namespace JSV
namespace EncJson
open Go

theorem mem_intKinds_of_intRange {k : String} {r : Int × Int} (h : intRange k = some r) : k ∈ intKinds := by
  apply Decidable.byContradiction
  intro hn
  simp only [intKinds, List.mem_cons, List.not_mem_nil, or_false, not_or] at hn
  simp only [intRange, hn, if_false] at h
  cases h

/-- the kind table against the value ranges, row by row -/
theorem int_rows : ∀ k, k ∈ intKinds →
    (intRange k).isSome = true ∧ (kindEntry k).map (·.1) = some "integer" ∧
    ((kindEntry k).bind (·.2.1) = (intRange k).map (·.1) ∨
      ((kindEntry k).bind (·.2.1) = none ∧ (intRange k).map (·.1) = some (-9223372036854775808))) ∧
    ((kindEntry k).bind (·.2.2) = (intRange k).map (·.2) ∨
      ((kindEntry k).bind (·.2.2) = none ∧ ((intRange k).map (·.2)).any (9223372036854775807 ≤ ·) = true)) := by
  decide +kernel

/-- … and for the sized kinds both bounds are stated: they are the ends of the value range -/
theorem sized_rows : ∀ k, k ∈ sizedKinds →
    ∃ lo hi, intRange k = some (lo, hi) ∧ kindEntry k = some ("integer", some lo, some hi) := by
  have h : ∀ k, k ∈ sizedKinds → (intRange k).isSome = true ∧
      kindEntry k = (intRange k).map fun r => ("integer", some r.1, some r.2) := by decide +kernel
  intro k hk
  obtain ⟨h1, h2⟩ := h k hk
  obtain ⟨⟨lo, hi⟩, hr⟩ := Option.isSome_iff_exists.1 h1
  exact ⟨lo, hi, hr, by rw [h2, hr]; rfl⟩

/-- the type keyword of the kinds that are not integer kinds -/
theorem kind_rows :
    kindEntry "Bool" = some ("boolean", none, none) ∧ kindEntry "String" = some ("string", none, none) ∧
    kindEntry "Interface" = some ("", none, none) ∧ ∀ k, k ∈ floatKinds → kindEntry k = some ("number", none, none) := by
  decide +kernel

theorem domainKinds_cases {kind : String} (h : domainKinds.contains kind = true) :
    kind = "Bool" ∨ kind = "String" ∨ kind = "Interface" ∨ kind ∈ floatKinds ∨ kind ∈ intKinds := by
  have hm : kind ∈ domainKinds := by simpa using h
  simp only [domainKinds, List.mem_append, List.mem_cons, List.not_mem_nil, or_false] at hm
  rcases hm with ((h | h | h) | h) | h
  · exact Or.inl h
  · exact Or.inr (Or.inl h)
  · exact Or.inr (Or.inr (Or.inl h))
  · exact Or.inr (Or.inr (Or.inr (Or.inl h)))
  · exact Or.inr (Or.inr (Or.inr (Or.inr h)))

end EncJson

namespace Go
open EncJson

/-- the node `id` is `m` up to its description (the struct loop writes `jsonschema` tags into finished field schemas) -/
def HasNode (st : Store) (id : NodeId) (m : Node) : Prop :=
  ∃ d, st.get? id = some { m with description := d }

def DExt (st st' : Store) : Prop :=
  ∀ i n, st.get? i = some n → ∃ d, st'.get? i = some { n with description := d }

theorem DExt.refl (st : Store) : DExt st st := fun _ n h => ⟨n.description, h⟩

theorem DExt.trans {a b c : Store} (h₁ : DExt a b) (h₂ : DExt b c) : DExt a c := by
  intro i n hn
  obtain ⟨d, hd⟩ := h₁ i n hn
  obtain ⟨d', hd'⟩ := h₂ i _ hd
  exact ⟨d', hd'⟩

theorem Ext.toDExt {st st' : Store} (h : Ext st st') : DExt st st' :=
  fun _ n hn => ⟨n.description, h.get? hn⟩

theorem descSet_dext (st : Store) (fid : NodeId) (d : String) : DExt st (descSet st fid d) := by
  unfold descSet
  split
  · rename_i fn hfn
    intro i n hn
    by_cases hi : fid = i
    · subst hi
      rw [hfn] at hn
      cases hn
      exact ⟨d, get?_set!_self _ (lt_size_of_get? hfn)⟩
    · exact ⟨n.description, by rw [get?_set!_ne _ hi]; exact hn⟩
  · exact DExt.refl st

theorem HasNode.mono {st st' : Store} (h : DExt st st') {id : NodeId} {m : Node} (hn : HasNode st id m) :
    HasNode st' id m := by
  obtain ⟨d, hd⟩ := hn
  obtain ⟨d', hd'⟩ := h id _ hd
  exact ⟨d', hd'⟩

theorem HasNode.of_get {st : Store} {id : NodeId} {m : Node} (h : st.get? id = some m) : HasNode st id m :=
  ⟨m.description, h⟩

/-- a declared type `.named n u` at a position of the type (JSV/Proofs/InfTableTree.lean: a declared type that `forType`
    expands, or one with an entry in the type table, whose clone is the schema): what is recorded is the meaning of its
    schema, not the shape — in the store and in every later one (`DExt`) the node accepts the encoding of every value of
    the underlying type, and `null` where a pointer was stripped -/
def NamedLeaf (st : Store) (u : GoType) (an : Bool) (id : NodeId) : Prop :=
  ∀ st', DExt st st' → ∀ (re : String → String → Bool) (f : Nat) (scope : List NodeId), depth u + 1 ≤ f →
    (an = true → Spec.Valid (Spec.evalFuel (Spec.specEnvNoRefs st' re) f scope id .null)) ∧
    ∀ v, HasType u v → Spec.Valid (Spec.evalFuel (Spec.specEnvNoRefs st' re) f scope id (encode u v))

def structNode (falseId : NodeId) (props : Option (List (String × NodeId))) (po rq : Option (List String)) : Node :=
  { type := "object", additionalProperties := some falseId, properties := props, propertyOrder := po, required := rq }

mutual
  /-- **the schema at `id` is the one `forType` builds for the type** (`an`: `null` added for a stripped pointer), read off
      the store declaratively.  `propertyOrder` (`po`) is not constrained: validation does not read it; what it holds is
      `loopG_lists` and `finalOrder_order_of_nodup`. -/
  def Models (nfs : Bool) (st : Store) : GoType → Bool → NodeId → Prop
    | .basic kind, an, id => ∃ ty mn mx, kindEntry kind = some (ty, mn, mx) ∧ HasNode st id (addNull an (basicNode ty mn mx))
    | .ptr e, _, id => Models nfs st e true id
    | .slice e, an, id => ∃ eid, Models nfs st e false eid ∧ HasNode st id (addNull an (sliceNode nfs eid))
    | .array len e, an, id => ∃ eid, Models nfs st e false eid ∧ HasNode st id (addNull an (arrayNode len eid))
    | .map _ e, an, id => ∃ eid, Models nfs st e false eid ∧ HasNode st id (addNull an (mapNode eid))
    | .struct fields, an, id => ∃ notId falseId props po rq,
        HasNode st notId emptyNode ∧ HasNode st falseId (falseNode notId) ∧
        HasNode st id (addNull an (structNode falseId props po rq)) ∧
        rq.getD [] = alwaysNames fields ∧
        (∀ k, k ∈ (props.getD []).map (·.1) → k ∈ jsonNames fields) ∧
        ModelsFields nfs st fields (props.getD [])
    | .named _ u, an, id => NamedLeaf st u an id
    | .ref _, _, _ => False
  def ModelsFields (nfs : Bool) (st : Store) : List (String × String × GoType) → List (String × NodeId) → Prop
    | [], _ => True
    | f :: rest, props =>
      ((fieldJSONInfo f.1 f.2.1).omitted = true ∨
        ∃ fid, Json.lookup (fieldJSONInfo f.1 f.2.1).name props = some fid ∧ Models nfs st f.2.2 false fid) ∧
      ModelsFields nfs st rest props
end

mutual
  theorem Models.mono {nfs : Bool} {st st' : Store} (h : DExt st st') : ∀ (T : GoType) (an : Bool) (id : NodeId),
      Models nfs st T an id → Models nfs st' T an id
    | .basic kind, an, id, hm => by
      simp only [Models] at hm ⊢
      obtain ⟨ty, mn, mx, hk, hn⟩ := hm
      exact ⟨ty, mn, mx, hk, hn.mono h⟩
    | .ptr e, an, id, hm => by
      simp only [Models] at hm ⊢
      exact Models.mono h e true id hm
    | .slice e, an, id, hm => by
      simp only [Models] at hm ⊢
      obtain ⟨eid, he, hn⟩ := hm
      exact ⟨eid, Models.mono h e false eid he, hn.mono h⟩
    | .array len e, an, id, hm => by
      simp only [Models] at hm ⊢
      obtain ⟨eid, he, hn⟩ := hm
      exact ⟨eid, Models.mono h e false eid he, hn.mono h⟩
    | .map k e, an, id, hm => by
      simp only [Models] at hm ⊢
      obtain ⟨eid, he, hn⟩ := hm
      exact ⟨eid, Models.mono h e false eid he, hn.mono h⟩
    | .struct fields, an, id, hm => by
      simp only [Models] at hm ⊢
      obtain ⟨notId, falseId, props, po, rq, h1, h2, h3, h4, h5, h6⟩ := hm
      exact ⟨notId, falseId, props, po, rq, h1.mono h, h2.mono h, h3.mono h, h4, h5,
        ModelsFields.mono h fields _ h6⟩
    | .named _ u, an, id, hm => by
      simp only [Models] at hm ⊢
      exact fun st'' h' => hm st'' (h.trans h')
    | .ref _, _, _, hm => by simp only [Models] at hm
  theorem ModelsFields.mono {nfs : Bool} {st st' : Store} (h : DExt st st') : ∀ (fields : List (String × String × GoType))
      (props : List (String × NodeId)), ModelsFields nfs st fields props → ModelsFields nfs st' fields props
    | [], _, _ => by simp only [ModelsFields]
    | f :: rest, props, hm => by
      simp only [ModelsFields] at hm ⊢
      refine ⟨?_, ModelsFields.mono h rest props hm.2⟩
      rcases hm.1 with ho | ⟨fid, hl, hf⟩
      · exact Or.inl ho
      · exact Or.inr ⟨fid, hl, Models.mono h f.2.2 false fid hf⟩
end

theorem stripPtrs_spec (nfs : Bool) (T : GoType) : ∃ t an, stripPtrs T = (t, an) ∧ (∀ e, t ≠ .ptr e) ∧
    InDomain t = InDomain T ∧ ∀ st b id, Models nfs st T b id ↔ Models nfs st t (b || an) id := by
  induction T using GoType.ptr_ind with
  | ptr e ih =>
    obtain ⟨t, an, h1, h2, h3, h4⟩ := ih
    refine ⟨t, true, by simp only [stripPtrs, h1], h2, by rw [h3]; simp only [InDomain], fun st b id => ?_⟩
    simp only [Models, Bool.or_true]
    rw [h4 st true id]
    simp
  | base t h => exact ⟨t, false, stripPtrs_nonptr h, h, rfl, fun _ _ _ => by simp⟩

theorem lookup_filter_append_ne {k nm : String} {fid : NodeId} (h : k ≠ nm) : ∀ (l : List (String × NodeId)),
    Json.lookup k (l.filter (·.1 != nm) ++ [(nm, fid)]) = Json.lookup k l
  | [] => by simp [Json.lookup, h.symm]
  | (k', v) :: l => by
    by_cases hk : k' = nm
    · subst hk
      have : ¬ k' = k := fun e => h e.symm
      simp [Json.lookup_cons, this, lookup_filter_append_ne h l]
    · by_cases hkk : k' = k
      · subst hkk
        simp [hk, Json.lookup_cons]
      · simp [hk, Json.lookup_cons, hkk, lookup_filter_append_ne h l]

theorem lookup_filter_append_self (nm : String) (fid : NodeId) : ∀ (l : List (String × NodeId)),
    Json.lookup nm (l.filter (·.1 != nm) ++ [(nm, fid)]) = some fid
  | [] => by simp
  | (k', v) :: l => by
    by_cases hk : k' = nm
    · simp [hk, lookup_filter_append_self nm fid l]
    · simp [hk, Json.lookup_cons, lookup_filter_append_self nm fid l]

theorem lookup_none_of_not_mem {α} {k : String} : ∀ {l : List (String × α)}, k ∉ l.map (·.1) → Json.lookup k l = none
  | _, h => Option.not_isSome_iff_eq_none.1 (mt Json.lookup_isSome_iff.1 h)

/-- what the loop needs of the recursive call on the fields it enters, on the stores that satisfy `P` (an invariant of
    the run: `True`, or "the entries of the type table are still there"); `M` says what the schema of a field type is -/
def RecItems {τ : Type} (P : Store → Prop) (M : τ → Store → NodeId → Prop)
    (rec : IRecG τ) (seen : List String)
    (items : List (Item τ)) : Prop :=
  ∀ i, i ∈ items → i.1.omitted = false → ∀ st r st1, P st → rec i.2.2 seen st = .ok (r, st1) →
    ∃ fid, r = some fid ∧ M i.2.2 st1 fid

theorem RecItems.never_drops {τ : Type} {P : Store → Prop} {M : τ → Store → NodeId → Prop}
    {rec : IRecG τ} {seen : List String}
    {items : List (Item τ)} (h : RecItems P M rec seen items) :
    ∀ i, i ∈ items → i.1.omitted = false → ∀ st st1, P st → rec i.2.2 seen st = .ok (none, st1) → False := by
  intro i hi ho st st1 hst hr
  obtain ⟨_, hfid, _⟩ := h i hi ho st _ st1 hst hr
  cases hfid

theorem fieldStepG_models {τ : Type} {rec : IRecG τ} {seen : List String}
    {info : JsonInfo} {desc : Option String} {ft : τ} {M : Store → NodeId → Prop}
    (hM : ∀ id st st', DExt st st' → M st id → M st' id) {n : Node} {st : Store} {n1 : Node} {st1 : Store}
    (hrec : info.omitted = false → ∀ r st2, rec ft seen st = .ok (r, st2) → ∃ fid, r = some fid ∧ M st2 fid)
    (h : fieldStepG rec seen info desc ft n st = .ok (n1, st1)) :
    (∀ k, (info.omitted = false → k ≠ info.name) →
      Json.lookup k (n1.properties.getD []) = Json.lookup k (n.properties.getD [])) ∧
    (info.omitted = false → ∃ fid, Json.lookup info.name (n1.properties.getD []) = some fid ∧ M st1 fid) := by
  rcases fieldStepG_ok h with ⟨ho, rfl, rfl⟩ | ⟨ho, st2, hr, rfl, rfl⟩ | ⟨ho, fid, st2, hr, rfl, hst⟩
  · exact ⟨fun _ _ => rfl, fun ho' => by rw [ho] at ho'; cases ho'⟩
  · obtain ⟨_, hfid, _⟩ := hrec ho _ _ hr
    cases hfid
  · obtain ⟨fid', hfid, hmod⟩ := hrec ho _ _ hr
    cases hfid
    have hd : DExt st2 st1 := by
      rcases hst with rfl | ⟨d, rfl⟩
      · exact DExt.refl _
      · exact descSet_dext _ _ _
    exact ⟨fun k hk => lookup_filter_append_ne (hk ho) _, fun _ => ⟨fid, lookup_filter_append_self _ _ _, hM _ _ _ hd hmod⟩⟩

theorem loopG_models {τ : Type} {rec : IRecG τ}
    (hinv : IRecInv rec) {seen : List String}
    {P : Store → Prop} (hP : ∀ st st', P st → Ext st st' → P st')
    {M : τ → Store → NodeId → Prop} (hM : ∀ T id st st', DExt st st' → M T st id → M T st' id) :
    ∀ (items : List (Item τ)) {n : Node} {st : Store} {n' : Node} {st' : Store}, P st →
      RecItems P M rec seen items → loopG rec seen items n st = .ok (n', st') → (namesG items).Nodup →
      (∀ k, k ∈ namesG items → Json.lookup k (n.properties.getD []) = none) →
      (∀ i, i ∈ items → i.1.omitted = false →
        ∃ fid, Json.lookup i.1.name (n'.properties.getD []) = some fid ∧ M i.2.2 st' fid) ∧
      ∀ k t, Json.lookup k (n.properties.getD []) = some t → Json.lookup k (n'.properties.getD []) = some t
  | [], n, st, n', st', _, _, h, _, _ => by
    cases h
    exact ⟨fun _ hi => (nomatch hi), fun _ _ h => h⟩
  | i :: rest, n, st, n', st', hst, hrec, h, hnd, hfree => by
    obtain ⟨⟨n1, st1⟩, hstep, hloop⟩ := Res.bind_eq_ok h
    obtain ⟨hother, hent⟩ :=
      fieldStepG_models (hM i.2.2) (fun ho r st2 => hrec i List.mem_cons_self ho st r st2 hst) hstep
    obtain ⟨hnotin, hnd'⟩ := nodup_namesG_cons hnd
    have hfree1 : ∀ k, k ∈ namesG rest → Json.lookup k (n1.properties.getD []) = none := fun k hk => by
      rw [hother k (fun ho e => hnotin ho (e ▸ hk)), ensureProps_getD]
      exact hfree k (mem_namesG_cons.2 (Or.inr hk))
    obtain ⟨hm, hk⟩ := loopG_models hinv hP hM rest (hP _ _ hst (fieldStepG_inv hinv hstep).1)
      (fun j hj => hrec j (List.mem_cons_of_mem _ hj)) hloop hnd' hfree1
    refine ⟨fun j hj hoj => ?_, fun k t hkt => hk k t ?_⟩
    · rcases List.mem_cons.1 hj with rfl | hj
      · obtain ⟨fid, hl, hmod⟩ := hent hoj
        exact ⟨fid, hk _ _ hl, hM _ _ _ _ (loopG_inv hinv rest _ _ _ _ hloop).1.toDExt hmod⟩
      · exact hm j hj hoj
    · have hne : i.1.omitted = false → k ≠ i.1.name := fun ho e => by
        rw [e, hfree _ (mem_namesG_cons.2 (Or.inl ⟨ho, rfl⟩))] at hkt
        cases hkt
      rw [hother k hne, ensureProps_getD]
      exact hkt

theorem modelsFields_of_forall {nfs : Bool} {st : Store} {props : List (String × NodeId)} :
    ∀ (fields : List (String × String × GoType)),
      (∀ f, f ∈ fields → (fieldJSONInfo f.1 f.2.1).omitted = false →
        ∃ fid, Json.lookup (fieldJSONInfo f.1 f.2.1).name props = some fid ∧ Models nfs st f.2.2 false fid) →
      ModelsFields nfs st fields props
  | [], _ => by simp only [ModelsFields]
  | f :: rest, h => by
    simp only [ModelsFields]
    refine ⟨?_, modelsFields_of_forall rest fun g hg => h g (List.mem_cons_of_mem _ hg)⟩
    cases ho : (fieldJSONInfo f.1 f.2.1).omitted
    · exact Or.inr (h f List.mem_cons_self ho)
    · exact Or.inl rfl

theorem kindEntry_domain {k : String} (h : domainKinds.contains k = true) : ∃ ty mn mx, kindEntry k = some (ty, mn, mx) := by
  rcases domainKinds_cases h with rfl | rfl | rfl | hf | hi
  · exact ⟨_, _, _, kind_rows.1⟩
  · exact ⟨_, _, _, kind_rows.2.1⟩
  · exact ⟨_, _, _, kind_rows.2.2.1⟩
  · exact ⟨_, _, _, kind_rows.2.2.2 k hf⟩
  · have := (int_rows k hi).2.1
    cases he : kindEntry k with
    | none => rw [he] at this; cases this
    | some e => exact ⟨e.1, e.2.1, e.2.2, rfl⟩

theorem node_of_core {n n' : Node} (h : coreOf n' = coreOf n) :
    n' = { n with properties := n'.properties, propertyOrder := n'.propertyOrder, required := n'.required } :=
  calc n' = { coreOf n' with properties := n'.properties, propertyOrder := n'.propertyOrder, required := n'.required } := rfl
    _ = { coreOf n with properties := n'.properties, propertyOrder := n'.propertyOrder, required := n'.required } := by rw [h]
    _ = _ := rfl

theorem inDomainFields_mem {fields : List (String × String × GoType)} : inDomainFields fields = true →
    ∀ f, f ∈ fields → (fieldJSONInfo f.1 f.2.1).omitted = false → InDomain f.2.2 = true :=
  forall_mem_of_cons (F := fun fields => inDomainFields fields = true)
    (P := fun f => (fieldJSONInfo f.1 f.2.1).omitted = false → InDomain f.2.2 = true) fun _ _ h => by
      simp only [inDomainFields, Bool.and_eq_true, Bool.or_eq_true] at h
      exact ⟨fun ho => h.1.resolve_left (by rw [ho]; exact Bool.noConfusion), h.2⟩

/-- the step for a slice, array or map: the element's schema, then the node -/
theorem elem_models {nfs : Bool} {x : Res (Option NodeId × Store)} {e : GoType} {mk : NodeId → Node} {an : Bool}
    {r : Option NodeId} {st' : Store}
    (hx : ∀ es st1, x = .ok (es, st1) → ∃ eid, es = some eid ∧ Models nfs st1 e false eid)
    (h : (Res.bind x fun r => match r.1 with
        | none => .ok (none, r.2)
        | some eid => .ok (some r.2.size, r.2.push (addNull an (mk eid)))) = .ok (r, st')) :
    ∃ eid id, Models nfs st' e false eid ∧ r = some id ∧ HasNode st' id (addNull an (mk eid)) := by
  obtain ⟨⟨es, st1⟩, he, h⟩ := Res.bind_eq_ok h
  obtain ⟨eid, rfl, hm⟩ := hx _ _ he
  cases h
  exact ⟨eid, _, Models.mono (Ext.push _ _).toDExt _ _ _ hm, rfl, HasNode.of_get (get?_push_size _ _)⟩

theorem struct_nodes {st st1 : Store} {n : Node} (an : Bool)
    (hext : Ext ((st.push emptyNode).push (falseNode st.size)) st1)
    (hcore : coreOf n = coreOf (structNode0 (st.size + 1))) :
    HasNode (st1.push (addNull an (finalOrder n))) st.size emptyNode ∧
    HasNode (st1.push (addNull an (finalOrder n))) (st.size + 1) (falseNode st.size) ∧
    HasNode (st1.push (addNull an (finalOrder n))) st1.size
      (addNull an (structNode (st.size + 1) n.properties (finalOrder n).propertyOrder n.required)) := by
  have hext' := hext.trans (Ext.push st1 (addNull an (finalOrder n)))
  refine ⟨HasNode.of_get (hext'.get? ?_), HasNode.of_get (hext'.get? ?_), HasNode.of_get ?_⟩
  · rw [get?_push_lt _ (by rw [Array.size_push]; exact Nat.lt_succ_self _)]
    exact get?_push_size _ _
  · have := get?_push_size (st.push emptyNode) (falseNode st.size)
    rwa [Array.size_push] at this
  · rw [get?_push_size]
    congr 2
    rw [finalOrder_eq, node_of_core hcore]
    rfl

/-- what `forType` asks of a type that is, under its pointers, not a declared type, given `D` of the types below it -/
def ShapeOk (D : GoType → Prop) : GoType → Prop
  | .basic kind => domainKinds.contains kind = true
  | .slice e => D e
  | .array _ e => D e
  | .map keyKind e => keyKind = "String" ∧ D e
  | .struct fields => nodup (jsonNames fields) = true ∧
      ∀ f, f ∈ fields → (fieldJSONInfo f.1 f.2.1).omitted = false → D f.2.2
  | _ => False

/-- **one step of `forType`** on a basic kind, slice, array, map or struct (under pointers): if the recursive call, on the
    stores that satisfy the invariant `P` and the types that satisfy `D`, returns a schema that `Models` describes, so
    does the step -/
theorem inferStep_models_shape {opts : IOpts} {rec : IRec} (hinv : IRecInv rec) {P : Store → Prop}
    (hP : ∀ st st', P st → Ext st st' → P st') {D : GoType → Prop}
    (hrec : ∀ T seen st r st', P st → D T → rec T seen st = .ok (r, st') →
      ∃ id, r = some id ∧ Models opts.nullForSlices st' T false id)
    {T t : GoType} {an : Bool} {seen : List String} {st : Store} {r : Option NodeId} {st' : Store}
    (hs : stripPtrs T = (t, an)) (hD : ShapeOk D t) (hst : P st) (h : inferStep opts rec T seen st = .ok (r, st')) :
    ∃ id, r = some id ∧ Models opts.nullForSlices st' t an id := by
  cases t with
  | ptr e => exact hD.elim
  | named nm u => exact hD.elim
  | ref nm => exact hD.elim
  | basic kind =>
    obtain ⟨ty, mn, mx, hk⟩ := kindEntry_domain hD
    rw [inferStep_basic hs, hk] at h
    cases h
    refine ⟨_, rfl, ?_⟩
    simp only [Models]
    exact ⟨ty, mn, mx, hk, HasNode.of_get (get?_push_size _ _)⟩
  | slice e =>
    rw [inferStep_slice hs] at h
    obtain ⟨eid, id, hm, rfl, hn⟩ := elem_models (fun _ _ he => hrec _ _ _ _ _ hst hD he) h
    exact ⟨id, rfl, by simp only [Models]; exact ⟨eid, hm, hn⟩⟩
  | array len e =>
    rw [inferStep_array hs] at h
    obtain ⟨eid, id, hm, rfl, hn⟩ := elem_models (fun _ _ he => hrec _ _ _ _ _ hst hD he) h
    exact ⟨id, rfl, by simp only [Models]; exact ⟨eid, hm, hn⟩⟩
  | map keyKind e =>
    rw [inferStep_map hs] at h
    simp only [hD.1, bne_self_eq_false, Bool.false_eq_true, if_false] at h
    obtain ⟨eid, id, hm, rfl, hn⟩ := elem_models (fun _ _ he => hrec _ _ _ _ _ hst hD.2 he) h
    exact ⟨id, rfl, by simp only [Models]; exact ⟨eid, hm, hn⟩⟩
  | struct fields =>
    obtain ⟨hnd, hdf⟩ := hD
    obtain ⟨n, st1, hl, rfl, rfl⟩ := inferStep_struct_ok hs h
    refine ⟨_, rfl, ?_⟩
    rw [structLoop_eq] at hl
    have hrm : RecItems P (fun T st id => Models opts.nullForSlices st T false id) rec seen (fields.map itemOf) := by
      intro i hi ho s r s1 hs1 hr
      obtain ⟨f, hf, rfl⟩ := List.mem_map.1 hi
      exact hrec _ _ _ _ _ hs1 (hdf f hf ho) hr
    have hinvL := loopG_inv hinv _ _ _ _ _ hl
    have hst0 := hP _ _ hst ((Ext.push st emptyNode).trans (Ext.push _ (falseNode st.size)))
    obtain ⟨hmf, _⟩ := loopG_models hinv hP (fun T id _ _ hd hm => Models.mono hd T false id hm) _ hst0 hrm hl
      (by rw [← jsonNames_eq]; exact (nodup_iff _).1 hnd) (fun _ _ => rfl)
    obtain ⟨_, hrq, hkeys, hcore⟩ :=
      loopG_lists (fun _ _ _ _ _ hs h => hP _ _ hs (fieldStepG_inv hinv h).1) _ hst0 hrm.never_drops hl
    obtain ⟨hnot, hfalse, hnode⟩ := struct_nodes an hinvL.1 hcore
    simp only [Models]
    refine ⟨st.size, st.size + 1, n.properties, (finalOrder n).propertyOrder, n.required, hnot, hfalse, hnode, ?_, ?_,
      ModelsFields.mono (Ext.push _ _).toDExt _ _ (modelsFields_of_forall fields fun f hf ho =>
        hmf (itemOf f) (List.mem_map_of_mem hf) ho)⟩
    · rw [hrq, alwaysNames_eq]
      rfl
    · intro k hk
      rw [jsonNames_eq]
      exact ((hkeys k).1 hk).resolve_left (fun h => nomatch h)

def RecOk (nfs : Bool) (rec : IRec) : Prop :=
  ∀ T seen st r st', InDomain T = true → rec T seen st = .ok (r, st') → ∃ id, r = some id ∧ Models nfs st' T false id

theorem inferStep_models (opts : IOpts) {rec : IRec} (hinv : IRecInv rec) (hrec : RecOk opts.nullForSlices rec) :
    RecOk opts.nullForSlices (inferStep opts rec) := by
  intro T seen st r st' hdomT h
  obtain ⟨t, an, hs, hnp, hdom, hmod⟩ := stripPtrs_spec opts.nullForSlices T
  rw [← hdom] at hdomT
  simp only [hmod, Bool.false_or]
  refine inferStep_models_shape (P := fun _ => True) (D := fun T => InDomain T = true) hinv (fun _ _ _ _ => trivial)
    (fun T seen st r st' _ hT hr => hrec T seen st r st' hT hr) hs ?_ trivial h
  cases t with
  | ptr e => exact absurd rfl (hnp e)
  | named nm u => simp [InDomain] at hdomT
  | ref nm => simp [InDomain] at hdomT
  | basic _ | slice _ | array _ _ => exact hdomT
  | map keyKind e =>
    simp only [InDomain, Bool.and_eq_true, beq_iff_eq] at hdomT
    exact hdomT
  | struct fields =>
    simp only [InDomain, Bool.and_eq_true] at hdomT
    exact ⟨hdomT.1.1, inDomainFields_mem hdomT.2⟩

theorem inferFuel_models (opts : IOpts) : ∀ fuel, RecOk opts.nullForSlices (inferFuel opts fuel)
  | 0 => fun _ _ _ _ _ _ h => by cases h
  | fuel + 1 => inferStep_models opts (inferFuel_inv opts fuel) (inferFuel_models opts fuel)

end Go
end JSV
