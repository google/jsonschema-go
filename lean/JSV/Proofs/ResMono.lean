/-
  More fuel never changes an outcome of Schema.Resolve that is not `.fuel` (information order `⊑` of
  JSV/Basic/Res.lean, open recursion on the loader callback).
-/
import JSV.Proofs.ResShape
namespace JSV
namespace Go
namespace RInv

def RecLe (r1 r2 : ResolveDoc) : Prop := ∀ root base draft s, r1 root base draft s ⊑ r2 root base draft s

theorem resolveRef_mono (env : Env) (r1 r2 : ResolveDoc) (h : RecLe r1 r2)
    (root : NodeId) (s : RState) (id : NodeId) (ref : String) :
    resolveRef env r1 root s id ref ⊑ resolveRef env r2 root s id ref := by
  rw [resolveRef_eq, resolveRef_eq]
  refine Res.bind_mono (Res.le_refl _) fun refURI0 => ?_
  split
  · refine Res.bind_mono ?_ fun _ => Res.le_refl _
    unfold findDoc
    split
    · exact Res.le_refl _
    split
    · exact Res.le_refl _
    exact Res.bind_mono (Res.le_refl _) fun _ => Res.bind_mono (h _ _ _ _) fun _ => Res.le_refl _
  · exact Res.le_refl _

theorem refStep_mono (env : Env) (r1 r2 : ResolveDoc) (h : RecLe r1 r2) (root id : NodeId) (on : Bool) (ref : String)
    (upd : RefOut → Info → Info) (s : RState) :
    refStep env r1 root id on ref upd s ⊑ refStep env r2 root id on ref upd s := by
  unfold refStep
  split
  · exact Res.bind_mono (resolveRef_mono env r1 r2 h _ _ _ _) (fun _ => Res.le_refl _)
  · exact Res.le_refl _

theorem resolveRefsLoop_mono (env : Env) (r1 r2 : ResolveDoc) (h : RecLe r1 r2) (root : NodeId) :
    ∀ ids s, resolveRefsLoop env r1 root ids s ⊑ resolveRefsLoop env r2 root ids s := by
  intro ids
  induction ids with
  | nil => intro s; exact Res.le_refl _
  | cons id rest ih =>
    intro s
    rw [resolveRefsLoop_cons, resolveRefsLoop_cons]
    split
    · exact Res.le_refl _
    · exact Res.bind_mono (refStep_mono env r1 r2 h _ _ _ _ _ _) fun s1 =>
        Res.bind_mono (refStep_mono env r1 r2 h _ _ _ _ _ _) fun s2 => ih s2

theorem resolveDocStep_mono (env : Env) (r1 r2 : ResolveDoc) (h : RecLe r1 r2) :
    RecLe (resolveDocStep env r1) (resolveDocStep env r2) := by
  intro root base draft s
  rw [RDraft.resolveDocStep_eq, RDraft.resolveDocStep_eq]
  split
  · exact Res.le_refl _
  split
  · exact Res.le_refl _
  apply Res.bind_mono (Res.le_refl _)
  intro fresh
  split
  · exact Res.le_refl _
  apply Res.bind_mono (Res.le_refl _)
  intro sB
  exact resolveRefsLoop_mono env r1 r2 h _ _ _

theorem resolveDoc_mono_succ (env : Env) : ∀ fuel, RecLe (resolveDoc env fuel) (resolveDoc env (fuel + 1)) := by
  intro fuel
  induction fuel with
  | zero => intro root base draft s; exact Res.fuel_le _
  | succ fuel ih => exact resolveDocStep_mono env _ _ ih

theorem resolveDoc_mono (env : Env) (f f' : Nat) (h : f ≤ f') : RecLe (resolveDoc env f) (resolveDoc env f') := by
  induction h with
  | refl => intro _ _ _ _; exact Res.le_refl _
  | step _ ih => intro a b c d; exact Res.le_trans (ih a b c d) (resolveDoc_mono_succ env _ a b c d)

theorem resolve_mono (env : Env) (f f' : Nat) (h : f ≤ f') (root : NodeId) (base : String) :
    resolve env f root base ⊑ resolve env f' root base := by
  rw [resolve_eq, resolve_eq]
  apply Res.bind_mono (Res.le_refl _)
  intro b
  apply Res.bind_mono (resolveDoc_mono env f f' h _ _ _ _)
  intro s
  exact Res.le_refl _

end RInv
end Go
end JSV
