/-
  For C03: what one visit of resolveURIs establishes and keeps of the declarative designation of
  JSV/Spec/Designate.lean (`uriStep_out`, `nodeStep_spec`, `nodeStep_uri`): the schema visited gets its resource root as
  base, the info of that root holds the base URI, the plain names registered are the ones declared, registered URIs
  identify.  The walk over the document that puts the visits together is ResUris.lean.
-/
import JSV.Spec.WellFormed
import JSV.Proofs.ResTree
import JSV.Proofs.ResShape
import JSV.Proofs.ResTot
import JSV.Proofs.ListFacts
namespace JSV
namespace Go
namespace RInv
open Uri Spec

theorem nearestResource_snoc (D : Doc) (l : List NodeId) (c : NodeId) :
    nearestResource D (l ++ [c]) =
      if startsResourceAt D.st D.draft c = true then c else nearestResource D l := by
  unfold nearestResource
  rw [List.filter_append]
  by_cases h : startsResourceAt D.st D.draft c = true
  · simp [h]
  · simp [h]

theorem resourceRoot_root (D : Doc) : D.ResourceRoot D.root D.root :=
  ⟨[], by simp [isLineage], rfl⟩

theorem resourceRoot_child (D : Doc) (p b c : NodeId) (h : D.ResourceRoot p b)
    (hc : isChild D.st p c = true) :
    D.ResourceRoot c (if startsResourceAt D.st D.draft c = true then c else b) := by
  obtain ⟨l, hl, hr⟩ := h
  exact ⟨l ++ [c], isLineage_snoc _ _ _ _ _ hl hc, by rw [nearestResource_snoc, hr]⟩

theorem ResourceRoot.has {D : Doc} {s r : NodeId} (h : D.ResourceRoot s r) : D.Has s :=
  let ⟨l, hl, _⟩ := h; ⟨l, hl⟩

/-- schema `p` has been given its base: the base is its resource root, and every plain name `p`
    declares has an entry in the anchors of that resource -/
def Done (D : Doc) (infos : List (NodeId × Info)) (p : NodeId) : Prop :=
  ∃ i r, lookupNat p infos = some i ∧ i.base = some r ∧ D.ResourceRoot p r ∧
    ∀ n, D.st.get? p = some n → ∀ e ∈ declaredAnchors D.draft n,
      ∃ ri, lookupNat r infos = some ri ∧ (Json.lookup e.1 ri.anchors).isSome = true

/-- every anchor entry of a schema of the document is a declaration inside that resource -/
def Sound (D : Doc) (infos : List (NodeId × Info)) : Prop :=
  ∀ b i, lookupNat b infos = some i → D.Has b → ∀ e ∈ i.anchors,
    D.ResourceRoot e.2.schema b ∧ D.Declares e.2.schema e.1 e.2.dynamic

theorem updInfo_lookup_pres (s : RState) (k : NodeId) (f : Info → Info) (p : NodeId) (P : Info → Prop)
    (hf : k = p → ∀ i, P i → P (f i)) {i : Info} (hi : lookupNat p s.infos = some i) (hP : P i) :
    ∃ i', lookupNat p (s.updInfo k f).infos = some i' ∧ P i' := by
  rw [updInfo_infos_lookup]
  split
  · rename_i hk
    exact ⟨f i, by rw [hi]; rfl, hf hk i hP⟩
  · exact ⟨i, hi, hP⟩

theorem done_updInfo (D : Doc) (s : RState) (k : NodeId) (f : Info → Info) (p : NodeId)
    (hbase : k = p → ∀ i, (f i).base = i.base)
    (hmono : ∀ i x, (Json.lookup x i.anchors).isSome = true → (Json.lookup x (f i).anchors).isSome = true)
    (h : Done D s.infos p) : Done D (s.updInfo k f).infos p := by
  obtain ⟨i, r, hi, hb, hr, hd⟩ := h
  obtain ⟨i', hi', hb'⟩ :=
    updInfo_lookup_pres s k f p (·.base = some r) (fun hk i hb => by rw [hbase hk i, hb]) hi hb
  refine ⟨i', r, hi', hb', hr, fun n hn e he => ?_⟩
  obtain ⟨ri, hri, hl⟩ := hd n hn e he
  exact updInfo_lookup_pres s k f r _ (fun _ i => hmono i e.1) hri hl

theorem sound_updInfo (D : Doc) (s : RState) (k : NodeId) (f : Info → Info)
    (hnew : ∀ i, ∀ e ∈ (f i).anchors, e ∈ i.anchors ∨
      (D.ResourceRoot e.2.schema k ∧ D.Declares e.2.schema e.1 e.2.dynamic))
    (h : Sound D s.infos) : Sound D (s.updInfo k f).infos := by
  intro b i hi hb e he
  rcases updInfo_lookup_some hi with ⟨rfl, i0, h0, rfl⟩ | ⟨_, hi⟩
  · rcases hnew i0 e he with h1 | h1
    · exact h b i0 h0 hb e h1
    · exact h1
  · exact h b i hi hb e he

theorem addAnchor_base (a : String) (t : NodeId) (dyn : Bool) (i : Info) :
    (addAnchor a t dyn i).base = i.base := by
  unfold addAnchor; split <;> rfl

theorem addAnchor_uri (a : String) (t : NodeId) (dyn : Bool) (i : Info) :
    (addAnchor a t dyn i).uri = i.uri := by
  unfold addAnchor; split <;> rfl

theorem addAnchor_mono (a : String) (t : NodeId) (dyn : Bool) (i : Info) (x : String)
    (h : (Json.lookup x i.anchors).isSome = true) :
    (Json.lookup x (addAnchor a t dyn i).anchors).isSome = true := by
  unfold addAnchor; split
  · exact h
  · show (Json.lookup x (i.anchors ++ _)).isSome = true
    rw [Json.lookup_append_isSome, h]; rfl

theorem addAnchor_has (a : String) (t : NodeId) (dyn : Bool) (i : Info) :
    (Json.lookup a (addAnchor a t dyn i).anchors).isSome = true := by
  unfold addAnchor; split
  · rename_i h; exact h
  · show (Json.lookup a (i.anchors ++ _)).isSome = true
    rw [Json.lookup_append_isSome]; simp

theorem addAnchor_mem (a : String) (t : NodeId) (dyn : Bool) (i : Info) (e : String × AnchorInfo)
    (h : e ∈ (addAnchor a t dyn i).anchors) :
    e ∈ i.anchors ∨ (e.1 = a ∧ e.2.schema = t ∧ e.2.dynamic = dyn) := by
  unfold addAnchor at h; split at h
  · exact Or.inl h
  · have h' : e ∈ i.anchors ++ [(a, ({ schema := t, dynamic := dyn } : AnchorInfo))] := h
    rcases List.mem_append.mp h' with h1 | h1
    · exact Or.inl h1
    · simp only [List.mem_singleton] at h1
      subst h1; exact Or.inr ⟨rfl, rfl, rfl⟩

theorem done_setAnchor (D : Doc) (s : RState) (b t : NodeId) (a : String) (dyn : Bool) (p : NodeId)
    (h : Done D s.infos p) : Done D (setAnchor s b t a dyn).infos p := by
  rw [setAnchor_eq]; split
  · exact h
  · exact done_updInfo D s b _ p (fun _ i => addAnchor_base a t dyn i) (fun i x hx => addAnchor_mono a t dyn i x hx) h

theorem sound_setAnchor (D : Doc) (s : RState) (b t : NodeId) (a : String) (dyn : Bool)
    (hr : D.ResourceRoot t b) (hd : a ≠ "" → D.Declares t a dyn)
    (h : Sound D s.infos) : Sound D (setAnchor s b t a dyn).infos := by
  rw [setAnchor_eq]; split
  · exact h
  · rename_i hne
    have hd := hd (by simpa using hne)
    apply sound_updInfo D s b _ _ h
    intro i e he
    rcases addAnchor_mem a t dyn i e he with h1 | ⟨h1, h2, h3⟩
    · exact Or.inl h1
    · right; rw [h1, h2, h3]; exact ⟨hr, hd⟩

theorem setAnchor_registered (s : RState) (b t : NodeId) (a : String) (dyn : Bool)
    (hb : (lookupNat b s.infos).isSome = true) (ha : a ≠ "") :
    ∃ ri, lookupNat b (setAnchor s b t a dyn).infos = some ri ∧ (Json.lookup a ri.anchors).isSome = true := by
  rw [setAnchor_eq]
  have : (a == "") = false := by simpa using ha
  rw [this]
  simp only [Bool.false_eq_true, if_false]
  rw [updInfo_infos_lookup, if_pos rfl]
  cases h0 : lookupNat b s.infos with
  | none => rw [h0] at hb; simp at hb
  | some i0 => exact ⟨addAnchor a t dyn i0, rfl, addAnchor_has a t dyn i0⟩

theorem setAnchor_anchor_mono (s : RState) (b t : NodeId) (a : String) (dyn : Bool) (k : NodeId) (x : String)
    (h : ∃ ri, lookupNat k s.infos = some ri ∧ (Json.lookup x ri.anchors).isSome = true) :
    ∃ ri, lookupNat k (setAnchor s b t a dyn).infos = some ri ∧ (Json.lookup x ri.anchors).isSome = true := by
  obtain ⟨ri, hri, hx⟩ := h
  rw [setAnchor_eq]; split
  · exact ⟨ri, hri, hx⟩
  · exact updInfo_lookup_pres s b _ k _ (fun _ i => addAnchor_mono a t dyn i x) hri hx

theorem idFragment_of_parse (x : String) (u : Url) (h : Uri.parse x = .ok u) : idFragment x = u.fragment := by
  unfold idFragment; rw [h]

/-- the `$id` block, by what it does: nothing without an `$id` that is read; with a fragment an error (2020-12)
    or an anchor (draft-07); otherwise a new resource, whose URI must be absolute.  (Ordered by the tests of
    `idSyntaxOk` / `startsResource`, for `uriStep_out`; `uriStep_eq_act` of ResShape separates decision from effect,
    for the loop lemmas.) -/
theorem uriStep_eq (draft : Draft) (root : NodeId) (s : RState) (id base : NodeId) (n : Node) (bi : Info) :
    uriStep draft root s id base n bi =
      if idRead draft n = true then
        (Uri.parse n.id).bind fun u =>
          if u.fragment = "" then
            match bi.uri with
            | none => .panic
            | some bu =>
              if Uri.isAbs (Uri.resolveReference bu u) = true then
                .ok (newUriState root s id (Uri.resolveReference bu u), id)
              else .err
          else match draft with
            | .d2020 => .err
            | .d7 => .ok (setAnchor s base id (stripHashPrefix n.id) false, base)
      else .ok (s, base) := by
  unfold uriStep idRead
  simp only []
  split
  · congr 1
    funext u
    by_cases hf : u.fragment = ""
    · simp only [hf, bne_self_eq_false, Bool.and_false, Bool.false_eq_true, if_false, if_true]
      cases bi.uri with
      | none => rfl
      | some bu => by_cases ha : Uri.isAbs (Uri.resolveReference bu u) = true <;> simp [ha, newUriState]
    · have hb : (u.fragment != "") = true := by simpa using hf
      cases draft <;> simp [hf, hb]
  · rfl

theorem idRead_of_startsResource (draft : Draft) (n : Node) (h : startsResource draft n = true) :
    idRead draft n = true := by
  cases draft <;> simp_all [startsResource, idRead]

theorem startsResource_of_idRead (draft : Draft) (n : Node) (u : Url) (hread : idRead draft n = true)
    (hp : Uri.parse n.id = .ok u) (hf : u.fragment = "") : startsResource draft n = true := by
  cases draft <;> simp_all [startsResource, idRead, idFragment_of_parse _ _ hp]

theorem newUriState_infos (root : NodeId) (s : RState) (id : NodeId) (u : Url) :
    (newUriState root s id u).infos = (s.updInfo id fun i => { i with uri := some u }).infos := by
  unfold newUriState
  simp only
  split <;> rfl

theorem newUriState_done (D : Doc) (root : NodeId) (s : RState) (id : NodeId) (u : Url) (p : NodeId)
    (h : Done D s.infos p) : Done D (newUriState root s id u).infos p := by
  rw [newUriState_infos]
  exact done_updInfo D s id _ p (fun _ _ => rfl) (fun _ _ hx => hx) h

theorem newUriState_sound (D : Doc) (root : NodeId) (s : RState) (id : NodeId) (u : Url)
    (h : Sound D s.infos) : Sound D (newUriState root s id u).infos := by
  rw [newUriState_infos]
  exact sound_updInfo D s id _ (fun _ _ he => Or.inl he) h

theorem newUriState_keeps (root : NodeId) (s : RState) (id : NodeId) (u : Url) :
    Keeps s (newUriState root s id u) :=
  (updInfo_keeps s id _ (by intro i t ht; exact ⟨t, ht⟩)).trans (Keeps.of_infos_eq (newUriState_infos root s id u))

def HasBase (infos : List (NodeId × Info)) (p r : NodeId) : Prop :=
  ∃ i, lookupNat p infos = some i ∧ i.base = some r

theorem hasBase_updInfo (s : RState) (k : NodeId) (f : Info → Info) (p r : NodeId)
    (hf : k = p → ∀ i, (f i).base = i.base) (h : HasBase s.infos p r) :
    HasBase (s.updInfo k f).infos p r :=
  let ⟨_, hi, hb⟩ := h
  updInfo_lookup_pres s k f p (·.base = some r) (fun hk i hb => by rw [hf hk, hb]) hi hb

theorem hasBase_setAnchor (s : RState) (b t : NodeId) (a : String) (dyn : Bool) (p r : NodeId)
    (h : HasBase s.infos p r) : HasBase (setAnchor s b t a dyn).infos p r := by
  rw [setAnchor_eq]; split
  · exact h
  · exact hasBase_updInfo s b _ p r (fun _ i => addAnchor_base a t dyn i) h

theorem hasBase_set (s : RState) (id r : NodeId) (hid : (lookupNat id s.infos).isSome = true) :
    HasBase (s.updInfo id fun i => { i with base := some r }).infos id r := by
  unfold HasBase
  rw [updInfo_infos_lookup, if_pos rfl]
  cases h0 : lookupNat id s.infos with
  | none => rw [h0] at hid; simp at hid
  | some i0 => exact ⟨_, rfl, rfl⟩

theorem mem_declared_d2020 (n : Node) (e : String × Bool) (h : e ∈ declaredAnchors .d2020 n) :
    (e = (n.anchor, false) ∨ e = (n.dynamicAnchor, true)) ∧ e.1 ≠ "" := by
  unfold declaredAnchors at h
  simp only [List.mem_filter, List.mem_cons, List.mem_nil_iff, or_false] at h
  exact ⟨h.1, by simpa using h.2⟩

theorem declares_anchor (D : Doc) (id : NodeId) (n : Node) (hn : D.st.get? id = some n)
    (hdr : D.draft = .d2020) (h : n.anchor ≠ "") : D.Declares id n.anchor false := by
  refine ⟨n, hn, ?_⟩
  rw [hdr]; unfold declaredAnchors
  simp [h]

theorem declares_dynamicAnchor (D : Doc) (id : NodeId) (n : Node) (hn : D.st.get? id = some n)
    (hdr : D.draft = .d2020) (h : n.dynamicAnchor ≠ "") : D.Declares id n.dynamicAnchor true := by
  refine ⟨n, hn, ?_⟩
  rw [hdr]; unfold declaredAnchors
  simp [h]

theorem declared_d7_nil (n : Node) (h : n.id = "" ∨ n.ref ≠ "" ∨ idFragment n.id = "") :
    declaredAnchors .d7 n = [] := by
  unfold declaredAnchors
  rcases h with h | h | h <;> simp [h]

theorem mem_declared_d7 (n : Node) (e : String × Bool) (h : e ∈ declaredAnchors .d7 n) :
    e = (dropHash n.id, false) ∧ e.1 ≠ "" := by
  unfold declaredAnchors at h
  simp only [List.mem_filter] at h
  obtain ⟨h1, h2⟩ := h
  split at h1
  · simp only [List.mem_singleton] at h1
    exact ⟨h1, by simpa using h2⟩
  · simp at h1

theorem declared_d7_mem (n : Node) (h1 : n.id ≠ "") (h2 : n.ref = "") (h3 : idFragment n.id ≠ "")
    (h4 : dropHash n.id ≠ "") : (dropHash n.id, false) ∈ declaredAnchors .d7 n := by
  unfold declaredAnchors
  simp [h1, h2, h3, h4]

/-- a successful `$id` block: the `$id` is well-formed and the block did nothing, set a draft-07 anchor on the base, or
    started a resource with an absolute URI (`s1`, `base1`: the new state and the base handed to the children) -/
def IdBlockOk (draft : Draft) (root : NodeId) (s : RState) (id base : NodeId) (n : Node) (bi : Info)
    (s1 : RState) (base1 : NodeId) : Prop :=
  idSyntaxOk draft n = true ∧
    ((startsResource draft n = false ∧ base1 = base ∧
      ((s1 = s ∧ (draft = .d7 → declaredAnchors .d7 n = [])) ∨
       (draft = .d7 ∧ s1 = setAnchor s base id (dropHash n.id) false ∧ n.id ≠ "" ∧ n.ref = "" ∧
         idFragment n.id ≠ ""))) ∨
     (startsResource draft n = true ∧ base1 = id ∧ (draft = .d7 → declaredAnchors .d7 n = []) ∧
       ∃ idURI bu, Uri.parse n.id = .ok idURI ∧ bi.uri = some bu ∧
         Uri.isAbs (Uri.resolveReference bu idURI) = true ∧
         s1 = newUriState root s id (Uri.resolveReference bu idURI)))

theorem uriStep_out (draft : Draft) (root : NodeId) (s : RState) (id base : NodeId) (n : Node) (bi : Info) :
    Outcomes (uriStep draft root s id base n bi)
      (fun p => IdBlockOk draft root s id base n bi p.1 p.2)
      (idSyntaxOk draft n = false ∨ (startsResource draft n = true ∧ ∃ idURI bu, Uri.parse n.id = .ok idURI ∧
        bi.uri = some bu ∧ Uri.isAbs (Uri.resolveReference bu idURI) = false))
      (bi.uri = none) False := by
  rw [uriStep_eq]
  unfold IdBlockOk idSyntaxOk
  cases hread : idRead draft n with
  | false =>
    have hs : startsResource draft n = false := by
      cases hs : startsResource draft n with
      | false => rfl
      | true => rw [idRead_of_startsResource draft n hs] at hread; cases hread
    refine ⟨rfl, Or.inl ⟨hs, rfl, Or.inl ⟨rfl, fun hd => ?_⟩⟩⟩
    subst hd
    refine declared_d7_nil n ?_
    by_cases h1 : n.id = ""
    · exact Or.inl h1
    · exact Or.inr (Or.inl fun h2 => by simp [idRead, h1, h2] at hread)
  | true =>
    simp only [if_true, Bool.not_true, Bool.false_or]
    cases hp : Uri.parse n.id with
    | panic => exact absurd hp (RTot.parse_NoPF n.id).1
    | fuel => exact absurd hp (RTot.parse_NoPF n.id).2
    | err => exact Or.inl rfl
    | ok u =>
      have hf := idFragment_of_parse _ _ hp
      simp only [Res.bind_ok]
      by_cases hfr : u.fragment = ""
      · rw [if_pos hfr]
        have hs := startsResource_of_idRead draft n u hread hp hfr
        cases hbu : bi.uri with
        | none => rfl
        | some bu =>
          simp only
          cases habs : Uri.isAbs (Uri.resolveReference bu u) with
          | false => exact Or.inr ⟨hs, u, bu, rfl, rfl, habs⟩
          | true =>
            exact ⟨by simp [hfr], Or.inr ⟨hs, rfl,
              fun _ => declared_d7_nil n (Or.inr (Or.inr (by rw [hf]; exact hfr))), u, bu, rfl, rfl, habs, rfl⟩⟩
      · rw [if_neg hfr]
        cases draft with
        | d2020 => exact Or.inl (by simp [hfr])
        | d7 =>
          have hc : n.id ≠ "" ∧ n.ref = "" := by simpa [idRead] using hread
          have hfr' : idFragment n.id ≠ "" := by rw [hf]; exact hfr
          exact ⟨by simp, Or.inl ⟨by simp [startsResource, hfr'], rfl, Or.inr ⟨rfl, rfl, hc.1, hc.2, hfr'⟩⟩⟩

theorem uriStep_cases (draft : Draft) (root : NodeId) (s : RState) (id base : NodeId) (n : Node) (bi : Info)
    (s1 : RState) (base1 : NodeId) (h : uriStep draft root s id base n bi = .ok (s1, base1)) :
    IdBlockOk draft root s id base n bi s1 base1 := by
  have := uriStep_out draft root s id base n bi
  rw [h] at this
  exact this

/-- after `info.base = base` and (2020-12) the two setAnchor calls; the draft-07 anchor is set before -/
theorem postStep_done (D : Doc) (s1 : RState) (id base1 : NodeId) (n : Node)
    (hn : D.st.get? id = some n) (hid : (lookupNat id s1.infos).isSome = true)
    (hb : (lookupNat base1 s1.infos).isSome = true) (hr : D.ResourceRoot id base1)
    (hreg : D.draft = .d7 → ∀ e ∈ declaredAnchors .d7 n,
      ∃ ri, lookupNat base1 s1.infos = some ri ∧ (Json.lookup e.1 ri.anchors).isSome = true) :
    Done D (postStep D.draft s1 id base1 n).infos id ∧
    (∀ p, p ≠ id → Done D s1.infos p → Done D (postStep D.draft s1 id base1 n).infos p) ∧
    (Sound D s1.infos → Sound D (postStep D.draft s1 id base1 n).infos) := by
  cases hdr : D.draft with
  | d2020 =>
    have hpost : postStep .d2020 s1 id base1 n =
        setAnchor (setAnchor (s1.updInfo id fun i => { i with base := some base1 }) base1 id n.anchor false)
          base1 id n.dynamicAnchor true := rfl
    rw [hpost]
    refine ⟨?_, ?_, ?_⟩
    · obtain ⟨i, hi, hbase⟩ := hasBase_setAnchor _ base1 id n.dynamicAnchor true id base1
        (hasBase_setAnchor _ base1 id n.anchor false id base1 (hasBase_set s1 id base1 hid))
      refine ⟨i, base1, hi, hbase, hr, ?_⟩
      intro n' hn' e he
      cases hn.symm.trans hn'
      rw [hdr] at he
      obtain ⟨he, hne⟩ := mem_declared_d2020 n e he
      have hb1 := (updInfo_keeps s1 id (fun i => { i with base := some base1 }) fun i t ht => ⟨t, ht⟩).1 base1 hb
      rcases he with he | he
      · subst he
        exact setAnchor_anchor_mono _ _ _ _ _ _ _ (setAnchor_registered _ base1 id n.anchor false hb1 hne)
      · subst he
        exact setAnchor_registered _ base1 id n.dynamicAnchor true ((setAnchor_keeps _ _ _ _ _).1 base1 hb1) hne
    · intro p hp h
      apply done_setAnchor
      apply done_setAnchor
      exact done_updInfo D s1 id _ p (fun e => absurd e.symm hp) (fun _ _ hx => hx) h
    · intro h
      apply sound_setAnchor D _ _ _ _ _ hr (declares_dynamicAnchor D id n hn hdr)
      apply sound_setAnchor D _ _ _ _ _ hr (declares_anchor D id n hn hdr)
      exact sound_updInfo D s1 id _ (fun _ _ he => Or.inl he) h
  | d7 =>
    have hpost : postStep .d7 s1 id base1 n = s1.updInfo id fun i => { i with base := some base1 } := rfl
    rw [hpost]
    refine ⟨?_, ?_, ?_⟩
    · obtain ⟨i, hi, hbase⟩ := hasBase_set s1 id base1 hid
      refine ⟨i, base1, hi, hbase, hr, ?_⟩
      intro n' hn' e he
      cases hn.symm.trans hn'
      rw [hdr] at he
      obtain ⟨ri, hri, hl⟩ := hreg hdr e he
      rw [updInfo_infos_lookup]
      split
      · exact ⟨{ ri with base := some base1 }, by rw [hri]; rfl, hl⟩
      · exact ⟨ri, hri, hl⟩
    · intro p hp h
      exact done_updInfo D s1 id _ p (fun e => absurd e.symm hp) (fun _ _ hx => hx) h
    · intro h
      exact sound_updInfo D s1 id _ (fun _ _ he => Or.inl he) h

theorem nodeStep_spec (D : Doc) (s : RState) (id base : NodeId) (n : Node) (bi : Info)
    (s1 : RState) (base1 : NodeId)
    (hn : D.st.get? id = some n) (hid : (lookupNat id s.infos).isSome = true)
    (hb : (lookupNat base s.infos).isSome = true)
    (hstep : uriStep D.draft D.root s id base n bi = .ok (s1, base1))
    (hr : D.ResourceRoot id (if startsResource D.draft n = true then id else base)) :
    base1 = (if startsResource D.draft n = true then id else base) ∧
    Done D (postStep D.draft s1 id base1 n).infos id ∧
    (∀ p, p ≠ id → Done D s.infos p → Done D (postStep D.draft s1 id base1 n).infos p) ∧
    (Sound D s.infos → Sound D (postStep D.draft s1 id base1 n).infos) := by
  rcases (uriStep_cases _ _ _ _ _ _ _ _ _ hstep).2 with
    ⟨hs, rfl, ⟨rfl, hnil⟩ | ⟨hd7, rfl, h1, h2, h3⟩⟩ | ⟨hs, rfl, hnil, idURI, bu, _, _, _, rfl⟩
  · rw [hs] at hr ⊢
    simp only [Bool.false_eq_true, if_false] at hr ⊢
    exact ⟨trivial, postStep_done D s1 id base1 n hn hid hb hr (fun h e he => by rw [hnil h] at he; cases he)⟩
  · rw [hs] at hr ⊢
    simp only [Bool.false_eq_true, if_false] at hr ⊢
    have hk := setAnchor_keeps s base1 id (dropHash n.id) false
    obtain ⟨a, b, c⟩ := postStep_done D _ id base1 n hn (hk.1 _ hid) (hk.1 _ hb) hr (fun _ e he => by
      obtain ⟨he, hne⟩ := mem_declared_d7 n e he
      subst he
      exact setAnchor_registered s base1 id (dropHash n.id) false hb hne)
    refine ⟨trivial, a, fun p hp h => b p hp (done_setAnchor D _ _ _ _ _ p h), fun h => c ?_⟩
    apply sound_setAnchor D s base1 id _ false hr _ h
    intro hne
    exact ⟨n, hn, by rw [hd7]; exact declared_d7_mem n h1 h2 h3 hne⟩
  · rw [hs] at hr ⊢
    simp only [if_true] at hr ⊢
    have hk := newUriState_keeps D.root s base1 (Uri.resolveReference bu idURI)
    obtain ⟨a, b, c⟩ := postStep_done D _ base1 base1 n hn (hk.1 _ hid) (hk.1 _ hid) hr
      (fun h e he => by rw [hnil h] at he; cases he)
    exact ⟨trivial, a, fun p hp h => b p hp (newUriState_done D _ _ _ _ p h),
      fun h => c (newUriState_sound D _ _ _ _ h)⟩

theorem postStep_docs (draft : Draft) (s : RState) (id base : NodeId) (n : Node) :
    (postStep draft s id base n).docs = s.docs :=
  postStep_ind (J := fun a => a.docs = s.docs) draft s id base n (updInfo_docs _ _ _)
    fun a x dyn h => (setAnchor_docs a base id x dyn).trans h

theorem baseUriAlong_snoc (D : Doc) (ret : Url) (l : List NodeId) (c : NodeId) :
    baseUriAlong D ret (l ++ [c]) =
      if startsResourceAt D.st D.draft c = true then Uri.resolveReference (baseUriAlong D ret l) (idUrl D.st c)
      else baseUriAlong D ret l := by
  unfold baseUriAlong
  rw [← List.cons_append, List.filter_append, List.foldl_append]
  by_cases h : startsResourceAt D.st D.draft c = true
  · simp [h]
  · simp [h]

theorem baseUriAlong_nearest (D : Doc) (ret : Url) (l : List NodeId) :
    ∀ s, isLineage D.st D.root l s = true →
      ∃ l', isLineage D.st D.root l' (nearestResource D l) = true ∧
        baseUriAlong D ret l' = baseUriAlong D ret l := by
  refine snoc_induction (P := fun l => ∀ s, isLineage D.st D.root l s = true →
      ∃ l', isLineage D.st D.root l' (nearestResource D l) = true ∧
        baseUriAlong D ret l' = baseUriAlong D ret l) ?_ ?_ l
  · intro s _
    exact ⟨[], by simp [isLineage, nearestResource], rfl⟩
  · intro l c ih s h
    obtain ⟨hs, p, hp, hc⟩ := isLineage_snoc_inv _ _ _ _ _ h
    rw [nearestResource_snoc, baseUriAlong_snoc]
    by_cases hst : startsResourceAt D.st D.draft c = true
    · rw [if_pos hst, if_pos hst]
      exact ⟨l ++ [c], isLineage_snoc _ _ _ _ _ hp hc, by rw [baseUriAlong_snoc, if_pos hst]⟩
    · rw [if_neg hst, if_neg hst]
      exact ih p hp

/-- the info of `r` holds the base URI along a lineage of `r` -/
def UriDone (D : Doc) (ret : Url) (infos : List (NodeId × Info)) (r : NodeId) : Prop :=
  ∃ i l, lookupNat r infos = some i ∧ isLineage D.st D.root l r = true ∧ i.uri = some (baseUriAlong D ret l)

theorem uriDone_updInfo (D : Doc) (ret : Url) (s : RState) (k : NodeId) (f : Info → Info) (r : NodeId)
    (hf : k = r → ∀ i, (f i).uri = i.uri) (h : UriDone D ret s.infos r) :
    UriDone D ret (s.updInfo k f).infos r :=
  let ⟨_, l, hi, hl, hu⟩ := h
  let ⟨i', hi', hu'⟩ := updInfo_lookup_pres s k f r (·.uri = some (baseUriAlong D ret l))
    (fun hk i hu => by rw [hf hk, hu]) hi hu
  ⟨i', l, hi', hl, hu'⟩

theorem uriDone_setAnchor (D : Doc) (ret : Url) (s : RState) (b t : NodeId) (a : String) (dyn : Bool)
    (r : NodeId) (h : UriDone D ret s.infos r) : UriDone D ret (setAnchor s b t a dyn).infos r := by
  rw [setAnchor_eq]; split
  · exact h
  · exact uriDone_updInfo D ret s b _ r (fun _ i => addAnchor_uri a t dyn i) h

theorem uriDone_postStep (D : Doc) (ret : Url) (draft : Draft) (s : RState) (id base : NodeId) (n : Node)
    (r : NodeId) (h : UriDone D ret s.infos r) : UriDone D ret (postStep draft s id base n).infos r :=
  postStep_ind (J := fun a => UriDone D ret a.infos r) draft s id base n
    (uriDone_updInfo D ret s id _ r (fun _ _ => rfl) h) fun a x dyn ha => uriDone_setAnchor D ret a base id x dyn r ha

theorem uriDone_newUriState_ne (D : Doc) (ret : Url) (root : NodeId) (s : RState) (id : NodeId) (u : Url)
    (r : NodeId) (hr : r ≠ id) (h : UriDone D ret s.infos r) :
    UriDone D ret (newUriState root s id u).infos r := by
  rw [newUriState_infos]
  exact uriDone_updInfo D ret s id _ r (fun e => absurd e.symm hr) h

theorem uriDone_newUriState_self (D : Doc) (ret : Url) (root : NodeId) (s : RState) (id : NodeId) (u : Url)
    (l : List NodeId) (hid : (lookupNat id s.infos).isSome = true)
    (hl : isLineage D.st D.root l id = true) (hu : u = baseUriAlong D ret l) :
    UriDone D ret (newUriState root s id u).infos id := by
  rw [newUriState_infos, UriDone, updInfo_infos_lookup, if_pos rfl]
  cases h0 : lookupNat id s.infos with
  | none => rw [h0] at hid; simp at hid
  | some i0 => exact ⟨_, l, rfl, hl, by rw [hu]⟩

theorem hasBase_postStep_ne (draft : Draft) (s : RState) (id base : NodeId) (n : Node) (p r : NodeId)
    (hp : p ≠ id) (h : HasBase s.infos p r) : HasBase (postStep draft s id base n).infos p r :=
  postStep_ind (J := fun a => HasBase a.infos p r) draft s id base n
    (hasBase_updInfo s id _ p r (fun e => absurd e.symm hp) h) fun a x dyn ha => hasBase_setAnchor a base id x dyn p r ha

theorem hasBase_postStep_self (draft : Draft) (s : RState) (id base : NodeId) (n : Node)
    (hid : (lookupNat id s.infos).isSome = true) : HasBase (postStep draft s id base n).infos id base :=
  postStep_ind (J := fun a => HasBase a.infos id base) draft s id base n (hasBase_set s id base hid)
    fun a x dyn ha => hasBase_setAnchor a base id x dyn id base ha

theorem hasBase_newUriState (root : NodeId) (s : RState) (id : NodeId) (u : Url) (p r : NodeId)
    (h : HasBase s.infos p r) : HasBase (newUriState root s id u).infos p r := by
  rw [newUriState_infos]
  exact hasBase_updInfo s id _ p r (fun _ _ => rfl) h

/-- every registered URI identifies the resource it is registered for -/
def UrisId (D : Doc) (ret : Url) (s : RState) : Prop :=
  ∀ d, s.doc? D.root = some d → ∀ e ∈ d.uris, D.Identifies ret e.1 e.2

theorem UrisId.of_docs_eq {D : Doc} {ret : Url} {a b : RState} (h : b.docs = a.docs) (ha : UrisId D ret a) :
    UrisId D ret b := by
  intro d hd
  exact ha d (by rw [← doc?_of_docs_eq h]; exact hd)

theorem newUriState_urisId (D : Doc) (ret : Url) (s : RState) (id : NodeId) (u : Url)
    (hr : D.Identifies ret (Uri.toString u) id) (h : UrisId D ret s) :
    UrisId D ret (newUriState D.root s id u) := by
  unfold newUriState
  simp only
  split
  · rename_i d hd
    intro d' hd' e he
    rw [doc?_setDoc] at hd'
    have hroot : d.root = D.root := doc?_root _ _ _ hd
    simp only [hroot, if_true, Option.some.injEq] at hd'
    subst hd'
    simp only at he
    rcases List.mem_append.mp he with h1 | h1
    · have hd0 : s.doc? D.root = some d := by
        rw [← doc?_of_docs_eq (updInfo_docs s id fun i => { i with uri := some u })]; exact hd
      exact h d hd0 e (List.mem_filter.mp h1).1
    · simp only [List.mem_singleton] at h1
      subst h1; exact hr
  · exact UrisId.of_docs_eq (updInfo_docs _ _ _) h

theorem nodeStep_uri (D : Doc) (ret : Url) (s : RState) (id base : NodeId) (n : Node) (bi : Info)
    (s1 : RState) (base1 : NodeId)
    (hid : (lookupNat id s.infos).isSome = true)
    (hstep : uriStep D.draft D.root s id base n bi = .ok (s1, base1))
    (huri : startsResource D.draft n = true → ∀ bu idURI, bi.uri = some bu → Uri.parse n.id = .ok idURI →
      ∃ l, isLineage D.st D.root l id = true ∧ nearestResource D l = id ∧
        Uri.resolveReference bu idURI = baseUriAlong D ret l)
    (hU0 : startsResource D.draft n = false → UriDone D ret s.infos base) :
    (∀ r, UriDone D ret s.infos r → UriDone D ret (postStep D.draft s1 id base1 n).infos r) ∧
    UriDone D ret (postStep D.draft s1 id base1 n).infos base1 ∧
    (∀ p r, p ≠ id → HasBase s.infos p r → HasBase (postStep D.draft s1 id base1 n).infos p r) ∧
    HasBase (postStep D.draft s1 id base1 n).infos id base1 ∧
    (UrisId D ret s → UrisId D ret (postStep D.draft s1 id base1 n)) := by
  have key : (startsResource D.draft n = false ∧ base1 = base ∧ ∃ a, s1 = setAnchor s base id a false) ∨
      (startsResource D.draft n = true ∧ base1 = id ∧ ∃ idURI bu, Uri.parse n.id = .ok idURI ∧ bi.uri = some bu ∧
        s1 = newUriState D.root s id (Uri.resolveReference bu idURI)) := by
    rcases (uriStep_cases _ _ _ _ _ _ _ _ _ hstep).2 with
      ⟨hs, hb, ⟨h1, _⟩ | ⟨_, h1, _⟩⟩ | ⟨hs, hb, _, idURI, bu, h1, h2, _, h3⟩
    · exact Or.inl ⟨hs, hb, "", h1⟩   -- no anchor set: `setAnchor s _ _ "" _` is `s` (`setAnchor_eq`)
    · exact Or.inl ⟨hs, hb, _, h1⟩
    · exact Or.inr ⟨hs, hb, idURI, bu, h1, h2, h3⟩
  rcases key with ⟨hns, rfl, a, rfl⟩ | ⟨hst, rfl, idURI, bu, hp, hbu, hs1⟩
  · exact ⟨fun r h => uriDone_postStep _ _ _ _ _ _ _ _ (uriDone_setAnchor _ _ _ _ _ _ _ _ h),
      uriDone_postStep _ _ _ _ _ _ _ _ (uriDone_setAnchor _ _ _ _ _ _ _ _ (hU0 hns)),
      fun p r hp h => hasBase_postStep_ne _ _ _ _ _ _ _ hp (hasBase_setAnchor _ _ _ _ _ _ _ h),
      hasBase_postStep_self _ _ _ _ _ ((setAnchor_keeps _ _ _ _ _).1 _ hid),
      fun h => UrisId.of_docs_eq ((postStep_docs _ _ _ _ _).trans (setAnchor_docs _ _ _ _ _)) h⟩
  · obtain ⟨l, hl, hnear, hu⟩ := huri hst bu idURI hbu hp
    subst hs1
    have hK := newUriState_keeps D.root s base1 (Uri.resolveReference bu idURI)
    have uNew : UriDone D ret (postStep D.draft (newUriState D.root s base1 (Uri.resolveReference bu idURI))
        base1 base1 n).infos base1 :=
      uriDone_postStep _ _ _ _ _ _ _ _ (uriDone_newUriState_self D ret _ s base1 _ l hid hl hu)
    refine ⟨fun r h => ?_, uNew,
      fun p r hp h => hasBase_postStep_ne _ _ _ _ _ _ _ hp (hasBase_newUriState _ _ _ _ _ _ h),
      hasBase_postStep_self _ _ _ _ _ (hK.1 _ hid), fun h => ?_⟩
    · by_cases hne : r = base1
      · rw [hne]; exact uNew
      · exact uriDone_postStep _ _ _ _ _ _ _ _ (uriDone_newUriState_ne D ret _ s base1 _ r hne h)
    · apply UrisId.of_docs_eq (postStep_docs _ _ _ _ _)
      apply newUriState_urisId D ret s base1 _ _ h
      exact Or.inr ⟨⟨l, hl, hnear⟩, _, ⟨l, hl, rfl⟩, by rw [hu]⟩

/-- a worklist entry `(schema, base)`: a child together with the resource root of its parent -/
def WorkOk (D : Doc) (w : NodeId × NodeId) : Prop :=
  ∃ p, D.ResourceRoot p w.2 ∧ isChild D.st p w.1 = true

theorem workOk_resourceRoot (D : Doc) (id base : NodeId) (n : Node) (hw : WorkOk D (id, base))
    (hn : D.st.get? id = some n) :
    D.ResourceRoot id (if startsResource D.draft n = true then id else base) := by
  obtain ⟨p, hp, hc⟩ := hw
  have := resourceRoot_child D p base id hp hc
  have hs : startsResourceAt D.st D.draft id = startsResource D.draft n := by
    unfold startsResourceAt; rw [hn]
  rw [hs] at this
  exact this

/-- every schema has one lineage (ResTree.lean: checkStructure accepted the document) -/
def UniqueLineage (D : Doc) : Prop :=
  ∀ l1 l2 s, isLineage D.st D.root l1 s = true → isLineage D.st D.root l2 s = true → l1 = l2

theorem idUrl_of_parse (st : Store) (id : NodeId) (n : Node) (u : Url) (hn : st.get? id = some n)
    (hp : Uri.parse n.id = .ok u) : idUrl st id = u := by
  unfold idUrl; rw [hn]; simp only [hp]

theorem workOk_uri (D : Doc) (ret : Url) (huniq : UniqueLineage D) (infos : List (NodeId × Info))
    (id base : NodeId) (n : Node) (bi : Info)
    (hw : WorkOk D (id, base)) (hn : D.st.get? id = some n) (hb : lookupNat base infos = some bi)
    (hU : UriDone D ret infos base) (hst : startsResource D.draft n = true) (bu idURI : Url)
    (hbu : bi.uri = some bu) (hp : Uri.parse n.id = .ok idURI) :
    ∃ l, isLineage D.st D.root l id = true ∧ nearestResource D l = id ∧
      Uri.resolveReference bu idURI = baseUriAlong D ret l := by
  obtain ⟨p, ⟨lp, hlp, hnear⟩, hc⟩ := hw
  obtain ⟨ib, lb, hib, hlb, hub⟩ := hU
  cases hb.symm.trans hib
  rw [hbu] at hub
  simp only [Option.some.injEq] at hub
  have hs : startsResourceAt D.st D.draft id = true := by
    unfold startsResourceAt; rw [hn]; exact hst
  obtain ⟨l', hl', heq⟩ := baseUriAlong_nearest D ret lp p hlp
  simp only at hnear
  rw [hnear] at hl'
  have : l' = lb := huniq l' lb base hl' hlb
  subst this
  refine ⟨lp ++ [id], isLineage_snoc _ _ _ _ _ hlp hc, by rw [nearestResource_snoc, if_pos hs], ?_⟩
  rw [baseUriAlong_snoc, if_pos hs, ← heq, ← hub, idUrl_of_parse _ _ _ _ hn hp]

/-- what the visit of the worklist entry `(id, base)` relies on: `id` lies in the resource of `base` unless it starts
    one; an `$id` that starts a resource, resolved against the URI recorded for `base`, is the base URI along the
    lineage of `id`; otherwise the URI recorded for `base` is a base URI -/
structure EntryOk (D : Doc) (ret : Url) (s : RState) (id base : NodeId) (n : Node) (bi : Info) : Prop where
  root : D.ResourceRoot id (if startsResource D.draft n = true then id else base)
  uri : startsResource D.draft n = true → ∀ bu idURI, bi.uri = some bu → Uri.parse n.id = .ok idURI →
    ∃ l, isLineage D.st D.root l id = true ∧ nearestResource D l = id ∧
      Uri.resolveReference bu idURI = baseUriAlong D ret l
  base : startsResource D.draft n = false → UriDone D ret s.infos base

theorem entryOk_root (D : Doc) (ret : Url) (s : RState) (n : Node) (bi : Info)
    (hn : D.st.get? D.root = some n) (hb : lookupNat D.root s.infos = some bi) (huri : bi.uri = some ret) :
    EntryOk D ret s D.root D.root n bi := by
  have hsR : startsResourceAt D.st D.draft D.root = startsResource D.draft n := by
    unfold startsResourceAt; rw [hn]
  refine ⟨by split <;> exact resourceRoot_root D, ?_, ?_⟩
  · intro hs bu idURI hbu hp
    cases huri.symm.trans hbu
    refine ⟨[], by simp [isLineage], rfl, ?_⟩
    unfold baseUriAlong
    simp [hsR, hs, idUrl_of_parse _ _ _ _ hn hp]
  · intro hs
    refine ⟨bi, [], hb, by simp [isLineage], ?_⟩
    rw [huri]
    unfold baseUriAlong
    simp [hsR, hs]

/-- the worklist of resolveURIs: at the start the root alone, its info holding the retrieval URI; afterwards children
    with the resource root of their parent, whose info holds a base URI -/
def WorkInv (D : Doc) (ret : Url) (work : List (NodeId × NodeId)) (s : RState) : Prop :=
  (work = [(D.root, D.root)] ∧ ∃ i, lookupNat D.root s.infos = some i ∧ i.uri = some ret) ∨
  ∀ w ∈ work, WorkOk D w ∧ UriDone D ret s.infos w.2

theorem workInv_head (D : Doc) (ret : Url) (huniq : UniqueLineage D) {id base : NodeId}
    {work : List (NodeId × NodeId)} {s : RState} {n : Node} {bi : Info}
    (h : WorkInv D ret ((id, base) :: work) s) (hn : D.st.get? id = some n)
    (hb : lookupNat base s.infos = some bi) : EntryOk D ret s id base n bi := by
  rcases h with ⟨e, i, hi, hu⟩ | h
  · cases e
    cases hi.symm.trans hb
    exact entryOk_root D ret s n bi hn hb hu
  · obtain ⟨hw0, hU0⟩ := h (id, base) (by simp)
    exact ⟨workOk_resourceRoot D id base n hw0 hn,
      fun hs bu idURI hbu hp => workOk_uri D ret huniq s.infos id base n bi hw0 hn hb hU0 hs bu idURI hbu hp,
      fun _ => hU0⟩

theorem workInv_tail {D : Doc} {ret : Url} {e : NodeId × NodeId} {work : List (NodeId × NodeId)} {s : RState}
    (h : WorkInv D ret (e :: work) s) : ∀ w ∈ work, WorkOk D w ∧ UriDone D ret s.infos w.2 := by
  rcases h with ⟨e', _⟩ | h
  · cases e'
    intro w hw; cases hw
  · exact fun w hw => h w (List.mem_cons_of_mem _ hw)

end RInv
end Go
end JSV
