/-
  For C03: resolutions that load other documents.  Under the model's freshness assumption (`LoaderFresh`: no
  schema object shared between the root document and the loader documents), `DocInv` (ResDesigRefs.lean) holds
  of every document at every point where references are resolved (`GInv`, `resolve_G`).
-/
import JSV.Proofs.ResDesigRefs
namespace JSV
namespace Go
namespace RInv
open Uri Spec

/-- `b` is a subschema of the document under `r` (`Doc.Has`, which does not depend on the draft) -/
def Reach (st : Store) (r b : NodeId) : Prop := ∃ l, isLineage st r l b = true

theorem reach_root (st : Store) (r : NodeId) : Reach st r r := ⟨[], by simp [isLineage]⟩

theorem reach_child (st : Store) (r p c : NodeId) (hp : Reach st r p) (hc : isChild st p c = true) :
    Reach st r c :=
  has_child ⟨st, .d7, r⟩ p c hp hc

theorem checkStructure_ids_reach (st : Store) (fuel : Nat) (root : NodeId) (fresh : List (NodeId × Info))
    (h : checkStructure st fuel [(root, "")] [] = .ok fresh) : ∀ id ∈ ids fresh, Reach st root id := by
  intro id hid
  obtain ⟨e, he, rfl⟩ := List.mem_map.mp hid
  exact cs_ids_pred st (Reach st root)
    (fun x n hx hn c hc => reach_child st root x c hx ((isChild_iff _ _ _).mpr ⟨n, hn, hc⟩)) fuel _ _ _ h
    (by intro w hw; simp only [List.mem_singleton] at hw; subst hw; exact reach_root st root)
    (fun _ he => absurd he (by simp)) e he

def Registered (s : RState) (r : NodeId) : Prop := (s.doc? r).isSome = true

theorem Registered.ne_of_none {s : RState} {r l : NodeId} (hr : Registered s r) (hl : s.doc? l = none) : r ≠ l := by
  intro e
  rw [e, Registered, hl] at hr
  cases hr

/-- nothing that existed is changed: info objects and documents are only added -/
structure Extends (s s' : RState) : Prop where
  infos : ∀ id, (lookupNat id s.infos).isSome = true → lookupNat id s'.infos = lookupNat id s.infos
  docs : ∀ r, Registered s r → s'.doc? r = s.doc? r

theorem Extends.refl (s : RState) : Extends s s := ⟨fun _ _ => rfl, fun _ _ => rfl⟩

theorem Extends.trans {a b c : RState} (h1 : Extends a b) (h2 : Extends b c) : Extends a c := by
  constructor
  · intro id hid
    have e1 := h1.infos id hid
    rw [h2.infos id (by rw [e1]; exact hid), e1]
  · intro r hr
    have e1 := h1.docs r hr
    have : Registered b r := by unfold Registered; rw [e1]; exact hr
    rw [h2.docs r this, e1]

theorem done_lookup_isSome {D : Doc} {infos : List (NodeId × Info)} {p : NodeId} (h : Done D infos p) :
    (lookupNat p infos).isSome = true := by
  obtain ⟨i, _, hi, _⟩ := h
  rw [hi]; rfl

theorem docInv_extends (D : Doc) (ret : Url) {s s' : RState} (h : Extends s s') (hreg : Registered s D.root)
    (hs : DocInv D ret s) : DocInv D ret s' :=
  docInv_congr D ret (fun k hk => by rw [h.infos k (done_lookup_isSome (hs.done k hk).1)])
    (by rw [h.docs D.root hreg]) hs

/-- the model's assumption on the Loader: its documents share no schema object with the root document
    or with each other -/
def LoaderFresh (env : Env) (top : NodeId) : Prop :=
  ∀ tbl, env.loader = some tbl →
    (∀ k r, Json.lookup k tbl = some (.doc r) → ∀ b, Reach env.st r b → ¬ Reach env.st top b) ∧
    (∀ k1 k2 r1 r2, k1 ≠ k2 → Json.lookup k1 tbl = some (.doc r1) → Json.lookup k2 tbl = some (.doc r2) →
      ∀ b, Reach env.st r1 b → ¬ Reach env.st r2 b)

/-- the roots resolver.resolve may be entered for under the cache key `key` -/
def IsDocRoot (env : Env) (top : NodeId) (key : String) (r : NodeId) : Prop :=
  r = top ∨ ∃ tbl, env.loader = some tbl ∧ Json.lookup key tbl = some (.doc r)

/-- the invariant at every point where references are resolved; `rets r` = retrieval URI of document `r` -/
structure GInv (env : Env) (top : NodeId) (rets : NodeId → Url) (s : RState) : Prop where
  docs : ∀ r d, s.doc? r = some d → DocInv ⟨env.st, d.draft, r⟩ (rets r) s
  reg : ∀ r, Registered s r → r = top ∨ ∃ tbl k, env.loader = some tbl ∧
    Json.lookup k tbl = some (.doc r) ∧ (Json.lookup k s.loaded).isSome = true ∧ k = Uri.toString (rets r)
  dom : ∀ id, (lookupNat id s.infos).isSome = true → ∃ r, Registered s r ∧ Reach env.st r id
  loaded : ∀ e ∈ s.loaded, ∃ d, s.doc? e.2 = some d ∧ (⟨env.st, d.draft, e.2⟩ : Doc).Identifies (rets e.2) e.1 e.2

theorem Frozen.registered {s s' : RState} (h : Frozen s s') (r : NodeId) : Registered s' r ↔ Registered s r := by
  unfold Registered
  rw [isSome_of_map_eq (h.2.1 r)]

theorem gInv_frozen (env : Env) (top : NodeId) (rets : NodeId → Url) {s s' : RState} (h : Frozen s s')
    (hg : GInv env top rets s) : GInv env top rets s' := by
  refine ⟨?_, ?_, ?_, ?_⟩
  · intro r d' hd'
    obtain ⟨d, hd, _, hdr⟩ := h.doc_rev r d' hd'
    rw [hdr]
    exact docInv_frozen _ _ h (hg.docs r d hd)
  · intro r hr
    rcases hg.reg r ((h.registered r).mp hr) with h1 | ⟨tbl, k, h1, h2, h3, h4⟩
    · exact Or.inl h1
    · exact Or.inr ⟨tbl, k, h1, h2, by rw [h.2.2]; exact h3, h4⟩
  · intro id hid
    have hid' : (lookupNat id s.infos).isSome = true := by rw [← isSome_of_map_eq (h.1 id)]; exact hid
    obtain ⟨r, hr, hreach⟩ := hg.dom id hid'
    exact ⟨r, (h.registered r).mpr hr, hreach⟩
  · intro e he
    rw [h.2.2] at he
    obtain ⟨d, hd, hI⟩ := hg.loaded e he
    obtain ⟨d', hd', _, hdr⟩ := h.doc e.2 d hd
    exact ⟨d', hd', by rw [hdr]; exact hI⟩

/-- info objects keep base / uri / anchors, documents keep uris / draft; both may be added -/
structure Grow (s s' : RState) : Prop where
  infos : ∀ id, (lookupNat id s.infos).isSome = true →
    (lookupNat id s'.infos).map fixedOf = (lookupNat id s.infos).map fixedOf
  docs : ∀ r, Registered s r →
    (s'.doc? r).map (fun d => (d.uris, d.draft)) = (s.doc? r).map (fun d => (d.uris, d.draft))

theorem Grow.refl (s : RState) : Grow s s := ⟨fun _ _ => rfl, fun _ _ => rfl⟩

theorem Grow.registered {s s' : RState} (h : Grow s s') (r : NodeId) (hr : Registered s r) : Registered s' r := by
  unfold Registered at hr ⊢
  rw [isSome_of_map_eq (h.docs r hr)]; exact hr

theorem Grow.isSome {s s' : RState} (h : Grow s s') (id : NodeId) (hid : (lookupNat id s.infos).isSome = true) :
    (lookupNat id s'.infos).isSome = true := by
  rw [isSome_of_map_eq (h.infos id hid)]; exact hid

theorem Grow.trans {a b c : RState} (h1 : Grow a b) (h2 : Grow b c) : Grow a c :=
  ⟨fun id hid => (h2.infos id (h1.isSome id hid)).trans (h1.infos id hid),
   fun r hr => (h2.docs r (h1.registered r hr)).trans (h1.docs r hr)⟩

theorem Frozen.grow {s s' : RState} (h : Frozen s s') : Grow s s' := ⟨fun id _ => h.1 id, fun r _ => h.2.1 r⟩
theorem Extends.grow {s s' : RState} (h : Extends s s') : Grow s s' :=
  ⟨fun id hid => by rw [h.infos id hid], fun r hr => by rw [h.docs r hr]⟩

theorem Grow.doc {s s' : RState} (h : Grow s s') (r : NodeId) (d : DocRes) (hd : s.doc? r = some d) :
    ∃ d', s'.doc? r = some d' ∧ d'.uris = d.uris ∧ d'.draft = d.draft := by
  obtain ⟨d', hd', e⟩ := map_eq_map_some (h.docs r (by unfold Registered; rw [hd]; rfl)) hd
  simp only [Prod.mk.injEq] at e
  exact ⟨d', hd', e⟩

/-- `$ref: ref` in schema `id` of document `D` designates `t`: as `Doc.Designates`, except that the
    fragment-less URI may also identify the root of another resolved document (`rets r` = its
    retrieval URI), inside which the fragment then selects -/
def GDesig (env : Env) (rets : NodeId → Url) (s : RState) (D : Doc) (id : NodeId) (ref : String)
    (t : NodeId) : Prop :=
  ∃ bu refURI, D.BaseUri (rets D.root) id bu ∧ Uri.parse ref = .ok refURI ∧
    ((∃ r, D.Identifies (rets D.root) (Uri.toString (Uri.dropFragment (Uri.resolveReference bu refURI))) r ∧
        D.FragTarget r (Uri.resolveReference bu refURI).fragment t) ∨
     (∃ r d', s.doc? r = some d' ∧
        (⟨env.st, d'.draft, r⟩ : Doc).Identifies (rets r)
          (Uri.toString (Uri.dropFragment (Uri.resolveReference bu refURI))) r ∧
        (⟨env.st, d'.draft, r⟩ : Doc).FragTarget r (Uri.resolveReference bu refURI).fragment t))

/-- the retrieval URIs of the documents registered so far are kept -/
def Agree (s : RState) (rets rets' : NodeId → Url) : Prop := ∀ r, Registered s r → rets' r = rets r

theorem gDesig_grow (env : Env) {rets rets' : NodeId → Url} {s s' : RState} (hgrow : Grow s s')
    (hag : Agree s rets rets') (D : Doc) (hD : Registered s D.root) (id : NodeId) (ref : String) (t : NodeId)
    (h : GDesig env rets s D id ref t) : GDesig env rets' s' D id ref t := by
  obtain ⟨bu, refURI, hb, hp, h⟩ := h
  refine ⟨bu, refURI, by rw [hag D.root hD]; exact hb, hp, ?_⟩
  rcases h with ⟨r, h1, h2⟩ | ⟨r, d', hd', h1, h2⟩
  · exact Or.inl ⟨r, by rw [hag D.root hD]; exact h1, h2⟩
  · obtain ⟨d'', hd'', _, hdr⟩ := hgrow.doc r d' hd'
    refine Or.inr ⟨r, d'', hd'', ?_, ?_⟩
    · rw [hdr, hag r (by unfold Registered; rw [hd']; rfl)]; exact h1
    · rw [hdr]; exact h2

/-- schema `id`, if it carries a `$ref`, has a recorded target, and it is the designated one; the same
    for the initial (lexical) target of a `$dynamicRef` -/
def RefOkG (env : Env) (rets : NodeId → Url) (s : RState) (D : Doc) (id : NodeId) : Prop :=
  ∀ n, D.st.get? id = some n →
    (n.ref ≠ "" →
      ∃ info t, lookupNat id s.infos = some info ∧ info.resolvedRef = some t ∧ GDesig env rets s D id n.ref t) ∧
    (D.draft = .d2020 → n.dynamicRef ≠ "" →      -- `$dynamicRef` is a keyword of 2020-12 documents only
      ∃ info t, lookupNat id s.infos = some info ∧ info.resolvedDynamicRef = some t ∧
        GDesig env rets s D id n.dynamicRef t)

/-- what the open-recursion callback must satisfy: the induction hypothesis of `resolveDoc_G`; `rets'` extends `rets`
    by the retrieval URI of `lroot` -/
def RecG (env : Env) (top : NodeId) (recDoc : ResolveDoc) : Prop :=
  ∀ lroot base dr s s' rets, recDoc lroot base dr s = .ok s' →
    GInv env top rets s → s.doc? lroot = none →
    (∀ r, Registered s r → ∀ b, Reach env.st r b → ¬ Reach env.st lroot b) →
    IsDocRoot env top (Uri.toString base) lroot →
    ∃ rets', Agree s rets rets' ∧ rets' lroot = base ∧ GInv env top rets' s' ∧ Extends s s' ∧
      ∃ d, s'.doc? lroot = some d ∧
        ∀ id ∈ allNodes env.st (env.st.size + 2) [lroot], RefOkG env rets' s' ⟨env.st, d.draft, lroot⟩ id

theorem mergeKnown_doc_ne (s : RState) (a b r : NodeId) (h : r ≠ a) : (mergeKnown s a b).doc? r = s.doc? r := by
  unfold mergeKnown
  split
  · rename_i d l hd hl
    rw [doc?_setDoc]
    simp only
    have : d.root = a := doc?_root _ _ _ hd
    rw [this, if_neg (fun e => h e.symm)]
  · rfl

theorem loaderDoc_new (env : Env) (top : NodeId) (rets : NodeId → Url) (s : RState) (hfresh : LoaderFresh env top)
    (hg : GInv env top rets s) (tbl : List (String × LoaderResult)) (key : String) (r : NodeId)
    (htbl : env.loader = some tbl) (hltbl : Json.lookup key tbl = some (.doc r))
    (hl : Json.lookup key s.loaded = none) :
    s.doc? r = none ∧ ∀ x, Registered s x → ∀ b, Reach env.st x b → ¬ Reach env.st r b := by
  have hdisj : ∀ x, Registered s x → ∀ b, Reach env.st x b → ¬ Reach env.st r b := by
    intro x hx b hb hb'
    rcases hg.reg x hx with rfl | ⟨tbl', k', ht', hk', hl', _⟩
    · exact (hfresh tbl htbl).1 _ r hltbl b hb' hb
    · cases htbl.symm.trans ht'
      have hne : k' ≠ key := by
        intro e; rw [e, hl] at hl'; cases hl'
      exact (hfresh tbl htbl).2 k' _ x r hne hk' hltbl b hb hb'
  refine ⟨?_, hdisj⟩
  cases hc : s.doc? r with
  | none => rfl
  | some dd =>
    exact absurd (reach_root env.st r) (hdisj r (by unfold Registered; rw [hc]; rfl) r (reach_root env.st r))

theorem resolveRef_G (env : Env) (top : NodeId) (recDoc : ResolveDoc) (hrec : RecG env top recDoc)
    (hfresh : LoaderFresh env top) (rets : NodeId → Url) (s : RState) (root id : NodeId) (ref : String)
    (o : RefOut) (s' : RState) (hg : GInv env top rets s) (hid : Reach env.st root id)
    (h : resolveRef env recDoc root s id ref = .ok (o, s')) :
    ∃ rets' d, Agree s rets rets' ∧ GInv env top rets' s' ∧ Grow s s' ∧
      (∀ k, (lookupNat k s.infos).isSome = true → lookupNat k s'.infos = lookupNat k s.infos) ∧
      (∀ r, r ≠ root → Registered s r → s'.doc? r = s.doc? r) ∧
      s.doc? root = some d ∧ GDesig env rets' s' ⟨env.st, d.draft, root⟩ id ref o.target := by
  obtain ⟨refURI0, info, base, bInfo, bu, d, r, hp, hinfo, hbase, hbInfo, hbu, hd, hloc, hfrag⟩ :=
    resolveRef_unfold env recDoc root s id ref o s' h
  have hD := hg.docs root d hd
  have hregRoot : Registered s root := by unfold Registered; rw [hd]; rfl
  have hBU : (⟨env.st, d.draft, root⟩ : Doc).BaseUri (rets root) id bu :=
    (done_baseUri ⟨env.st, d.draft, root⟩ (rets root) s.infos hD.uniq id (hD.done id hid) info bInfo base bu
      (info?_lookup _ _ _ _ hinfo) hbase (info?_lookup _ _ _ _ hbInfo) hbu).2
  unfold Located at hloc
  simp only at hloc
  rcases hloc with ⟨hl, rfl⟩ | ⟨hl1, hl2, rfl⟩ | ⟨hl1, hl2, tbl, s2, htbl, hltbl, hdoc, rfl⟩
  · have hI := hD.uris d hd _ (Json.mem_of_lookup hl)
    refine ⟨rets, d, fun _ _ => rfl, hg, Grow.refl _, fun _ _ => rfl, fun _ _ _ => rfl, hd,
      bu, refURI0, hBU, hp, Or.inl ⟨r, hI, ?_⟩⟩
    exact tableFrag_desig env ⟨env.st, d.draft, root⟩ rfl _ _ _ _ _ hD.sound (identifies_has _ _ _ _ hI) hfrag
  · have hfr := frozen_mergeKnown s root r
    have hg' := gInv_frozen env top rets hfr hg
    obtain ⟨dr, hdr, hI⟩ := hg.loaded _ (Json.mem_of_lookup hl2)
    obtain ⟨dr', hdr', _, hdraft⟩ := hfr.doc r dr hdr
    refine ⟨rets, d, fun _ _ => rfl, hg', hfr.grow, fun _ _ => by rw [mergeKnown_infos],
      fun x hx _ => mergeKnown_doc_ne s root r x hx, hd, bu, refURI0, hBU, hp, Or.inr ⟨r, dr', hdr', ?_, ?_⟩⟩
    · rw [hdraft]; exact hI
    · exact tableFrag_desig env ⟨env.st, dr'.draft, r⟩ rfl _ _ _ _ _ (hg'.docs r dr' hdr').sound
        (reach_root env.st r) hfrag
  · have hfr0 : Frozen s { s with log := s.log ++ [Uri.toString (Uri.dropFragment (Uri.resolveReference bu refURI0))] } :=
      ⟨fun _ => rfl, fun _ => rfl, rfl⟩
    have hg0 := gInv_frozen env top rets hfr0 hg
    obtain ⟨hnone, hdisj⟩ := loaderDoc_new env top rets s hfresh hg tbl _ r htbl hltbl hl2
    obtain ⟨rets', hag, hret, hg2, hext, d2, hd2, _⟩ :=
      hrec r _ d.draft _ s2 rets hdoc hg0 hnone hdisj (Or.inr ⟨tbl, htbl, hltbl⟩)
    have hfr := frozen_mergeKnown s2 root r
    have hg' := gInv_frozen env top rets' hfr hg2
    obtain ⟨d2', hd2', _, hdraft⟩ := hfr.doc r d2 hd2
    refine ⟨rets', d, hag, hg', hfr0.grow.trans (hext.grow.trans hfr.grow), ?_, ?_, hd, bu, refURI0,
      by rw [hag root hregRoot]; exact hBU, hp, Or.inr ⟨r, d2', hd2', ?_, ?_⟩⟩
    · intro k hk
      rw [mergeKnown_infos]; exact hext.infos k hk
    · intro x hx hxr
      rw [mergeKnown_doc_ne _ _ _ _ hx]; exact hext.docs x hxr
    · exact Or.inl ⟨rfl, by rw [hret]⟩
    · exact tableFrag_desig env ⟨env.st, d2'.draft, r⟩ rfl _ _ _ _ _ (hg'.docs r d2' hd2').sound
        (reach_root env.st r) hfrag

theorem agree_trans {a b : RState} {r0 r1 r2 : NodeId → Url} (h1 : Agree a r0 r1) (h2 : Agree b r1 r2)
    (hreg : ∀ r, Registered a r → Registered b r) : Agree a r0 r2 :=
  fun r hr => (h2 r (hreg r hr)).trans (h1 r hr)

theorem resolveRef_upd_G (env : Env) (top : NodeId) (recDoc : ResolveDoc) (hrec : RecG env top recDoc)
    (hfresh : LoaderFresh env top) (rets : NodeId → Url) (s : RState) (root id : NodeId) (ref : String)
    (o : RefOut) (sa : RState) (hg : GInv env top rets s) (hid : Reach env.st root id)
    (h : resolveRef env recDoc root s id ref = .ok (o, sa)) (f : Info → Info) (hf : ∀ i, fixedOf (f i) = fixedOf i) :
    ∃ rets' d, Agree s rets rets' ∧ GInv env top rets' (sa.updInfo id f) ∧ Grow s (sa.updInfo id f) ∧
      (∀ k, k ≠ id → (lookupNat k s.infos).isSome = true →
        lookupNat k (sa.updInfo id f).infos = lookupNat k s.infos) ∧
      (∀ r, r ≠ root → Registered s r → (sa.updInfo id f).doc? r = s.doc? r) ∧
      s.doc? root = some d ∧
      lookupNat id (sa.updInfo id f).infos = (lookupNat id s.infos).map f ∧
      GDesig env rets' (sa.updInfo id f) ⟨env.st, d.draft, root⟩ id ref o.target := by
  obtain ⟨rets', d, hag, hg', hgrow, hkeep, hdocs, hd, hdes⟩ :=
    resolveRef_G env top recDoc hrec hfresh rets s root id ref o sa hg hid h
  have hfr := frozen_updInfo sa id f hf
  have hidS : (lookupNat id s.infos).isSome = true :=
    done_lookup_isSome ((hg.docs root d hd).done id hid).1
  refine ⟨rets', d, hag, gInv_frozen env top rets' hfr hg', hgrow.trans hfr.grow, ?_, ?_, hd, ?_, ?_⟩
  · intro k hk hks
    rw [updInfo_lookup_ne _ _ _ _ hk]; exact hkeep k hks
  · intro r hr hreg
    rw [doc?_of_docs_eq (updInfo_docs _ _ _) r]; exact hdocs r hr hreg
  · rw [updInfo_infos_lookup, if_pos rfl, hkeep id hidS]
  · exact gDesig_grow env hfr.grow (fun _ _ => rfl) ⟨env.st, d.draft, root⟩
      (hgrow.registered root (by unfold Registered; rw [hd]; rfl)) id ref o.target hdes

theorem refStep_G (env : Env) (top : NodeId) (recDoc : ResolveDoc) (hrec : RecG env top recDoc)
    (hfresh : LoaderFresh env top) (rets : NodeId → Url) (s sb : RState) (root id : NodeId) (on : Bool)
    (ref : String) (upd : RefOut → Info → Info) (hg : GInv env top rets s) (hid : Reach env.st root id)
    (d : DocRes) (hd : s.doc? root = some d) (h : refStep env recDoc root id on ref upd s = .ok sb)
    (hupd : ∀ o i, fixedOf (upd o i) = fixedOf i) :
    ∃ rets', Agree s rets rets' ∧ GInv env top rets' sb ∧ Grow s sb ∧
      (∀ k, k ≠ id → (lookupNat k s.infos).isSome = true → lookupNat k sb.infos = lookupNat k s.infos) ∧
      (∀ r, r ≠ root → Registered s r → sb.doc? r = s.doc? r) ∧
      ((on = false ∧ sb = s) ∨ (on = true ∧ ∃ o, lookupNat id sb.infos = (lookupNat id s.infos).map (upd o) ∧
        GDesig env rets' sb ⟨env.st, d.draft, root⟩ id ref o.target)) := by
  rcases refStep_ok' h with ⟨hon, rfl⟩ | ⟨hon, o, sa, hr, rfl⟩
  · exact ⟨rets, fun _ _ => rfl, hg, Grow.refl _, fun _ _ _ => rfl, fun _ _ _ => rfl, Or.inl ⟨hon, rfl⟩⟩
  · obtain ⟨rets', d', a1, a2, a3, a4, a5, a6, a7, a8⟩ :=
      resolveRef_upd_G env top recDoc hrec hfresh rets s root id ref o sa hg hid hr (upd o) (hupd o)
    cases hd.symm.trans a6
    exact ⟨rets', a1, a2, a3, a4, a5, Or.inr ⟨hon, o, a7, a8⟩⟩

theorem resolveRefsLoop_G (env : Env) (top : NodeId) (recDoc : ResolveDoc) (hrec : RecG env top recDoc)
    (hfresh : LoaderFresh env top) (root : NodeId) :
    ∀ ids s s' rets d, resolveRefsLoop env recDoc root ids s = .ok s' → GInv env top rets s →
      s.doc? root = some d → (∀ id ∈ ids, Reach env.st root id) →
      ∃ rets', Agree s rets rets' ∧ GInv env top rets' s' ∧ Grow s s' ∧
        (∀ k, k ∉ ids → (lookupNat k s.infos).isSome = true → lookupNat k s'.infos = lookupNat k s.infos) ∧
        (∀ r, r ≠ root → Registered s r → s'.doc? r = s.doc? r) ∧
        ∀ id ∈ ids, RefOkG env rets' s' ⟨env.st, d.draft, root⟩ id := by
  intro ids
  induction ids with
  | nil =>
    intro s s' rets d h hg _ _
    simp [resolveRefsLoop] at h; subst h
    exact ⟨rets, fun _ _ => rfl, hg, Grow.refl _, fun _ _ _ => rfl, fun _ _ _ => rfl, fun _ h => absurd h (by simp)⟩
  | cons id rest ih =>
    intro s s' rets d h hg hd hids
    rw [resolveRefsLoop_cons] at h
    split at h
    · cases h
    rename_i n hn
    obtain ⟨s1, h1, h⟩ := Res.bind_eq_ok_iff.mp h
    obtain ⟨s2, h2, h⟩ := Res.bind_eq_ok_iff.mp h
    have hid : Reach env.st root id := hids id (by simp)
    have hidS : (lookupNat id s.infos).isSome = true := done_lookup_isSome ((hg.docs root d hd).done id hid).1
    obtain ⟨rets1, ag1, hg1, gr1, k1, dc1, r1⟩ :=
      refStep_G env top recDoc hrec hfresh rets s s1 root id _ _ _ hg hid d hd h1 (fun _ _ => rfl)
    obtain ⟨d1, hd1, _, hdr1⟩ := gr1.doc root d hd
    obtain ⟨rets2, ag2, hg2, gr2, k2, dc2, r2⟩ :=
      refStep_G env top recDoc hrec hfresh rets1 s1 s2 root id _ _ _ hg1 hid d1 hd1 h2 (fun _ _ => rfl)
    rw [hdr1] at r2
    obtain ⟨d2, hd2, _, hdr2⟩ := gr2.doc root d1 hd1
    obtain ⟨rets3, ag3, hg3, gr3, k3, dc3, ok3⟩ :=
      ih s2 s' rets2 d2 h hg2 hd2 (fun x hx => hids x (List.mem_cons_of_mem _ hx))
    have hD2 : (⟨env.st, d2.draft, root⟩ : Doc) = ⟨env.st, d.draft, root⟩ := by rw [hdr2, hdr1]
    rw [hD2] at ok3
    have hreg : Registered s root := by unfold Registered; rw [hd]; rfl
    refine ⟨rets3, agree_trans (agree_trans ag1 ag2 gr1.registered) ag3 (fun r hr => gr2.registered r (gr1.registered r hr)),
      hg3, gr1.trans (gr2.trans gr3), ?_, ?_, ?_⟩
    · intro k hk hks
      have hk1 : k ≠ id := fun e => hk (by rw [e]; simp)
      rw [k3 k (fun e => hk (List.mem_cons_of_mem _ e)) (gr2.isSome k (gr1.isSome k hks)),
        k2 k hk1 (gr1.isSome k hks), k1 k hk1 hks]
    · intro r hr hreg
      rw [dc3 r hr (gr2.registered r (gr1.registered r hreg)), dc2 r hr (gr1.registered r hreg), dc1 r hr hreg]
    · intro x hx
      by_cases hxr : x ∈ rest
      · exact ok3 x hxr
      obtain rfl : x = id := (List.mem_cons.mp hx).resolve_right hxr
      intro n' hn'
      cases hn.symm.trans (hn' : env.st.get? x = some n')
      obtain ⟨i0, hi0⟩ := Option.isSome_iff_exists.mp hidS
      have hx3 : ∀ i2, lookupNat x s2.infos = some i2 → lookupNat x s'.infos = some i2 := fun i2 hi2 => by
        rw [k3 x hxr (by rw [hi2]; rfl), hi2]
      constructor
      · intro hne
        obtain ⟨hoff, _⟩ | ⟨_, o, hi1, hdes⟩ := r1
        · exact absurd hoff (by simpa using hne)
        rw [hi0] at hi1
        have hdes' := gDesig_grow env (gr2.trans gr3) (agree_trans ag2 ag3 gr2.registered) ⟨env.st, d.draft, root⟩
          (gr1.registered root hreg) x n.ref o.target hdes
        obtain ⟨_, rfl⟩ | ⟨_, o2, hi2, _⟩ := r2
        · exact ⟨_, o.target, hx3 _ hi1, rfl, hdes'⟩
        · rw [hi1] at hi2
          exact ⟨_, o.target, hx3 _ hi2, rfl, hdes'⟩
      · intro h20 hne
        obtain ⟨hoff, _⟩ | ⟨_, o, hi2, hdes⟩ := r2
        · have : s1.draftOf root = .d2020 := by unfold RState.draftOf; rw [hd1]; exact hdr1.trans h20
          exact absurd hoff (by simpa [this] using hne)
        obtain ⟨i1, hi1⟩ := Option.isSome_iff_exists.mp (gr1.isSome x hidS)
        rw [hi1] at hi2
        exact ⟨_, o.target, hx3 _ hi2, rfl,
          gDesig_grow env gr3 ag3 ⟨env.st, d.draft, root⟩ (gr2.registered root (gr1.registered root hreg)) x
            n.dynamicRef o.target hdes⟩

theorem docInv_of_eq (D : Doc) (ret : Url) {s s' : RState} (hi : s'.infos = s.infos) (hd : s'.docs = s.docs)
    (h : DocInv D ret s) : DocInv D ret s' :=
  docInv_congr D ret (fun _ _ => by rw [hi]) (by rw [doc?_of_docs_eq hd]) h

theorem gInv_afterURIs (env : Env) (top : NodeId) (lroot : NodeId) (baseURI : Url) (draft : Draft)
    (fresh : List (NodeId × Info)) (s sB : RState) (rets : NodeId → Url)
    (hcs : checkStructure env.st (env.st.size + 2) [(lroot, "")] [] = .ok fresh)
    (hB : resolveURIsLoop env draft lroot (env.st.size + 2) [(lroot, lroot)]
      (RDraft.beforeURIs lroot baseURI draft fresh s) = .ok sB)
    (hg : GInv env top rets s) (hnone : s.doc? lroot = none)
    (hdisj : ∀ r, Registered s r → ∀ b, Reach env.st r b → ¬ Reach env.st lroot b)
    (hkey : IsDocRoot env top (Uri.toString baseURI) lroot) :
    GInv env top (fun x => if x = lroot then baseURI else rets x) (RDraft.afterURIs lroot baseURI sB) ∧
    Extends s sB ∧ (∃ dB, sB.doc? lroot = some dB ∧ dB.draft = draft) ∧
    (sB.log = s.log ∧ sB.loaded = s.loaded) ∧ DocInv ⟨env.st, draft, lroot⟩ baseURI sB ∧
    (∀ x, Reach env.st lroot x → lookupNat x s.infos = none) := by
  let D : Doc := ⟨env.st, draft, lroot⟩
  have hnotReach : ∀ id, (lookupNat id s.infos).isSome = true → ¬ Reach env.st lroot id := by
    intro id hid hr
    obtain ⟨r, hreg, hrb⟩ := hg.dom id hid
    exact hdisj r hreg id hrb hr
  have hnoInfo : ∀ b, Reach env.st lroot b → lookupNat b s.infos = none := fun b hb =>
    Option.not_isSome_iff_eq_none.mp fun hid => hnotReach b hid hb
  obtain ⟨hDB, ⟨dB, hdB, hdrB⟩, sameB, hrootId⟩ := docInv_afterURIs env lroot baseURI draft fresh s sB hcs hB
    (fun b i hi hb => by rw [hnoInfo b hb] at hi; cases hi)
  obtain ⟨_, _, f1, f2, _, _, _⟩ := resolveURIs_ok env D rfl baseURI _ fresh hcs _ _ sB
    (beforeURIs_root_uri env.st _ lroot baseURI draft fresh s hcs) hB
  unfold RDraft.beforeURIs at f1
  have hdocB : ∀ r, r ≠ lroot → sB.doc? r = s.doc? r := by
    intro r hne
    rw [f2 r hne, beforeURIs_doc?, if_neg (fun e => hne e.symm)]
  have hextB : Extends s sB := by
    refine ⟨fun id hid => ?_, fun r hr => hdocB r (hr.ne_of_none hnone)⟩
    have hnr := hnotReach id hid
    have hne : id ≠ lroot := fun e => hnr (e ▸ reach_root env.st lroot)
    rw [f1 id hnr, updInfo_lookup_ne _ _ _ _ hne, setDoc_infos]
    exact lookupNat_append_of_isSome _ _ _ hid
  let rets' : NodeId → Url := fun x => if x = lroot then baseURI else rets x
  have hrets_ne : ∀ r, r ≠ lroot → rets' r = rets r := fun r hne => by simp only [rets', if_neg hne]
  have hrets_eq : rets' lroot = baseURI := by simp only [rets', if_true]
  have hupd := loaded_update sB.loaded (Uri.toString baseURI) (rootUriOf sB lroot) lroot
  have hgC : GInv env top rets' { sB with loaded :=
      (sB.loaded.filter fun e => e.1 != Uri.toString baseURI && e.1 != rootUriOf sB lroot) ++
        [(Uri.toString baseURI, lroot), (rootUriOf sB lroot, lroot)] } := by
    refine ⟨?_, ?_, ?_, ?_⟩
    · intro r d hd
      have hd' : sB.doc? r = some d := hd
      by_cases hr : r = lroot
      · subst hr
        cases hdB.symm.trans hd'
        rw [hrets_eq, hdrB]
        exact docInv_of_eq (s := sB) D baseURI rfl rfl hDB
      · rw [hdocB r hr] at hd'
        rw [hrets_ne r hr]
        exact docInv_of_eq (s := sB) _ _ rfl rfl
          (docInv_extends _ _ hextB (by unfold Registered; rw [hd']; rfl) (hg.docs r d hd'))
    · intro r hr
      have hr' : (sB.doc? r).isSome = true := hr
      by_cases hrl : r = lroot
      · subst hrl
        rcases hkey with h1 | ⟨tbl, h1, h2⟩
        · exact Or.inl h1
        · exact Or.inr ⟨tbl, _, h1, h2, hupd.1, by rw [hrets_eq]⟩
      · rw [hdocB r hrl] at hr'
        rcases hg.reg r hr' with h1 | ⟨tbl, k, h1, h2, h3, h4⟩
        · exact Or.inl h1
        · exact Or.inr ⟨tbl, k, h1, h2, hupd.2.2 k (by rw [sameB.2]; exact h3), by rw [hrets_ne r hrl]; exact h4⟩
    · intro id hid
      have hid' : (lookupNat id sB.infos).isSome = true := hid
      cases hs : lookupNat id s.infos with
      | some i =>
        obtain ⟨r, hr, hrb⟩ := hg.dom id (by rw [hs]; rfl)
        exact ⟨r, hextB.grow.registered r hr, hrb⟩
      | none =>
        -- an info object that is new was registered by checkStructure
        refine ⟨lroot, by show (sB.doc? lroot).isSome = true; rw [hdB]; rfl, ?_⟩
        apply Classical.byContradiction
        intro hnr
        have hne : id ≠ lroot := fun e => hnr (e ▸ reach_root env.st lroot)
        rw [f1 id hnr, updInfo_lookup_ne _ _ _ _ hne, setDoc_infos, lookupNat_append_none _ _ _ hs] at hid'
        obtain ⟨v, hf⟩ := Option.isSome_iff_exists.mp hid'
        exact hnr (checkStructure_ids_reach env.st _ lroot fresh hcs id
          (List.mem_map.mpr ⟨(id, v), lookupNat_mem _ _ _ hf, rfl⟩))
    · intro e he
      have he' : e ∈ (sB.loaded.filter _) ++ [(_, lroot), (_, lroot)] := he
      rcases List.mem_append.mp he' with h1 | h1
      · have hmem := (List.mem_filter.mp h1).1
        rw [sameB.2] at hmem
        obtain ⟨d, hd, hI⟩ := hg.loaded e hmem
        have hreg : Registered s e.2 := by unfold Registered; rw [hd]; rfl
        exact ⟨d, (hextB.docs _ hreg).trans hd, by rw [hrets_ne _ (hreg.ne_of_none hnone)]; exact hI⟩
      · simp only [List.mem_cons, List.mem_nil_iff, or_false] at h1
        rcases h1 with rfl | rfl
        · exact ⟨dB, hdB, by rw [hrets_eq]; exact Or.inl ⟨rfl, rfl⟩⟩
        · exact ⟨dB, hdB, by rw [hrets_eq, hdrB]; exact hrootId⟩
  exact ⟨hgC, hextB, ⟨dB, hdB, hdrB⟩, sameB, hDB, hnoInfo⟩

theorem resolveDocStep_G (env : Env) (top : NodeId) (recDoc : ResolveDoc) (hrec : RecG env top recDoc)
    (hfresh : LoaderFresh env top) : RecG env top (resolveDocStep env recDoc) := by
  intro lroot baseURI inherit s s' rets h hg hnone hdisj hkey
  obtain ⟨rn, fresh, sB, _, hcs, hB, hC⟩ := RDraft.resolveDocStep_unfold env recDoc lroot baseURI inherit s s' h
  generalize RDraft.docDraft env rn inherit = draft at hB
  let D : Doc := ⟨env.st, draft, lroot⟩
  obtain ⟨hgC, hextB, ⟨dB, hdB, hdrB⟩, _, _, hnoInfo⟩ :=
    gInv_afterURIs env top lroot baseURI draft fresh s sB rets hcs hB hg hnone hdisj hkey
  have hallHas : ∀ w ∈ [lroot], D.Has w := by
    intro w hw
    rw [List.mem_singleton.mp hw]
    exact reach_root env.st lroot
  obtain ⟨rets'', ag, hg', gr, keep, dkeep, hok⟩ :=
    resolveRefsLoop_G env top recDoc hrec hfresh lroot _ _ s' _ dB hC hgC hdB (allNodes_has D _ _ hallHas)
  have hregC : ∀ r, Registered s r → (sB.doc? r).isSome = true := by
    intro r hr; rw [hextB.docs r hr]; exact hr
  obtain ⟨d', hd', _, hdr'⟩ := gr.doc lroot dB hdB
  refine ⟨rets'', ?_, ?_, hg', ?_, d', hd', ?_⟩
  · intro r hr
    rw [ag r (hregC r hr)]
    exact if_neg (hr.ne_of_none hnone)
  · rw [ag lroot (by show (sB.doc? lroot).isSome = true; rw [hdB]; rfl)]
    exact if_pos rfl
  · constructor
    · intro id hid
      -- an info object that existed belongs to another document: resolveRefs of this one leaves it alone
      have hnotAll : id ∉ allNodes env.st (env.st.size + 2) [lroot] := by
        intro hmem
        have := hnoInfo id (allNodes_has D _ _ hallHas id hmem)
        rw [this] at hid; cases hid
      have e1 := hextB.infos id hid
      rw [keep id hnotAll (by show (lookupNat id sB.infos).isSome = true; rw [e1]; exact hid)]
      exact e1
    · intro r hr
      rw [dkeep r (hr.ne_of_none hnone) (hregC r hr)]
      exact hextB.docs r hr
  · rw [hdr']; exact hok

theorem resolveDoc_G (env : Env) (top : NodeId) (hfresh : LoaderFresh env top) :
    ∀ fuel, RecG env top (resolveDoc env fuel) := by
  intro fuel
  induction fuel with
  | zero => intro lroot base dr s s' rets h; simp [resolveDoc] at h
  | succ fuel ih => exact resolveDocStep_G env top _ ih hfresh

theorem gInv_init (env : Env) (top : NodeId) (rets : NodeId → Url) : GInv env top rets {} := by
  refine ⟨?_, ?_, ?_, ?_⟩
  · intro r d h; simp [RState.doc?] at h
  · intro r h; simp [Registered, RState.doc?] at h
  · intro id h; simp [lookupNat] at h
  · intro e he; simp at he

/-- Schema.Resolve under the freshness assumption: the final state satisfies the invariant of all
    documents, and every `$ref` of `root.all()` has the designated target (and, in a 2020-12 document, every
    `$dynamicRef`: under draft-07 it is an unknown keyword, left unresolved) -/
theorem resolve_G (env : Env) (fuel : Nat) (root : NodeId) (base : String) (rs : Resolved)
    (hfresh : LoaderFresh env root) (h : resolve env fuel root base = .ok rs) :
    ∃ s b d rets, retrievalOf base = .ok b ∧ rets root = b ∧ s.doc? root = some d ∧ rs.draft = d.draft ∧
      GInv env root rets s ∧
      ∀ id ∈ allNodes env.st (env.st.size + 2) [root], ∀ n, env.st.get? id = some n →
        (n.ref ≠ "" → ∃ info t, lookupNat id rs.infos = some info ∧ info.resolvedRef = some t ∧
          GDesig env rets s ⟨env.st, rs.draft, root⟩ id n.ref t) ∧
        (rs.draft = .d2020 → n.dynamicRef ≠ "" →
          ∃ info t, lookupNat id rs.infos = some info ∧ info.resolvedDynamicRef = some t ∧
          GDesig env rets s ⟨env.st, rs.draft, root⟩ id n.dynamicRef t) := by
  obtain ⟨s, b, d, hb, hs, hd, _, hdr, _, hinfos⟩ := resolve_eq_ok env fuel root base rs h
  obtain ⟨rets, _, hret, hg, _, d', hd', hok⟩ :=
    resolveDoc_G env root hfresh fuel root b .d2020 {} s (fun _ => b) hs (gInv_init env root _)
      (by simp [RState.doc?]) (by intro r hr; simp [Registered, RState.doc?] at hr) (Or.inl rfl)
  cases hd.symm.trans hd'
  refine ⟨s, b, d, rets, hb, hret, hd, hdr, hg, ?_⟩
  intro id hid n hn
  rw [hinfos, resolve_lookup_all env fuel root b _ s d hs hd id hid, hdr]
  exact hok id hid n hn

/-- the documents registered in a state, with their retrieval URIs -/
def docsOf (env : Env) (rets : NodeId → Url) (s : RState) : List (Doc × Url) :=
  s.docs.map fun d => (⟨env.st, d.draft, d.root⟩, rets d.root)

theorem gDesig_among (env : Env) (rets : NodeId → Url) (s : RState) (D : Doc) (id : NodeId) (ref : String)
    (t : NodeId) (h : GDesig env rets s D id ref t) :
    DesignatesAmong (docsOf env rets s) D (rets D.root) id ref t := by
  obtain ⟨bu, refURI, hb, hp, h⟩ := h
  refine ⟨bu, refURI, hb, hp, ?_⟩
  rcases h with h | ⟨r, d', hd', h1, h2⟩
  · exact Or.inl h
  · have hroot : d'.root = r := doc?_root _ _ _ hd'
    have hmem : d' ∈ s.docs := List.mem_of_find?_eq_some hd'
    refine Or.inr ⟨(⟨env.st, d'.draft, d'.root⟩, rets d'.root), List.mem_map.mpr ⟨d', hmem, rfl⟩, ?_, ?_⟩
    · simp only; rw [hroot]; exact h1
    · simp only; rw [hroot]; exact h2

theorem docsOf_spec (env : Env) (top : NodeId) (rets : NodeId → Url) (s : RState) (hg : GInv env top rets s) :
    ∀ e ∈ docsOf env rets s, e.1.st = env.st ∧ ((e.1.root = top ∧ e.2 = rets top) ∨
      ∃ tbl, env.loader = some tbl ∧ Json.lookup (Uri.toString e.2) tbl = some (.doc e.1.root)) := by
  intro e he
  obtain ⟨d, hd, rfl⟩ := List.mem_map.mp he
  refine ⟨rfl, ?_⟩
  have hreg : Registered s d.root := by
    unfold Registered RState.doc?
    rw [List.find?_isSome]
    exact ⟨d, hd, by simp⟩
  rcases hg.reg d.root hreg with h1 | ⟨tbl, k, h1, h2, _, h4⟩
  · left; simp only; rw [h1]; exact ⟨rfl, rfl⟩
  · right; exact ⟨tbl, h1, by rw [← h4]; exact h2⟩

/-- a set of schemas closed under children contains everything reachable from its members (for
    checking `LoaderFresh` on concrete universes) -/
theorem reach_sub_closed (st : Store) (V : List NodeId) (r b : NodeId) (hr : r ∈ V)
    (hcl : (V.all fun p => match st.get? p with
      | some n => n.children.all fun c => V.contains c
      | none => true) = true)
    (h : Reach st r b) : b ∈ V := by
  obtain ⟨l, hl⟩ := h
  refine closed_has st (· ∈ V) ?_ l r b hr hl
  intro p hp c hc
  obtain ⟨n, hn, hcn⟩ := (isChild_iff st p c).mp hc
  rw [List.all_eq_true] at hcl
  have := hcl p hp
  rw [hn] at this
  simp only [List.all_eq_true, List.contains_eq_mem, decide_eq_true_eq] at this
  exact this c hcn

end RInv
end Go
end JSV
