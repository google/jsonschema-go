/-
  C05: reading back one member of what MarshalJSON wrote that holds no schema, by the kind of its field (string, bool,
  number, integer, `type`, `required`, Extra).  These are the steps of `node_chain` (MshTree.lean) between the
  schema-valued members; at a `ScalarOnly` node they are all of it.
-/
import JSV.Proofs.InvUnmarshal
import JSV.Proofs.MshNode
import JSV.Proofs.MshNorm
namespace JSV
namespace Go

theorem setFields_nil_append (urec : URec) (rest : List (String × Json)) (m : Node) (st : Store) :
    setFields urec ([] ++ rest) m st = setFields urec rest m st := rfl

theorem sf_str_gen {urec : URec} {K : String} {upd : Node → String → Node}
    (hset : ∀ m st s, setField urec m st K (.str s) = .ok (upd m s, st))
    (hK : K ∈ knownKeys)
    (m : Node) (st : Store) (s : String) (rest : List (String × Json)) (hm : upd m "" = m) :
    setFields urec (mStr K s ++ rest) m st = setFields urec rest (upd m s) st := by
  unfold mStr
  split
  · next h =>
    have hs : s = "" := by simpa using h
    subst hs
    rw [hm]
    rfl
  · simp only [List.cons_append, List.nil_append, setFields, setMember_eq_setField urec _ _ _ (canonKey_knownKeys _ hK), hset, Res.bind_ok]

theorem sf_bool_gen {urec : URec} {K : String} {upd : Node → Bool → Node}
    (hset : ∀ m st, setField urec m st K (.bool true) = .ok (upd m true, st))
    (hK : K ∈ knownKeys)
    (m : Node) (st : Store) (b : Bool) (rest : List (String × Json)) (hm : upd m false = m) :
    setFields urec (mBool K b ++ rest) m st = setFields urec rest (upd m b) st := by
  cases b with
  | false => rw [hm]; rfl
  | true =>
    simp only [mBool_true, List.cons_append, List.nil_append, setFields, setMember_eq_setField urec _ _ _ (canonKey_knownKeys _ hK), hset,
      Res.bind_ok]

theorem sf_num_gen {urec : URec} {K : String} {upd : Node → Option Rat → Node}
    (hset : ∀ m st q, setField urec m st K (.num q) = .ok (upd m (some q), st))
    (hK : K ∈ knownKeys)
    (m : Node) (st : Store) (o : Option Rat) (rest : List (String × Json)) (hm : upd m none = m) :
    setFields urec (mNum K o ++ rest) m st = setFields urec rest (upd m o) st := by
  cases o with
  | none => rw [hm]; rfl
  | some q =>
    simp only [mNum_some, List.cons_append, List.nil_append, setFields, setMember_eq_setField urec _ _ _ (canonKey_knownKeys _ hK), hset,
      Res.bind_ok]

theorem decInteger_int (i : Int) (h : (-2147483648 : Int) ≤ i ∧ i ≤ 2147483647) :
    decInteger (.num (i : Rat)) = .ok (some i) := by
  have hc : ((i : Rat).den == 1 && decide ((-2147483648 : Int) ≤ (i : Rat).num) &&
      decide ((i : Rat).num ≤ 2147483647)) = true := by
    rw [Rat.den_intCast, Rat.num_intCast]
    simp [h.1, h.2]
  unfold decInteger
  dsimp only
  rw [if_pos hc]
  rfl

theorem sf_int_gen {urec : URec} {K : String} {upd : Node → Option Int → Node}
    (hset : ∀ m st q, setField urec m st K (.num q) = Res.bind (decInteger (.num q)) fun i => .ok (upd m i, st))
    (hK : K ∈ knownKeys)
    (m : Node) (st : Store) (o : Option Int) (rest : List (String × Json)) (hw : InInt32 o)
    (hm : upd m none = m) :
    setFields urec (mInt K o ++ rest) m st = setFields urec rest (upd m o) st := by
  cases o with
  | none => rw [hm]; rfl
  | some i =>
    simp only [mInt_some, List.cons_append, List.nil_append, setFields, setMember_eq_setField urec _ _ _ (canonKey_knownKeys _ hK), hset,
      decInteger_int i (hw i rfl), Res.bind_ok]

/-- a decoder that folds over the encoded list from the right gives the list back, if it decodes each element -/
theorem foldr_decode {α β : Type} {F : β → Res (List α) → Res (List α)} (enc : α → β)
    (hF : ∀ x acc, F (enc x) (.ok acc) = .ok (x :: acc)) :
    ∀ l : List α, List.foldr F (.ok []) (l.map enc) = .ok l
  | [] => rfl
  | x :: l => by
    rw [List.map_cons, List.foldr_cons, foldr_decode enc hF l, hF]

theorem decStrList_strs (l : List String) : decStrList (strs l) = .ok (some l) := by
  unfold decStrList strs
  dsimp only
  rw [foldr_decode Json.str (fun _ _ => rfl)]
  rfl

theorem sf_typ (urec : URec) (N m : Node) (st : Store) (rest : List (String × Json))
    (hT : (N.type != "" && N.types.isSome) = false) (h1 : { m with type := "" } = m) (h2 : { m with types := none } = m) :
    setFields urec (mTyp N ++ rest) m st = setFields urec rest { m with type := N.type, types := N.types } st := by
  unfold mTyp
  split
  · next h =>
    have hts : N.types = none := by
      rw [h] at hT
      cases ht : N.types with
      | none => rfl
      | some l => rw [ht] at hT; simp at hT
    rw [hts]
    rfl
  · next h =>
    have hty : N.type = "" := by simpa using h
    rw [hty]
    split
    · next ts hts =>
      rw [hts]
      show setFields urec (("type", strs ts) :: rest) m st = _
      have : setField urec m st "type" (strs ts) = Res.bind (decStrList (strs ts)) fun l => .ok ({ m with types := l, type := "" }, st) := rfl
      rw [setFields_cons_canon urec _ _ _ _ (canonKey_knownKeys "type" (by repeat constructor)), this, decStrList_strs]
      rfl
    · next hts =>
      rw [hts]
      have e : ({ m with type := "", types := none } : Node) = { ({ m with types := none } : Node) with type := "" } := rfl
      rw [e, h2, h1]
      rfl

theorem sf_required (urec : URec) (N m : Node) (st : Store) (rest : List (String × Json))
    (hm : { m with required := none } = m) :
    setFields urec (mRequired N ++ rest) m st = setFields urec rest { m with required := normReq N.required } st := by
  unfold mRequired normReq
  split
  · next x xs hx =>
    rw [hx]
    show setFields urec (("required", strs (x :: xs)) :: rest) m st = _
    have : setField urec m st "required" (strs (x :: xs)) =
        Res.bind (decStrList (strs (x :: xs))) fun l => .ok ({ m with required := l }, st) := rfl
    rw [setFields_cons_canon urec _ _ _ _ (canonKey_knownKeys "required" (by repeat constructor)), this, decStrList_strs]
    rfl
  · next hx =>
    have : normReq N.required = none := by
      unfold normReq
      split
      · next x xs hx' => exact absurd hx' (hx x xs)
      · rfl
    unfold normReq at this
    rw [this, hm]
    rfl

theorem mExtra_eq (N : Node) (hs : ∀ e, e ∈ N.extra.getD [] → sortJson e.2 = e.2) :
    mExtra N = sortKV (N.extra.getD []) := by
  unfold mExtra
  rw [map_sortJson_id _ hs]

theorem foldl_addExtra_norm (m : Node) (hm : { m with extra := none } = m) (ex : Option (List (String × Json))) :
    (sortKV (ex.getD [])).foldl addExtra m = { m with extra := normExtra ex } := by
  cases ex with
  | none => exact hm.symm
  | some l =>
    cases l with
    | nil => exact hm.symm
    | cons e es =>
      show (sortKV (e :: es)).foldl addExtra m = { m with extra := some (sortKV (e :: es)) }
      rw [foldl_addExtra _ _ (sortKV_cons_ne_nil e es), ← hm]
      rfl

end Go
end JSV
