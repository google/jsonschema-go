/-
  Resolve commutes with the JSON round trip, documents fetched through a Loader included.

  A Loader document lives in the same store as the root document, on both sides, and normalising it on the left only
  would break the agreement of the two sides on the Loader universe.  So the normal forms are applied OUTSIDE a set `L`
  of schemas (`mapOff L`): `L` is the Loader universe, shared by both sides and untouched; the tree below the root lies
  outside `L` (in a set `T` closed under the schema-valued fields) and is normalised.  Three steps, as in
  JSV/Proofs/ResIsoNorm.lean; step (3) is `resolve_rel` along the pairing of the two trees extended by the identity on
  `L` (`PairL`, JSV/Proofs/ResIsoDocs.lean).  The bound `1000000000` on the sizes is `Go.nilId`: that id holds no node.
-/
import JSV.Proofs.ResIsoNorm
import JSV.Proofs.ResIsoDocs
import JSV.Proofs.ResPermResolve
namespace JSV
namespace Go
namespace RIso

open Classical in
noncomputable def mapOff (L : NodeId → Prop) (f : Node → Node) (st : Store) : Store :=
  st.mapIdx fun i n => if L i then n else f n

theorem size_mapOff (L : NodeId → Prop) (f : Node → Node) (st : Store) : (mapOff L f st).size = st.size := by
  unfold mapOff
  exact Array.size_mapIdx

theorem get?_mapOff_in {L : NodeId → Prop} (f : Node → Node) (st : Store) {i : NodeId} (h : L i) :
    (mapOff L f st).get? i = st.get? i := by
  unfold mapOff Store.get?
  rw [Array.getElem?_mapIdx]
  cases st[i]? with
  | none => rfl
  | some n => simp [h]

theorem get?_mapOff_out {L : NodeId → Prop} (f : Node → Node) (st : Store) {i : NodeId} (h : ¬ L i) :
    (mapOff L f st).get? i = (st.get? i).map f := by
  unfold mapOff Store.get?
  rw [Array.getElem?_mapIdx]
  cases st[i]? with
  | none => rfl
  | some n => simp [h]

theorem mapOff_rel {Q : Node → Node → Prop} (L : NodeId → Prop) (g : Node → Node) (st : Store) (i : NodeId)
    (hin : ∀ n, Q n n) (hout : ∀ n, Q n (g n)) : OptRel Q (st.get? i) ((mapOff L g st).get? i) := by
  by_cases hL : L i
  · rw [get?_mapOff_in _ _ hL]
    exact OptRel.refl hin _
  · rw [get?_mapOff_out _ _ hL]
    cases st.get? i with
    | none => trivial
    | some n => exact hout n

theorem envRel_preNorm_off (env : Env) (L : NodeId → Prop) (hs : env.st.size ≤ 1000000000) :
    EnvRel Eq env { env with st := mapOff L Iso.preNorm env.st } where
  biu := fun a b a' b' h h' => by subst h; subst h'; exact Iff.rfl
  node := fun a b h => by
    subst h
    refine mapOff_rel L Iso.preNorm env.st a (fun n => ?_)
      (rnode_preNorm env { env with st := mapOff L Iso.preNorm env.st } rfl)
    exact RNode.of_nodeRel (env₁ := env) (env₂ := { env with st := mapOff L Iso.preNorm env.st }) rfl
      (get?_eq_none_iff.2 hs) (get?_eq_none_iff.2 (by rw [size_mapOff]; exact hs))
      (nodeRel_refl n fun _ _ _ _ => rfl)
  loader := fun t₁ ht₁ => ⟨t₁, ht₁, fun key l₁ hk => ⟨l₁, hk, rfl⟩⟩
  draft7 := rfl

theorem permStore_off (L : NodeId → Prop) (st : Store) (hst : RPerm.StoreKeysNodup st) :
    Inv.permStore (mapOff L Iso.preNorm st) (mapOff L normT st) := by
  refine ⟨by rw [size_mapOff, size_mapOff], fun i => ?_⟩
  by_cases hL : L i
  · rw [get?_mapOff_in _ _ hL, get?_mapOff_in _ _ hL]
    cases st.get? i with
    | none => trivial
    | some n => exact Inv.permNode.refl n
  · rw [get?_mapOff_out _ _ hL, get?_mapOff_out _ _ hL]
    cases hn : st.get? i with
    | none => trivial
    | some n =>
      refine permNode_pre_normT n ?_
      cases hp : n.properties with
      | none => exact List.nodup_nil
      | some l => exact hst i n hn "properties" l (by rw [← hp]; simp [Node.childFields])

theorem storeKeysNodup_off (L : NodeId → Prop) {st : Store} (hst : RPerm.StoreKeysNodup st) :
    RPerm.StoreKeysNodup (mapOff L Iso.preNorm st) := by
  intro i m hm
  by_cases hL : L i
  · rw [get?_mapOff_in _ _ hL] at hm
    exact hst i m hm
  · rw [get?_mapOff_out _ _ hL] at hm
    obtain ⟨n, hn, rfl⟩ := Option.map_eq_some_iff.1 hm
    exact keysNodup_preNorm (hst i n hn)

theorem children_normT_sub (n : Node) {x : NodeId} (hx : x ∈ (normT n).children) : x ∈ n.children := by
  unfold normT at hx
  split at hx
  · rw [← children_eqv (preNorm_fields n)] at hx
    exact hx
  · obtain ⟨f', hf', hxf⟩ := mem_children_iff.1 hx
    exact normNode_ids_sub hf' hxf

theorem treeEqS_treeSim_off (st st' : Store) (L T : NodeId → Prop)
    (hTcl : ∀ x n, T x → st.get? x = some n → ∀ c, c ∈ n.children → T c) (hLT : ∀ x, L x → ¬ T x) :
    TreeSim (fun x y => T x ∧ TreeEqS st st' x y) (mapOff L normT st) st' := by
  rintro a b ⟨hTa, d, hte, hok⟩
  cases d with
  | zero => exact hte.elim
  | succ d =>
    obtain ⟨n, n', ha, hb, hrel⟩ := hte
    obtain ⟨n0, hn0, hp, hc⟩ := treeAll_succ hok
    rw [ha] at hn0
    cases hn0
    rw [get?_mapOff_out _ _ (fun hL => hLT a hL hTa), ha, hb]
    have hnt : normT n = normNode n := if_neg (Bool.not_eq.mp hp)
    show NodeRel _ (normT n) n'
    rw [hnt]
    have hrel' := Iso.nodeRel_and_left (P := fun x => T x ∧ treeAll orderOK st d x = true) hrel
      (fun f hf' x hx => ⟨hTcl a n hTa ha x (normNode_ids_sub hf' hx), hc x (normNode_ids_sub hf' hx)⟩)
    exact NodeRel.imp (fun x y hxy => ⟨hxy.1.1, d, hxy.2, hxy.1.2⟩) hrel'

theorem resRel_of_ok {α β : Type} {Q : α → β → Prop} {a : α} {y : Res β} (h : RPerm.ResRel Q (.ok a) y) :
    ∃ b, y = .ok b ∧ Q a b := by
  cases y with
  | ok b => exact ⟨b, rfl, h⟩
  | fuel => exact h.elim
  | panic => exact h.elim
  | err => exact h.elim

/-- **Resolve commutes with the JSON round trip, next to a shared Loader universe.**  `b` in `st'` is the tree read
    back from the tree below `a` in `st` (`Go.TreeEq`: `Go.normNode` at every node, rebuilt children); the maps of `st`
    have distinct keys; no PropertyOrder below `a` has a duplicate.  `L` is the Loader universe: a set of schemas (ids;
    nil ones included) on which the two stores agree, closed under the schema-valued fields, containing the root of every
    document the Loader hands out, and disjoint from both trees — from the original because the tree below `a` lies in a
    set `T` closed under the schema-valued fields and disjoint from `L`, from the tree read back by `hd₃`.  If `Resolve`
    of `a` returns normally and checkStructure accepts `b`, then `Resolve` of `b` returns normally with the same draft and
    Loader log, and every instance (without duplicate keys) gets Spec results from `a` and from `b` that agree up to the
    order in which evaluated property names are listed (`Inv.OutSim`: undefined together, invalid together, valid together
    with the same evaluated sets). -/
theorem treeEq_resolves_docs (st st' : Store) (env : Env) (L T : NodeId → Prop) (hk : RPerm.StoreKeysNodup st)
    (hs : st.size ≤ 1000000000) (hs' : st'.size ≤ 1000000000) {a b : NodeId} {d : Nat} (hte : TreeEq st st' d a b)
    (hok : treeAll orderOK st d a = true)
    (hTa : T a) (hTcl : ∀ x n, T x → st.get? x = some n → ∀ c, c ∈ n.children → T c) (hLT : ∀ x, L x → ¬ T x)
    (hLagree : ∀ x, L x → st.get? x = st'.get? x)
    (hLcl : ∀ x n, L x → st.get? x = some n → ∀ f, f ∈ n.childFields → ∀ y, y ∈ f.ids → L y)
    (hLroots : ∀ t key l, env.loader = some t → Json.lookup key t = some (.doc l) → L l)
    (fuel : Nat) (base : String) {rs₀ : Resolved}
    (h₀ : resolve { env with st := st } fuel a base = .ok rs₀) {f₃ : Nat} {fresh₃ : List (NodeId × Info)}
    (hcs₃ : checkStructure st' f₃ [(b, "")] [] = .ok fresh₃) (hd₃ : ∀ x, L x → x ∉ fresh₃.map (·.1)) :
    ∃ rs₃, resolve { env with st := st' } fuel b base = .ok rs₃ ∧ rs₀.draft = rs₃.draft ∧ rs₀.log = rs₃.log ∧
      ∀ (reMatch : String → String → Bool) (vfuel : Nat) (j : Json), Json.WF j = true →
        Inv.OutSim (Spec.evalFuel (specOf st rs₀ reMatch) vfuel [] a j)
          (Spec.evalFuel (specOf st' rs₃ reMatch) vfuel [] b j) := by
  -- step (1): nil vs empty
  obtain ⟨rs₁, h₁, hres₀₁⟩ := resolve_rel (envRel_preNorm_off { env with st := st } L hs) fuel (r₁ := a) (r₂ := a) rfl
    base rs₀ h₀
  -- step (2): the order of the maps
  have hP := RPerm.resolve_rel { env with st := mapOff L Iso.preNorm st } (mapOff L normT st) (permStore_off L st hk)
    (storeKeysNodup_off L hk) fuel a base
  have h₁' : resolve { env with st := mapOff L Iso.preNorm st } fuel a base = .ok rs₁ := h₁
  rw [h₁'] at hP
  obtain ⟨rs₂, h₂, hroot₁₂, hdraft₁₂, hlog₁₂, hinfos₁₂⟩ := resRel_of_ok hP
  -- step (3): the renaming
  have hS := treeEqS_treeSim_off st st' L T hTcl hLT
  have hr : T a ∧ TreeEqS st st' a b := ⟨hTa, d, hte, hok⟩
  obtain ⟨fresh₂, hcs₂⟩ := resolve_ok_cs { env with st := mapOff L normT st } fuel a base rs₂ h₂
  have hTcl₂ : ∀ x n, T x → (mapOff L normT st).get? x = some n → ∀ c, c ∈ n.children → T c := by
    intro x n hx hn c hc
    rw [get?_mapOff_out _ _ (fun hL => hLT x hL hx)] at hn
    obtain ⟨n0, hn0, rfl⟩ := Option.map_eq_some_iff.1 hn
    exact hTcl x n0 hx hn0 c (children_normT_sub n0 hc)
  have hd₂ : ∀ x, L x → x ∉ fresh₂.map (·.1) := by
    intro x hx hm
    obtain ⟨e, he, rfl⟩ := List.mem_map.1 hm
    exact hLT e.1 hx (RInv.cs_ids_pred _ T hTcl₂ _ _ _ _ hcs₂
      (fun w hw => by rw [List.mem_singleton] at hw; subst hw; exact hTa) (fun _ he' => nomatch he') e he)
  have hL : DocsOK { env with st := mapOff L normT st } { env with st := st' } L := by
    refine ⟨fun x hx => ?_, fun x n hx hn => ?_, hLroots⟩
    · show (mapOff L normT st).get? x = st'.get? x
      rw [get?_mapOff_in _ _ hx]
      exact hLagree x hx
    · have hn' : (mapOff L normT st).get? x = some n := hn
      rw [get?_mapOff_in _ _ hx] at hn'
      exact hLcl x n hx hn'
  have hnil₂ : (mapOff L normT st).get? 1000000000 = none :=
    get?_eq_none_iff.2 (by rw [size_mapOff]; exact hs)
  have hnil₃ : st'.get? 1000000000 = none := get?_eq_none_iff.2 hs'
  have hE := envRel_of_trees_docs (env₁ := { env with st := mapOff L normT st }) (env₂ := { env with st := st' })
    hS rfl rfl rfl hnil₂ hnil₃ hr hcs₂ hcs₃ hL hd₂ hd₃
  have hab : PairL (fun x y => T x ∧ TreeEqS st st' x y) fresh₂ fresh₃ L a b :=
    Or.inl (pairR_root hS hr hcs₂ hcs₃)
  obtain ⟨rs₃, h₃, hres₂₃⟩ := resolve_rel hE fuel hab base rs₂ h₂
  have hnode := pairL_nodeRel (env₁ := { env with st := mapOff L normT st }) (env₂ := { env with st := st' })
    hS hr hcs₂ hcs₃ hL
  refine ⟨rs₃, h₃, ?_, ?_, ?_⟩
  · rw [hres₀₁.draft, ← hdraft₁₂, hres₂₃.draft]
  · rw [hres₀₁.log, ← hlog₁₂, hres₂₃.log]
  · intro reMatch vfuel j hj
    -- V0: nil vs empty
    have hn₀ : ∀ x y, x = y → OptRel (Iso.NodeSim Eq) (st.get? x) (Store.get? (mapOff L Iso.preNorm st) y) := by
      intro x y hxy
      subst hxy
      exact mapOff_rel L Iso.preNorm st x Iso.NodeSim.refl_eq Iso.preNorm_invisible
    have V0 := Iso.evalFuel_sim (envSim_of_resolved hres₀₁ hn₀ reMatch) vfuel .nil (rfl : a = a) j
    -- V1: the order of the maps
    have V1 := Inv.evalFuel_sim (specOf (mapOff L Iso.preNorm st) rs₁ reMatch) (mapOff L Iso.preNorm st)
      (mapOff L normT st) (permStore_off L st hk) (storeWF_of_keysNodup (storeKeysNodup_off L hk)) vfuel [] a j j
      (Inv.permJson_refl j) hj
    -- V2: the renaming
    have hres₁₃ : ResolvedRel (PairL (fun x y => T x ∧ TreeEqS st st' x y) fresh₂ fresh₃ L) rs₁ rs₃ := by
      refine ⟨?_, ?_, ?_, ?_⟩
      · rw [← hroot₁₂]; exact hres₂₃.root
      · rw [← hdraft₁₂]; exact hres₂₃.draft
      · rw [← hlog₁₂]; exact hres₂₃.log
      · intro x y hxy
        rw [← hinfos₁₂ x]
        exact hres₂₃.infos x y hxy
    have V2 := evalFuel_of_resolvedRel (st₁ := mapOff L normT st) (st₂ := st') hres₁₃ hnode hab reMatch vfuel j
    rw [V0, ← V2]
    exact V1

/-- **Resolve commutes with the JSON round trip** (self-contained resolution: no document is fetched): the case of an
    empty Loader universe. -/
theorem treeEq_resolves (st st' : Store) (env : Env) (hnd : NoDocs env) (hk : RPerm.StoreKeysNodup st)
    (hs : st.size ≤ 1000000000) (hs' : st'.size ≤ 1000000000) {a b : NodeId} {d : Nat} (hte : TreeEq st st' d a b)
    (hok : treeAll orderOK st d a = true) (fuel : Nat) (base : String) {rs₀ : Resolved}
    (h₀ : resolve { env with st := st } fuel a base = .ok rs₀) {f₃ : Nat} {fresh₃ : List (NodeId × Info)}
    (hcs₃ : checkStructure st' f₃ [(b, "")] [] = .ok fresh₃) :
    ∃ rs₃, resolve { env with st := st' } fuel b base = .ok rs₃ ∧ rs₀.draft = rs₃.draft ∧ rs₀.log = rs₃.log ∧
      ∀ (reMatch : String → String → Bool) (vfuel : Nat) (j : Json), Json.WF j = true →
        Inv.OutSim (Spec.evalFuel (specOf st rs₀ reMatch) vfuel [] a j)
          (Spec.evalFuel (specOf st' rs₃ reMatch) vfuel [] b j) :=
  treeEq_resolves_docs st st' env (fun _ => False) (fun _ => True) hk hs hs' hte hok trivial
    (fun _ _ _ _ _ _ => trivial) (fun _ h => h.elim) (fun _ h => h.elim) (fun _ _ h => h.elim) hnd fuel base h₀ hcs₃
    (fun _ h => h.elim)

end RIso
end Go
end JSV
