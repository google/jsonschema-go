/-
  A relation lifted to options, lists, keyed entries and the schema-valued fields of a node, and what holds of the
  lifted relations whatever the relation is.  `Go.KeyRel R` (values are node ids) and `Go.RIso.KRel R` (values of any
  type) are two definitions with the same body — fixed statements speak of each — so a `KeyRel` hypothesis is accepted
  where `KRel` is asked; the facts about keyed lists are stated for `KRel`.  The spelling by recursion (`Inv.All₂`) is in
  RelatorsInv.lean.
-/
import JSV.Model.Schema
namespace JSV

namespace Go

inductive ListRel {α β : Type} (R : α → β → Prop) : List α → List β → Prop
  | nil : ListRel R [] []
  | cons {a b l l'} : R a b → ListRel R l l' → ListRel R (a :: l) (b :: l')

def OptRel {α β : Type} (R : α → β → Prop) : Option α → Option β → Prop
  | none, none => True
  | some a, some b => R a b
  | _, _ => False

def KeyRel (R : NodeId → NodeId → Prop) (a b : String × NodeId) : Prop := a.1 = b.1 ∧ R a.2 b.2

inductive FieldRel (R : NodeId → NodeId → Prop) : ChildField → ChildField → Prop
  | one {k c c'} : OptRel R c c' → FieldRel R (.one k c) (.one k c')
  | many {k cs cs'} : OptRel (ListRel R) cs cs' → FieldRel R (.many k cs) (.many k cs')
  | keyed {k cs cs'} : OptRel (ListRel (KeyRel R)) cs cs' → FieldRel R (.keyed k cs) (.keyed k cs')

namespace RIso
def KRel {α β : Type} (Q : α → β → Prop) (e₁ : String × α) (e₂ : String × β) : Prop := e₁.1 = e₂.1 ∧ Q e₁.2 e₂.2
end RIso

theorem OptRel.imp {α β} {R S : α → β → Prop} (h : ∀ a b, R a b → S a b) :
    ∀ {o o'}, OptRel R o o' → OptRel S o o'
  | none, none, _ => trivial
  | some _, some _, hr => h _ _ hr
  | none, some _, hr => hr.elim
  | some _, none, hr => hr.elim

theorem OptRel.map {α β γ δ} {R : α → β → Prop} {S : γ → δ → Prop} {f : α → γ} {g : β → δ}
    (h : ∀ a b, R a b → S (f a) (g b)) : ∀ {o o'}, OptRel R o o' → OptRel S (o.map f) (o'.map g)
  | none, none, _ => trivial
  | some _, some _, hr => h _ _ hr
  | none, some _, hr => hr.elim
  | some _, none, hr => hr.elim

theorem OptRel.bind {α β γ δ} {R : α → β → Prop} {S : γ → δ → Prop} {f : α → Option γ} {g : β → Option δ}
    (h : ∀ a b, R a b → OptRel S (f a) (g b)) : ∀ {o o'}, OptRel R o o' → OptRel S (o.bind f) (o'.bind g)
  | none, none, _ => trivial
  | some _, some _, hr => h _ _ hr
  | none, some _, hr => hr.elim
  | some _, none, hr => hr.elim

theorem OptRel.inv {α β} {R : α → β → Prop} : ∀ {o : Option α} {o' : Option β}, OptRel R o o' →
    (o = none ∧ o' = none) ∨ ∃ a b, o = some a ∧ o' = some b ∧ R a b
  | none, none, _ => Or.inl ⟨rfl, rfl⟩
  | some a, some b, h => Or.inr ⟨a, b, rfl, rfl, h⟩
  | none, some _, h => h.elim
  | some _, none, h => h.elim

theorem OptRel.of_some {α β} {R : α → β → Prop} {a : α} {o' : Option β} (h : OptRel R (some a) o') :
    ∃ b, o' = some b ∧ R a b := by
  cases o' with
  | none => exact h.elim
  | some b => exact ⟨b, rfl, h⟩

theorem OptRel.of_none {α β} {R : α → β → Prop} {o' : Option β} (h : OptRel R (none : Option α) o') : o' = none := by
  cases o' with
  | none => rfl
  | some _ => exact h.elim

theorem OptRel.isSome_eq {α β} {R : α → β → Prop} : ∀ {o : Option α} {o' : Option β}, OptRel R o o' → o.isSome = o'.isSome
  | none, none, _ => rfl
  | some _, some _, _ => rfl
  | none, some _, hr => hr.elim
  | some _, none, hr => hr.elim

theorem OptRel.refl {α} {R : α → α → Prop} (h : ∀ x, R x x) : ∀ o : Option α, OptRel R o o
  | none => trivial
  | some x => h x

theorem OptRel.refl_eq {α} (o : Option α) : OptRel Eq o o := OptRel.refl (fun _ => rfl) o

theorem OptRel.flip {α β} {S : α → β → Prop} : ∀ {o : Option α} {o' : Option β}, OptRel S o o' →
    OptRel (fun b a => S a b) o' o
  | none, none, _ => trivial
  | some _, some _, h => h
  | none, some _, h => h.elim
  | some _, none, h => h.elim

theorem OptRel.and {α β} {S T : α → β → Prop} : ∀ {o : Option α} {o' : Option β}, OptRel S o o' →
    (∀ a b, o = some a → o' = some b → T a b) → OptRel (fun a b => S a b ∧ T a b) o o'
  | none, none, _, _ => trivial
  | some a, some b, h, ht => ⟨h, ht a b rfl rfl⟩
  | none, some _, h, _ => h.elim
  | some _, none, h, _ => h.elim

theorem OptRel.eq_of {α : Type} {R : α → α → Prop} (hR : ∀ a b, R a b → b = a) :
    ∀ {o o' : Option α}, OptRel R o o' → o' = o
  | none, none, _ => rfl
  | some _, some _, h => by rw [hR _ _ h]
  | none, some _, h => h.elim
  | some _, none, h => h.elim

theorem OptRel.eq {α : Type} {o o' : Option α} (h : OptRel Eq o o') : o = o' :=
  (OptRel.eq_of (fun _ _ e => e.symm) h).symm

theorem ListRel.cons_inv {α β} {R : α → β → Prop} {a l l'} (h : ListRel R (a :: l) l') :
    ∃ b l'', l' = b :: l'' ∧ R a b ∧ ListRel R l l'' := by
  cases h with
  | cons h1 h2 => exact ⟨_, _, rfl, h1, h2⟩

theorem ListRel.nil_inv {α β} {R : α → β → Prop} {l'} (h : ListRel R ([] : List α) l') : l' = ([] : List β) := by
  cases h; rfl

theorem ListRel.length_eq {α β} {R : α → β → Prop} : ∀ {l l'}, ListRel R l l' → l.length = l'.length
  | _, _, .nil => rfl
  | _, _, .cons _ h => by simp [ListRel.length_eq h]

theorem ListRel.imp {α β} {R S : α → β → Prop} (h : ∀ a b, R a b → S a b) :
    ∀ {l l'}, ListRel R l l' → ListRel S l l'
  | _, _, .nil => .nil
  | _, _, .cons h1 h2 => .cons (h _ _ h1) (ListRel.imp h h2)

theorem ListRel.imp_mem {α β} {R S : α → β → Prop} : ∀ {l l'}, ListRel R l l' →
    (∀ a b, a ∈ l → b ∈ l' → R a b → S a b) → ListRel S l l'
  | _, _, .nil, _ => .nil
  | _, _, .cons h1 h2, h => .cons (h _ _ List.mem_cons_self List.mem_cons_self h1)
      (ListRel.imp_mem h2 fun a b ha hb hr => h a b (List.mem_cons_of_mem _ ha) (List.mem_cons_of_mem _ hb) hr)

theorem ListRel.refl_of {α} {R : α → α → Prop} : ∀ (l : List α), (∀ a, a ∈ l → R a a) → ListRel R l l
  | [], _ => .nil
  | a :: l, h => .cons (h a List.mem_cons_self) (ListRel.refl_of l fun b hb => h b (List.mem_cons_of_mem _ hb))

theorem ListRel.refl_eq {α} (l : List α) : ListRel Eq l l := ListRel.refl_of l fun _ _ => rfl

theorem ListRel.flip {α β} {S : α → β → Prop} : ∀ {l : List α} {l' : List β}, ListRel S l l' →
    ListRel (fun b a => S a b) l' l
  | _, _, .nil => .nil
  | _, _, .cons h1 h2 => .cons h1 (ListRel.flip h2)

theorem ListRel.eq_of {α : Type} {R : α → α → Prop} (hR : ∀ a b, R a b → b = a) :
    ∀ {l l' : List α}, ListRel R l l' → l' = l
  | _, _, .nil => rfl
  | _, _, .cons h1 h2 => by rw [hR _ _ h1, ListRel.eq_of hR h2]

theorem ListRel.eq {α : Type} {l l' : List α} (h : ListRel Eq l l') : l = l' :=
  (ListRel.eq_of (fun _ _ e => e.symm) h).symm

theorem ListRel.mem_left {α β} {R : α → β → Prop} : ∀ {l l'}, ListRel R l l' → ∀ {a}, a ∈ l → ∃ b, b ∈ l' ∧ R a b
  | _, _, .nil, _, ha => by cases ha
  | _, _, .cons h1 h2, a, ha => by
    rcases List.mem_cons.1 ha with rfl | ha
    · exact ⟨_, List.mem_cons_self, h1⟩
    · obtain ⟨b, hb, hr⟩ := ListRel.mem_left h2 ha
      exact ⟨b, List.mem_cons_of_mem _ hb, hr⟩

theorem ListRel.mem_right {α β} {R : α → β → Prop} {l l'} (h : ListRel R l l') {b} (hb : b ∈ l') : ∃ a, a ∈ l ∧ R a b :=
  h.flip.mem_left hb

theorem ListRel.append {α β : Type} {R : α → β → Prop} : ∀ {a : List α} {b : List β} {c : List α} {d : List β},
    ListRel R a b → ListRel R c d → ListRel R (a ++ c) (b ++ d)
  | _, _, _, _, .nil, h => h
  | _, _, _, _, .cons h1 h2, h => .cons h1 (ListRel.append h2 h)

theorem ListRel.map_map {α β γ δ : Type} {R : γ → δ → Prop} (f : α → γ) (g : β → δ) {S : α → β → Prop}
    (h : ∀ a b, S a b → R (f a) (g b)) : ∀ {l : List α} {l' : List β}, ListRel S l l' → ListRel R (l.map f) (l'.map g)
  | _, _, .nil => .nil
  | _, _, .cons h1 h2 => .cons (h _ _ h1) (ListRel.map_map f g h h2)

theorem ListRel.refl_map {α γ δ : Type} {R : γ → δ → Prop} (f : α → γ) (g : α → δ) (h : ∀ a, R (f a) (g a))
    (l : List α) : ListRel R (l.map f) (l.map g) :=
  ListRel.map_map f g (fun a _ e => by subst e; exact h a) (ListRel.refl_eq l)

theorem ListRel.flatMap {α β γ δ} {S : α → β → Prop} {T : γ → δ → Prop} {f : α → List γ} {g : β → List δ}
    (hfg : ∀ a b, S a b → ListRel T (f a) (g b)) : ∀ {l₁ l₂}, ListRel S l₁ l₂ → ListRel T (l₁.flatMap f) (l₂.flatMap g)
  | _, _, .nil => .nil
  | _, _, .cons h1 h2 => by
    rw [List.flatMap_cons, List.flatMap_cons]
    exact ListRel.append (hfg _ _ h1) (ListRel.flatMap hfg h2)

theorem ListRel.filter {α β} {S : α → β → Prop} {p : α → Bool} {q : β → Bool} (hpq : ∀ a b, S a b → p a = q b) :
    ∀ {l₁ l₂}, ListRel S l₁ l₂ → ListRel S (l₁.filter p) (l₂.filter q)
  | _, _, .nil => .nil
  | _, _, .cons (a := a) (b := b) h1 h2 => by
    simp only [List.filter_cons, hpq a b h1]
    split
    · exact .cons h1 (ListRel.filter hpq h2)
    · exact ListRel.filter hpq h2

theorem ListRel.find? {α β} {S : α → β → Prop} {p : α → Bool} {q : β → Bool} (hpq : ∀ a b, S a b → p a = q b) :
    ∀ {l₁ l₂}, ListRel S l₁ l₂ → OptRel S (l₁.find? p) (l₂.find? q)
  | _, _, .nil => trivial
  | _, _, .cons (a := a) (b := b) h1 h2 => by
    rw [List.find?_cons, List.find?_cons, hpq a b h1]
    split
    · exact h1
    · exact ListRel.find? hpq h2

theorem ListRel.getElem? {α β} {S : α → β → Prop} : ∀ {l₁ : List α} {l₂ : List β}, ListRel S l₁ l₂ → ∀ i : Nat,
    OptRel S l₁[i]? l₂[i]?
  | _, _, .nil, _ => trivial
  | _, _, .cons h1 _, 0 => h1
  | _, _, .cons _ h2, i + 1 => by
    simp only [List.getElem?_cons_succ]
    exact ListRel.getElem? h2 i

theorem ListRel.zipIdx {α β} {R : α → β → Prop} : ∀ {l₁ : List α} {l₂ : List β}, ListRel R l₁ l₂ → ∀ k : Nat,
    ListRel (fun p q => R p.1 q.1 ∧ p.2 = q.2) (l₁.zipIdx k) (l₂.zipIdx k)
  | _, _, .nil, _ => .nil
  | _, _, .cons h1 h2, k => by
    rw [List.zipIdx_cons, List.zipIdx_cons]
    exact .cons ⟨h1, rfl⟩ (ListRel.zipIdx h2 (k + 1))

theorem ListRel.and_zip {α β} {S : α → β → Prop} {Z : α × β → Prop} : ∀ {l : List α} {l' : List β}, ListRel S l l' →
    (∀ q, q ∈ List.zip l l' → Z q) → ListRel (fun a b => S a b ∧ Z (a, b)) l l'
  | _, _, .nil, _ => .nil
  | _, _, .cons h1 h2, hz =>
    .cons ⟨h1, hz _ (by simp)⟩ (ListRel.and_zip h2 fun q hq => hz q (by simp [hq]))

theorem OptRel.toList {α β} {R : α → β → Prop} : ∀ {c : Option α} {c' : Option β}, OptRel R c c' →
    ListRel R c.toList c'.toList
  | none, none, _ => .nil
  | some _, some _, h => .cons h .nil
  | none, some _, h => h.elim
  | some _, none, h => h.elim

theorem getD_rel {α β} {S : α → β → Prop} : ∀ {c : Option (List α)} {c' : Option (List β)},
    OptRel (ListRel S) c c' → ListRel S (c.getD []) (c'.getD [])
  | none, none, _ => .nil
  | some _, some _, h => h
  | none, some _, h => h.elim
  | some _, none, h => h.elim

theorem KeyRel.imp {R S : NodeId → NodeId → Prop} (h : ∀ a b, R a b → S a b) (a b : String × NodeId) :
    KeyRel R a b → KeyRel S a b := fun hr => ⟨hr.1, h _ _ hr.2⟩

theorem ListRel.map_fst {α β} {Q : α → β → Prop} {l : List (String × α)} {l' : List (String × β)}
    (h : ListRel (RIso.KRel Q) l l') : l.map (·.1) = l'.map (·.1) :=
  (ListRel.map_map _ _ (fun _ _ hr => hr.1) h).eq

theorem ListRel.map_snd {α β} {Q : α → β → Prop} {l : List (String × α)} {l' : List (String × β)}
    (h : ListRel (RIso.KRel Q) l l') : ListRel Q (l.map (·.2)) (l'.map (·.2)) :=
  ListRel.map_map _ _ (fun _ _ hr => hr.2) h

theorem ListRel.zip_keys {α β} {Q : α → β → Prop} : ∀ {l : List (String × α)} {l' : List β},
    ListRel Q (l.map (·.2)) l' → ListRel (RIso.KRel Q) l ((l.map (·.1)).zip l')
  | [], _, h => by cases h; exact .nil
  | (k, x) :: xs, _, h => by
    obtain ⟨x', xs', rfl, h1, h2⟩ := h.cons_inv
    exact .cons ⟨rfl, h1⟩ (ListRel.zip_keys h2)

theorem RIso.lookup_krel {α β : Type} {Q : α → β → Prop} (k : String) :
    ∀ {l₁ : List (String × α)} {l₂ : List (String × β)},
      ListRel (KRel Q) l₁ l₂ → OptRel Q (Json.lookup k l₁) (Json.lookup k l₂)
  | _, _, .nil => trivial
  | _, _, .cons (a := (k1, x)) (b := (k2, y)) h1 h2 => by
    have hk : k1 = k2 := h1.1
    subst hk
    simp only [Json.lookup_cons]
    split
    · exact h1.2
    · exact lookup_krel k h2

theorem FieldRel.imp {R S : NodeId → NodeId → Prop} (h : ∀ a b, R a b → S a b) :
    ∀ f f', FieldRel R f f' → FieldRel S f f'
  | _, _, .one hr => .one (OptRel.imp h hr)
  | _, _, .many hr => .many (OptRel.imp (fun _ _ => ListRel.imp h) hr)
  | _, _, .keyed hr => .keyed (OptRel.imp (fun _ _ => ListRel.imp (KeyRel.imp h)) hr)

theorem FieldRel.flip {R : NodeId → NodeId → Prop} : ∀ {f f' : ChildField}, FieldRel R f f' →
    FieldRel (fun b a => R a b) f' f
  | _, _, .one hr => .one (OptRel.flip hr)
  | _, _, .many hr => .many (OptRel.imp (fun _ _ h => ListRel.flip h) (OptRel.flip hr))
  | _, _, .keyed hr => .keyed (OptRel.imp (fun _ _ h =>
      ListRel.imp (fun a b (hab : KeyRel R b a) => (⟨hab.1.symm, hab.2⟩ : KeyRel (fun b a => R a b) a b))
        (ListRel.flip h)) (OptRel.flip hr))

theorem FieldRel.one_cons {R k c l l'} (h : ListRel (FieldRel R) (.one k c :: l) l') :
    ∃ c' l'', l' = .one k c' :: l'' ∧ OptRel R c c' ∧ ListRel (FieldRel R) l l'' := by
  cases h with
  | cons hf h => cases hf with | one hr => exact ⟨_, _, rfl, hr, h⟩

theorem FieldRel.many_cons {R k c l l'} (h : ListRel (FieldRel R) (.many k c :: l) l') :
    ∃ c' l'', l' = .many k c' :: l'' ∧ OptRel (ListRel R) c c' ∧ ListRel (FieldRel R) l l'' := by
  cases h with
  | cons hf h => cases hf with | many hr => exact ⟨_, _, rfl, hr, h⟩

theorem FieldRel.keyed_cons {R k c l l'} (h : ListRel (FieldRel R) (.keyed k c :: l) l') :
    ∃ c' l'', l' = .keyed k c' :: l'' ∧ OptRel (ListRel (KeyRel R)) c c' ∧ ListRel (FieldRel R) l l'' := by
  cases h with
  | cons hf h => cases hf with | keyed hr => exact ⟨_, _, rfl, hr, h⟩

end Go

end JSV
