/-
  resolveURIs on a document checkStructure accepted, as ONE depth-first walk (`Walk`: the schemas met so far, the
  worklist, what holds of the met and of the unmet), classified for all four outcomes (`resolveURIs_sp`): ok with
  everything resolveURIs does to the state (`URIsPost`), an error only when an `$id` is ill-formed (and a normal return only when none is), a nil map
  entry only when a schema had no record, out of fuel only with fuel at most the number of schemas.  The fuel bound is a count (`RTot`):
  in a tree no schema is met twice, so at most as many are met as checkStructure registered.
-/
import JSV.Proofs.ResDesig
import JSV.Proofs.ResTot
namespace JSV
namespace Go

namespace RTot
open RInv Uri

/-- the children as resolveURIs and `Schema.all` list them (`Node.children`: maps by sorted key); `kids` of ResTree
    lists them as checkStructure pushes them; the two are permutations of each other (`kids_perm`) -/
def kidsOf (st : Store) (id : NodeId) : List NodeId :=
  match st.get? id with
  | some n => n.children
  | none => []

theorem kids_perm (st : Store) (id : NodeId) : (kids st id).Perm (kidsOf st id) := by
  unfold kids kidsOf
  cases st.get? id with
  | none => exact List.Perm.refl _
  | some n =>
    show ((childEntries n "").map (·.1)).Perm n.children
    rw [childEntries_fst]
    exact (children_perm_ids n).symm

/-- the counting invariant of checkStructure: registered ++ pending = root ++ children of the registered;
    `checkStructure_perm`, counted -/
theorem checkStructure_count (st : Store) (root : NodeId) : ∀ fuel work acc res,
    checkStructure st fuel work acc = .ok res →
    (∀ v, List.count v (ids acc ++ work.map (·.1)) = List.count v (root :: (ids acc).flatMap (kidsOf st))) →
    ∀ v, List.count v (ids res) = List.count v (root :: (ids res).flatMap (kidsOf st)) := by
  intro fuel work acc res h hinv v
  obtain ⟨V, hres, hperm⟩ := checkStructure_perm st fuel work acc res h
  have hV := (hperm.trans ((List.Perm.refl _).append (perm_flatMap_left V fun a _ => kids_perm st a))).count_eq v
  have hacc := hinv v
  rw [hres]
  simp only [List.count_append, List.count_cons, List.flatMap_append] at hV hacc ⊢
  omega

theorem count_flatMap_erase (v : NodeId) (f : NodeId → List NodeId) (a : NodeId) :
    ∀ l : List NodeId, a ∈ l →
      List.count v (l.flatMap f) = List.count v (f a) + List.count v ((l.erase a).flatMap f) := by
  intro l h
  rw [((List.perm_cons_erase h).flatMap_right f).count_eq v, List.flatMap_cons, List.count_append]

theorem count_flatMap_le (v : NodeId) (f : NodeId → List NodeId) :
    ∀ vis l : List NodeId, vis.Nodup → (∀ x ∈ vis, x ∈ l) →
      List.count v (vis.flatMap f) ≤ List.count v (l.flatMap f) := by
  intro vis
  induction vis with
  | nil => intro l _ _; simp
  | cons a t ih =>
    intro l hnd hsub
    have ha : a ∈ l := hsub a (by simp)
    rw [count_flatMap_erase v f a l ha, List.flatMap_cons, List.count_append]
    have hnd' := List.nodup_cons.mp hnd
    have := ih (l.erase a) hnd'.2 (fun x hx => by
      have hne : x ≠ a := fun e => hnd'.1 (e ▸ hx)
      exact (List.mem_erase_of_ne hne).mpr (hsub x (List.mem_cons_of_mem _ hx)))
    omega

/-- the first schema of the worklist has not been met; the count after its visit.  `V`: the schemas of a tree -/
theorem walk_count (env : Env) (root : NodeId) (V : List NodeId)
    (hT : ∀ v, List.count v (root :: V.flatMap (kidsOf env.st)) ≤ 1)
    {visited : List NodeId} {work : List (NodeId × NodeId)} {id base : NodeId} {n : Node}
    (hnd : visited.Nodup) (hsub : ∀ x ∈ visited, x ∈ V)
    (hcnt : ∀ v, List.count v (((id, base) :: work).map (·.1) ++ visited) =
      List.count v (root :: visited.flatMap (kidsOf env.st)))
    (hn : env.st.get? id = some n) :
    id ∉ visited ∧ ∀ (b1 v : NodeId), List.count v (((n.children.map fun c => (c, b1)) ++ work).map (·.1) ++ (id :: visited)) =
      List.count v (root :: (id :: visited).flatMap (kidsOf env.st)) := by
  have hle1 : ∀ v, List.count v ((id :: work.map (·.1)) ++ visited) ≤ 1 := by
    intro v
    have h1 := hcnt v
    have h2 := count_flatMap_le v (kidsOf env.st) visited V hnd hsub
    have h3 := hT v
    simp only [List.map_cons, List.count_cons] at h1 h3 ⊢
    omega
  have hk : kidsOf env.st id = n.children := by unfold kidsOf; rw [hn]
  constructor
  · intro hm
    have h1 := hle1 id
    have h2 : 0 < List.count id visited := List.count_pos_iff.mpr hm
    simp only [List.cons_append, List.count_cons, List.count_append, beq_self_eq_true, if_true] at h1
    omega
  · intro b1 v
    have h1 := hcnt v
    rw [List.map_append, map_fst_map _ _root_.id (fun _ => rfl), List.map_id]
    simp only [List.map_cons, List.cons_append, List.count_cons, List.count_append, List.flatMap_cons, hk]
      at h1 ⊢
    omega

end RTot

namespace RComp
open RInv Uri Spec RDraft

def NodeIdOk (D : Doc) (ret : Url) (x : NodeId) : Prop :=
  ∀ L n, isLineage D.st D.root L x = true → D.st.get? x = some n →
    idSyntaxOk D.draft n = true ∧ (startsResource D.draft n = true → Uri.isAbs (baseUriAlong D ret L) = true)

theorem nodeIdOk_of_step (D : Doc) (ret : Url) (huniq : UniqueLineage D) (s : RState) (id base : NodeId)
    (n : Node) (bi : Info) (s1 : RState) (base1 : NodeId) (hn : D.st.get? id = some n)
    (hstep : uriStep D.draft D.root s id base n bi = .ok (s1, base1))
    (huri : startsResource D.draft n = true → ∀ bu idURI, bi.uri = some bu → Uri.parse n.id = .ok idURI →
      ∃ l, isLineage D.st D.root l id = true ∧ nearestResource D l = id ∧
        Uri.resolveReference bu idURI = baseUriAlong D ret l) : NodeIdOk D ret id := by
  obtain ⟨c1, c2⟩ := uriStep_cases _ _ _ _ _ _ _ _ _ hstep
  intro L n' hL hn'
  cases hn.symm.trans hn'
  refine ⟨c1, fun hs => ?_⟩
  obtain ⟨idURI, bu, hp, hbu, habs⟩ : ∃ idURI bu, Uri.parse n.id = .ok idURI ∧ bi.uri = some bu ∧
      Uri.isAbs (Uri.resolveReference bu idURI) = true := by
    rcases c2 with ⟨hns, _⟩ | ⟨_, _, _, idURI, bu, h1, h2, h3, _⟩
    · rw [hs] at hns; cases hns
    · exact ⟨idURI, bu, h1, h2, h3⟩
  obtain ⟨l, hl, _, he⟩ := huri hs bu idURI hbu hp
  rw [huniq L l id hL hl, ← he]
  exact habs
end RComp

namespace RInv
open Uri RDraft Spec RComp RTot

theorem tree_uniqueLineage (D : Doc) (V : List NodeId) (T : Tree D.st D.root V) : UniqueLineage D :=
  fun l1 l2 s h1 h2 => T.lineage_unique l1 l2 s h1 h2

theorem updInfo_lookup_ne (s : RState) (k : NodeId) (f : Info → Info) (x : NodeId) (h : x ≠ k) :
    lookupNat x (s.updInfo k f).infos = lookupNat x s.infos := by
  rw [updInfo_infos_lookup, if_neg (fun e => h e.symm)]

theorem setAnchor_lookup_ne (s : RState) (b t : NodeId) (a : String) (dyn : Bool) (x : NodeId) (h : x ≠ b) :
    lookupNat x (setAnchor s b t a dyn).infos = lookupNat x s.infos := by
  rw [setAnchor_eq]; split
  · rfl
  · exact updInfo_lookup_ne _ _ _ _ h

theorem newUriState_lookup_ne (root : NodeId) (s : RState) (id : NodeId) (u : Url) (x : NodeId) (h : x ≠ id) :
    lookupNat x (newUriState root s id u).infos = lookupNat x s.infos := by
  rw [newUriState_infos]; exact updInfo_lookup_ne _ _ _ _ h

theorem newUriState_doc_ne (root : NodeId) (s : RState) (id : NodeId) (u : Url) (r : NodeId) (h : r ≠ root) :
    (newUriState root s id u).doc? r = s.doc? r := by
  unfold newUriState
  simp only
  split
  · rename_i d hd
    have hroot : d.root = root := doc?_root _ _ _ hd
    rw [doc?_setDoc]
    simp only [hroot]
    rw [if_neg (fun e => h e.symm)]
    exact doc?_of_docs_eq (updInfo_docs _ _ _) r
  · exact doc?_of_docs_eq (updInfo_docs _ _ _) r

theorem postStep_lookup_ne (draft : Draft) (s : RState) (id base : NodeId) (n : Node) (x : NodeId)
    (h1 : x ≠ id) (h2 : x ≠ base) :
    lookupNat x (postStep draft s id base n).infos = lookupNat x s.infos := by
  unfold postStep
  simp only
  split
  · rw [setAnchor_lookup_ne _ _ _ _ _ _ h2, setAnchor_lookup_ne _ _ _ _ _ _ h2, updInfo_lookup_ne _ _ _ _ h1]
  · exact updInfo_lookup_ne _ _ _ _ h1

theorem has_child (D : Doc) (p c : NodeId) (hp : D.Has p) (hc : isChild D.st p c = true) : D.Has c := by
  obtain ⟨l, hl⟩ := hp
  exact ⟨l ++ [c], isLineage_snoc _ _ _ _ _ hl hc⟩

theorem allNodes_has (D : Doc) : ∀ fuel work, (∀ w ∈ work, D.Has w) →
    ∀ id ∈ allNodes D.st fuel work, D.Has id :=
  allNodes_pred D.st D.Has fun p hp n hn c hc => has_child D p c hp ((isChild_iff _ _ _).mpr ⟨n, hn, hc⟩)

theorem newUriState_doc_root (root : NodeId) (s : RState) (id : NodeId) (u : Url) (d : DocRes)
    (hd : s.doc? root = some d) :
    (newUriState root s id u).doc? root =
      some { d with uris := (d.uris.filter (·.1 != Uri.toString u)) ++ [(Uri.toString u, id)] } := by
  have hd' : (s.updInfo id fun i => { i with uri := some u }).doc? root = some d := by
    rw [doc?_of_docs_eq (updInfo_docs _ _ _)]; exact hd
  unfold newUriState
  simp only [hd']
  rw [doc?_setDoc]
  simp only [doc?_root _ _ _ hd, if_true]

def RootDoc (D : Doc) (s s' : RState) : Prop :=
  ∀ d, s.doc? D.root = some d → ∃ d', s'.doc? D.root = some d' ∧ d'.draft = d.draft ∧ d'.known = d.known ∧
    ∀ e ∈ d'.uris, e ∈ d.uris ∨ D.Has e.2

/-- the state of the walk: `visited` lists the schemas met so far (`s0`: the state it started in).  `count`: worklist
    and met schemas together are the root and the children of the met ones, with multiplicities; in a tree (every
    schema counted once) the head of the worklist is therefore new, and when the worklist is empty the met schemas
    are closed under children: all of the document.  `rest`: a schema not met yet still has the record of `s0`;
    `bases`: the base handed down with a schema has been met (or is the schema itself, at the root), which is what
    lets `rest` survive the anchors set on the base.  `docs`, `rootDoc`: only the Resolved of this document changes,
    and of it only `resolvedURIs`. -/
structure Walk (env : Env) (D : Doc) (ret : Url) (V : List NodeId) (s0 : RState) (visited : List NodeId)
    (work : List (NodeId × NodeId)) (s : RState) : Prop where
  inv : WorkInv D ret work s
  inV : ∀ w ∈ work, w.1 ∈ V
  count : ∀ v, List.count v (work.map (·.1) ++ visited) = List.count v (D.root :: visited.flatMap (kidsOf env.st))
  bases : ∀ w ∈ work, w.2 ∈ visited ∨ w.2 = w.1
  done : ∀ p ∈ visited, Done D s.infos p ∧ (∃ r, HasBase s.infos p r ∧ UriDone D ret s.infos r) ∧ NodeIdOk D ret p
  rest : ∀ k, k ∉ visited → lookupNat k s.infos = lookupNat k s0.infos
  docs : ∀ r, r ≠ D.root → s.doc? r = s0.doc? r
  rootDoc : RootDoc D s0 s
  sound : Sound D s0.infos → Sound D s.infos
  uris : UrisId D ret s0 → UrisId D ret s

structure URIsPost (D : Doc) (ret : Url) (s s' : RState) : Prop where
  done : ∀ p, D.Has p → Done D s'.infos p ∧ ∃ r, HasBase s'.infos p r ∧ UriDone D ret s'.infos r
  others : ∀ k, ¬ D.Has k → lookupNat k s'.infos = lookupNat k s.infos
  docs : ∀ r, r ≠ D.root → s'.doc? r = s.doc? r
  rootDoc : RootDoc D s s'
  sound : Sound D s.infos → Sound D s'.infos
  uris : UrisId D ret s → UrisId D ret s'

/-- `fuel0`: the fuel the walk started with; the fuel left and the schemas met add up to it, so running out means
    `fuel0` schemas were met -/
theorem resolveURIs_walk (env : Env) (D : Doc) (hst : D.st = env.st) (ret : Url) (V : List NodeId)
    (huniq : UniqueLineage D) (hstore : ∀ p ∈ V, (env.st.get? p).isSome = true)
    (hclosed : ∀ id ∈ V, ∀ n, env.st.get? id = some n → ∀ c ∈ n.children, c ∈ V)
    (hT : ∀ v, List.count v (D.root :: V.flatMap (kidsOf env.st)) ≤ 1) (fuel0 : Nat) (s0 : RState) :
    ∀ fuel work s,
      (∃ visited, visited.Nodup ∧ (∀ x ∈ visited, x ∈ V) ∧ visited.length + fuel = fuel0 ∧
        Walk env D ret V s0 visited work s) →
      Outcomes (resolveURIsLoop env D.draft D.root fuel work s)
        (fun s' => D.IdsOk ret ∧ URIsPost D ret s0 s') (¬ D.IdsOk ret)
        (¬ ∀ p ∈ V, (lookupNat p s0.infos).isSome = true) (fuel0 ≤ V.length) := by
  refine resolveURIsLoop_out env D.draft D.root _ _ _ _ _ ?_ ?_ ?_
  · rintro work s ⟨visited, hnd, hsub, hlen, _⟩
    have := hnd.length_le_of_subset (fun x hx => hsub x hx)
    omega
  · -- the walk is over: every schema of the document has been met
    rintro fuel s ⟨visited, _, _, _, W⟩
    have hcnt : ∀ v, List.count v visited = List.count v (D.root :: visited.flatMap (kidsOf env.st)) := by
      intro v; simpa using W.count v
    have hall : ∀ p, D.Has p → p ∈ visited := by
      rintro p ⟨l, hl⟩
      refine closed_has D.st (· ∈ visited) ?_ l D.root p ?_ hl
      · intro q hq c hc
        obtain ⟨n, hn, hcn⟩ := (isChild_iff _ _ _).mp hc
        have hk : kidsOf env.st q = n.children := by unfold kidsOf; rw [← hst, hn]
        have : c ∈ visited.flatMap (kidsOf env.st) := List.mem_flatMap.mpr ⟨q, hq, by rw [hk]; exact hcn⟩
        have h1 := hcnt c
        have h2 : 0 < List.count c (visited.flatMap (kidsOf env.st)) := List.count_pos_iff.mpr this
        exact List.count_pos_iff.mp (by rw [h1, List.count_cons]; omega)
      · exact List.count_pos_iff.mp (by rw [hcnt, List.count_cons]; simp)
    refine ⟨fun l x nx hl hnx => (W.done x (hall x ⟨l, hl⟩)).2.2 l nx hl hnx,
      fun p hp => ⟨(W.done p (hall p hp)).1, (W.done p (hall p hp)).2.1⟩, fun k hk => W.rest k fun hm => hk ?_,
      W.docs, W.rootDoc, W.sound, W.uris⟩
    obtain ⟨_, _, _, _, hr, _⟩ := (W.done k hm).1
    exact ResourceRoot.has hr
  · rintro fuel id base work s ⟨visited, hnd, hsub, hlen, W⟩
    obtain ⟨bi, hb, hbu⟩ : ∃ bi, lookupNat base s.infos = some bi ∧ bi.uri.isSome = true := by
      rcases W.inv with ⟨e, i, hi, hu⟩ | h
      · cases e; exact ⟨i, hi, by rw [hu]; rfl⟩
      · obtain ⟨_, i, l, hi, _, hu⟩ := h (id, base) (by simp)
        exact ⟨i, hi, by rw [hu]; rfl⟩
    have hidV : id ∈ V := W.inV (id, base) (by simp)
    obtain ⟨n, hn⟩ := Option.isSome_iff_exists.mp (hstore id hidV)
    obtain ⟨hnot, hcnt'⟩ := walk_count env D.root V hT hnd hsub W.count hn
    rw [hn, hb]
    cases hi : lookupNat id s.infos with
    | none =>
      intro hdom
      have := hdom id hidV
      rw [← W.rest id hnot, hi] at this
      cases this
    | some i =>
      dsimp only
      have hn' : D.st.get? id = some n := by rw [hst]; exact hn
      have hidS : (lookupNat id s.infos).isSome = true := by rw [hi]; rfl
      have he := workInv_head D ret huniq W.inv hn' hb
      have ho := uriStep_out D.draft D.root s id base n bi
      cases hu : uriStep D.draft D.root s id base n bi with
      | fuel => rw [hu] at ho; exact False.elim ho
      | panic => rw [hu] at ho; rw [show bi.uri = none from ho] at hbu; cases hbu
      | err =>
        rw [hu] at ho
        intro hids
        rcases (show _ ∨ _ from ho) with h | ⟨hs, idURI, bu, hp, hbu', habs⟩
        · obtain ⟨l0, hl0, _⟩ := he.root
          have := (hids l0 id n hl0 hn').1
          rw [h] at this; cases this
        · obtain ⟨l, hl, _, e⟩ := he.uri hs bu idURI hbu' hp
          have := (hids l id n hl hn').2 hs
          rw [← e, habs] at this; cases this
      | ok p =>
        obtain ⟨s1, base1⟩ := p
        obtain ⟨hb1, dId, dOther, hsound⟩ :=
          nodeStep_spec D s id base n bi s1 base1 hn' hidS (by rw [hb]; rfl) hu he.root
        obtain ⟨uAll, uBase1, bKeep, bNew, hurisId⟩ :=
          nodeStep_uri D ret s id base n bi s1 base1 hidS hu he.uri he.base
        have hr1 : D.ResourceRoot id base1 := by rw [hb1]; exact he.root
        have hbb : base ∈ visited ∨ base = id := W.bases (id, base) (by simp)
        have hb1' : base1 = base ∨ base1 = id := by rw [hb1]; split <;> simp
        have hshape := uriStep_shapes _ _ _ _ _ _ _ _ _ hu
        refine ⟨id :: visited, List.nodup_cons.mpr ⟨hnot, hnd⟩, ?_, by simp only [List.length_cons]; omega,
          Or.inr fun w hw => ?_, ?_, hcnt' base1, ?_, ?_, ?_, ?_, ?_,
          fun h => hsound (W.sound h), fun h => hurisId (W.uris h)⟩
        ·
          intro x hx
          rcases List.mem_cons.mp hx with rfl | hx
          · exact hidV
          · exact hsub x hx
        ·
          rcases List.mem_append.mp hw with hw | hw
          · obtain ⟨c, hc, rfl⟩ := List.mem_map.mp hw
            exact ⟨⟨id, hr1, (isChild_iff _ _ _).mpr ⟨n, hn', hc⟩⟩, uBase1⟩
          · obtain ⟨h1, h2⟩ := workInv_tail W.inv w hw
            exact ⟨h1, uAll _ h2⟩
        ·
          intro w hw
          rcases List.mem_append.mp hw with hw | hw
          · obtain ⟨c, hc, rfl⟩ := List.mem_map.mp hw
            exact hclosed id hidV n hn c hc
          · exact W.inV w (List.mem_cons_of_mem _ hw)
        ·
          intro w hw
          rcases List.mem_append.mp hw with hw | hw
          · obtain ⟨c, hc, rfl⟩ := List.mem_map.mp hw
            rcases hb1' with e | e <;> rcases hbb with hbb | hbb <;> simp [e, hbb]
          · exact (W.bases w (List.mem_cons_of_mem _ hw)).imp_left (List.mem_cons_of_mem _)
        ·
          intro p hp
          rcases List.mem_cons.mp hp with rfl | hp
          · exact ⟨dId, ⟨base1, bNew, uBase1⟩, nodeIdOk_of_step D ret huniq s p base n bi s1 base1 hn' hu he.uri⟩
          · have hne : p ≠ id := fun e => hnot (e ▸ hp)
            obtain ⟨h1, ⟨r, h2, h3⟩, h4⟩ := W.done p hp
            exact ⟨dOther p hne h1, ⟨r, bKeep p r hne h2, uAll r h3⟩, h4⟩
        ·
          intro k hk
          have k1 : k ≠ id := fun e => hk (by rw [e]; simp)
          have kv : k ∉ visited := fun e => hk (List.mem_cons_of_mem _ e)
          have k2 : k ≠ base := fun e => hbb.elim (fun h => kv (e ▸ h)) (fun h => k1 (e.trans h))
          have k3 : k ≠ base1 := fun e => hb1'.elim (fun h => k2 (e.trans h)) (fun h => k1 (e.trans h))
          rw [postStep_lookup_ne _ _ _ _ _ _ k1 k3, ← W.rest k kv]
          rcases hshape with ⟨_, rfl | ⟨a, rfl⟩⟩ | ⟨_, u, rfl⟩
          · rfl
          · exact setAnchor_lookup_ne _ _ _ _ _ _ k2
          · exact newUriState_lookup_ne _ _ _ _ _ k1
        ·
          intro r hr
          rw [doc?_of_docs_eq (postStep_docs _ _ _ _ _) r, ← W.docs r hr]
          rcases hshape with ⟨_, rfl | ⟨a, rfl⟩⟩ | ⟨_, u, rfl⟩
          · rfl
          · exact doc?_of_docs_eq (setAnchor_docs _ _ _ _ _) r
          · exact newUriState_doc_ne _ _ _ _ _ hr
        ·
          intro d0 hd0
          obtain ⟨d, hd, h1, h2, h3⟩ := W.rootDoc d0 hd0
          rw [doc?_of_docs_eq (postStep_docs _ _ _ _ _)]
          rcases hshape with ⟨_, rfl | ⟨a, rfl⟩⟩ | ⟨_, u, rfl⟩
          · exact ⟨d, hd, h1, h2, h3⟩
          · exact ⟨d, by rw [doc?_of_docs_eq (setAnchor_docs _ _ _ _ _)]; exact hd, h1, h2, h3⟩
          · refine ⟨_, newUriState_doc_root _ _ _ _ d hd, h1, h2, fun e hmem => ?_⟩
            rcases List.mem_append.mp hmem with hm | hm
            · exact h3 e (List.mem_filter.mp hm).1
            · rw [List.mem_singleton.mp hm]
              exact Or.inr (ResourceRoot.has he.root)

/-- resolveURIs as resolver.resolve calls it: on a document checkStructure accepted, the root's record holding the
    retrieval URI -/
theorem resolveURIs_sp (env : Env) (D : Doc) (hst : D.st = env.st) (ret : Url) (cf : Nat)
    (fresh : List (NodeId × Info)) (hcs : checkStructure env.st cf [(D.root, "")] [] = .ok fresh) (fuel : Nat)
    (s : RState) (hroot : ∃ i, lookupNat D.root s.infos = some i ∧ i.uri = some ret) :
    Outcomes (resolveURIsLoop env D.draft D.root fuel [(D.root, D.root)] s)
      (fun s' => D.IdsOk ret ∧ URIsPost D ret s s') (¬ D.IdsOk ret)
      (¬ ∀ p ∈ ids fresh, (lookupNat p s.infos).isSome = true) (fuel ≤ (ids fresh).length) := by
  have hacc := C10.checkStructure_accOK_nil hcs
  have hcnt := checkStructure_count env.st D.root _ _ _ _ hcs (fun v => by simp [ids])
  have hrootV := checkStructure_root_mem env.st _ D.root fresh hcs
  refine resolveURIs_walk env D hst ret (ids fresh)
    (tree_uniqueLineage D _ (by rw [hst]; exact checkStructure_tree env.st cf D.root fresh hcs)) hacc.2
    (checkStructure_closed env.st _ _ _ _ hcs (fun _ hid => absurd hid (by simp [ids])))
    (fun v => by rw [← hcnt v]; exact List.nodup_iff_count.mp hacc.1 v) fuel s fuel _ s
    ⟨[], List.nodup_nil, by simp, by simp, ?_⟩
  exact {
    inv := Or.inl ⟨rfl, hroot⟩
    inV := fun w hw => by rw [List.mem_singleton.mp hw]; exact hrootV
    count := fun v => by simp
    bases := fun w hw => by rw [List.mem_singleton.mp hw]; exact Or.inr rfl
    done := fun _ h => nomatch h
    rest := fun _ _ => rfl
    docs := fun _ _ => rfl
    rootDoc := fun d hd => ⟨d, hd, rfl, rfl, fun _ he => Or.inl he⟩
    sound := id
    uris := id }

theorem beforeURIs_root_uri (st : Store) (fuel : Nat) (root : NodeId) (baseURI : Url) (draft : Draft)
    (fresh : List (NodeId × Info)) (s : RState) (hcs : checkStructure st fuel [(root, "")] [] = .ok fresh) :
    ∃ i, lookupNat root (RDraft.beforeURIs root baseURI draft fresh s).infos = some i ∧ i.uri = some baseURI := by
  obtain ⟨⟨r', info⟩, hm, rfl⟩ := List.mem_map.mp (checkStructure_root_mem st _ root fresh hcs)
  have hsome : (lookupNat r' (s.infos ++ fresh)).isSome = true :=
    lookupNat_isSome_of_mem (List.mem_map_of_mem (f := (·.1)) (List.mem_append_right _ hm))
  unfold RDraft.beforeURIs
  rw [updInfo_infos_lookup, if_pos rfl, setDoc_infos]
  cases h0 : lookupNat r' (s.infos ++ fresh) with
  | none => rw [h0] at hsome; simp at hsome
  | some i0 => exact ⟨_, rfl, rfl⟩

/-- with the fuel resolver.resolve hands it, resolveURIs does not run out -/
theorem resolveURIs_ne_fuel (env : Env) (root : NodeId) (baseURI : Url) (draft : Draft) (fresh : List (NodeId × Info))
    (hcs : checkStructure env.st (env.st.size + 2) [(root, "")] [] = .ok fresh) (s : RState) :
    resolveURIsLoop env draft root (env.st.size + 2) [(root, root)] (RDraft.beforeURIs root baseURI draft fresh s) ≠
      .fuel := by
  intro h
  have sp := resolveURIs_sp env ⟨env.st, draft, root⟩ rfl baseURI _ fresh hcs (env.st.size + 2) _
    (beforeURIs_root_uri env.st _ root baseURI draft fresh s hcs)
  rw [show resolveURIsLoop env _ _ _ _ _ = Res.fuel from h] at sp
  have hlen := C10.AccOK_length env.st fresh
    (C10.checkStructure_accOK_nil hcs)
  have : env.st.size + 2 ≤ (ids fresh).length := sp
  simp only [ids, List.length_map] at this
  omega

theorem resolveURIs_ok (env : Env) (D : Doc) (hst : D.st = env.st) (ret : Url) (cf : Nat)
    (fresh : List (NodeId × Info)) (hcs : checkStructure env.st cf [(D.root, "")] [] = .ok fresh) (fuel : Nat)
    (s s' : RState) (hroot : ∃ i, lookupNat D.root s.infos = some i ∧ i.uri = some ret)
    (h : resolveURIsLoop env D.draft D.root fuel [(D.root, D.root)] s = .ok s') :
    D.IdsOk ret ∧ URIsPost D ret s s' := by
  have := resolveURIs_sp env D hst ret cf fresh hcs fuel s hroot
  rw [h] at this
  exact this

end RInv
end Go
end JSV
