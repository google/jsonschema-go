/-
  A RENAMING of schema node ids: two environments — two stores, or two trees in one store — whose schema objects
  correspond along a relation `R` on ids (`EnvRel`: `R` is one-to-one where it is defined, related ids hold schema objects
  that look alike to the resolver, `RNode`, and the Loader hands out related documents).  Here are the relations on
  nodes, cursors, info objects and resolver states (`SRel`: the tables as maps along `R`), what the state updates of the
  resolver do to `SRel`, and the two walks that read a store in a way of their own: the JSON pointer and checkStructure.
  The resolver proper is simulated in ResSim.lean.

  `EnvRel` is DIRECTIONAL (`DirRel`): whenever the left run returns normally so does the right run, with related
  results — the node relation tolerates normal forms that only remove reasons to fail (an empty `$defs` read back as nil
  beside `definitions`), so failures are not compared; a symmetric situation (a tree and its clone) gets both directions by using the lemma twice.
  The two stores may differ in size, and so may checkStructure's two fuels: `cs_rel` asks that the right run does not
  run out of fuel.
-/
import JSV.Proofs.ResDesig
import JSV.Proofs.MshNode
namespace JSV
namespace Go
namespace RIso
open RInv

def DirRel {α β : Type} (Q : α → β → Prop) (x : Res α) (y : Res β) : Prop :=
  ∀ a, x = .ok a → ∃ b, y = .ok b ∧ Q a b

theorem DirRel.bind {α β γ δ : Type} {Q : α → β → Prop} {P : γ → δ → Prop} {x : Res α} {y : Res β}
    {f : α → Res γ} {g : β → Res δ} (h : DirRel Q x y) (hf : ∀ a b, Q a b → DirRel P (f a) (g b)) :
    DirRel P (x.bind f) (y.bind g) := by
  intro c hc
  obtain ⟨a, ha, hfa⟩ := Res.bind_eq_ok_iff.mp hc
  obtain ⟨b, hb, hq⟩ := h a ha
  obtain ⟨d, hd, hp⟩ := hf a b hq c hfa
  exact ⟨d, by rw [hb, Res.bind_ok]; exact hd, hp⟩

theorem DirRel.ok {α β : Type} {Q : α → β → Prop} {a : α} {b : β} (h : Q a b) : DirRel Q (.ok a) (.ok b) := by
  intro a' ha
  cases ha
  exact ⟨b, rfl, h⟩

theorem DirRel.of_not_ok {α β : Type} {Q : α → β → Prop} {x : Res α} {y : Res β} (h : ∀ a, x ≠ .ok a) :
    DirRel Q x y := fun a ha => absurd ha (h a)

theorem DirRel.err {α β : Type} {Q : α → β → Prop} {y : Res β} : DirRel Q (.err : Res α) y :=
  fun _ h => nomatch h
theorem DirRel.panic {α β : Type} {Q : α → β → Prop} {y : Res β} : DirRel Q (.panic : Res α) y :=
  fun _ h => nomatch h
theorem DirRel.fuel {α β : Type} {Q : α → β → Prop} {y : Res β} : DirRel Q (.fuel : Res α) y :=
  fun _ h => nomatch h

theorem DirRel.refl_eq {α : Type} (x : Res α) : DirRel (· = ·) x x := fun a h => ⟨a, h, rfl⟩

theorem DirRel.mono {α β : Type} {Q P : α → β → Prop} {x : Res α} {y : Res β} (h : DirRel Q x y)
    (hqp : ∀ a b, Q a b → P a b) : DirRel P x y := by
  intro a ha
  obtain ⟨b, hb, hq⟩ := h a ha
  exact ⟨b, hb, hqp a b hq⟩

/-- `R` is one-to-one where it is defined: what lets a table keyed by ids be read as a map along `R` -/
def BiU (R : NodeId → NodeId → Prop) : Prop := ∀ a b a' b', R a b → R a' b' → (a = a' ↔ b = b')

/-- an entry of checkStructure's worklist -/
def EntRel {α : Type} (R : NodeId → NodeId → Prop) (e₁ e₂ : NodeId × α) : Prop := R e₁.1 e₂.1 ∧ e₁.2 = e₂.2

/-- what the pointer walk stands on; `get? = none` on both sides: a nil `*Schema` on both sides -/
def CurRel (R : NodeId → NodeId → Prop) (st₁ st₂ : Store) : Pointer.Cursor → Pointer.Cursor → Prop
  | .node a, .node b => R a b ∨ (st₁.get? a = none ∧ st₂.get? b = none)
  | .nodes a, .nodes b => ListRel R a b
  | .nodeMap a, .nodeMap b => ∀ k, OptRel R (Json.lookup k a) (Json.lookup k b)
  | .dead, .dead => True
  | _, _ => False

def fieldNamed (name : String) : ChildField → Bool
  | .one j _ => j == name
  | .many j _ => j == name
  | .keyed j _ => j == name

def fieldCursor : ChildField → Pointer.Cursor
  | .one _ (some c) => .node c
  | .one _ none => .node 1000000000   -- as `Pointer.lookupField`: a nil `*Schema` field, the id `Go.nilId`
  | .many _ cs => .nodes (cs.getD [])
  | .keyed _ cs => .nodeMap (cs.getD [])

theorem lookupField_type (n : Node) : Pointer.lookupField n "type" = some .dead := rfl

theorem lookupField_items (n : Node) : Pointer.lookupField n "items" =
    match n.items with
    | some c => some (.node c)
    | none => some (.nodes (n.itemsArray.getD [])) := rfl

theorem lookupField_dependencies (n : Node) :
    Pointer.lookupField n "dependencies" = some (.nodeMap (n.dependencySchemas.getD [])) := rfl

theorem lookupField_other (n : Node) {name : String} (h1 : name ≠ "type") (h2 : name ≠ "items")
    (h3 : name ≠ "dependencies") :
    Pointer.lookupField n name =
      match n.childFields.find? (fieldNamed name) with
      | some f => some (fieldCursor f)
      | none => if (Generated.schemaFields.any fun f => f.2.2.1 == name) then some .dead else none := by
  unfold Pointer.lookupField
  rw [if_neg (by simpa using h1), if_neg (by simpa using h2), if_neg (by simpa using h3)]
  generalize hr : List.find? _ n.childFields = r
  have e : n.childFields.find? (fieldNamed name) = r := by
    rw [← hr]; rfl
  rw [e]
  cases r with
  | none => rfl
  | some f =>
    cases f with
    | one _ c => cases c <;> rfl
    | many _ _ => rfl
    | keyed _ _ => rfl

theorem lookupField_rel {C : Pointer.Cursor → Pointer.Cursor → Prop} {Q : ChildField → ChildField → Prop}
    {n n' : Node} (hdead : C .dead .dead) (hitems : OptRel (fun x y => C (.node x) (.node y)) n.items n'.items)
    (hia : C (.nodes (n.itemsArray.getD [])) (.nodes (n'.itemsArray.getD [])))
    (hdeps : C (.nodeMap (n.dependencySchemas.getD [])) (.nodeMap (n'.dependencySchemas.getD [])))
    (hfs : ListRel Q n.childFields n'.childFields) (hname : ∀ name f f', Q f f' → fieldNamed name f = fieldNamed name f')
    (hQ : ∀ f f', Q f f' → C (fieldCursor f) (fieldCursor f')) (name : String) :
    OptRel C (Pointer.lookupField n name) (Pointer.lookupField n' name) := by
  by_cases h1 : name = "type"
  · rw [h1, lookupField_type, lookupField_type]; exact hdead
  by_cases h2 : name = "items"
  · rw [h2, lookupField_items, lookupField_items]
    rcases hitems.inv with ⟨e1, e2⟩ | ⟨x, y, e1, e2, hxy⟩
    · rw [e1, e2]; exact hia
    · rw [e1, e2]; exact hxy
  by_cases h3 : name = "dependencies"
  · rw [h3, lookupField_dependencies, lookupField_dependencies]; exact hdeps
  rw [lookupField_other n h1 h2 h3, lookupField_other n' h1 h2 h3]
  rcases (ListRel.find? (hname name) hfs).inv with ⟨e1, e2⟩ | ⟨f, f', e1, e2, hff⟩
  · rw [e1, e2]
    dsimp only
    split
    · exact hdead
    · trivial
  · rw [e1, e2]; exact hQ f f' hff

/-- `n₂` is `n₁` up to the renaming `R`, as far as Resolve can tell: the same `$id`, `$schema`, `$ref`, `$anchor`,
    `$dynamicAnchor`, `$dynamicRef`; checkLocal passes on the right if it does on the left; the children (Schema.all,
    resolveURIs: maps by sorted key) and what checkStructure pushes (maps in iteration order, with the paths) are related
    member by member; and the JSON-pointer walk finds related things under every keyword. -/
structure RNode (R : NodeId → NodeId → Prop) (env₁ env₂ : Env) (n₁ n₂ : Node) : Prop where
  id : n₁.id = n₂.id
  schema : n₁.schema = n₂.schema
  ref : n₁.ref = n₂.ref
  anchor : n₁.anchor = n₂.anchor
  dynamicAnchor : n₁.dynamicAnchor = n₂.dynamicAnchor
  dynamicRef : n₁.dynamicRef = n₂.dynamicRef
  localOk : checkLocalOk env₁ n₁ = true → checkLocalOk env₂ n₂ = true
  children : ListRel R n₁.children n₂.children
  entries : ∀ path, ListRel (EntRel R) (childEntries n₁ path) (childEntries n₂ path)
  field : ∀ name, OptRel (CurRel R env₁.st env₂.st) (Pointer.lookupField n₁ name) (Pointer.lookupField n₂ name)

structure EnvRel (R : NodeId → NodeId → Prop) (env₁ env₂ : Env) : Prop where
  biu : BiU R
  node : ∀ a b, R a b → OptRel (RNode R env₁ env₂) (env₁.st.get? a) (env₂.st.get? b)
  loader : ∀ t₁, env₁.loader = some t₁ → ∃ t₂, env₂.loader = some t₂ ∧
    ∀ key l₁, Json.lookup key t₁ = some (.doc l₁) → ∃ l₂, Json.lookup key t₂ = some (.doc l₂) ∧ R l₁ l₂
  draft7 : env₁.draft7URIs = env₂.draft7URIs

section
variable {R : NodeId → NodeId → Prop} {env₁ env₂ : Env} (hE : EnvRel R env₁ env₂)
include hE

theorem step_rel (strict : Bool) {c₁ c₂ : Pointer.Cursor} (hc : CurRel R env₁.st env₂.st c₁ c₂) (seg : String) :
    DirRel (CurRel R env₁.st env₂.st) (Pointer.step env₁.st strict c₁ seg) (Pointer.step env₂.st strict c₂ seg) := by
  cases c₁ with
  | node a =>
    cases c₂ with
    | node b =>
      unfold Pointer.step
      dsimp only
      rcases hc with hr | ⟨h1, _⟩
      · rcases (hE.node a b hr).inv with ⟨h1, _⟩ | ⟨n₁, n₂, h1, h2, hn⟩
        · rw [h1]; exact DirRel.err
        rw [h1, h2]
        dsimp only
        rcases (hn.field seg).inv with ⟨e1, _⟩ | ⟨x, y, e1, e2, hf⟩
        · rw [e1]; exact DirRel.err
        rw [e1, e2]
        exact DirRel.ok hf
      · rw [h1]; exact DirRel.err
    | nodes _ => exact hc.elim
    | nodeMap _ => exact hc.elim
    | dead => exact hc.elim
  | nodes xs =>
    cases c₂ with
    | nodes ys =>
      have hl : ListRel R xs ys := hc
      unfold Pointer.step
      dsimp only
      rw [← hl.length_eq]
      cases Pointer.arrayIndex strict seg xs.length with
      | none => exact DirRel.err
      | some i =>
        dsimp only
        rcases (ListRel.getElem? hl i).inv with ⟨e1, _⟩ | ⟨x, y, e1, e2, hi⟩
        · rw [e1]; exact DirRel.err
        rw [e1, e2]
        exact DirRel.ok (Or.inl hi)
    | node _ => exact hc.elim
    | nodeMap _ => exact hc.elim
    | dead => exact hc.elim
  | nodeMap xs =>
    cases c₂ with
    | nodeMap ys =>
      have hl : ∀ k, OptRel R (Json.lookup k xs) (Json.lookup k ys) := hc
      unfold Pointer.step
      dsimp only
      rcases (hl seg).inv with ⟨e1, _⟩ | ⟨x, y, e1, e2, hi⟩
      · rw [e1]; exact DirRel.err
      rw [e1, e2]
      exact DirRel.ok (Or.inl hi)
    | node _ => exact hc.elim
    | nodes _ => exact hc.elim
    | dead => exact hc.elim
  | dead => exact DirRel.err

theorem walk_rel (strict : Bool) : ∀ (segs : List String) {c₁ c₂ : Pointer.Cursor},
    CurRel R env₁.st env₂.st c₁ c₂ →
      DirRel (CurRel R env₁.st env₂.st) (Pointer.walk env₁.st strict c₁ segs) (Pointer.walk env₂.st strict c₂ segs)
  | [], _, _, hc => DirRel.ok hc
  | seg :: rest, _, _, hc => by
    unfold Pointer.walk
    exact (step_rel hE strict hc seg).bind fun _ _ h => walk_rel strict rest h

theorem dereference_rel (strict : Bool) {r₁ r₂ : NodeId} (hr : R r₁ r₂) (ptr : String) :
    DirRel R (Pointer.dereference env₁.st strict true r₁ ptr) (Pointer.dereference env₂.st strict true r₂ ptr) := by
  unfold Pointer.dereference
  refine (DirRel.refl_eq (Pointer.parse ptr)).bind ?_
  intro segs _ e
  subst e
  refine (walk_rel hE strict segs (c₁ := .node r₁) (c₂ := .node r₂) (Or.inl hr)).bind ?_
  intro c₁ c₂ hc
  cases c₁ with
  | node a =>
    cases c₂ with
    | node b =>
      dsimp only
      rcases hc with hr' | ⟨h1, _⟩
      · rcases (hE.node a b hr').inv with ⟨h1, _⟩ | ⟨n₁, n₂, h1, h2, -⟩
        · rw [h1]; exact DirRel.err
        rw [h1, h2]
        exact DirRel.ok hr'
      · rw [h1]; exact DirRel.err
    | nodes _ => exact hc.elim
    | nodeMap _ => exact hc.elim
    | dead => exact hc.elim
  | nodes _ => exact DirRel.err
  | nodeMap _ => exact DirRel.err
  | dead => exact DirRel.err

end

theorem lookupNat_rel {α β : Type} {R : NodeId → NodeId → Prop} {Q : α → β → Prop} (hb : BiU R) {a b : NodeId}
    (hr : R a b) : ∀ {l₁ : List (NodeId × α)} {l₂ : List (NodeId × β)},
      ListRel (fun e₁ e₂ => R e₁.1 e₂.1 ∧ Q e₁.2 e₂.2) l₁ l₂ → OptRel Q (lookupNat a l₁) (lookupNat b l₂)
  | _, _, .nil => trivial
  | _, _, .cons (a := (k₁, v₁)) (b := (k₂, v₂)) h1 h2 => by
    have hk : a = k₁ ↔ b = k₂ := hb a b k₁ k₂ hr h1.1
    unfold lookupNat
    by_cases h : k₁ = a
    · rw [if_pos h, if_pos (hk.mp h.symm).symm]
      exact h1.2
    · rw [if_neg h, if_neg (fun e => h (hk.mpr e.symm).symm)]
      exact lookupNat_rel hb hr h2

section
variable {R : NodeId → NodeId → Prop} {env₁ env₂ : Env} (hE : EnvRel R env₁ env₂)
include hE

theorem cs_rel {Q : Info → Info → Prop} (hQ : ∀ p, Q (RPerm.infoOf p) (RPerm.infoOf p)) :
    ∀ (f₁ f₂ : Nat) (w₁ w₂ : List (NodeId × String)) (acc₁ acc₂ res₁ : List (NodeId × Info)),
    ListRel (EntRel R) w₁ w₂ → ListRel (fun e₁ e₂ => R e₁.1 e₂.1 ∧ Q e₁.2 e₂.2) acc₁ acc₂ →
    checkStructure env₁.st f₁ w₁ acc₁ = .ok res₁ → checkStructure env₂.st f₂ w₂ acc₂ ≠ .fuel →
    ∃ res₂, checkStructure env₂.st f₂ w₂ acc₂ = .ok res₂ ∧
      ListRel (fun e₁ e₂ => R e₁.1 e₂.1 ∧ Q e₁.2 e₂.2) res₁ res₂ := by
  intro f₁
  induction f₁ with
  | zero => intro f₂ w₁ w₂ acc₁ acc₂ res₁ _ _ h; rw [RPerm.cs_zero] at h; cases h
  | succ f₁ ih =>
    intro f₂ w₁ w₂ acc₁ acc₂ res₁ hw hacc h hnf
    cases f₂ with
    | zero => exact absurd (RPerm.cs_zero _ _ _) hnf
    | succ f₂ =>
      cases hw with
      | nil =>
        rw [RPerm.cs_nil] at h ⊢
        cases h
        exact ⟨acc₂, rfl, hacc⟩
      | cons h1 h2 =>
        rename_i e₁ e₂ w₁' w₂'
        obtain ⟨a, p⟩ := e₁
        obtain ⟨b, p'⟩ := e₂
        have hp : p = p' := h1.2
        subst hp
        have hr : R a b := h1.1
        obtain ⟨n₁, hn₁, hid, hrest⟩ := (RPerm.cs_cons_ok _ _ _ _ _ _ _).mp h
        have hn := hE.node a b hr
        rw [hn₁] at hn
        obtain ⟨n₂, hn₂, hn⟩ := hn.of_some
        have hl₂ := lookupNat_rel hE.biu hr hacc
        rw [(lookupNat_eq_none_iff a acc₁).mpr hid] at hl₂
        replace hl₂ := hl₂.of_none
        have hwork : ListRel (EntRel R) (childEntries n₁ p ++ w₁') (childEntries n₂ p ++ w₂') :=
          ListRel.append (hn.entries p) h2
        have hacc' : ListRel (fun e₁ e₂ => R e₁.1 e₂.1 ∧ Q e₁.2 e₂.2) (acc₁ ++ [(a, RPerm.infoOf p)])
            (acc₂ ++ [(b, RPerm.infoOf p)]) :=
          ListRel.append hacc (.cons ⟨hr, hQ p⟩ .nil)
        have hstep : checkStructure env₂.st (f₂ + 1) ((b, p) :: w₂') acc₂ =
            checkStructure env₂.st f₂ (childEntries n₂ p ++ w₂') (acc₂ ++ [(b, RPerm.infoOf p)]) := by
          rw [RPerm.cs_cons, hn₂]
          simp only [hl₂, Option.isSome_none, Bool.false_eq_true, if_false]
        rw [hstep] at hnf ⊢
        exact ih f₂ _ _ _ _ res₁ hwork hacc' hrest hnf

end

def AncRel (R : NodeId → NodeId → Prop) (a₁ a₂ : AnchorInfo) : Prop := R a₁.schema a₂.schema ∧ a₁.dynamic = a₂.dynamic

structure InfoRel (R : NodeId → NodeId → Prop) (i₁ i₂ : Info) : Prop where
  path : i₁.path = i₂.path
  base : OptRel R i₁.base i₂.base
  uri : i₁.uri = i₂.uri
  resolvedRef : OptRel R i₁.resolvedRef i₂.resolvedRef
  resolvedDynamicRef : OptRel R i₁.resolvedDynamicRef i₂.resolvedDynamicRef
  dynamicRefAnchor : i₁.dynamicRefAnchor = i₂.dynamicRefAnchor
  anchors : ListRel (KRel (AncRel R)) i₁.anchors i₂.anchors

structure DRel (R : NodeId → NodeId → Prop) (d₁ d₂ : DocRes) : Prop where
  root : R d₁.root d₂.root
  draft : d₁.draft = d₂.draft
  uris : ListRel (KRel R) d₁.uris d₂.uris
  known : ∀ a b, R a b → (a ∈ d₁.known ↔ b ∈ d₂.known)

structure SRel (R : NodeId → NodeId → Prop) (s₁ s₂ : RState) : Prop where
  infos : ∀ a b, R a b → OptRel (InfoRel R) (lookupNat a s₁.infos) (lookupNat b s₂.infos)
  docs : ListRel (DRel R) s₁.docs s₂.docs
  loaded : ListRel (KRel R) s₁.loaded s₂.loaded
  log : s₁.log = s₂.log

theorem find_doc_rel {R : NodeId → NodeId → Prop} (hb : BiU R) {r₁ r₂ : NodeId} (hr : R r₁ r₂) {l₁ l₂ : List DocRes}
    (h : ListRel (DRel R) l₁ l₂) : OptRel (DRel R) (l₁.find? (·.root == r₁)) (l₂.find? (·.root == r₂)) :=
  ListRel.find? (fun d₁ d₂ hd => by rw [Bool.eq_iff_iff, beq_iff_eq, beq_iff_eq]; exact hb _ _ _ _ hd.root hr) h

theorem any_doc_rel {R : NodeId → NodeId → Prop} (hb : BiU R) {r₁ r₂ : NodeId} (hr : R r₁ r₂) {l₁ l₂ : List DocRes}
    (h : ListRel (DRel R) l₁ l₂) : l₁.any (·.root == r₁) = l₂.any (·.root == r₂) := by
  rw [← List.isSome_find?, ← List.isSome_find?]
  exact OptRel.isSome_eq (find_doc_rel hb hr h)

section
variable {R : NodeId → NodeId → Prop} (hb : BiU R)
include hb

theorem SRel.doc? {s₁ s₂ : RState} (h : SRel R s₁ s₂) {r₁ r₂ : NodeId} (hr : R r₁ r₂) :
    OptRel (DRel R) (s₁.doc? r₁) (s₂.doc? r₂) := find_doc_rel hb hr h.docs

theorem SRel.draftOf {s₁ s₂ : RState} (h : SRel R s₁ s₂) {r₁ r₂ : NodeId} (hr : R r₁ r₂) :
    s₁.draftOf r₁ = s₂.draftOf r₂ := by
  unfold RState.draftOf
  rcases (h.doc? hb hr).inv with ⟨h1, h2⟩ | ⟨d₁, d₂, h1, h2, hd⟩
  · rw [h1, h2]
  · rw [h1, h2]; exact hd.draft

omit hb in
theorem DRel.contains {d₁ d₂ : DocRes} (h : DRel R d₁ d₂) {a b : NodeId} (hr : R a b) :
    d₁.known.contains a = d₂.known.contains b := by
  rw [Bool.eq_iff_iff]
  simp only [List.contains_eq_mem, decide_eq_true_eq]
  exact h.known a b hr

theorem SRel.info? {s₁ s₂ : RState} (h : SRel R s₁ s₂) {r₁ r₂ a b : NodeId} (hr : R r₁ r₂) (hab : R a b) :
    OptRel (InfoRel R) (s₁.info? r₁ a) (s₂.info? r₂ b) := by
  unfold RState.info?
  rcases (h.doc? hb hr).inv with ⟨h1, h2⟩ | ⟨d₁, d₂, h1, h2, hd⟩
  · rw [h1, h2]; trivial
  rw [h1, h2]
  dsimp only
  rw [hd.contains hab]
  split
  · exact h.infos a b hab
  · trivial

theorem SRel.updInfo {s₁ s₂ : RState} (h : SRel R s₁ s₂) {a b : NodeId} (hab : R a b) {f₁ f₂ : Info → Info}
    (hf : ∀ i₁ i₂, InfoRel R i₁ i₂ → InfoRel R (f₁ i₁) (f₂ i₂)) : SRel R (s₁.updInfo a f₁) (s₂.updInfo b f₂) := by
  refine ⟨?_, ?_, ?_, ?_⟩
  · intro x y hxy
    rw [updInfo_infos_lookup, updInfo_infos_lookup]
    have hk : a = x ↔ b = y := hb a b x y hab hxy
    have hi := h.infos x y hxy
    by_cases e : a = x
    · rw [if_pos e, if_pos (hk.mp e)]
      exact OptRel.map hf hi
    · rw [if_neg e, if_neg (fun e' => e (hk.mpr e'))]
      exact hi
  · rw [updInfo_docs, updInfo_docs]; exact h.docs
  · rw [(updInfo_same s₁ a f₁).2, (updInfo_same s₂ b f₂).2]; exact h.loaded
  · rw [(updInfo_same s₁ a f₁).1, (updInfo_same s₂ b f₂).1]; exact h.log

omit hb in
theorem addAnchor_rel {t₁ t₂ : NodeId} (ht : R t₁ t₂) (a : String) (dyn : Bool) {i₁ i₂ : Info}
    (hi : InfoRel R i₁ i₂) : InfoRel R (addAnchor a t₁ dyn i₁) (addAnchor a t₂ dyn i₂) := by
  unfold addAnchor
  have hl := lookup_krel a hi.anchors
  have hs : (Json.lookup a i₁.anchors).isSome = (Json.lookup a i₂.anchors).isSome := OptRel.isSome_eq hl
  rw [hs]
  split
  · exact hi
  · exact { hi with anchors := ListRel.append hi.anchors (.cons ⟨rfl, ht, rfl⟩ .nil) }

theorem SRel.setAnchor {s₁ s₂ : RState} (h : SRel R s₁ s₂) {b₁ b₂ t₁ t₂ : NodeId} (hbb : R b₁ b₂) (ht : R t₁ t₂)
    (a : String) (dyn : Bool) : SRel R (setAnchor s₁ b₁ t₁ a dyn) (setAnchor s₂ b₂ t₂ a dyn) := by
  rw [setAnchor_eq, setAnchor_eq]
  split
  · exact h
  · exact h.updInfo hb hbb fun _ _ hi => addAnchor_rel ht a dyn hi

theorem SRel.setDoc {s₁ s₂ : RState} (h : SRel R s₁ s₂) {d₁ d₂ : DocRes} (hd : DRel R d₁ d₂) :
    SRel R (s₁.setDoc d₁) (s₂.setDoc d₂) := by
  refine ⟨h.infos, ?_, h.loaded, h.log⟩
  unfold RState.setDoc
  dsimp only
  rw [any_doc_rel hb hd.root h.docs]
  split
  · refine ListRel.map_map _ _ (fun x y hxy => ?_) h.docs
    have hk : x.root = d₁.root ↔ y.root = d₂.root := hb _ _ _ _ hxy.root hd.root
    by_cases e : x.root = d₁.root
    · simp only [e, hk.mp e, beq_self_eq_true, if_true]
      exact hd
    · have e' : ¬ y.root = d₂.root := fun e' => e (hk.mpr e')
      simp only [beq_eq_false_iff_ne.mpr e, beq_eq_false_iff_ne.mpr e', Bool.false_eq_true, if_false]
      exact hxy
  · exact ListRel.append h.docs (.cons hd .nil)

theorem SRel.mergeKnown {s₁ s₂ : RState} (h : SRel R s₁ s₂) {a₁ a₂ b₁ b₂ : NodeId} (ha : R a₁ a₂) (hbb : R b₁ b₂) :
    SRel R (mergeKnown s₁ a₁ b₁) (mergeKnown s₂ a₂ b₂) := by
  unfold Go.mergeKnown
  rcases (h.doc? hb ha).inv with ⟨h1, h2⟩ | ⟨d₁, d₂, h1, h2, hda⟩
  · rw [h1, h2]; exact h
  rcases (h.doc? hb hbb).inv with ⟨h3, h4⟩ | ⟨l₁, l₂, h3, h4, hdb⟩
  · rw [h1, h2, h3, h4]; exact h
  rw [h1, h2, h3, h4]
  dsimp only
  apply h.setDoc hb
  refine ⟨hda.root, hda.draft, hda.uris, ?_⟩
  intro x y hxy
  simp only [List.mem_append, List.mem_filter, List.contains_eq_mem, Bool.not_eq_true',
    decide_eq_false_iff_not, hda.known x y hxy, hdb.known x y hxy]

end

/-- the state after the `$id` block and the base for the schema and its children -/
def StepRel (R : NodeId → NodeId → Prop) (p₁ p₂ : RState × NodeId) : Prop := SRel R p₁.1 p₂.1 ∧ R p₁.2 p₂.2

/-- a worklist entry of resolveURIs: the schema and its base -/
def PairRel (R : NodeId → NodeId → Prop) (p₁ p₂ : NodeId × NodeId) : Prop := R p₁.1 p₂.1 ∧ R p₁.2 p₂.2

def OutRel (R : NodeId → NodeId → Prop) (o₁ o₂ : RefOut × RState) : Prop :=
  R o₁.1.target o₂.1.target ∧ o₁.1.dynFrag = o₂.1.dynFrag ∧ SRel R o₁.2 o₂.2

section
variable {R : NodeId → NodeId → Prop} (hb : BiU R) {r₁ r₂ : NodeId} (hr : R r₁ r₂) {s₁ s₂ : RState} (h : SRel R s₁ s₂)
include hb hr h

theorem newUriState_rel {a b : NodeId} (hab : R a b) (u : Uri.Url) :
    SRel R (newUriState r₁ s₁ a u) (newUriState r₂ s₂ b u) := by
  have h1 : SRel R (s₁.updInfo a fun i => { i with uri := some u }) (s₂.updInfo b fun i => { i with uri := some u }) :=
    h.updInfo hb hab fun _ _ hi => { hi with uri := rfl }
  unfold newUriState
  dsimp only
  rcases (h1.doc? hb hr).inv with ⟨e1, e2⟩ | ⟨d₁, d₂, e1, e2, hd⟩
  · rw [e1, e2]; exact h1
  rw [e1, e2]
  refine h1.setDoc hb ⟨hd.root, hd.draft, ?_, hd.known⟩
  exact ListRel.append (ListRel.filter (fun x y hxy => by rw [show x.1 = y.1 from hxy.1]) hd.uris)
    (.cons ⟨rfl, hab⟩ .nil)

theorem refBase_rel {a b : NodeId} (hab : R a b) : refBase s₁ r₁ a = refBase s₂ r₂ b := by
  unfold refBase
  rcases (h.info? hb hr hab).inv with ⟨e1, e2⟩ | ⟨i₁, i₂, e1, e2, hi⟩
  · rw [e1, e2]; rfl
  rw [e1, e2]
  rcases hi.base.inv with ⟨e1, e2⟩ | ⟨base₁, base₂, e1, e2, hbase⟩
  · simp only [Option.bind_some, Option.bind_none, e1, e2]
  simp only [Option.bind_some, e1, e2]
  rcases (h.info? hb hr hbase).inv with ⟨e1, e2⟩ | ⟨bi₁, bi₂, e1, e2, hbi⟩
  · rw [e1, e2]
  rw [e1, e2]
  exact hbi.uri

omit hb in
theorem afterURIs_rel (baseURI : Uri.Url) : SRel R (RDraft.afterURIs r₁ baseURI s₁) (RDraft.afterURIs r₂ baseURI s₂) := by
  refine ⟨h.infos, h.docs, ?_, h.log⟩
  have key : ∀ u : String, ListRel (KRel R)
      ((s₁.loaded.filter fun e => e.1 != Uri.toString baseURI && e.1 != u) ++ [(Uri.toString baseURI, r₁), (u, r₁)])
      ((s₂.loaded.filter fun e => e.1 != Uri.toString baseURI && e.1 != u) ++ [(Uri.toString baseURI, r₂), (u, r₂)]) :=
    fun u => ListRel.append (ListRel.filter (fun x y hxy => by rw [show x.1 = y.1 from hxy.1]) h.loaded)
      (.cons ⟨rfl, hr⟩ (.cons ⟨rfl, hr⟩ .nil))
  unfold RDraft.afterURIs RInv.rootUriOf
  dsimp only
  rcases (h.infos r₁ r₂ hr).inv with ⟨e1, e2⟩ | ⟨i₁, i₂, e1, e2, hi⟩
  · rw [e1, e2]; exact key ""
  · rw [e1, e2]
    dsimp only
    rw [← hi.uri]
    exact key _

end

structure ResolvedRel (R : NodeId → NodeId → Prop) (a b : Resolved) : Prop where
  root : R a.root b.root
  draft : a.draft = b.draft
  log : a.log = b.log
  infos : ∀ x y, R x y → OptRel (InfoRel R) (lookupNat x a.infos) (lookupNat y b.infos)

end RIso
end Go
end JSV
