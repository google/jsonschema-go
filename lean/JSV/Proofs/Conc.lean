/-
  C13: invariants of the sharing protocol machine (JSV/Model/Conc.lean): one action of a thread keeps them
  (`stepThread_spec`); the measure that bounds the steps a thread still needs (`run_measure`); `rootOf`.
-/
import JSV.Model.Conc
namespace JSV
namespace C13
open JSV.Conc

variable {K V A R : Type}

/-- every memo cell is empty or holds `f key` -/
def MemoInv (f : K → V) (memo : K → Option V) : Prop := ∀ k v, memo k = some v → v = f k

def Inv (f : K → V) (m : Machine K V A R) : Prop := MemoInv f m.memo

/-- per-thread history invariant, "split" form: the thread's original call list is
    `pre ++ (the call in flight, if any) ++ todo`, and the results are the sequential results of `pre`. -/
def ThreadInv (f : K → V) (g : V → A → R) (calls : List (K × A)) (t : Thread K V A R) : Prop :=
  ∃ pre : List (K × A), t.results = sequential f g pre ∧
    match t.phase with
    | .idle => calls = pre ++ t.todo
    | .loaded k a hit => calls = pre ++ (k, a) :: t.todo ∧ (hit = none ∨ hit = some (f k))
    | .computed k a v => calls = pre ++ (k, a) :: t.todo ∧ v = f k

/-- the same invariant in "take / drop" form, without an existential: the form C13's statements about a thread use -/
def ThreadInvTD (f : K → V) (g : V → A → R) (calls : List (K × A)) (t : Thread K V A R) : Prop :=
  t.results = sequential f g (calls.take t.results.length) ∧
    match t.phase with
    | .idle => t.todo = calls.drop t.results.length
    | .loaded k a hit => t.todo = calls.drop (t.results.length + 1) ∧ calls[t.results.length]? = some (k, a) ∧
        (hit = none ∨ hit = some (f k))
    | .computed k a v => t.todo = calls.drop (t.results.length + 1) ∧ calls[t.results.length]? = some (k, a) ∧
        v = f k

theorem sequential_length (f : K → V) (g : V → A → R) (l : List (K × A)) :
    (sequential f g l).length = l.length := by simp [sequential]

theorem sequential_append (f : K → V) (g : V → A → R) (l₁ l₂ : List (K × A)) :
    sequential f g (l₁ ++ l₂) = sequential f g l₁ ++ sequential f g l₂ := by simp [sequential]

theorem ThreadInv.toTD {f : K → V} {g : V → A → R} {calls : List (K × A)} {t : Thread K V A R}
    (h : ThreadInv f g calls t) : ThreadInvTD f g calls t := by
  obtain ⟨pre, hr, hp⟩ := h
  have hl : t.results.length = pre.length := by rw [hr, sequential_length]
  unfold ThreadInvTD
  rw [hl]
  cases hph : t.phase with
  | idle =>
    rw [hph] at hp
    simp only at hp ⊢
    subst hp
    simp [hr]
  | loaded k a x | computed k a x =>
    rw [hph] at hp
    simp only at hp ⊢
    obtain ⟨hc, hh⟩ := hp
    subst hc
    refine ⟨by simp [hr], ?_, ?_, hh⟩
    · rw [List.drop_append]; simp
    · simp

theorem ThreadInvTD.toSplit {f : K → V} {g : V → A → R} {calls : List (K × A)} {t : Thread K V A R}
    (h : ThreadInvTD f g calls t) : ThreadInv f g calls t := by
  obtain ⟨hr, hp⟩ := h
  refine ⟨calls.take t.results.length, hr, ?_⟩
  cases hph : t.phase with
  | idle =>
    rw [hph] at hp
    simp only at hp ⊢
    rw [hp, List.take_append_drop]
  | loaded k a x | computed k a x =>
    rw [hph] at hp
    simp only at hp ⊢
    obtain ⟨h1, h2, h3⟩ := hp
    refine ⟨?_, h3⟩
    rw [h1]
    have : calls.drop t.results.length = (k, a) :: calls.drop (t.results.length + 1) := by
      rw [List.drop_eq_getElem?_toList_append, h2]; rfl
    rw [← this, List.take_append_drop]

variable [DecidableEq K]

set_option linter.unusedSectionVars false in
theorem sequential_nil (f : K → V) (g : V → A → R) : sequential f g [] = [] := rfl

/-- one action of a thread keeps `MemoInv` and `ThreadInv`: only the Store writes the memo, and it writes the value computed for its key -/
theorem stepThread_spec (f : K → V) (g : V → A → R) (memo : K → Option V) (t : Thread K V A R)
    (calls : List (K × A)) (hm : MemoInv f memo) (ht : ThreadInv f g calls t) :
    MemoInv f (stepThread f g memo t).1 ∧ ThreadInv f g calls (stepThread f g memo t).2 := by
  obtain ⟨pre, hr, hp⟩ := ht
  unfold stepThread
  cases hph : t.phase with
  | idle =>
    rw [hph] at hp
    simp only at hp
    cases htd : t.todo with
    | nil => exact ⟨hm, pre, hr, by rw [hph]; simpa using hp⟩
    | cons c rest =>
      obtain ⟨k, a⟩ := c
      refine ⟨hm, pre, hr, ?_⟩
      simp only
      rw [htd] at hp
      refine ⟨hp, ?_⟩
      cases hmk : memo k with
      | none => exact Or.inl rfl
      | some v => exact Or.inr (by rw [hm k v hmk])
  | loaded k a hit =>
    rw [hph] at hp
    simp only at hp
    obtain ⟨hc, hh⟩ := hp
    cases hit with
    | none => exact ⟨hm, pre, hr, hc, rfl⟩
    | some v =>
      refine ⟨hm, pre ++ [(k, a)], ?_, ?_⟩
      · simp only
        rcases hh with hh | hh
        · cases hh
        · cases hh
          rw [hr, sequential_append]; rfl
      · simp only
        rw [hc]; simp
  | computed k a v =>
    rw [hph] at hp
    simp only at hp
    obtain ⟨hc, hv⟩ := hp
    refine ⟨fun k' v' h => ?_, pre ++ [(k, a)], ?_, ?_⟩
    · by_cases hk : k' = k
      · simp [hk] at h
        rw [← h, hv, hk]
      · simp [hk] at h
        exact hm k' v' h
    · simp only
      rw [hr, sequential_append, hv]; rfl
    · simp only
      rw [hc]; simp

theorem setAt_eq_set {α : Type} : ∀ (l : List α) (n : Nat) (y : α), setAt l n y = l.set n y
  | [], _, _ => rfl
  | _ :: _, 0, _ => rfl
  | x :: xs, n + 1, y => congrArg (x :: ·) (setAt_eq_set xs n y)

theorem getElem?_setAt {α : Type} (l : List α) (n : Nat) (y : α) (i : Nat) :
    (setAt l n y)[i]? = if i = n then (l[i]?).map (fun _ => y) else l[i]? := by
  rw [setAt_eq_set, List.getElem?_set]
  by_cases h : n = i
  · subst h
    by_cases hl : n < l.length <;> simp [hl]
  · simp [h, Ne.symm h]

theorem length_setAt {α : Type} (l : List α) (n : Nat) (y : α) : (setAt l n y).length = l.length := by
  rw [setAt_eq_set, List.length_set]

def MInv (f : K → V) (g : V → A → R) (callss : List (List (K × A))) (m : Machine K V A R) : Prop :=
  Inv f m ∧ ∀ (i : Nat) t, m.threads[i]? = some t → ThreadInv f g (callss[i]?.getD []) t

theorem step_threads_get (f : K → V) (g : V → A → R) (m : Machine K V A R) (tid i : Nat) :
    (step f g m tid).threads[i]? =
      if i = tid then (m.threads[i]?).map (fun t => (stepThread f g m.memo t).2) else m.threads[i]? := by
  unfold step
  cases h : m.threads[tid]? with
  | none =>
    simp only
    by_cases hi : i = tid
    · subst hi; simp [h]
    · simp [hi]
  | some t =>
    simp only
    rw [getElem?_setAt]
    by_cases hi : i = tid
    · subst hi; simp [h]
    · simp [hi]

theorem step_memo (f : K → V) (g : V → A → R) (m : Machine K V A R) (tid : Nat) :
    (step f g m tid).memo = match m.threads[tid]? with
      | none => m.memo
      | some t => (stepThread f g m.memo t).1 := by
  unfold step
  cases h : m.threads[tid]? <;> rfl

/-- number of own steps a thread still needs at most: a call takes three (Load, compute, Store), two are left after
    the Load, one after the computation -/
def measure (t : Thread K V A R) : Nat :=
  3 * t.todo.length + (match t.phase with | .idle => 0 | .loaded _ _ _ => 2 | .computed _ _ _ => 1)

omit [DecidableEq K] in
theorem measure_zero_done (t : Thread K V A R) (h : measure t = 0) : t.done := by
  unfold measure at h
  unfold Thread.done
  cases hph : t.phase with
  | idle =>
    rw [hph] at h
    simp only at h ⊢
    refine ⟨?_, trivial⟩
    cases htd : t.todo with
    | nil => rfl
    | cons c r => rw [htd] at h; simp at h
  | loaded k a hit => rw [hph] at h; simp only at h; omega
  | computed k a v => rw [hph] at h; simp only at h; omega

theorem measure_stepThread (f : K → V) (g : V → A → R) (memo : K → Option V) (t : Thread K V A R) :
    measure (stepThread f g memo t).2 ≤ measure t - 1 := by
  unfold stepThread
  cases hph : t.phase with
  | idle =>
    cases htd : t.todo with
    | nil => simp [measure, hph, htd]
    | cons c rest =>
      obtain ⟨k, a⟩ := c
      simp only [measure, hph, htd, List.length_cons]
      omega
  | loaded k a hit =>
    cases hit with
    | none => simp only [measure, hph]; omega
    | some v => simp only [measure, hph]; omega
  | computed k a v => simp only [measure, hph]; omega

theorem run_measure (f : K → V) (g : V → A → R) (m : Machine K V A R) (sched : List Nat) (i : Nat)
    (t : Thread K V A R) (h : m.threads[i]? = some t) :
    ∃ t', (run f g m sched).threads[i]? = some t' ∧ measure t' ≤ measure t - sched.count i := by
  induction sched generalizing m t with
  | nil => exact ⟨t, h, by simp⟩
  | cons tid rest ih =>
    have hs := step_threads_get f g m tid i
    by_cases hit : i = tid
    · rw [if_pos hit, h] at hs
      simp only [Option.map_some] at hs
      obtain ⟨t', h1, h2⟩ := ih (step f g m tid) _ hs
      refine ⟨t', h1, ?_⟩
      have := measure_stepThread f g m.memo t
      subst hit
      simp only [List.count_cons_self]
      omega
    · rw [if_neg hit, h] at hs
      obtain ⟨t', h1, h2⟩ := ih (step f g m tid) _ hs
      refine ⟨t', h1, ?_⟩
      have : (tid == i) = false := by simp; exact fun h => hit h.symm
      simp only [List.count_cons, this]
      simpa using h2

/-- the identifier before the first '.', '[' (after a leading '*'): the variable an assignment's left-hand side, as
    `Generated.writes` records it, starts with -/
def rootOf (s : String) : String :=
  let cs := s.toList
  let cs := match cs with
    | '*' :: r => r
    | r => r
  String.ofList (cs.takeWhile fun c => c != '.' && c != '[')

end C13
end JSV
