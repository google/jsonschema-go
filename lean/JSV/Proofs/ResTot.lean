/-
  `Schema.Resolve` never panics when the documents share no schema object (`docsDisjoint`; continued in ResBase.lean, ResNoPanic.lean, ResNoFuel.lean).

  Every `.panic` outcome of the model of resolve.go (JSV/Model/Resolve.lean) is a nil map entry / nil pointer of
  the Go code.  The invariant that rules them out (`Inv`, ResBase.lean) is threaded through resolveDoc /
  resolveRefsLoop / resolveRef by open recursion on the loader callback (as in ResInv.lean).  Here: what it is stated
  with — `Tot r Q` (no panic, and `Q` of what is returned), the URI functions neither panic nor run out of fuel,
  `HasUri` and the order `InfoLe` on info tables under which it is kept, and `docNodes` / `docAll`: the schemas
  checkStructure registers for a root, and those `root.all()` lists.
-/
import JSV.Proofs.ResKnown
import JSV.Proofs.Tot
namespace JSV
namespace Go
namespace RTot
open RInv
open Uri

def Tot {α : Type} (r : Res α) (Q : α → Prop) : Prop := r ≠ .panic ∧ ∀ a, r = .ok a → Q a

theorem Tot.ok {α} {Q : α → Prop} {a : α} (h : Q a) : Tot (.ok a) Q :=
  ⟨by simp, fun b hb => by simp only [Res.ok.injEq] at hb; subst hb; exact h⟩
theorem Tot.err {α} {Q : α → Prop} : Tot (.err : Res α) Q := ⟨by simp, fun _ h => by simp at h⟩
theorem Tot.fuel {α} {Q : α → Prop} : Tot (.fuel : Res α) Q := ⟨by simp, fun _ h => by simp at h⟩

theorem Tot.bind {α β} {x : Res α} {f : α → Res β} {P : α → Prop} {Q : β → Prop}
    (hx : Tot x P) (hf : ∀ a, x = .ok a → P a → Tot (f a) Q) : Tot (Res.bind x f) Q := by
  cases x with
  | ok a => simp only [Res.bind_ok]; exact hf a rfl (hx.2 a rfl)
  | err => simp only [Res.bind_err]; exact Tot.err
  | fuel => simp only [Res.bind_fuel]; exact Tot.fuel
  | panic => exact absurd rfl hx.1

theorem Tot.mono {α} {r : Res α} {P Q : α → Prop} (h : Tot r P) (hpq : ∀ a, P a → Q a) : Tot r Q :=
  ⟨h.1, fun a ha => hpq a (h.2 a ha)⟩

theorem Tot.of_ne_panic {α} {r : Res α} (h : r ≠ .panic) : Tot r (fun _ => True) := ⟨h, fun _ _ => trivial⟩

theorem NoPF_ite {α} {c : Prop} [Decidable c] {a b : Res α} (ha : C10.NoPF a) (hb : C10.NoPF b) :
    C10.NoPF (if c then a else b) := by
  split
  · exact ha
  · exact hb

theorem getSchemeAux_NoPF : ∀ (s : Cs) (i : Nat) (acc : Cs), C10.NoPF (getSchemeAux i acc s)
  | [], i, acc => by rw [getSchemeAux]; exact C10.NoPF_ok _
  | c :: rest, i, acc => by
    rw [getSchemeAux]
    exact NoPF_ite (getSchemeAux_NoPF rest _ _)
      (NoPF_ite (NoPF_ite (C10.NoPF_ok _) (getSchemeAux_NoPF rest _ _))
        (NoPF_ite (NoPF_ite C10.NoPF_err (C10.NoPF_ok _)) (C10.NoPF_ok _)))

theorem getScheme_NoPF (s : Cs) : C10.NoPF (getScheme s) := by
  unfold getScheme
  split
  · exact C10.NoPF_ok _
  · exact getSchemeAux_NoPF s 0 []

theorem parseNoFrag_NoPF (raw : Cs) : C10.NoPF (parseNoFrag raw) := by
  unfold parseNoFrag
  refine NoPF_ite C10.NoPF_err (NoPF_ite (C10.NoPF_ok _) (C10.NoPF_bind (getScheme_NoPF raw) fun p _ => ?_))
  obtain ⟨sch, rest⟩ := p
  simp only []
  -- the pair (rest, url) comes out of an `if` of its own: named, so that the outcome alone is taken apart
  generalize (if (rest.getLast? == some '?' && rest.count '?' == 1) = true then _ else _ : Cs × Url) = q
  obtain ⟨rest', u⟩ := q
  simp only []
  -- opaque, colon in the first segment, authority, path only
  refine NoPF_ite (C10.NoPF_ok _) (NoPF_ite C10.NoPF_err
    (NoPF_ite (NoPF_ite C10.NoPF_err (NoPF_ite C10.NoPF_err ?_)) ?_))
  · split
    · exact C10.NoPF_err
    · split
      · exact C10.NoPF_ok _
      · exact C10.NoPF_err
  · split
    · exact C10.NoPF_ok _
    · exact C10.NoPF_err

theorem parse_NoPF (raw : String) : C10.NoPF (Uri.parse raw) := by
  unfold Uri.parse
  simp only []
  refine C10.NoPF_bind (parseNoFrag_NoPF _) fun u _ => NoPF_ite (C10.NoPF_ok _) ?_
  split
  · exact C10.NoPF_ok _
  · exact C10.NoPF_err

theorem retrievalOf_NoPF (base : String) : C10.NoPF (RInv.retrievalOf base) := by
  unfold RInv.retrievalOf
  split
  · exact C10.NoPF_ok _
  · exact parse_NoPF base

def HasUri (infos : List (NodeId × Info)) (b : NodeId) : Prop :=
  ∃ bi, lookupNat b infos = some bi ∧ bi.uri.isSome = true

/-- records stay, URIs stay, and a `base` changes only for a schema of `V`, to a schema of `V` that has a URI -/
def InfoLe (V : List NodeId) (a b : List (NodeId × Info)) : Prop :=
  ∀ x i, lookupNat x a = some i → ∃ i', lookupNat x b = some i' ∧
    (i.uri.isSome = true → i'.uri.isSome = true) ∧
    (i'.base = i.base ∨ (x ∈ V ∧ ∃ b', i'.base = some b' ∧ b' ∈ V ∧ HasUri b b'))

theorem HasUri.mono {V a b x} (h : InfoLe V a b) (hu : HasUri a x) : HasUri b x := by
  obtain ⟨bi, hl, hu⟩ := hu
  obtain ⟨i', hl', hu', _⟩ := h x bi hl
  exact ⟨i', hl', hu' hu⟩

theorem InfoLe.refl (V a) : InfoLe V a a := fun _ i hi => ⟨i, hi, fun h => h, Or.inl rfl⟩

theorem InfoLe.trans {V a b c} (h1 : InfoLe V a b) (h2 : InfoLe V b c) : InfoLe V a c := by
  intro x i hi
  obtain ⟨i1, hl1, hu1, hb1⟩ := h1 x i hi
  obtain ⟨i2, hl2, hu2, hb2⟩ := h2 x i1 hl1
  refine ⟨i2, hl2, fun h => hu2 (hu1 h), ?_⟩
  rcases hb2 with e2 | e2
  · rcases hb1 with e1 | ⟨hx, b', hb', hV, hU⟩
    · exact Or.inl (e2.trans e1)
    · exact Or.inr ⟨hx, b', by rw [e2, hb'], hV, HasUri.mono h2 hU⟩
  · exact Or.inr e2

theorem InfoLe.weaken {V V' a b} (h : InfoLe V a b) (hV : ∀ x ∈ V, x ∈ V') : InfoLe V' a b := by
  intro x i hi
  obtain ⟨i1, hl1, hu1, hb1⟩ := h x i hi
  refine ⟨i1, hl1, hu1, ?_⟩
  rcases hb1 with e | ⟨hx, b', hb', hb'V, hU⟩
  · exact Or.inl e
  · exact Or.inr ⟨hV x hx, b', hb', hV b' hb'V, hU⟩

theorem InfoLe.isSome {V a b} (h : InfoLe V a b) (x : NodeId) (hx : (lookupNat x a).isSome = true) :
    (lookupNat x b).isSome = true := by
  cases hl : lookupNat x a with
  | none => rw [hl] at hx; cases hx
  | some i =>
    obtain ⟨i', hl', _⟩ := h x i hl
    rw [hl']; rfl

theorem InfoLe.of_eq {V a b} (h : b = a) : InfoLe V a b := by subst h; exact InfoLe.refl _ _

theorem infoLe_append (V) (a b : List (NodeId × Info)) : InfoLe V a (a ++ b) := by
  intro x i hi
  refine ⟨i, ?_, fun h => h, Or.inl rfl⟩
  rw [lookupNat_append_of_isSome _ _ _ (by rw [hi]; rfl)]; exact hi

theorem infoLe_updInfo (V) (s : RState) (id : NodeId) (f : Info → Info)
    (hb : ∀ i, (f i).base = i.base) (hu : ∀ i, i.uri.isSome = true → (f i).uri.isSome = true) :
    InfoLe V s.infos (s.updInfo id f).infos := by
  intro x i hi
  rw [updInfo_infos_lookup]
  split
  · rw [hi]; exact ⟨f i, rfl, hu i, Or.inl (hb i)⟩
  · exact ⟨i, hi, fun h => h, Or.inl rfl⟩

/-- what checkStructure registers for the document rooted at `r` (nothing when it reports an error) -/
def docNodes (env : Env) (r : NodeId) : List NodeId :=
  match checkStructure env.st (env.st.size + 2) [(r, "")] [] with
  | .ok fresh => ids fresh
  | _ => []

/-- `r.all()` -/
def docAll (env : Env) (r : NodeId) : List NodeId := allNodes env.st (env.st.size + 2) [r]

theorem docNodes_eq (env : Env) (r : NodeId) (fresh : List (NodeId × Info))
    (h : checkStructure env.st (env.st.size + 2) [(r, "")] [] = .ok fresh) : docNodes env r = ids fresh := by
  unfold docNodes; rw [h]

theorem docNodes_ok (env : Env) (r x : NodeId) (h : x ∈ docNodes env r) :
    ∃ fresh, checkStructure env.st (env.st.size + 2) [(r, "")] [] = .ok fresh ∧ docNodes env r = ids fresh := by
  unfold docNodes at h ⊢
  split at h
  · rename_i fresh hc
    exact ⟨fresh, hc, rfl⟩
  · cases h

theorem docNodes_store (env : Env) (r x : NodeId) (h : x ∈ docNodes env r) : (env.st.get? x).isSome = true := by
  obtain ⟨fresh, hc, he⟩ := docNodes_ok env r x h
  rw [he] at h
  exact (C10.checkStructure_accOK_nil hc).2 x h

theorem docNodes_nodup (env : Env) (r : NodeId) : (docNodes env r).Nodup := by
  unfold docNodes
  split
  · rename_i fresh hc
    exact (C10.checkStructure_accOK_nil hc).1
  · exact List.nodup_nil

theorem docNodes_closed (env : Env) (r id : NodeId) (h : id ∈ docNodes env r) (n : Node)
    (hn : env.st.get? id = some n) (c : NodeId) (hc : c ∈ n.children) : c ∈ docNodes env r := by
  obtain ⟨fresh, hcs, he⟩ := docNodes_ok env r id h
  rw [he] at h ⊢
  exact checkStructure_closed env.st _ _ _ _ hcs (fun _ hid => absurd hid (by simp [ids])) id h n hn c hc

theorem docNodes_root (env : Env) (r : NodeId) (fresh : List (NodeId × Info))
    (h : checkStructure env.st (env.st.size + 2) [(r, "")] [] = .ok fresh) : r ∈ docNodes env r := by
  rw [docNodes_eq env r fresh h]; exact checkStructure_root_mem env.st _ r fresh h

theorem docAll_sub (env : Env) (r : NodeId) (h : r ∈ docNodes env r) : ∀ x ∈ docAll env r, x ∈ docNodes env r := by
  obtain ⟨fresh, hcs, he⟩ := docNodes_ok env r r h
  rw [he]
  exact allNodes_sub_checkStructure env.st _ _ r fresh hcs

end RTot
end Go
end JSV
