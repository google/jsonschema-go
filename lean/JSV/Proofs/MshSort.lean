/-
  The order in which MarshalJSON writes keys (C19): the insertion sorts `Go.sortStrings` and `Go.sortKV` return a
  sorted permutation that does not depend on the enumeration order of a map with distinct keys; a sorted list is a
  fixed point of the sort (decidable sortedness: `sortedB`, `strsSortedB`), and `sortKV` commutes with key-preserving
  maps and filters.
-/
import JSV.Model.Marshal
import JSV.Proofs.JsonLookup
import JSV.Proofs.ListFacts
namespace JSV
namespace Go

theorem insertStr_nil (k : String) : insertStr k [] = [k] := rfl
theorem insertStr_cons (k x : String) (xs : List String) :
    insertStr k (x :: xs) = if k ≤ x then k :: x :: xs else x :: insertStr k xs := rfl

theorem insertStr_perm (k : String) (l : List String) : (insertStr k l).Perm (k :: l) :=
  ins_perm (le := (· ≤ ·)) insertStr_nil insertStr_cons k l

theorem sortStrings_perm (l : List String) : (sortStrings l).Perm l :=
  insSort_perm (le := (· ≤ ·)) insertStr_nil insertStr_cons l

theorem sortStrings_sorted (l : List String) : (sortStrings l).Pairwise (· ≤ ·) :=
  insSort_sorted (le := (· ≤ ·)) insertStr_nil insertStr_cons strLe_trans strLe_total l

theorem sortStrings_eq_of_perm {l₁ l₂ : List String} (hp : l₁.Perm l₂) :
    sortStrings l₁ = sortStrings l₂ :=
  insSort_eq_of_perm (le := (· ≤ ·)) insertStr_nil insertStr_cons strLe_trans strLe_total hp fun _ _ _ _ => String.le_antisymm

theorem insertKV_nil {α} (e : String × α) : insertKV e [] = [e] := rfl
theorem insertKV_cons {α} (e x : String × α) (xs : List (String × α)) :
    insertKV e (x :: xs) = if e.1 ≤ x.1 then e :: x :: xs else x :: insertKV e xs := rfl

theorem insertKV_perm {α} (e : String × α) (l : List (String × α)) : (insertKV e l).Perm (e :: l) :=
  ins_perm (le := fun a b => a.1 ≤ b.1) insertKV_nil insertKV_cons e l

theorem sortKV_perm {α} (l : List (String × α)) : (sortKV l).Perm l :=
  insSort_perm (le := fun a b => a.1 ≤ b.1) insertKV_nil insertKV_cons l

theorem sortKV_cons_ne_nil {α} (e : String × α) (es : List (String × α)) : sortKV (e :: es) ≠ [] := by
  intro h0
  have hp := sortKV_perm (e :: es)
  rw [h0] at hp
  exact absurd hp.symm.eq_nil (by simp)

theorem sortKV_sorted {α} (l : List (String × α)) : (sortKV l).Pairwise (fun a b => a.1 ≤ b.1) :=
  insSort_sorted (le := fun a b => a.1 ≤ b.1) insertKV_nil insertKV_cons keyLe_trans keyLe_total l

/-- sorting by key does not depend on the order in which a map with distinct keys is enumerated -/
theorem sortKV_eq_of_perm {α} {l₁ l₂ : List (String × α)} (hp : l₁.Perm l₂)
    (hn : (Json.keys l₁).Nodup) : sortKV l₁ = sortKV l₂ :=
  insSort_eq_of_perm (le := fun a b => a.1 ≤ b.1) insertKV_nil insertKV_cons keyLe_trans keyLe_total hp
    (entry_eq_of_key_le hn)

theorem keys_sortKV_perm {α} (l : List (String × α)) : (Json.keys (sortKV l)).Perm (Json.keys l) :=
  (sortKV_perm l).map _

/-- first block: the PropertyOrder names that are properties -/
def listedKeys {α : Type} (props : List (String × α)) (order : List String) : List String :=
  order.filter fun k => (Json.lookup k props).isSome

/-- second block before sorting -/
def restKeys {α : Type} (props : List (String × α)) (order : List String) : List String :=
  (props.map (·.1)).filter fun k => !(listedKeys props order).contains k

theorem orderedKeys_blocks {α} (props : List (String × α)) (order : List String) :
    orderedKeys props order = listedKeys props order ++ sortStrings (restKeys props order) := rfl

theorem mem_listedKeys {α} {props : List (String × α)} {order : List String} {k : String} :
    k ∈ listedKeys props order ↔ k ∈ order ∧ k ∈ props.map (·.1) := by
  simp only [listedKeys, List.mem_filter, Json.lookup_isSome_iff]

theorem mem_restKeys {α} {props : List (String × α)} {order : List String} {k : String} :
    k ∈ restKeys props order ↔ k ∈ props.map (·.1) ∧ k ∉ order := by
  simp only [restKeys, List.mem_filter, Bool.not_eq_true', List.contains_eq_mem,
    decide_eq_false_iff_not, mem_listedKeys]
  constructor
  · rintro ⟨h1, h2⟩
    exact ⟨h1, fun ho => h2 ⟨ho, h1⟩⟩
  · rintro ⟨h1, h2⟩
    exact ⟨h1, fun h => h2 h.1⟩

theorem orderedKeys_perm_keys {α} {props : List (String × α)} {order : List String}
    (hp : (props.map (·.1)).Nodup) (ho : order.Nodup) :
    (orderedKeys props order).Perm (props.map (·.1)) := by
  rw [orderedKeys_blocks]
  refine (List.Perm.append_left _ (sortStrings_perm _)).trans ?_
  have hl : (listedKeys props order).Nodup := List.Nodup.sublist List.filter_sublist ho
  have hr : (restKeys props order).Nodup := List.Nodup.sublist List.filter_sublist hp
  refine (List.perm_ext_iff_of_nodup ?_ hp).2 ?_
  · rw [List.nodup_append]
    refine ⟨hl, hr, ?_⟩
    intro a ha b hb hab
    subst hab
    exact (mem_restKeys.1 hb).2 (mem_listedKeys.1 ha).1
  · intro k
    rw [List.mem_append, mem_listedKeys, mem_restKeys]
    constructor
    · rintro (h | h)
      · exact h.2
      · exact h.1
    · intro h
      by_cases hk : k ∈ order
      · exact Or.inl ⟨hk, h⟩
      · exact Or.inr ⟨h, hk⟩

theorem listedKeys_eq_of_perm {α} {p₁ p₂ : List (String × α)} (hp : p₁.Perm p₂)
    (hn : (p₁.map (·.1)).Nodup) (order : List String) : listedKeys p₁ order = listedKeys p₂ order := by
  unfold listedKeys
  congr 1
  funext k
  rw [Json.lookup_eq_of_perm hp hn k]

theorem hasDup_iff : ∀ {l : List String}, hasDup l = true ↔ ¬ l.Nodup
  | [] => by simp [hasDup]
  | x :: xs => by
    simp only [hasDup, Bool.or_eq_true, List.contains_eq_mem, decide_eq_true_eq, List.nodup_cons,
      hasDup_iff (l := xs)]
    constructor
    · rintro (h | h) ⟨h1, h2⟩
      · exact h1 h
      · exact h h2
    · intro h
      by_cases hx : x ∈ xs
      · exact Or.inl hx
      · exact Or.inr fun h2 => h ⟨hx, h2⟩

theorem mSchemaEntries_keys {st : Store} {rec : MRec} : ∀ {l : List (String × NodeId)} {es : List (String × Json)},
    mSchemaEntries st rec l = .ok es → es.map (·.1) = l.map (·.1)
  | [], es, h => by cases h; rfl
  | (k, x) :: l, es, h => by
    simp only [mSchemaEntries] at h
    obtain ⟨j, _, h2⟩ := Res.bind_eq_ok h
    obtain ⟨js, h3, h4⟩ := Res.bind_eq_ok h2
    cases h4
    simp only [List.map_cons, mSchemaEntries_keys h3]

theorem orderedKeys_isSome {α} {props : List (String × α)} {order : List String} {k : String}
    (hk : k ∈ orderedKeys props order) : (Json.lookup k props).isSome = true := by
  rw [orderedKeys_blocks, List.mem_append] at hk
  rcases hk with hk | hk
  · exact (List.mem_filter.1 hk).2
  · have := (sortStrings_perm _).mem_iff.1 hk
    exact Json.lookup_isSome_iff.2 (mem_restKeys.1 this).1

theorem filterMap_lookup_keys {α} {props : List (String × α)} : ∀ (ks : List String),
    (∀ k, k ∈ ks → (Json.lookup k props).isSome = true) →
    (ks.filterMap fun k => (Json.lookup k props).map fun v => (k, v)).map (·.1) = ks
  | [], _ => rfl
  | k :: ks, h => by
    have hk := h k List.mem_cons_self
    cases hv : Json.lookup k props with
    | none => rw [hv] at hk; cases hk
    | some v =>
      simp only [List.filterMap_cons, hv, Option.map_some, List.map_cons,
        filterMap_lookup_keys ks (fun k' hk' => h k' (List.mem_cons_of_mem _ hk'))]

theorem mSchemaMap_keys {st : Store} {rec : MRec} {kvs : List (String × NodeId)} {j : Json}
    (h : mSchemaMap st rec kvs = .ok j) :
    ∃ es, j = .obj es ∧ es.map (·.1) = (sortKV kvs).map (·.1) := by
  unfold mSchemaMap at h
  obtain ⟨es, h1, h2⟩ := Res.bind_eq_ok h
  cases h2
  exact ⟨es, rfl, mSchemaEntries_keys h1⟩

theorem sortKV_keys_sorted {α} (kvs : List (String × α)) : ((sortKV kvs).map (·.1)).Pairwise (· ≤ ·) := by
  have h := sortKV_sorted kvs
  rw [List.pairwise_map]
  exact h

def headLe {α : Type} (e : String × α) : List (String × α) → Bool
  | [] => true
  | x :: _ => decide (e.1 ≤ x.1)

def sortedB {α : Type} : List (String × α) → Bool
  | [] => true
  | a :: l => headLe a l && sortedB l

theorem insertKV_of_headLe {α} (e : String × α) (l : List (String × α)) (h : headLe e l = true) :
    insertKV e l = e :: l := by
  cases l with
  | nil => rfl
  | cons x xs =>
    simp only [headLe, decide_eq_true_eq] at h
    simp only [insertKV]
    rw [if_pos h]

theorem sortKV_of_sortedB {α} : ∀ (l : List (String × α)), sortedB l = true → sortKV l = l
  | [], _ => rfl
  | a :: l, h => by
    simp only [sortedB, Bool.and_eq_true] at h
    show insertKV a (sortKV l) = a :: l
    rw [sortKV_of_sortedB l h.2]
    exact insertKV_of_headLe a l h.1

theorem headLe_of_forall {α} (e : String × α) (l : List (String × α)) (h : ∀ x, x ∈ l → e.1 ≤ x.1) :
    headLe e l = true := by
  cases l with
  | nil => rfl
  | cons x xs => simp only [headLe, decide_eq_true_eq]; exact h x List.mem_cons_self

theorem sortedB_of_pairwise {α} : ∀ (l : List (String × α)), l.Pairwise (fun a b => a.1 ≤ b.1) → sortedB l = true
  | [], _ => rfl
  | a :: l, h => by
    rw [List.pairwise_cons] at h
    simp only [sortedB, Bool.and_eq_true]
    exact ⟨headLe_of_forall a l h.1, sortedB_of_pairwise l h.2⟩

theorem sortKV_idem {α} (l : List (String × α)) : sortKV (sortKV l) = sortKV l :=
  sortKV_of_sortedB _ (sortedB_of_pairwise _ (sortKV_sorted l))

def strHeadLe (e : String) : List String → Bool
  | [] => true
  | x :: _ => decide (e ≤ x)

def strsSortedB : List String → Bool
  | [] => true
  | a :: l => strHeadLe a l && strsSortedB l

theorem insertStr_of_headLe (e : String) (l : List String) (h : strHeadLe e l = true) :
    insertStr e l = e :: l := by
  cases l with
  | nil => rfl
  | cons x xs =>
    simp only [strHeadLe, decide_eq_true_eq] at h
    simp only [insertStr]
    rw [if_pos h]

theorem sortStrings_of_sortedB : ∀ (l : List String), strsSortedB l = true → sortStrings l = l
  | [], _ => rfl
  | a :: l, h => by
    simp only [strsSortedB, Bool.and_eq_true] at h
    show insertStr a (sortStrings l) = a :: l
    rw [sortStrings_of_sortedB l h.2]
    exact insertStr_of_headLe a l h.1

section
variable {α β : Type} (f : String × α → Option (String × β)) (hf : ∀ a b, f a = some b → b.1 = a.1)
include hf

theorem headLe_filterMap {e' : String × β} {l : List (String × α)} (h : ∀ x, x ∈ l → e'.1 ≤ x.1) :
    headLe e' (l.filterMap f) = true := by
  refine headLe_of_forall _ _ fun b hb => ?_
  obtain ⟨a, ha, hab⟩ := List.mem_filterMap.1 hb
  rw [hf a b hab]
  exact h a ha

theorem filterMap_insertKV_some {e : String × α} {e' : String × β} (he : f e = some e') :
    ∀ (l : List (String × α)), l.Pairwise (fun a b => a.1 ≤ b.1) →
      (insertKV e l).filterMap f = insertKV e' (l.filterMap f)
  | [], _ => by
    simp only [insertKV, List.filterMap_cons, he, List.filterMap_nil]
  | x :: xs, h => by
    rw [List.pairwise_cons] at h
    have hke : e'.1 = e.1 := hf e e' he
    simp only [insertKV]
    split
    · next hle =>
      rw [List.filterMap_cons, he]
      refine (insertKV_of_headLe e' _ (headLe_filterMap f hf fun a ha => ?_)).symm
      rw [hke]
      rcases List.mem_cons.1 ha with rfl | ha
      · exact hle
      · exact String.le_trans hle (h.1 a ha)
    · next hnle =>
      have ih := filterMap_insertKV_some he xs h.2
      cases hx : f x with
      | none => simp only [List.filterMap_cons, hx, ih]
      | some x' =>
        have hkx : x'.1 = x.1 := hf x x' hx
        simp only [List.filterMap_cons, hx, ih, insertKV]
        rw [if_neg (by rw [hke, hkx]; exact hnle)]

omit hf in
theorem filterMap_insertKV_none {e : String × α} (he : f e = none) :
    ∀ (l : List (String × α)), (insertKV e l).filterMap f = l.filterMap f
  | [] => by simp only [insertKV, List.filterMap_cons, he, List.filterMap_nil]
  | x :: xs => by
    have ih := filterMap_insertKV_none he xs
    simp only [insertKV]
    split
    · rw [List.filterMap_cons, he]
    · cases hx : f x with
      | none => simp only [List.filterMap_cons, hx, ih]
      | some x' => simp only [List.filterMap_cons, hx, ih]

theorem filterMap_sortKV : ∀ (l : List (String × α)), (sortKV l).filterMap f = sortKV (l.filterMap f)
  | [] => rfl
  | a :: l => by
    show (insertKV a (sortKV l)).filterMap f = _
    cases ha : f a with
    | none =>
      rw [filterMap_insertKV_none f ha, filterMap_sortKV l, List.filterMap_cons, ha]
    | some a' =>
      rw [filterMap_insertKV_some f hf ha _ (sortKV_sorted l), filterMap_sortKV l, List.filterMap_cons, ha]
      rfl

end

theorem sortKV_append {α : Type} (a c : List (String × α)) : sortKV (a ++ c) = a.foldr insertKV (sortKV c) := by
  unfold sortKV
  rw [List.foldr_append]

theorem sortKV_append_sortKV {α : Type} (a c : List (String × α)) : sortKV (a ++ sortKV c) = sortKV (a ++ c) := by
  rw [sortKV_append, sortKV_append, sortKV_idem]

theorem insertKV_map_val {α β : Type} (F : String × α → String × β) (hF : ∀ e, (F e).1 = e.1) (e : String × α) :
    ∀ (l : List (String × α)), insertKV (F e) (l.map F) = (insertKV e l).map F
  | [] => rfl
  | x :: xs => by
    simp only [List.map_cons, insertKV, hF]
    split
    · rfl
    · simp only [List.map_cons, insertKV_map_val F hF e xs]

theorem sortKV_map_val {α β : Type} (F : String × α → String × β) (hF : ∀ e, (F e).1 = e.1) :
    ∀ (l : List (String × α)), sortKV (l.map F) = (sortKV l).map F
  | [] => rfl
  | a :: l => by
    show insertKV (F a) (sortKV (l.map F)) = (insertKV a (sortKV l)).map F
    rw [sortKV_map_val F hF l, insertKV_map_val F hF]

end Go
end JSV
