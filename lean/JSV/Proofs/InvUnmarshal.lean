/-
  C18 helpers: unknown keywords in UnmarshalJSON; bridging lemmas between `setMember` (encoding/json's exact-then-
  case-insensitive field matching, known finding D4) and `setField` (one keyword's field).
-/
import JSV.Proofs.SetField
namespace JSV
namespace Go

theorem foldEq_eq_toLower (a b : String) : foldEq a b = (a.toLower == b.toLower) := by
  unfold foldEq String.toLower
  rw [← String.toList_map, ← String.toList_map, Bool.eq_iff_iff, beq_iff_eq, beq_iff_eq]
  exact String.toList_inj

theorem canonKey_of_known {k : String} (h : knownKeys.contains k = true) : canonKey k = k := by
  unfold canonKey
  rw [if_pos h]

theorem canonKey_knownKeys : ∀ k ∈ knownKeys, canonKey k = k :=
  fun _ hk => canonKey_of_known (List.contains_iff_mem.2 hk)

theorem canonKey_of_unfolded {k : String} (h : knownKeys.contains k = false) (hf : isFoldedKey k = false) :
    canonKey k = k := by
  have hany : knownKeys.any (foldEq k) = false := by
    unfold isFoldedKey at hf
    rw [h] at hf
    exact hf
  unfold canonKey
  rw [if_neg (by rw [h]; decide), List.find?_eq_none.2 (List.any_eq_false.1 hany)]
  rfl

theorem canonKey_of_not_mem {k : String} (h : k ∉ knownKeys) (hf : isFoldedKey k = false) : canonKey k = k :=
  canonKey_of_unfolded (Bool.eq_false_iff.2 fun hc => h (List.contains_iff_mem.1 hc)) hf

theorem canonKey_known_of_ne {k : String} (h : canonKey k ≠ k) : knownKeys.contains (canonKey k) = true := by
  unfold canonKey at h ⊢
  split
  · next hc => rw [if_pos hc] at h; exact absurd rfl h
  · next hc =>
    rw [if_neg hc] at h
    cases hfind : knownKeys.find? (foldEq k) with
    | none => rw [hfind] at h; exact absurd rfl h
    | some c => exact List.contains_iff_mem.2 (List.mem_of_find?_eq_some hfind)

/-- a key with `canonKey k ≠ k` is a case variant of a keyword (the class of D4) -/
theorem isFoldedKey_of_canonKey_ne {k : String} (h : canonKey k ≠ k) : isFoldedKey k = true := by
  cases hc : knownKeys.contains k with
  | true => exact absurd (canonKey_of_known hc) h
  | false =>
    cases hf : isFoldedKey k with
    | true => rfl
    | false => exact absurd (canonKey_of_unfolded hc hf) h

theorem setMember_eq_setField (rec : URec) (n : Node) (st : Store) {k : String} (v : Json) (h : canonKey k = k) :
    setMember rec n st k v = setField rec n st k v := by
  unfold setMember
  rw [if_pos (beq_iff_eq.2 h)]

theorem setMember_of_folded (rec : URec) (n : Node) (st : Store) {k : String} (v : Json) (h : canonKey k ≠ k) :
    setMember rec n st k v = (setField rec n st (canonKey k) v).bind fun p =>
      .ok ({ p.1 with extra := some ((p.1.extra.getD []) ++ [(k, v)]) }, p.2) := by
  unfold setMember
  rw [if_neg (fun hb => h (beq_iff_eq.1 hb))]

theorem setFields_cons (rec : URec) (k : String) (v : Json) (rest : List (String × Json)) (n : Node) (st : Store) :
    setFields rec ((k, v) :: rest) n st = Res.bind (setMember rec n st k v) fun p => setFields rec rest p.1 p.2 := rfl

theorem setFields_cons_canon (rec : URec) {k : String} (v : Json) (rest : List (String × Json)) (n : Node) (st : Store)
    (h : canonKey k = k) :
    setFields rec ((k, v) :: rest) n st = Res.bind (setField rec n st k v) fun p => setFields rec rest p.1 p.2 := by
  rw [setFields_cons, setMember_eq_setField rec n st v h]

end Go
namespace Inv
open Go

/-- `Go.setField_unknown` with the hypothesis in the form C18 states it -/
theorem setField_unknown (rec : URec) (n : Node) (st : Store) (k : String) (v : Json)
    (hk : Go.knownKeys.contains k = false) :
    setField rec n st k v = .ok ({ n with extra := some ((n.extra.getD []) ++ [(k, v)]) }, st) :=
  Go.setField_unknown rec n st k v fun h => by rw [List.contains_iff_mem.2 h] at hk; cases hk

/-- `hf` is H_D4: a case variant of a keyword would also set that keyword's field -/
theorem setMember_unknown (rec : URec) (n : Node) (st : Store) (k : String) (v : Json)
    (hk : Go.knownKeys.contains k = false) (hf : Go.isFoldedKey k = false) :
    setMember rec n st k v = .ok ({ n with extra := some ((n.extra.getD []) ++ [(k, v)]) }, st) := by
  rw [setMember_eq_setField rec n st v (canonKey_of_unfolded hk hf), setField_unknown rec n st k v hk]

theorem setFields_append (rec : URec) : ∀ (l1 l2 : List (String × Json)) (n : Node) (st : Store),
    setFields rec (l1 ++ l2) n st = Res.bind (setFields rec l1 n st) fun p => setFields rec l2 p.1 p.2
  | [], l2, n, st => rfl
  | (k, v) :: rest, l2, n, st => by
    simp only [List.cons_append, setFields]
    cases setMember rec n st k v with
    | ok p => simp only [Res.bind_ok]; exact setFields_append rec rest l2 p.1 p.2
    | _ => rfl

theorem decDependencies_withExtra (rec : URec) (e : Option (List (String × Json))) :
    ∀ (kvs : List (String × Json)) (n : Node) (st : Store),
    decDependencies rec kvs (withExtra e n) st = (decDependencies rec kvs n st).bind fun p => .ok (withExtra e p.1, p.2)
  | [], n, st => rfl
  | (k, x) :: rest, n, st => by
    by_cases hx : ∃ xs, x = .arr xs
    · obtain ⟨xs, rfl⟩ := hx
      rw [decDependencies_cons_arr, decDependencies_cons_arr, Res.bind_assoc]
      congr 1; funext sl
      exact decDependencies_withExtra rec e rest
        { n with dependencyStrings := some ((n.dependencyStrings.getD []) ++ [(k, sl)]) } st
    · have hx' : ∀ xs, x ≠ .arr xs := fun xs h => hx ⟨xs, h⟩
      rw [decDependencies_cons rec hx', decDependencies_cons rec hx', Res.bind_assoc]
      congr 1; funext p
      exact decDependencies_withExtra rec e rest
        { n with dependencySchemas := some ((n.dependencySchemas.getD []) ++ [(k, p.1)]) } p.2

theorem setField_withExtra_known (rec : URec) (e : Option (List (String × Json))) (n : Node) (st : Store) (k : String)
    (v : Json) (hk : knownKeys.contains k = true) :
    setField rec (withExtra e n) st k v = (setField rec n st k v).bind fun p => .ok (withExtra e p.1, p.2) := by
  -- `setField_slot` classifies the two results together: at `n` and at `withExtra e n`
  have h := setField_slot rec n st k v e
  generalize setField rec n st k v = r, setField rec (withExtra e n) st k v = r' at h
  cases h with
  | plain d set _ he => simp only [he, Res.bind_assoc]; rfl
  | one _ set he => simp only [he, Res.bind_assoc]; rfl
  | many _ set he => simp only [he, Res.bind_assoc]; rfl
  | keyed _ set he => simp only [he, Res.bind_assoc]; rfl
  | typ => rw [setField_type, setField_type]; cases v <;> first | rfl | (simp only [Res.bind_assoc]; rfl)
  | items => rw [setField_items, setField_items]; cases v <;> simp only [Res.bind_assoc] <;> rfl
  | deps =>
    rw [setField_dependencies, setField_dependencies]
    cases v <;> first | rfl | exact decDependencies_withExtra rec e _ n st
  | extra hk' => exact absurd (List.contains_iff_mem.1 hk) hk'

/-- two outcomes of unmarshalling an object: the same failure, or success with the same store and schema objects that
    differ at most in `Extra` -/
def SameUpToExtra : Res (Node × Store) → Res (Node × Store) → Prop
  | .ok (a, s), .ok (b, t) => (∃ e, a = withExtra e b) ∧ s = t
  | .fuel, .fuel => True
  | .panic, .panic => True
  | .err, .err => True
  | _, _ => False

theorem setFields_withExtra (rec : URec) : ∀ (l : List (String × Json)) (e : Option (List (String × Json))) (m : Node)
    (st : Store), SameUpToExtra (setFields rec l (withExtra e m) st) (setFields rec l m st)
  | [], e, m, st => ⟨⟨e, rfl⟩, rfl⟩
  | (k, v) :: rest, e, m, st => by
    simp only [setFields]
    by_cases hc : canonKey k = k
    · rw [setMember_eq_setField rec _ st v hc, setMember_eq_setField rec _ st v hc]
      cases hk : knownKeys.contains k with
      | true =>
        rw [setField_withExtra_known rec e m st k v hk]
        cases setField rec m st k v with
        | ok p => exact setFields_withExtra rec rest e p.1 p.2
        | _ => trivial
      | false =>
        rw [setField_unknown rec (withExtra e m) st k v hk, setField_unknown rec m st k v hk]
        -- `withExtra` overwrites `extra` only: the node on the left is `withExtra (…) { m with extra := … }` by `rfl`
        exact setFields_withExtra rec rest (some (((withExtra e m).extra.getD []) ++ [(k, v)]))
          { m with extra := some ((m.extra.getD []) ++ [(k, v)]) } st
    · -- a case variant of a keyword: the keyword's field is set (it never looks at `Extra`), then `Extra` grows
      rw [setMember_of_folded rec _ st v hc, setMember_of_folded rec _ st v hc,
        setField_withExtra_known rec e m st (canonKey k) v (canonKey_known_of_ne hc)]
      cases setField rec m st (canonKey k) v with
      | ok p =>
        exact setFields_withExtra rec rest (some (((withExtra e p.1).extra.getD []) ++ [(k, v)]))
          { p.1 with extra := some ((p.1.extra.getD []) ++ [(k, v)]) } p.2
      | _ => trivial

theorem setFields_unknown_anywhere (rec : URec) (l1 l2 : List (String × Json)) (k : String) (v : Json) (n : Node)
    (st : Store) (hk : knownKeys.contains k = false) (hf : isFoldedKey k = false) :
    SameUpToExtra (setFields rec (l1 ++ (k, v) :: l2) n st) (setFields rec (l1 ++ l2) n st) := by
  rw [setFields_append, setFields_append]
  cases setFields rec l1 n st with
  | ok p =>
    simp only [Res.bind_ok, setFields, setMember_unknown rec p.1 p.2 k v hk hf]
    exact setFields_withExtra rec l2 _ p.1 p.2
  | fuel => trivial
  | panic => trivial
  | err => trivial

end Inv
end JSV
