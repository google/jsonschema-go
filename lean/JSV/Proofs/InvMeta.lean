/-
  One call of the evaluator as "look the schema object up, then `stepBody`" (`validateStep_eq_body`; RefineMono, InvRepr
  and InvLater build on this shape), and what `stepBody` depends on.  It does not read the store (`stepBody_store`), and it
  reads a schema object only through the fields `readsOf` keeps (every other field reset to its zero value): every block
  computes the same on `n` and on `readsOf n`.  So a node-wise rewriting of the store that `stepBody` cannot see changes no
  outcome (`validateFuel_map_of`; `validateFuel_map`, `validate_map_of` for C18 and C02).  Then `eraseField` (reset one
  field by its Go name) and `eraseField_preserves`: the fields outside `Generated.validateReads`, `ID` aside, are not read.
-/
import JSV.Model.Validate
import JSV.Model.Unmarshal
import JSV.Generated.Facts
import JSV.Proofs.SpecStep
namespace JSV
namespace Inv
open Go GoVal

/-- the projection of a schema object on the fields `(*state).validate` reads: the 44 fields of
    `Generated.validateReads` plus `id` (read by `schemaString` in the deferred `wrapf`).  All other
    fields are zeroed. -/
def readsOf (n : Node) : Node :=
  { id := n.id, ref := n.ref, dynamicRef := n.dynamicRef,
    type := n.type, types := n.types, enum := n.enum, const := n.const,
    multipleOf := n.multipleOf, minimum := n.minimum, maximum := n.maximum,
    exclusiveMinimum := n.exclusiveMinimum, exclusiveMaximum := n.exclusiveMaximum,
    minLength := n.minLength, maxLength := n.maxLength, pattern := n.pattern,
    prefixItems := n.prefixItems, items := n.items, itemsArray := n.itemsArray,
    minItems := n.minItems, maxItems := n.maxItems, additionalItems := n.additionalItems,
    uniqueItems := n.uniqueItems, contains := n.contains, minContains := n.minContains,
    maxContains := n.maxContains, unevaluatedItems := n.unevaluatedItems,
    minProperties := n.minProperties, maxProperties := n.maxProperties, required := n.required,
    dependentRequired := n.dependentRequired, properties := n.properties,
    patternProperties := n.patternProperties, additionalProperties := n.additionalProperties,
    propertyNames := n.propertyNames, unevaluatedProperties := n.unevaluatedProperties,
    allOf := n.allOf, anyOf := n.anyOf, oneOf := n.oneOf, not := n.not,
    if_ := n.if_, then_ := n.then_, else_ := n.else_, dependentSchemas := n.dependentSchemas,
    dependencySchemas := n.dependencySchemas, dependencyStrings := n.dependencyStrings }

def PreservesReads (f : Node → Node) : Prop := ∀ n, readsOf (f n) = readsOf n

theorem readsOf_idem (n : Node) : readsOf (readsOf n) = readsOf n := by rfl

def stepBody (env : VEnv) (rec : Go.Rec) (stack0 : List NodeId) (inst0 : GoVal) (sid : NodeId) (n : Node) : Res Anns :=
  let stack := stack0 ++ [sid]
  let inst := strip inst0
  let info := env.info? sid
  if n.id == "" && info.isNone then .panic else
  Res.bind (bRef env rec stack n info inst) fun (anns, done) =>
  if done then .ok anns else
  Res.bind (bType n inst) fun _ =>
  Res.bind (bEnum n inst) fun _ =>
  Res.bind (bConst n inst) fun _ =>
  Res.bind (bNumeric n inst) fun _ =>
  Res.bind (bString env n info inst) fun _ =>
  Res.bind (bDynamicRef env rec stack n info inst anns) fun anns =>
  Res.bind (bAllOf rec stack n inst anns) fun anns =>
  Res.bind (bAnyOf rec stack n inst anns) fun anns =>
  Res.bind (bOneOf rec stack n inst anns) fun anns =>
  Res.bind (bNot rec stack n inst anns) fun anns =>
  Res.bind (bIf rec stack n inst anns) fun anns =>
  Res.bind (bArray env rec stack n inst anns) fun anns =>
  bObject env rec stack n info inst anns

theorem validateStep_eq_body (env : VEnv) (rec : Go.Rec) (stack0 : List NodeId) (inst0 : GoVal) (sid : NodeId) :
    validateStep env rec stack0 inst0 sid =
      match env.st.get? sid with
      | none => .panic
      | some n => stepBody env rec stack0 inst0 sid n := by rfl

theorem bRef_reads (env : VEnv) (rec : Go.Rec) (stack : List NodeId) (n : Node) (info : Option Info) (inst : GoVal) :
    bRef env rec stack (readsOf n) info inst = bRef env rec stack n info inst := rfl
theorem bType_reads (n : Node) (inst : GoVal) : bType (readsOf n) inst = bType n inst := rfl
theorem bEnum_reads (n : Node) (inst : GoVal) : bEnum (readsOf n) inst = bEnum n inst := rfl
theorem bConst_reads (n : Node) (inst : GoVal) : bConst (readsOf n) inst = bConst n inst := rfl
theorem bNumeric_reads (n : Node) (inst : GoVal) : bNumeric (readsOf n) inst = bNumeric n inst := rfl
theorem bString_reads (env : VEnv) (n : Node) (info : Option Info) (inst : GoVal) :
    bString env (readsOf n) info inst = bString env n info inst := rfl
theorem bDynamicRef_reads (env : VEnv) (rec : Go.Rec) (stack : List NodeId) (n : Node) (info : Option Info)
    (inst : GoVal) (anns : Anns) :
    bDynamicRef env rec stack (readsOf n) info inst anns = bDynamicRef env rec stack n info inst anns := rfl
theorem bAllOf_reads (rec : Go.Rec) (stack : List NodeId) (n : Node) (inst : GoVal) (anns : Anns) :
    bAllOf rec stack (readsOf n) inst anns = bAllOf rec stack n inst anns := rfl
theorem bAnyOf_reads (rec : Go.Rec) (stack : List NodeId) (n : Node) (inst : GoVal) (anns : Anns) :
    bAnyOf rec stack (readsOf n) inst anns = bAnyOf rec stack n inst anns := rfl
theorem bOneOf_reads (rec : Go.Rec) (stack : List NodeId) (n : Node) (inst : GoVal) (anns : Anns) :
    bOneOf rec stack (readsOf n) inst anns = bOneOf rec stack n inst anns := rfl
theorem bNot_reads (rec : Go.Rec) (stack : List NodeId) (n : Node) (inst : GoVal) (anns : Anns) :
    bNot rec stack (readsOf n) inst anns = bNot rec stack n inst anns := rfl
theorem bIf_reads (rec : Go.Rec) (stack : List NodeId) (n : Node) (inst : GoVal) (anns : Anns) :
    bIf rec stack (readsOf n) inst anns = bIf rec stack n inst anns := rfl
theorem bItems_reads (env : VEnv) (rec : Go.Rec) (stack : List NodeId) (n : Node) (xs : List GoVal) (anns : Anns) :
    bItems env rec stack (readsOf n) xs anns = bItems env rec stack n xs anns := rfl
theorem bContains_reads (d : Draft) (rec : Go.Rec) (stack : List NodeId) (n : Node) (xs : List GoVal) (anns : Anns) :
    bContains d rec stack (readsOf n) xs anns = bContains d rec stack n xs anns := rfl
theorem bArrayLimits_reads (d : Draft) (n : Node) (xs : List GoVal) (cnt : Nat) :
    bArrayLimits d (readsOf n) xs cnt = bArrayLimits d n xs cnt := rfl
theorem bUnique_reads (env : VEnv) (n : Node) (xs : List GoVal) : bUnique env (readsOf n) xs = bUnique env n xs := rfl
theorem bUnevaluatedItems_reads (d : Draft) (rec : Go.Rec) (stack : List NodeId) (n : Node) (xs : List GoVal)
    (anns : Anns) : bUnevaluatedItems d rec stack (readsOf n) xs anns = bUnevaluatedItems d rec stack n xs anns := rfl
theorem bArray_reads (env : VEnv) (rec : Go.Rec) (stack : List NodeId) (n : Node) (inst : GoVal) (anns : Anns) :
    bArray env rec stack (readsOf n) inst anns = bArray env rec stack n inst anns := by rfl
theorem bProps_reads (env : VEnv) (rec : Go.Rec) (stack : List NodeId) (n : Node) (info : Option Info)
    (kvs : List (String × GoVal)) : bProps env rec stack (readsOf n) info kvs = bProps env rec stack n info kvs := rfl
theorem bObjectLimits_reads (n : Node) (info : Option Info) (kvs : List (String × GoVal)) :
    bObjectLimits (readsOf n) info kvs = bObjectLimits n info kvs := rfl
theorem bDependencies_reads (env : VEnv) (rec : Go.Rec) (stack : List NodeId) (n : Node) (inst : GoVal)
    (kvs : List (String × GoVal)) (anns : Anns) :
    bDependencies env rec stack (readsOf n) inst kvs anns = bDependencies env rec stack n inst kvs anns := rfl
theorem bUnevaluatedProps_reads (d : Draft) (rec : Go.Rec) (stack : List NodeId) (n : Node)
    (kvs : List (String × GoVal)) (anns : Anns) :
    bUnevaluatedProps d rec stack (readsOf n) kvs anns = bUnevaluatedProps d rec stack n kvs anns := rfl
theorem bObject_reads (env : VEnv) (rec : Go.Rec) (stack : List NodeId) (n : Node) (info : Option Info) (inst : GoVal)
    (anns : Anns) : bObject env rec stack (readsOf n) info inst anns = bObject env rec stack n info inst anns := by rfl

theorem stepBody_reads (env : VEnv) (rec : Go.Rec) (stack0 : List NodeId) (inst0 : GoVal) (sid : NodeId) (n : Node) :
    stepBody env rec stack0 inst0 sid (readsOf n) = stepBody env rec stack0 inst0 sid n := by rfl

theorem stepBody_congr (env : VEnv) (rec : Go.Rec) (stack0 : List NodeId) (inst0 : GoVal) (sid : NodeId) (n n' : Node)
    (h : readsOf n = readsOf n') :
    stepBody env rec stack0 inst0 sid n = stepBody env rec stack0 inst0 sid n' := by
  rw [← stepBody_reads env rec stack0 inst0 sid n, h, stepBody_reads]

theorem dynLookup_store (env : VEnv) (st : Store) (a : String) :
    ∀ s, dynLookup { env with st := st } a s = dynLookup env a s
  | [] => rfl
  | x :: rest => by
    simp only [dynLookup]
    rw [dynLookup_store env st a rest]
    rfl

theorem patternsLoop_store (env : VEnv) (st : Store) (rec : Go.Rec) (stack : List NodeId) (prop : String) (val : GoVal) :
    ∀ pats hit, patternsLoop { env with st := st } rec stack prop val pats hit = patternsLoop env rec stack prop val pats hit
  | [], _ => rfl
  | (re, sub) :: rest, hit => by
    simp only [patternsLoop]
    rw [patternsLoop_store env st rec stack prop val rest, patternsLoop_store env st rec stack prop val rest]

theorem patternPropsLoop_store (env : VEnv) (st : Store) (rec : Go.Rec) (stack : List NodeId) (pats : List (String × NodeId)) :
    ∀ kvs ev, patternPropsLoop { env with st := st } rec stack pats kvs ev = patternPropsLoop env rec stack pats kvs ev
  | [], _ => rfl
  | (prop, val) :: rest, ev => by
    simp only [patternPropsLoop]
    rw [patternsLoop_store]
    congr 1; funext hit
    exact patternPropsLoop_store env st rec stack pats rest _

theorem bDynamicRef_store (env : VEnv) (st : Store) (rec : Go.Rec) (stack : List NodeId) (n : Node) (info : Option Info)
    (inst : GoVal) (anns : Anns) :
    bDynamicRef { env with st := st } rec stack n info inst anns = bDynamicRef env rec stack n info inst anns := by
  unfold bDynamicRef
  simp only [dynLookup_store]

theorem bProps_store (env : VEnv) (st : Store) (rec : Go.Rec) (stack : List NodeId) (n : Node) (info : Option Info)
    (kvs : List (String × GoVal)) :
    bProps { env with st := st } rec stack n info kvs = bProps env rec stack n info kvs := by
  unfold bProps
  simp only [patternPropsLoop_store]

theorem bObject_store (env : VEnv) (st : Store) (rec : Go.Rec) (stack : List NodeId) (n : Node) (info : Option Info)
    (inst : GoVal) (anns : Anns) :
    bObject { env with st := st } rec stack n info inst anns = bObject env rec stack n info inst anns := by
  unfold bObject
  simp only [bProps_store]
  rfl

theorem stepBody_store (env : VEnv) (st : Store) (rec : Go.Rec) (stack0 : List NodeId) (inst0 : GoVal) (sid : NodeId)
    (n : Node) : stepBody { env with st := st } rec stack0 inst0 sid n = stepBody env rec stack0 inst0 sid n := by
  unfold stepBody
  simp only [bObject_store, bDynamicRef_store]
  rfl

theorem validateFuel_map_of (env : VEnv) (f : Node → Node)
    (hf : ∀ rec stack i s n, stepBody env rec stack i s (f n) = stepBody env rec stack i s n) : ∀ fuel stack i s,
    validateFuel { env with st := env.st.map f } fuel stack i s = validateFuel env fuel stack i s := by
  intro fuel
  induction fuel with
  | zero => intro _ _ _; rfl
  | succ k ih =>
    intro stack i s
    have hrec : validateFuel { env with st := env.st.map f } k = validateFuel env k := by
      funext a b c; exact ih a b c
    show validateStep _ (validateFuel _ k) stack i s = validateStep env (validateFuel env k) stack i s
    rw [validateStep_eq_body, validateStep_eq_body, hrec]
    show (match Store.get? (env.st.map f) s with
          | none => Res.panic
          | some n => stepBody { env with st := env.st.map f } (validateFuel env k) stack i s n) = _
    rw [get?_map]
    cases Store.get? env.st s with
    | none => rfl
    | some n =>
      show stepBody { env with st := env.st.map f } (validateFuel env k) stack i s (f n) = stepBody env _ stack i s n
      rw [stepBody_store]
      exact hf _ stack i s n

theorem validateFuel_map (env : VEnv) (f : Node → Node) (hf : PreservesReads f) : ∀ fuel stack i s,
    validateFuel { env with st := env.st.map f } fuel stack i s = validateFuel env fuel stack i s :=
  validateFuel_map_of env f (fun rec stack i s n => stepBody_congr env rec stack i s (f n) n (hf n))

theorem validate_map_of (env : VEnv) (f : Node → Node) (hs : ∀ n, (f n).schema = n.schema)
    (hf : ∀ fuel stack i s, validateFuel { env with st := env.st.map f } fuel stack i s = validateFuel env fuel stack i s)
    (supported : List String) (fuel : Nat) (root : NodeId) (inst : GoVal) :
    Go.validate { env with st := env.st.map f } supported fuel root inst = Go.validate env supported fuel root inst := by
  unfold Go.validate
  show (match Store.get? (env.st.map f) root with
        | none => Res.panic
        | some rn => if (!supported.contains rn.schema) = true then Res.err
                     else Res.bind (validateFuel { env with st := env.st.map f } fuel [] inst root) fun _ => .ok ()) = _
  rw [get?_map]
  cases Store.get? env.st root with
  | none => rfl
  | some n =>
    show (if (!supported.contains (f n).schema) = true then Res.err
          else Res.bind (validateFuel { env with st := env.st.map f } fuel [] inst root) fun _ => .ok ()) = _
    rw [hs n, hf]

/-- reset the field with the given Go name to its zero value (unknown names: identity) -/
def eraseField (name : String) (n : Node) : Node :=
  match name with
  | "ID" => { n with id := "" }
  | "Schema" => { n with schema := "" }
  | "Ref" => { n with ref := "" }
  | "Comment" => { n with comment := "" }
  | "Defs" => { n with defs := none }
  | "Definitions" => { n with definitions := none }
  | "DependencySchemas" => { n with dependencySchemas := none }
  | "DependencyStrings" => { n with dependencyStrings := none }
  | "Anchor" => { n with anchor := "" }
  | "DynamicAnchor" => { n with dynamicAnchor := "" }
  | "DynamicRef" => { n with dynamicRef := "" }
  | "Vocabulary" => { n with vocabulary := none }
  | "Title" => { n with title := "" }
  | "Description" => { n with description := "" }
  | "Default" => { n with default := none }
  | "Deprecated" => { n with deprecated := false }
  | "ReadOnly" => { n with readOnly := false }
  | "WriteOnly" => { n with writeOnly := false }
  | "Examples" => { n with examples := none }
  | "Type" => { n with type := "" }
  | "Types" => { n with types := none }
  | "Enum" => { n with enum := none }
  | "Const" => { n with const := none }
  | "MultipleOf" => { n with multipleOf := none }
  | "Minimum" => { n with minimum := none }
  | "Maximum" => { n with maximum := none }
  | "ExclusiveMinimum" => { n with exclusiveMinimum := none }
  | "ExclusiveMaximum" => { n with exclusiveMaximum := none }
  | "MinLength" => { n with minLength := none }
  | "MaxLength" => { n with maxLength := none }
  | "Pattern" => { n with pattern := "" }
  | "PrefixItems" => { n with prefixItems := none }
  | "Items" => { n with items := none }
  | "ItemsArray" => { n with itemsArray := none }
  | "MinItems" => { n with minItems := none }
  | "MaxItems" => { n with maxItems := none }
  | "AdditionalItems" => { n with additionalItems := none }
  | "UniqueItems" => { n with uniqueItems := false }
  | "Contains" => { n with contains := none }
  | "MinContains" => { n with minContains := none }
  | "MaxContains" => { n with maxContains := none }
  | "UnevaluatedItems" => { n with unevaluatedItems := none }
  | "MinProperties" => { n with minProperties := none }
  | "MaxProperties" => { n with maxProperties := none }
  | "Required" => { n with required := none }
  | "DependentRequired" => { n with dependentRequired := none }
  | "Properties" => { n with properties := none }
  | "PatternProperties" => { n with patternProperties := none }
  | "AdditionalProperties" => { n with additionalProperties := none }
  | "PropertyNames" => { n with propertyNames := none }
  | "UnevaluatedProperties" => { n with unevaluatedProperties := none }
  | "AllOf" => { n with allOf := none }
  | "AnyOf" => { n with anyOf := none }
  | "OneOf" => { n with oneOf := none }
  | "Not" => { n with not := none }
  | "If" => { n with if_ := none }
  | "Then" => { n with then_ := none }
  | "Else" => { n with else_ := none }
  | "DependentSchemas" => { n with dependentSchemas := none }
  | "ContentEncoding" => { n with contentEncoding := "" }
  | "ContentMediaType" => { n with contentMediaType := "" }
  | "ContentSchema" => { n with contentSchema := none }
  | "Format" => { n with format := "" }
  | "Extra" => { n with extra := none }
  | "PropertyOrder" => { n with propertyOrder := none }
  | _ => n

/-- `eraseField` at the names of the fields whose meaning depends on the draft, in the order of the struct declaration.
    One statement, so that the 66-way string match is unfolded once: each equation alone costs as much as all together. -/
theorem eraseField_draft :
    (∀ m : Node, eraseField "Anchor" m = { m with anchor := "" }) ∧
    (∀ m : Node, eraseField "DynamicAnchor" m = { m with dynamicAnchor := "" }) ∧
    (∀ m : Node, eraseField "DynamicRef" m = { m with dynamicRef := "" }) ∧
    (∀ m : Node, eraseField "PrefixItems" m = { m with prefixItems := none }) ∧
    (∀ m : Node, eraseField "MinContains" m = { m with minContains := none }) ∧
    (∀ m : Node, eraseField "MaxContains" m = { m with maxContains := none }) ∧
    (∀ m : Node, eraseField "UnevaluatedItems" m = { m with unevaluatedItems := none }) ∧
    (∀ m : Node, eraseField "DependentRequired" m = { m with dependentRequired := none }) ∧
    (∀ m : Node, eraseField "UnevaluatedProperties" m = { m with unevaluatedProperties := none }) ∧
    (∀ m : Node, eraseField "DependentSchemas" m = { m with dependentSchemas := none }) ∧
    (∀ m : Node, eraseField "DependencySchemas" m = { m with dependencySchemas := none }) ∧
    (∀ m : Node, eraseField "DependencyStrings" m = { m with dependencyStrings := none }) ∧
    (∀ m : Node, eraseField "ItemsArray" m = { m with itemsArray := none }) ∧
    (∀ m : Node, eraseField "AdditionalItems" m = { m with additionalItems := none }) :=
  ⟨fun _ => rfl, fun _ => rfl, fun _ => rfl, fun _ => rfl, fun _ => rfl, fun _ => rfl, fun _ => rfl, fun _ => rfl, fun _ => rfl, fun _ => rfl, fun _ => rfl, fun _ => rfl, fun _ => rfl, fun _ => rfl⟩

/-- clearing any field, named as in the Go struct, that is neither in the regenerated list of fields
    `(*state).validate` selects nor `ID`, is invisible to the model of the evaluator: the model reads no field
    outside `Generated.validateReads ∪ {ID}`. -/
theorem eraseField_preserves (name : String) (h : name ∉ Generated.validateReads) (hid : name ≠ "ID") :
    PreservesReads (eraseField name) := by
  unfold eraseField
  split <;> first
    | exact absurd (by decide) h
    | exact absurd rfl hid
    | exact fun _ => rfl

end Inv
end JSV
