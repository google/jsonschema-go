/-
  The vocabulary of the draft (`Spec.vocab`): under draft-07 the keywords `minContains`, `maxContains`,
  `unevaluatedItems`, `unevaluatedProperties`, `$dynamicRef` are unknown keywords.  The Spec evaluates the schema object
  with these fields blanked; the evaluator guards its reads by the draft.  The bridge: a block that takes the
  draft, run on the node, is the same block run under 2020-12 on the blanked node — so the block lemmas are
  proved once, for 2020-12 and an arbitrary node.  Also here: the four `beq_*` facts about `Draft` (global simp lemmas),
  `vocab_contains`, and `bItems_eq` (the items block of either draft through `Spec.arrayShape`).
-/
import JSV.Spec.Refine
namespace JSV
namespace Refine
open Go

@[simp] theorem vocab_d2020 (n : Node) : Spec.vocab .d2020 n = n := rfl

theorem vocab_idem (d : Draft) (n : Node) : Spec.vocab d (Spec.vocab d n) = Spec.vocab d n := by
  cases d <;> rfl

@[simp] theorem vocab_d7_minContains (n : Node) : (Spec.vocab .d7 n).minContains = none := rfl
@[simp] theorem vocab_d7_maxContains (n : Node) : (Spec.vocab .d7 n).maxContains = none := rfl
@[simp] theorem vocab_d7_unevaluatedItems (n : Node) : (Spec.vocab .d7 n).unevaluatedItems = none := rfl
@[simp] theorem vocab_d7_unevaluatedProperties (n : Node) : (Spec.vocab .d7 n).unevaluatedProperties = none := rfl
@[simp] theorem vocab_d7_dynamicRef (n : Node) : (Spec.vocab .d7 n).dynamicRef = "" := rfl
@[simp] theorem vocab_contains (d : Draft) (n : Node) : (Spec.vocab d n).contains = n.contains := rfl

theorem vocab_eq_of_env {env : Spec.Env} (hd : env.draft = .d2020) (n : Node) : Spec.vocab env.draft n = n := by
  rw [hd]; rfl

@[simp] theorem beq_d2020_d7 : (Draft.d2020 == Draft.d7) = false := rfl
@[simp] theorem beq_d7_d2020 : (Draft.d7 == Draft.d2020) = false := rfl
@[simp] theorem beq_d7_d7 : (Draft.d7 == Draft.d7) = true := rfl
@[simp] theorem beq_d2020_d2020 : (Draft.d2020 == Draft.d2020) = true := rfl

theorem bContains_vocab (d : Draft) (rec : Go.Rec) (stack : List NodeId) (n : Node) (xs : List GoVal) (anns : Anns) :
    bContains d rec stack n xs anns = bContains .d2020 rec stack (Spec.vocab d n) xs anns := by
  cases d
  · unfold bContains; simp [Spec.vocab]
  · rfl

theorem bArrayLimits_vocab (d : Draft) (n : Node) (xs : List GoVal) (cnt : Nat) :
    bArrayLimits d n xs cnt = bArrayLimits .d2020 (Spec.vocab d n) xs cnt := by
  cases d
  · simp only [bArrayLimits, Spec.vocab, beq_d7_d2020, beq_d2020_d2020, beq_d7_d7, Bool.false_and, Bool.true_and,
      if_true, Bool.false_eq_true, if_false]
  · rfl

theorem bUnevaluatedItems_vocab (d : Draft) (rec : Go.Rec) (stack : List NodeId) (n : Node) (xs : List GoVal)
    (anns : Anns) :
    bUnevaluatedItems d rec stack n xs anns = bUnevaluatedItems .d2020 rec stack (Spec.vocab d n) xs anns := by
  cases d
  · unfold bUnevaluatedItems; simp [Spec.vocab]
  · rfl

theorem bUnevaluatedProps_vocab (d : Draft) (rec : Go.Rec) (stack : List NodeId) (n : Node)
    (kvs : List (String × GoVal)) (anns : Anns) :
    bUnevaluatedProps d rec stack n kvs anns = bUnevaluatedProps .d2020 rec stack (Spec.vocab d n) kvs anns := by
  cases d
  · unfold bUnevaluatedProps; simp [Spec.vocab]
  · rfl

/-- the `$dynamicRef` block reads the draft off the environment: on the node = on the blanked node -/
theorem bDynamicRef_vocab (env : VEnv) (rec : Go.Rec) (stack : List NodeId) (n : Node) (info : Option Info)
    (inst : GoVal) (anns : Anns) :
    bDynamicRef env rec stack n info inst anns = bDynamicRef env rec stack (Spec.vocab env.draft n) info inst anns := by
  unfold bDynamicRef
  cases hd : env.draft
  · simp
  · rfl

theorem bDynamicRef_d7 (env : VEnv) (hd : env.draft = .d7) (rec : Go.Rec) (stack : List NodeId) (n : Node)
    (info : Option Info) (inst : GoVal) (anns : Anns) : bDynamicRef env rec stack n info inst anns = .ok anns := by
  unfold bDynamicRef; simp [hd]

theorem kwDynamicRef_d7 (env : Spec.Env) (sub : NodeId → Json → Spec.Out) (scope : List NodeId) (s : NodeId) (n : Node)
    (j : Json) : Spec.kwDynamicRef env sub scope s (Spec.vocab .d7 n) j = some (some {}) := by
  simp [Spec.kwDynamicRef]

theorem bUnevaluatedItems_d7 (rec : Go.Rec) (stack : List NodeId) (n : Node) (xs : List GoVal) (anns : Anns) :
    bUnevaluatedItems .d7 rec stack n xs anns = .ok anns := rfl

theorem bUnevaluatedProps_d7 (rec : Go.Rec) (stack : List NodeId) (n : Node) (kvs : List (String × GoVal))
    (anns : Anns) : bUnevaluatedProps .d7 rec stack n kvs anns = .ok anns := rfl

/-- the items block read through the Spec's `arrayShape`: the positional schemas, then the schema for the rest -/
theorem bItems_eq (env : VEnv) (rec : Go.Rec) (stack : List NodeId) (n : Node) (xs : List GoVal) (anns : Anns) :
    bItems env rec stack n xs anns =
      Res.bind (prefixLoop rec stack (Spec.arrayShape (specEnvOf env) n).1 xs) fun _ =>
        match (Spec.arrayShape (specEnvOf env) n).2 with
        | some t =>
          Res.bind (eachItem rec stack t (xs.drop (Spec.arrayShape (specEnvOf env) n).1.length)) fun _ =>
            .ok { anns.noteEndIndex (min (Spec.arrayShape (specEnvOf env) n).1.length xs.length) with allItems := true }
        | none => .ok (anns.noteEndIndex (min (Spec.arrayShape (specEnvOf env) n).1.length xs.length)) := by
  have hd : (specEnvOf env).draft = env.draft := rfl
  unfold bItems Spec.arrayShape
  rw [hd]
  cases env.draft with
  | d2020 => rfl
  | d7 =>
    cases n.itemsArray with
    | some ia => rfl
    | none => cases n.items <;> rfl

end Refine
end JSV
