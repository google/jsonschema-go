/-
  C16 / C04 (embedded fields): on the domain `InDomainE`, reflect.VisibleFields restricted to the
  live fields (exported, not embedded, not `json:"-"`) is encoding/json's `typeFields`, field by field and in the
  same order: Go's selector shadowing and encoding/json's dominance coincide.  Also here: the views of an embedded type
  (`EmbIs`, `EmbNot`) with the induction over struct trees (`GoTypeE.ind_wt`), and, in the second part, the equations of
  `inferStepE` per shape of type, "on the domain the result is a schema" (`RecSomeE`) and the names of the struct schema
  (`inferStepE_struct_names`).
-/
import JSV.Proofs.InfEmbNames
import JSV.Proofs.InfModels
namespace JSV
namespace EncJsonEmb
open Go

mutual
  /-- the measure of `GoTypeE.ind_wt`: the fields of an embedded struct weigh less than the field that embeds it -/
  def wt : GoTypeE → Nat
    | .basic _ => 0
    | .named _ u => wt u + 1
    | .ref _ => 0
    | .ptr e => wt e + 1
    | .slice e => wt e + 1
    | .array _ e => wt e + 1
    | .map _ e => wt e + 1
    | .struct fs => wtFs fs + 1
  def wtFs : List (FieldE GoTypeE) → Nat
    | [] => 0
    | f :: rest => wt f.type + wtFs rest + 1
end

def headV (pre : List Nat) (i : Nat) (g : FieldE GoTypeE) : VField :=
  { index := pre ++ [i], goName := g.goName, tag := g.tag, exported := g.exported, anonymous := g.embedded, type := g.type }

theorem headV_mem (pre : List Nat) (i : Nat) (g : FieldE GoTypeE) (rest : List (FieldE GoTypeE)) :
    headV pre i g ∈ allFields pre i (g :: rest) := by
  simp only [allFields, headV, List.mem_cons, true_or]

end EncJsonEmb

namespace Go
open EncJsonEmb EncJson

/-- `t` is the type of an embedded struct with the fields `fs` (by value or by pointer, declared or not) -/
inductive EmbIs : GoTypeE → List (FieldE GoTypeE) → Prop
  | ptrNamed (n : String) (fs : List (FieldE GoTypeE)) : EmbIs (.ptr (.named n (.struct fs))) fs
  | ptrStruct (fs : List (FieldE GoTypeE)) : EmbIs (.ptr (.struct fs)) fs
  | named (n : String) (fs : List (FieldE GoTypeE)) : EmbIs (.named n (.struct fs)) fs
  | struct (fs : List (FieldE GoTypeE)) : EmbIs (.struct fs) fs

/-- … or it is none of them, and every function on embedded types takes its default -/
structure EmbNot (t : GoTypeE) : Prop where
  erase : eraseEmbE t = t
  fields : ∀ idx, embFields idx t = []
  cands : ∀ idx, embCandidates idx t = []
  hasType : ∀ v, HasTypeEmbE t v = False
  encode : ∀ all idx v, encodeEmbE all idx t v = []
  namedOk : ∀ opts seen, namedOkEmbE opts seen t = true
  decodeFind : ∀ all m idx k v, decodableEmbFindE all m idx t k v = none

theorem embIs_or_not (t : GoTypeE) : (∃ fs, EmbIs t fs) ∨ EmbNot t := by
  cases t with
  | ptr e =>
    cases e with
    | named nm u =>
      cases u with
      | struct fs => exact Or.inl ⟨fs, .ptrNamed nm fs⟩
      | _ => exact Or.inr ⟨rfl, fun _ => rfl, fun _ => rfl, fun _ => rfl, fun _ _ _ => rfl, fun _ _ => rfl, fun _ _ _ _ _ => rfl⟩
    | struct fs => exact Or.inl ⟨fs, .ptrStruct fs⟩
    | _ => exact Or.inr ⟨rfl, fun _ => rfl, fun _ => rfl, fun _ => rfl, fun _ _ _ => rfl, fun _ _ => rfl, fun _ _ _ _ _ => rfl⟩
  | named nm u =>
    cases u with
    | struct fs => exact Or.inl ⟨fs, .named nm fs⟩
    | _ => exact Or.inr ⟨rfl, fun _ => rfl, fun _ => rfl, fun _ => rfl, fun _ _ _ => rfl, fun _ _ => rfl, fun _ _ _ _ _ => rfl⟩
  | struct fs => exact Or.inl ⟨fs, .struct fs⟩
  | _ => exact Or.inr ⟨rfl, fun _ => rfl, fun _ => rfl, fun _ => rfl, fun _ _ _ => rfl, fun _ _ => rfl, fun _ _ _ _ _ => rfl⟩

theorem EmbIs.wt_lt {t : GoTypeE} {fs : List (FieldE GoTypeE)} (h : EmbIs t fs) : wtFs fs < EncJsonEmb.wt t := by
  cases h <;> simp only [EncJsonEmb.wt] <;> omega

theorem EmbIs.erase {t : GoTypeE} {fs : List (FieldE GoTypeE)} (h : EmbIs t fs) : EmbIs (eraseEmbE t) (eraseFieldsE fs) := by
  cases h
  · exact .ptrNamed _ _
  · exact .ptrStruct _
  · exact .named _ _
  · exact .struct _

theorem EmbIs.fields {t : GoTypeE} {fs : List (FieldE GoTypeE)} (h : EmbIs t fs) (idx : List Nat) :
    embFields idx t = allFields idx 0 fs := by
  cases h <;> rfl

theorem EmbIs.namedOk {t : GoTypeE} {fs : List (FieldE GoTypeE)} (h : EmbIs t fs) (opts : IOpts) (seen : List String) :
    namedOkEmbE opts seen t = namedOkFieldsE opts seen fs := by
  cases h <;> rfl

theorem typeNameE_eraseEmbE (t : GoTypeE) : typeNameE (eraseEmbE t) = typeNameE t := by
  rcases embIs_or_not t with ⟨fs, h⟩ | h
  · cases h <;> rfl
  · rw [h.erase]

theorem EmbIs.inDomain {t : GoTypeE} {fs : List (FieldE GoTypeE)} (h : EmbIs t fs) (hd : inDomainEmbE t = true) :
    inDomainFieldsE fs = true := by
  cases h with
  | ptrNamed _ fs | named _ fs => exact hd
  | ptrStruct fs | struct fs => cases hd

theorem EmbIs.decodableFind {t : GoTypeE} {fs : List (FieldE GoTypeE)} (h : EmbIs t fs) (all : List TField)
    (m : String → String → Bool) (idx : List Nat) (k : String) (v : Json) :
    decodableEmbFindE all m idx t k v = decodableFindE all m idx 0 fs k v := by
  cases h <;> rfl

theorem EmbIs.cands {t : GoTypeE} {fs : List (FieldE GoTypeE)} (h : EmbIs t fs) (idx : List Nat) :
    embCandidates idx t = candidates idx 0 fs := by
  cases h <;> rfl

theorem EmbIs.isStruct {t : GoTypeE} {fs : List (FieldE GoTypeE)} (h : EmbIs t fs) : isStructE (derefE t) = true := by
  cases h <;> rfl

theorem EmbIs.of_inDomain {t : GoTypeE} (h : inDomainEmbE t = true) : ∃ fs, EmbIs t fs ∧ inDomainFieldsE fs = true := by
  unfold inDomainEmbE at h
  split at h
  · exact ⟨_, .ptrNamed _ _, h⟩
  · exact ⟨_, .named _ _, h⟩
  · cases h

/-- induction over the types with the struct of an embedded field as a predecessor of the field -/
theorem GoTypeE.ind_wt {P : GoTypeE → Prop} {Q : List (FieldE GoTypeE) → Prop}
    (basic : ∀ k, P (.basic k)) (ref : ∀ n, P (.ref n)) (named : ∀ n u, P u → P (.named n u))
    (ptr : ∀ e, P e → P (.ptr e)) (slice : ∀ e, P e → P (.slice e)) (array : ∀ n e, P e → P (.array n e))
    (map : ∀ k e, P e → P (.map k e)) (struct : ∀ fs, Q fs → P (.struct fs)) (nil : Q [])
    (cons : ∀ f rest, P f.type → (∀ fs, EmbIs f.type fs → Q fs) → Q rest → Q (f :: rest)) :
    (∀ T, P T) ∧ ∀ fs, Q fs := by
  have key : ∀ n, (∀ T, EncJsonEmb.wt T ≤ n → P T) ∧ (∀ fs, wtFs fs ≤ n → Q fs) := by
    intro n
    induction n with
    | zero =>
      refine ⟨fun T h => ?_, fun fs h => ?_⟩
      · cases T with
        | basic k => exact basic k
        | ref n => exact ref n
        | _ => simp only [EncJsonEmb.wt] at h; omega
      · cases fs with
        | nil => exact nil
        | cons f rest => simp only [wtFs] at h; omega
    | succ n ih =>
      refine ⟨fun T h => ?_, fun fs h => ?_⟩
      · cases T with
        | basic k => exact basic k
        | ref n => exact ref n
        | named k u => exact named k u (ih.1 u (by simp only [EncJsonEmb.wt] at h; omega))
        | ptr e => exact ptr e (ih.1 e (by simp only [EncJsonEmb.wt] at h; omega))
        | slice e => exact slice e (ih.1 e (by simp only [EncJsonEmb.wt] at h; omega))
        | array k e => exact array k e (ih.1 e (by simp only [EncJsonEmb.wt] at h; omega))
        | map k e => exact map k e (ih.1 e (by simp only [EncJsonEmb.wt] at h; omega))
        | struct fs => exact struct fs (ih.2 fs (by simp only [EncJsonEmb.wt] at h; omega))
      · cases fs with
        | nil => exact nil
        | cons f rest =>
          simp only [wtFs] at h
          exact cons f rest (ih.1 _ (by omega)) (fun fs hf => ih.2 fs (by have := hf.wt_lt; omega)) (ih.2 rest (by omega))
  exact ⟨fun T => (key _).1 T (Nat.le_refl _), fun fs => (key _).2 fs (Nat.le_refl _)⟩

/-- … for statements about field lists alone -/
theorem GoTypeE.ind_fields {Q : List (FieldE GoTypeE) → Prop} (nil : Q [])
    (cons : ∀ f rest, (∀ fs, EmbIs f.type fs → Q fs) → Q rest → Q (f :: rest)) : ∀ fs, Q fs :=
  (GoTypeE.ind_wt (P := fun _ => True) (fun _ => trivial) (fun _ => trivial) (fun _ _ _ => trivial) (fun _ _ => trivial)
    (fun _ _ => trivial) (fun _ _ _ => trivial) (fun _ _ _ => trivial) (fun _ _ => trivial) nil
    (fun f rest _ => cons f rest)).2

theorem mem_allFields_tail {g : FieldE GoTypeE} {rest : List (FieldE GoTypeE)} {pre : List Nat} {i : Nat} {f : VField}
    (h : f ∈ allFields pre (i + 1) rest) : f ∈ allFields pre i (g :: rest) := by
  simp only [allFields, List.mem_cons, List.mem_append]
  exact Or.inr (Or.inr h)

theorem EmbIs.mem_allFields {g : FieldE GoTypeE} {fs : List (FieldE GoTypeE)} (hg : EmbIs g.type fs) (he : g.embedded = true)
    {rest : List (FieldE GoTypeE)} {pre : List Nat} {i : Nat} {f : VField} (h : f ∈ allFields (pre ++ [i]) 0 fs) :
    f ∈ allFields pre i (g :: rest) := by
  simp only [allFields, List.mem_cons, List.mem_append, he, if_true, hg.fields]
  exact Or.inr (Or.inl h)

theorem mem_allFields_cons {g : FieldE GoTypeE} {rest : List (FieldE GoTypeE)} {pre : List Nat} {i : Nat} {f : VField}
    (h : f ∈ allFields pre i (g :: rest)) :
    f = headV pre i g ∨ (g.embedded = true ∧ ∃ fs, EmbIs g.type fs ∧ f ∈ allFields (pre ++ [i]) 0 fs) ∨
      f ∈ allFields pre (i + 1) rest := by
  simp only [allFields, List.mem_cons, List.mem_append] at h
  rcases h with h | h | h
  · exact Or.inl h
  · cases he : g.embedded with
    | false => simp [he] at h
    | true =>
      simp only [he, if_true] at h
      rcases embIs_or_not g.type with ⟨fs, hg⟩ | hg
      · rw [hg.fields] at h
        exact Or.inr (Or.inl ⟨rfl, fs, hg, h⟩)
      · rw [hg.fields] at h
        cases h
  · exact Or.inr (Or.inr h)

end Go

namespace EncJsonEmb
open Go

/-- the encoding/json `field` of a live field -/
def toT (f : VField) : TField :=
  { index := f.index, name := jsonNameOf f, tagged := jsonTagName f.tag != "",
    omitempty := (fieldJSONInfo f.goName f.tag).omitempty, omitzero := (fieldJSONInfo f.goName f.tag).omitzero,
    type := f.type }

theorem fieldJSONInfo_untagged {g tag : String} (h : (tagLookup "json" tag).isNone = true) :
    (fieldJSONInfo g tag).omitted = false ∧ jsonTagName tag = "" := by
  have hn : tagLookup "json" tag = none := by
    cases ht : tagLookup "json" tag with
    | none => rfl
    | some t => rw [ht] at h; cases h
  unfold fieldJSONInfo jsonTagName
  rw [hn]
  exact ⟨rfl, rfl⟩

theorem classify_descend {f : FieldE GoTypeE} (he : f.embedded = true) (hx : f.exported = true)
    (ht : (tagLookup "json" f.tag).isNone = true) (hs : isStructE (derefE f.type) = true) : classify f = .descend := by
  obtain ⟨ho, hn⟩ := fieldJSONInfo_untagged (g := f.goName) ht
  unfold classify
  simp [he, hx, ho, hn, hs]

theorem live_mk (idx : List Nat) (g tag : String) (ex an : Bool) (ty : GoTypeE) :
    live { index := idx, goName := g, tag := tag, exported := ex, anonymous := an, type := ty } =
      (!an && ex && !(fieldJSONInfo g tag).omitted) := rfl

/-- in the domain a field is either embedded and explored, or a leaf, or ignored -/
theorem classify_domain {f : FieldE GoTypeE}
    (hd : (if f.embedded then f.exported && (tagLookup "json" f.tag).isNone && inDomainEmbE f.type
       else !f.exported || (fieldJSONInfo f.goName f.tag).omitted || (EncJson.fieldTagOk f.goName f.tag && InDomainE f.type)) = true) :
    (f.embedded = true ∧ classify f = .descend ∧ inDomainEmbE f.type = true) ∨
    (f.embedded = false ∧ classify f = .ignored ∧ (f.exported = false ∨ (fieldJSONInfo f.goName f.tag).omitted = true)) ∨
    (f.embedded = false ∧ classify f = .leaf ∧ f.exported = true ∧ (fieldJSONInfo f.goName f.tag).omitted = false ∧
      InDomainE f.type = true) := by
  cases he : f.embedded with
  | true =>
    rw [he] at hd
    simp only [if_true, Bool.and_eq_true] at hd
    obtain ⟨fs, hg, _⟩ := EmbIs.of_inDomain hd.2
    exact Or.inl ⟨rfl, classify_descend he hd.1.1 hd.1.2 hg.isStruct, hd.2⟩
  | false =>
    rw [he] at hd
    simp only [Bool.false_eq_true, if_false, Bool.or_eq_true, Bool.not_eq_true', Bool.and_eq_true] at hd
    refine Or.inr ?_
    cases hx : f.exported with
    | false =>
      have hc : classify f = .ignored := by unfold classify; simp [he, hx]
      exact Or.inl ⟨rfl, hc, Or.inl rfl⟩
    | true =>
      cases ho : (fieldJSONInfo f.goName f.tag).omitted with
      | true =>
        have hc : classify f = .ignored := by unfold classify; simp [he, hx, ho]
        exact Or.inl ⟨rfl, hc, Or.inr rfl⟩
      | false =>
        have hc : classify f = .leaf := by unfold classify; simp [he, hx, ho]
        refine Or.inr ⟨rfl, hc, rfl, rfl, ?_⟩
        rcases hd with (h | h) | h
        · rw [hx] at h; cases h
        · rw [ho] at h; cases h
        · exact h.2

theorem candidates_eq : ∀ (fs : List (FieldE GoTypeE)) (pre : List Nat) (i : Nat), inDomainFieldsE fs = true →
    candidates pre i fs = ((allFields pre i fs).filter live).map toT := by
  refine GoTypeE.ind_fields (fun _ _ _ => rfl) fun f rest ihE ihR pre i hd => ?_
  simp only [inDomainFieldsE, Bool.and_eq_true] at hd
  simp only [candidates, allFields]
  rw [List.filter_cons, List.filter_append, ihR pre (i + 1) hd.2]
  rcases classify_domain hd.1 with ⟨he, hc, hde⟩ | ⟨he, hc, hbad⟩ | ⟨he, hc, hx, ho, _⟩
  · obtain ⟨fs', hg, hdf⟩ := EmbIs.of_inDomain hde
    simp only [hc, live_mk, he, Bool.not_true, Bool.false_and, Bool.false_eq_true, if_false, if_true, hg.fields, hg.cands,
      List.map_append]
    rw [ihE fs' hg (pre ++ [i]) 0 hdf]
  · rcases hbad with h | h <;> simp [hc, live_mk, he, h]
  · simp only [hc, live_mk, he, hx, ho, Bool.not_false, Bool.and_true, Bool.false_eq_true, if_false, if_true,
      List.filter_nil, List.nil_append, List.map_cons, List.singleton_append]
    rfl

/-- `pairOk` as a proposition -/
def PairOk (a b : VField) : Prop :=
  (a.goName = b.goName → live a = true ∧ live b = true ∧ a.index.length ≠ b.index.length ∧ jsonNameOf a = jsonNameOf b) ∧
  (live a = true → live b = true → jsonNameOf a = jsonNameOf b → a.goName = b.goName)

theorem pairOk_iff (a b : VField) : pairOk a b = true ↔ PairOk a b := by
  unfold pairOk PairOk
  by_cases hg : a.goName = b.goName <;> by_cases hj : jsonNameOf a = jsonNameOf b <;>
    cases live a <;> cases live b <;> simp [hg, hj]

theorem PairOk.symm {a b : VField} (h : PairOk a b) : PairOk b a :=
  ⟨fun hg => by
    obtain ⟨x, y, z, w⟩ := h.1 hg.symm
    exact ⟨y, x, fun e => z e.symm, w.symm⟩,
   fun hb ha hj => (h.2 ha hb hj.symm).symm⟩

theorem namesOk_pairwise : ∀ {l : List VField}, namesOk l = true → l.Pairwise PairOk
  | [], _ => List.Pairwise.nil
  | x :: l, h => by
    simp only [namesOk, Bool.and_eq_true, List.all_eq_true] at h
    exact List.Pairwise.cons (fun b hb => (pairOk_iff _ _).1 (h.1 b hb)) (namesOk_pairwise h.2)

theorem namesOk_mem {l : List VField} (h : namesOk l = true) {a b : VField} (ha : a ∈ l) (hb : b ∈ l) : a = b ∨ PairOk a b :=
  List.Pairwise.forall_of_forall_of_flip (R := fun a b => a = b ∨ PairOk a b) (fun _ _ => Or.inl rfl)
    ((namesOk_pairwise h).imp Or.inr) ((namesOk_pairwise h).imp fun hp => Or.inr hp.symm) ha hb

theorem isVisible_iff (all : List VField) (f : VField) :
    isVisible all f = true ↔ ∀ o, o ∈ all → o.index = f.index ∨ o.goName ≠ f.goName ∨ f.index.length < o.index.length := by
  unfold isVisible
  simp only [List.all_eq_true, Bool.or_eq_true, beq_iff_eq, bne_iff_ne, ne_eq, decide_eq_true_eq, or_assoc]

theorem isDominant_iff (all : List TField) (f : TField) :
    isDominant all f = true ↔ ∀ o, o ∈ all → o.index = f.index ∨ o.name ≠ f.name ∨ dominates f o = true := by
  unfold isDominant
  simp only [List.all_eq_true, Bool.or_eq_true, beq_iff_eq, bne_iff_ne, ne_eq, or_assoc]

/-- on a tree that satisfies `namesOk`, a live field is visible (Go) iff it is dominant (encoding/json) -/
theorem visible_eq_dominant {all : List VField} (hok : namesOk all = true) {f : VField} (hf : f ∈ all) (hl : live f = true) :
    isVisible all f = isDominant ((all.filter live).map toT) (toT f) := by
  rw [Bool.eq_iff_iff, isVisible_iff, isDominant_iff]
  constructor
  · intro hv c hc
    obtain ⟨o, ho, rfl⟩ := List.mem_map.1 hc
    obtain ⟨ho, hlo⟩ := List.mem_filter.1 ho
    show o.index = f.index ∨ jsonNameOf o ≠ jsonNameOf f ∨ _
    by_cases hj : jsonNameOf o = jsonNameOf f
    · rcases namesOk_mem hok ho hf with rfl | hp
      · exact Or.inl rfl
      · rcases hv o ho with h | h | h
        · exact Or.inl h
        · exact absurd (hp.2 hlo hl hj) h
        · refine Or.inr (Or.inr ?_)
          unfold dominates
          simp [toT, h]
    · exact Or.inr (Or.inl hj)
  · intro hd o ho
    by_cases hg : o.goName = f.goName
    · rcases namesOk_mem hok ho hf with rfl | hp
      · exact Or.inl rfl
      · obtain ⟨hlo, _, hne, hj⟩ := hp.1 hg
        rcases hd (toT o) (List.mem_map.2 ⟨o, List.mem_filter.2 ⟨ho, hlo⟩, rfl⟩) with h | h | h
        · exact Or.inl h
        · exact absurd hj h
        · refine Or.inr (Or.inr ?_)
          unfold dominates at h
          simp only [toT, Bool.or_eq_true, Bool.and_eq_true, beq_iff_eq] at h
          rcases h with h | h
          · exact of_decide_eq_true h
          · exact absurd h.1.1.symm hne
    · exact Or.inr (Or.inl hg)

theorem typeFields_eq {fs : List (FieldE GoTypeE)} (hok : namesOk (allFields [] 0 fs) = true)
    (hd : inDomainFieldsE fs = true) : typeFields fs = ((visibleFields fs).filter live).map toT := by
  unfold typeFields visibleFields
  rw [candidates_eq fs [] 0 hd, List.filter_map, List.filter_filter, List.filter_filter]
  congr 1
  refine List.filter_congr fun f hf => ?_
  simp only [Function.comp]
  cases hl : live f with
  | false => simp
  | true =>
    rw [← visible_eq_dominant hok hf hl]
    simp

theorem fieldNames_eq {fs : List (FieldE GoTypeE)} (hok : namesOk (allFields [] 0 fs) = true)
    (hd : inDomainFieldsE fs = true) : fieldNames fs = loopNames (visibleFields fs) := by
  unfold fieldNames loopNames
  rw [typeFields_eq hok hd, List.map_map]
  rfl

theorem alwaysFieldNames_eq {fs : List (FieldE GoTypeE)} (hok : namesOk (allFields [] 0 fs) = true)
    (hd : inDomainFieldsE fs = true) : alwaysFieldNames fs = loopAlways (visibleFields fs) := by
  unfold alwaysFieldNames loopAlways
  rw [typeFields_eq hok hd, List.filter_map, List.map_map, List.filter_filter]
  congr 1
  refine List.filter_congr fun f _ => ?_
  simp only [Function.comp, alwaysLive, toT]
  cases live f <;> simp

theorem loopNames_nodup {fs : List (FieldE GoTypeE)} (hok : namesOk (allFields [] 0 fs) = true) :
    (loopNames (visibleFields fs)).Nodup := by
  unfold loopNames visibleFields
  rw [List.filter_filter]
  have hp := namesOk_pairwise hok
  have hall : ∀ f, f ∈ allFields [] 0 fs → f ∈ allFields [] 0 fs := fun _ h => h
  generalize allFields [] 0 fs = all at hp hall ⊢
  -- `all` in the visibility test is fixed; induct on the list that is filtered
  suffices h : ∀ l : List VField, l.Pairwise PairOk → (∀ f, f ∈ l → f ∈ all) →
      ((l.filter fun f => live f && isVisible all f).map jsonNameOf).Nodup from h all hp hall
  intro l
  induction l with
  | nil => intro _ _; simp
  | cons a l ih =>
    intro hpw hsub
    rw [List.pairwise_cons] at hpw
    have ih' := ih hpw.2 fun f hf => hsub f (List.mem_cons_of_mem _ hf)
    rw [List.filter_cons]
    split
    · rename_i hc
      simp only [Bool.and_eq_true] at hc
      rw [List.map_cons, List.nodup_cons]
      refine ⟨fun hmem => ?_, ih'⟩
      obtain ⟨b, hb, hj⟩ := List.mem_map.1 hmem
      obtain ⟨hbl, hbc⟩ := List.mem_filter.1 hb
      simp only [Bool.and_eq_true] at hbc
      have hpab := hpw.1 b hbl
      have hg := hpab.2 hc.1 hbc.1 hj.symm
      obtain ⟨_, _, hne, _⟩ := hpab.1 hg
      -- each of the two hides the other
      have ha_in := hsub a List.mem_cons_self
      have hb_in := hsub b (List.mem_cons_of_mem _ hbl)
      rcases (isVisible_iff all a).1 hc.2 b hb_in with h | h | h
      · exact hne (by rw [h])
      · exact h hg.symm
      · rcases (isVisible_iff all b).1 hbc.2 a ha_in with h' | h' | h'
        · exact hne (by rw [h'])
        · exact h' hg
        · omega
    · exact ih'

theorem allFields_domain : ∀ (fs : List (FieldE GoTypeE)) (pre : List Nat) (i : Nat), inDomainFieldsE fs = true →
    ∀ f, f ∈ allFields pre i fs → live f = true → InDomainE f.type = true := by
  refine GoTypeE.ind_fields (fun _ _ _ _ hf => nomatch hf) fun g rest ihE ihR pre i hd f hf hl => ?_
  simp only [inDomainFieldsE, Bool.and_eq_true] at hd
  rcases mem_allFields_cons hf with rfl | ⟨he, fs', hg, hf⟩ | hf
  · rw [headV, live_mk] at hl
    simp only [Bool.and_eq_true, Bool.not_eq_true'] at hl
    have h1 := hd.1
    simp only [hl.1.1, Bool.false_eq_true, if_false, hl.1.2, Bool.not_true, hl.2, Bool.false_or, Bool.and_eq_true] at h1
    exact h1.2
  · have h1 := hd.1
    simp only [he, if_true, Bool.and_eq_true] at h1
    exact ihE fs' hg _ 0 (hg.inDomain h1.2) f hf hl
  · exact ihR pre (i + 1) hd.2 f hf hl

end EncJsonEmb
end JSV

namespace JSV
namespace Go
open EncJsonEmb EncJson

theorem inferStepE_basic {opts : IOpts} {rec : IRecE} {t0 : GoTypeE} {kind : String} {an : Bool} {seen : List String}
    {st : Store} (h : stripPtrsE t0 = (.basic kind, an)) :
    inferStepE opts rec t0 seen st =
      match kindEntry kind with
      | some (ty, mn, mx) => .ok (some st.size, st.push (addNull an (basicNode ty mn mx)))
      | none => if opts.ignore then .ok (none, st) else .err := by
  rw [inferStepE_eq, h]
  simp only [underE, shapeOfE]
  cases kindEntry kind <;> rfl

theorem inferStepE_map {opts : IOpts} {rec : IRecE} {t0 : GoTypeE} {keyKind : String} {e : GoTypeE} {an : Bool}
    {seen : List String} {st : Store} (h : stripPtrsE t0 = (.map keyKind e, an)) :
    inferStepE opts rec t0 seen st =
      if keyKind != "String" then (if opts.ignore then .ok (none, st) else .err)
      else Res.bind (rec e seen st) fun r =>
        match r.1 with
        | none => .ok (none, r.2)
        | some eid => .ok (some r.2.size, r.2.push (addNull an (mapNode eid))) := by
  rw [inferStepE_eq, h]
  simp only [underE, shapeOfE]
  cases (keyKind != "String") <;> rfl

theorem inferStepE_slice {opts : IOpts} {rec : IRecE} {t0 : GoTypeE} {e : GoTypeE} {an : Bool}
    {seen : List String} {st : Store} (h : stripPtrsE t0 = (.slice e, an)) :
    inferStepE opts rec t0 seen st =
      Res.bind (rec e seen st) fun r =>
        match r.1 with
        | none => .ok (none, r.2)
        | some eid => .ok (some r.2.size, r.2.push (addNull an (sliceNode opts.nullForSlices eid))) := by
  rw [inferStepE_eq, h]
  rfl

theorem inferStepE_array {opts : IOpts} {rec : IRecE} {t0 : GoTypeE} {len : Nat} {e : GoTypeE} {an : Bool}
    {seen : List String} {st : Store} (h : stripPtrsE t0 = (.array len e, an)) :
    inferStepE opts rec t0 seen st =
      Res.bind (rec e seen st) fun r =>
        match r.1 with
        | none => .ok (none, r.2)
        | some eid => .ok (some r.2.size, r.2.push (addNull an (arrayNode len eid))) := by
  rw [inferStepE_eq, h]
  rfl

theorem inferStepE_struct {opts : IOpts} {rec : IRecE} {t0 : GoTypeE} {fields : List (FieldE GoTypeE)} {an : Bool}
    {seen : List String} {st : Store} (h : stripPtrsE t0 = (.struct fields, an)) :
    inferStepE opts rec t0 seen st =
      Res.bind (structLoopE opts rec seen (visibleFields fields) none (structNode0 (st.size + 1))
          ((st.push emptyNode).push (falseNode st.size)))
        fun r => .ok (some r.2.size, r.2.push (addNull an (finalOrder r.1))) := by
  rw [inferStepE_eq, h]
  rfl

theorem inferStepE_struct_ok {opts : IOpts} {rec : IRecE} {t0 : GoTypeE} {fields : List (FieldE GoTypeE)}
    {an : Bool} {seen : List String} {st : Store} {r : Option NodeId} {st' : Store}
    (hs : stripPtrsE t0 = (.struct fields, an)) (h : inferStepE opts rec t0 seen st = .ok (r, st')) :
    ∃ n st1, structLoopE opts rec seen (visibleFields fields) none (structNode0 (st.size + 1))
        ((st.push emptyNode).push (falseNode st.size)) = .ok (n, st1) ∧
      r = some st1.size ∧ st' = st1.push (addNull an (finalOrder n)) := by
  rw [inferStepE_struct hs] at h
  obtain ⟨⟨n, st1⟩, hl, h⟩ := Res.bind_eq_ok h
  cases h
  exact ⟨n, st1, hl, rfl, rfl⟩

theorem stripPtrsE_domain (T : GoTypeE) : InDomainE (stripPtrsE T).1 = InDomainE T := by
  induction T using GoTypeE.ptr_ind with
  | ptr e ih => simp only [stripPtrsE, InDomainE]; exact ih
  | base t h => rw [stripPtrsE_nonptr h]

def RecSomeE (rec : IRecE) : Prop :=
  ∀ T seen st r st', InDomainE T = true → rec T seen st = .ok (r, st') → ∃ id, r = some id

theorem inferStepE_some (opts : IOpts) {rec : IRecE} (hrec : RecSomeE rec) : RecSomeE (inferStepE opts rec) := by
  intro T seen st r st' hdomT h
  rw [← stripPtrsE_domain T] at hdomT
  rw [inferStepE_eq] at h
  refine stepG_some ?_ h
  generalize (stripPtrsE T).1 = t at hdomT
  cases t with
  | basic kind =>
    obtain ⟨ty, mn, mx, hk⟩ := kindEntry_domain (by simpa only [InDomainE] using hdomT)
    simp only [underE, shapeOfE, hk]
    trivial
  | map keyKind e =>
    simp only [InDomainE, Bool.and_eq_true, beq_iff_eq] at hdomT
    simp only [underE, shapeOfE, hdomT.1, bne_self_eq_false, Bool.false_eq_true, if_false]
    exact fun seen st r st1 => hrec _ _ _ _ _ hdomT.2
  | slice e => exact fun seen st r st1 => hrec _ _ _ _ _ (by simpa only [InDomainE] using hdomT)
  | array len e => exact fun seen st r st1 => hrec _ _ _ _ _ (by simpa only [InDomainE] using hdomT)
  | struct fields => trivial
  | ptr e => exact fun _ h => nomatch h
  | named nm u => simp [InDomainE] at hdomT
  | ref nm => simp [InDomainE] at hdomT

theorem inferFuelE_some (opts : IOpts) : ∀ fuel, RecSomeE (inferFuelE opts fuel)
  | 0 => fun _ _ _ _ _ _ h => by cases h
  | fuel + 1 => inferStepE_some opts (inferFuelE_some opts fuel)

theorem mem_visibleFields {fs : List (FieldE GoTypeE)} {f : VField} (h : f ∈ visibleFields fs) : f ∈ allFields [] 0 fs :=
  (List.mem_filter.1 h).1

/-- the struct case on the domain: `propertyOrder`, the keys of `properties` and `required` are those of
    encoding/json's `typeFields` -/
theorem inferStepE_struct_names {opts : IOpts} {rec : IRecE} (hrec : RecSomeE rec) {t0 : GoTypeE}
    {fields : List (FieldE GoTypeE)} {an : Bool} {seen : List String} {st : Store} {r : Option NodeId} {st' : Store}
    (hs : stripPtrsE t0 = (.struct fields, an)) (hdom : InDomainE (.struct fields) = true)
    (hno : NoOverride opts (visibleFields fields)) (h : inferStepE opts rec t0 seen st = .ok (r, st')) :
    ∃ id n, r = some id ∧ st'.get? id = some (addNull an n) ∧ n.type = "object" ∧
      n.propertyOrder.getD [] = fieldNames fields ∧
      (∀ k, k ∈ (n.properties.getD []).map (·.1) ↔ k ∈ fieldNames fields) ∧
      n.required.getD [] = alwaysFieldNames fields := by
  simp only [InDomainE, Bool.and_eq_true] at hdom
  obtain ⟨hok, hdf⟩ := hdom
  obtain ⟨n, st1, hl, rfl, rfl⟩ := inferStepE_struct_ok hs h
  have hnd : NeverDropsE rec seen (visibleFields fields) := fun f hf hlive s s1 hr => by
    have hd := allFields_domain fields [] 0 hdf f (mem_visibleFields hf) hlive
    obtain ⟨_, hid⟩ := hrec _ _ _ _ _ hd hr
    cases hid
  obtain ⟨h1, h2, h3, h4⟩ := structLoopE_lists (visibleFields fields) hno hnd hl
  have hnames : n.propertyOrder.getD [] = loopNames (visibleFields fields) := by rw [h1]; rfl
  refine ⟨_, finalOrder n, rfl, get?_push_size _ _, ?_, ?_, ?_, ?_⟩
  · rw [finalOrder_type, coreOf_type h4]
    rfl
  · rw [finalOrder_order_of_nodup n (by rw [hnames]; exact (nodup_iff _).2 (loopNames_nodup hok)), hnames,
      fieldNames_eq hok hdf]
  · intro k
    rw [finalOrder_properties, h3, fieldNames_eq hok hdf]
    simp [structNode0]
  · rw [finalOrder_required, h2, alwaysFieldNames_eq hok hdf]
    rfl

end Go
end JSV
