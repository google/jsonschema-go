/-
  What the resolver reads of a schema object does not depend on the order in
  which its maps are listed.  `Node.children` (Schema.all / resolveURIs: maps by sorted key) is literally the same
  list; `childEntries` (checkStructure: reflect's MapRange) is a permutation, and so is what checkStructure registers.
  The second half is the algebra of checkStructure runs behind that (and behind MshIsTree, ResIsoClone): fuel
  monotonicity, a run depends on the table it starts from only in refusing to register its ids again (`cs_from`, `cs_onto`), and `Sub st w D` —
  the worklist `w` registers exactly `D` — which splits along the worklist (`sub_append_iff`, `sub_cons_iff`,
  `sub_single_iff`) and is invariant, up to a permutation of `D`, under permuting it (`sub_perm`).
-/
import JSV.Proofs.InvPermLoops
import JSV.Proofs.MshSort
import JSV.Proofs.ResTree
import JSV.Proofs.Tot
namespace JSV
namespace Go
namespace RPerm
open JSV.Inv

theorem insertSorted_eq_insertKV (e : String × NodeId) : ∀ l, insertSorted e l = insertKV e l
  | [] => rfl
  | x :: xs => by
    unfold insertSorted insertKV
    rw [insertSorted_eq_insertKV e xs]

theorem sortByKey_eq_sortKV (l : List (String × NodeId)) : sortByKey l = sortKV l :=
  congrArg (fun f => List.foldr f [] l) (funext fun e => funext (insertSorted_eq_insertKV e))

/-- `slices.Sorted(maps.Keys(m))`: the order in which a map with distinct keys is enumerated is irrelevant -/
theorem sortByKey_eq_of_perm {l₁ l₂ : List (String × NodeId)} (hp : l₁.Perm l₂) (hn : (l₁.map (·.1)).Nodup) :
    sortByKey l₁ = sortByKey l₂ := by
  rw [sortByKey_eq_sortKV, sortByKey_eq_sortKV]
  exact sortKV_eq_of_perm hp hn

/-- the keys of every schema-valued map of the object are distinct (as in a Go map) -/
def KeysNodup (n : Node) : Prop :=
  ∀ j kvs, ChildField.keyed j (some kvs) ∈ n.childFields → (kvs.map (·.1)).Nodup

def StoreKeysNodup (st : Store) : Prop := ∀ i n, st.get? i = some n → KeysNodup n

theorem keysNodup_iff (n : Node) :
    KeysNodup n ↔
      (∀ kvs, n.defs = some kvs → (kvs.map (·.1)).Nodup) ∧
      (∀ kvs, n.definitions = some kvs → (kvs.map (·.1)).Nodup) ∧
      (∀ kvs, n.dependencySchemas = some kvs → (kvs.map (·.1)).Nodup) ∧
      (∀ kvs, n.dependentSchemas = some kvs → (kvs.map (·.1)).Nodup) ∧
      (∀ kvs, n.patternProperties = some kvs → (kvs.map (·.1)).Nodup) ∧
      (∀ kvs, n.properties = some kvs → (kvs.map (·.1)).Nodup) := by
  constructor
  · intro hn
    refine ⟨fun kvs e => hn "$defs" kvs ?_, fun kvs e => hn "definitions" kvs ?_,
      fun kvs e => hn "dependencies" kvs ?_, fun kvs e => hn "dependentSchemas" kvs ?_,
      fun kvs e => hn "patternProperties" kvs ?_, fun kvs e => hn "properties" kvs ?_⟩
    all_goals rw [← e]; simp [Node.childFields]
  · rintro ⟨k1, k2, k3, k4, k5, k6⟩ j kvs hm
    simp only [Node.childFields, List.mem_cons, ChildField.keyed.injEq, List.not_mem_nil, or_false,
      reduceCtorEq, false_or] at hm
    rcases hm with ⟨_, e⟩ | ⟨_, e⟩ | ⟨_, e⟩ | ⟨_, e⟩ | ⟨_, e⟩ | ⟨_, e⟩
    · exact k1 kvs e.symm
    · exact k2 kvs e.symm
    · exact k3 kvs e.symm
    · exact k4 kvs e.symm
    · exact k5 kvs e.symm
    · exact k6 kvs e.symm

theorem optPerm_symm {α : Type} {a b : Option (List α)} (h : optPerm a b) : optPerm b a := by
  cases a <;> cases b <;> simp_all [optPerm]
  exact h.symm

theorem permNode_symm {a b : Node} (h : permNode a b) : permNode b a := by
  obtain ⟨p, pp, d, df, ds, dst, dr, dsc, h1, h2, h3, h4, h5, h6, h7, h8, rfl⟩ := h
  exact ⟨a.properties, a.patternProperties, a.defs, a.definitions, a.dependencySchemas, a.dependencyStrings,
    a.dependentRequired, a.dependentSchemas, optPerm_symm h1, optPerm_symm h2, optPerm_symm h3, optPerm_symm h4, optPerm_symm h5, optPerm_symm h6,
    optPerm_symm h7, optPerm_symm h8, rfl⟩

theorem permStore_symm {s1 s2 : Store} (h : permStore s1 s2) : permStore s2 s1 := by
  refine ⟨h.1.symm, fun i => ?_⟩
  have := h.2 i
  cases h1 : s1.get? i <;> cases h2 : s2.get? i <;> rw [h1, h2] at this
  · trivial
  · exact this
  · exact this
  · exact permNode_symm this

theorem optPerm_getD_nodup {a b : Option (List (String × NodeId))} (h : optPerm a b)
    (hn : ∀ kvs, a = some kvs → (kvs.map (·.1)).Nodup) :
    (a.getD []).Perm (b.getD []) ∧ ((a.getD []).map (·.1)).Nodup := by
  refine ⟨h.getD, ?_⟩
  cases a with
  | none => simp
  | some x => exact hn x rfl

theorem sortByKey_optPerm {a b : Option (List (String × NodeId))} (h : optPerm a b)
    (hn : ∀ kvs, a = some kvs → (kvs.map (·.1)).Nodup) : sortByKey (a.getD []) = sortByKey (b.getD []) :=
  sortByKey_eq_of_perm (optPerm_getD_nodup h hn).1 (optPerm_getD_nodup h hn).2

def keysNodupB (st : Store) : Bool :=
  st.toList.all fun n => n.childFields.all fun f =>
    match f with
    | .keyed _ (some kvs) => decide (kvs.map (·.1)).Nodup
    | _ => true

theorem storeKeysNodup_of_check (st : Store) (h : keysNodupB st = true) : StoreKeysNodup st := by
  intro i n hi j kvs hm
  unfold keysNodupB at h
  rw [List.all_eq_true] at h
  have hmem : n ∈ st.toList := by
    unfold Store.get? at hi
    rw [Array.mem_toList_iff]
    exact Array.mem_of_getElem? hi
  have := h n hmem
  rw [List.all_eq_true] at this
  have := this _ hm
  simpa using this

theorem children_perm {a b : Node} (h : permNode a b) (hn : KeysNodup a) : b.children = a.children := by
  obtain ⟨k1, k2, k3, k4, k5, k6⟩ := (keysNodup_iff a).mp hn
  obtain ⟨p, pp, d, df, ds, dst, dr, dsc, h1, h2, h3, h4, h5, h6, h7, h8, rfl⟩ := h
  unfold Node.children Node.childFields
  simp only [List.flatMap_cons, List.flatMap_nil]
  rw [sortByKey_optPerm h1 k6, sortByKey_optPerm h2 k5, sortByKey_optPerm h3 k1, sortByKey_optPerm h4 k2,
    sortByKey_optPerm h5 k3, sortByKey_optPerm h8 k4]

theorem keysNodup_perm {a b : Node} (h : permNode a b) (hn : KeysNodup a) : KeysNodup b := by
  obtain ⟨k1, k2, k3, k4, k5, k6⟩ := (keysNodup_iff a).mp hn
  obtain ⟨p, pp, d, df, ds, dst, dr, dsc, h1, h2, h3, h4, h5, h6, h7, h8, rfl⟩ := h
  have key : ∀ {x y : Option (List (String × NodeId))}, optPerm x y →
      (∀ kvs, x = some kvs → (kvs.map (·.1)).Nodup) → ∀ kvs, y = some kvs → (kvs.map (·.1)).Nodup := by
    intro x y hxy hx kvs e
    subst e
    cases x with
    | none => exact hxy.elim
    | some l => exact ((List.Perm.map _ hxy).nodup_iff).mp (hx l rfl)
  exact (keysNodup_iff _).mpr ⟨key h3 k1, key h4 k2, key h5 k3, key h8 k4, key h2 k5, key h1 k6⟩

theorem storeKeysNodup_perm {s1 s2 : Store} (h : permStore s1 s2) (hn : StoreKeysNodup s1) : StoreKeysNodup s2 := by
  intro i n2 h2
  obtain ⟨n1, h1, hp⟩ := permStore_get h h2
  exact keysNodup_perm hp (hn i n1 h1)

theorem childEntries_perm {a b : Node} (h : permNode a b) (path : String) :
    (childEntries a path).Perm (childEntries b path) := by
  obtain ⟨p, pp, d, df, ds, dst, dr, dsc, h1, h2, h3, h4, h5, h6, h7, h8, rfl⟩ := h
  unfold childEntries Node.childFields
  simp only [List.flatMap_cons, List.flatMap_nil]
  repeat' apply List.Perm.append
  all_goals first
    | exact List.Perm.refl _
    | exact h1.getD.map _
    | exact h2.getD.map _
    | exact h3.getD.map _
    | exact h4.getD.map _
    | exact h5.getD.map _
    | exact h8.getD.map _

theorem optPerm_isSome {α : Type} {a b : Option (List α)} (h : optPerm a b) : b.isSome = a.isSome := by
  cases a <;> cases b <;> simp_all [optPerm]

theorem basicChecksOk_perm {a b : Node} (h : permNode a b) : basicChecksOk b = basicChecksOk a := by
  obtain ⟨p, pp, d, df, ds, dst, dr, dsc, h1, h2, h3, h4, h5, h6, h7, h8, rfl⟩ := h
  unfold basicChecksOk
  simp only
  rw [optPerm_isSome h3, optPerm_isSome h4, ← List.Perm.any_eq h5.getD]
  have : (fun (x : String × NodeId) => (dst.getD []).any fun x' => x'.1 == x.1) =
      (fun (x : String × NodeId) => (a.dependencyStrings.getD []).any fun x' => x'.1 == x.1) := by
    funext x
    exact (List.Perm.any_eq h6.getD).symm
  simp only [this]

theorem checkLocalOk_perm (env : Env) {a b : Node} (h : permNode a b) : checkLocalOk env b = checkLocalOk env a := by
  unfold checkLocalOk
  rw [basicChecksOk_perm h]
  obtain ⟨p, pp, d, df, ds, dst, dr, dsc, h1, h2, h3, h4, h5, h6, h7, h8, rfl⟩ := h
  simp only
  rw [← List.Perm.all_eq h2.getD]

theorem cs_mono (st : Store) : ∀ f k w acc, checkStructure st f w acc ≠ .fuel →
    checkStructure st (f + k) w acc = checkStructure st f w acc := by
  intro f
  induction f with
  | zero => intro k w acc h; exact absurd (cs_zero st w acc) h
  | succ f ih =>
    intro k w acc h
    have e : f + 1 + k = (f + k) + 1 := by omega
    rw [e]
    cases w with
    | nil => rw [cs_nil, cs_nil]
    | cons x w =>
      obtain ⟨id, path⟩ := x
      rw [cs_cons] at h ⊢
      rw [cs_cons]
      cases hn : st.get? id with
      | none => rfl
      | some n =>
        rw [hn] at h
        simp only at h ⊢
        split
        · rfl
        · rename_i hl
          rw [if_neg hl] at h
          exact ih k _ _ h

theorem cs_mono_ok (st : Store) (f f' : Nat) (w : List (NodeId × String)) (acc res : List (NodeId × Info))
    (h : checkStructure st f w acc = .ok res) (hle : f ≤ f') : checkStructure st f' w acc = .ok res := by
  obtain ⟨k, rfl⟩ := Nat.exists_eq_add_of_le hle
  rw [cs_mono st f k w acc (by rw [h]; simp), h]

theorem cs_extends (st : Store) : ∀ f w acc res, checkStructure st f w acc = .ok res →
    ∃ D, res = acc ++ D ∧ ∀ x ∈ D.map (·.1), x ∉ acc.map (·.1) := by
  intro f w acc res h
  refine checkStructure_inv st (fun _ a => ∃ D, a = acc ++ D ∧ ∀ x ∈ D.map (·.1), x ∉ acc.map (·.1)) ?_
    f w acc res h ⟨[], by simp, by simp⟩
  rintro id path n work a _ hid ⟨D, rfl, hD⟩
  refine ⟨D ++ [(id, infoOf path)], by simp, ?_⟩
  intro x hx
  simp only [List.map_append, List.map_cons, List.map_nil, List.mem_append, List.mem_singleton] at hx
  rcases hx with hx | rfl
  · exact hD x hx
  · exact fun hm => hid (by simp [hm])

theorem cs_drop (st : Store) : ∀ f w A B res, checkStructure st f w (A ++ B) = .ok res →
    ∃ D, res = A ++ B ++ D ∧ checkStructure st f w B = .ok (B ++ D) := by
  intro f
  induction f with
  | zero => intro w A B res h; rw [cs_zero] at h; cases h
  | succ f ih =>
    intro w A B res h
    cases w with
    | nil =>
      rw [cs_nil] at h
      simp only [Res.ok.injEq] at h
      exact ⟨[], by rw [← h]; simp, by rw [cs_nil]; simp⟩
    | cons x w =>
      obtain ⟨id, path⟩ := x
      obtain ⟨n, hn, hid, h⟩ := (cs_cons_ok st f id path w (A ++ B) res).mp h
      rw [List.append_assoc] at h
      obtain ⟨D, hD, hrun⟩ := ih _ A (B ++ [(id, infoOf path)]) res h
      refine ⟨(id, infoOf path) :: D, by rw [hD]; simp, ?_⟩
      rw [cs_cons_ok]
      refine ⟨n, hn, ?_, ?_⟩
      · intro hm; exact hid (by simp [hm])
      · rw [hrun]; simp

theorem cs_add (st : Store) : ∀ f w A B D, checkStructure st f w B = .ok (B ++ D) →
    (∀ x ∈ D.map (·.1), x ∉ A.map (·.1)) → checkStructure st f w (A ++ B) = .ok (A ++ B ++ D) := by
  intro f
  induction f with
  | zero => intro w A B D h; rw [cs_zero] at h; cases h
  | succ f ih =>
    intro w A B D h hdis
    cases w with
    | nil =>
      rw [cs_nil] at h ⊢
      simp only [Res.ok.injEq] at h ⊢
      have : D = [] := List.self_eq_append_right.mp h
      rw [this]; simp
    | cons x w =>
      obtain ⟨id, path⟩ := x
      obtain ⟨n, hn, hid, h⟩ := (cs_cons_ok st f id path w B (B ++ D)).mp h
      obtain ⟨D', hD', _⟩ := cs_extends st _ _ _ _ h
      have hDeq : D = (id, infoOf path) :: D' := by
        rw [List.append_assoc] at hD'
        exact List.append_cancel_left hD'
      subst hDeq
      rw [cs_cons_ok]
      refine ⟨n, hn, ?_, ?_⟩
      · intro hm
        simp only [List.map_append, List.mem_append] at hm
        rcases hm with hm | hm
        · exact hdis id (by simp) hm
        · exact hid hm
      · have h' : checkStructure st f (childEntries n path ++ w) (B ++ [(id, infoOf path)]) =
            .ok ((B ++ [(id, infoOf path)]) ++ D') := by rw [h]; simp
        have := ih _ A _ D' h' (fun x hx => hdis x (by simp [hx]))
        rw [List.append_assoc]
        rw [this]; simp

/-- a run does not look at what the accumulator held at its start, beyond refusing to register it again -/
theorem cs_from (st : Store) (f : Nat) (w : List (NodeId × String)) (A res : List (NodeId × Info))
    (h : checkStructure st f w A = .ok res) :
    ∃ D, res = A ++ D ∧ checkStructure st f w [] = .ok D ∧ ∀ x ∈ D.map (·.1), x ∉ A.map (·.1) := by
  obtain ⟨D, hD, hdis⟩ := cs_extends st f w A res h
  obtain ⟨D', hD', hrun⟩ := cs_drop st f w A [] res (by rwa [List.append_nil])
  rw [List.append_nil] at hD'
  obtain rfl : D' = D := List.append_cancel_left (hD'.symm.trans hD)
  exact ⟨D', hD, by simpa using hrun, hdis⟩

theorem cs_onto (st : Store) (f : Nat) (w : List (NodeId × String)) (A D : List (NodeId × Info))
    (h : checkStructure st f w [] = .ok D) (hdis : ∀ x ∈ D.map (·.1), x ∉ A.map (·.1)) :
    checkStructure st f w A = .ok (A ++ D) := by
  have := cs_add st f w A [] D (by simpa using h) hdis
  simpa using this

theorem cs_split (st : Store) : ∀ f w1 w2 acc res, checkStructure st f (w1 ++ w2) acc = .ok res →
    ∃ mid, checkStructure st f w1 acc = .ok mid ∧ checkStructure st f w2 mid = .ok res := by
  intro f
  induction f with
  | zero => intro w1 w2 acc res h; rw [cs_zero] at h; cases h
  | succ f ih =>
    intro w1 w2 acc res h
    cases w1 with
    | nil => exact ⟨acc, cs_nil st f acc, h⟩
    | cons x w1 =>
      obtain ⟨id, path⟩ := x
      rw [List.cons_append] at h
      obtain ⟨n, hn, hid, h⟩ := (cs_cons_ok st f id path (w1 ++ w2) acc res).mp h
      rw [← List.append_assoc] at h
      obtain ⟨mid, h1, h2⟩ := ih _ _ _ _ h
      exact ⟨mid, (cs_cons_ok st f id path w1 acc mid).mpr ⟨n, hn, hid, h1⟩, cs_mono_ok st f (f + 1) _ _ _ h2 (by omega)⟩

theorem cs_join (st : Store) : ∀ f1 f2 w1 w2 acc mid res, checkStructure st f1 w1 acc = .ok mid →
    checkStructure st f2 w2 mid = .ok res → checkStructure st (f1 + f2) (w1 ++ w2) acc = .ok res := by
  intro f1
  induction f1 with
  | zero => intro f2 w1 w2 acc mid res h; rw [cs_zero] at h; cases h
  | succ f1 ih =>
    intro f2 w1 w2 acc mid res h1 h2
    cases w1 with
    | nil =>
      rw [cs_nil] at h1
      simp only [Res.ok.injEq] at h1
      subst h1
      exact cs_mono_ok st f2 _ _ _ _ h2 (by omega)
    | cons x w1 =>
      obtain ⟨id, path⟩ := x
      obtain ⟨n, hn, hid, h1⟩ := (cs_cons_ok st f1 id path w1 acc mid).mp h1
      have e : f1 + 1 + f2 = (f1 + f2) + 1 := by omega
      rw [e, List.cons_append, cs_cons_ok]
      refine ⟨n, hn, hid, ?_⟩
      rw [← List.append_assoc]
      exact ih f2 _ _ _ _ _ h1 h2

def Sub (st : Store) (w : List (NodeId × String)) (D : List (NodeId × Info)) : Prop :=
  ∃ f, checkStructure st f w [] = .ok D

theorem sub_nil (st : Store) : Sub st [] [] := ⟨1, cs_nil st 0 []⟩

theorem sub_append_iff (st : Store) (w1 w2 : List (NodeId × String)) (D : List (NodeId × Info)) :
    Sub st (w1 ++ w2) D ↔ ∃ D1 D2, D = D1 ++ D2 ∧ Sub st w1 D1 ∧ Sub st w2 D2 ∧
      ∀ x ∈ D2.map (·.1), x ∉ D1.map (·.1) := by
  constructor
  · rintro ⟨f, h⟩
    obtain ⟨D1, h1, h2⟩ := cs_split st f w1 w2 [] D h
    obtain ⟨D2, hD, hrun, hdis⟩ := cs_from st f w2 D1 D h2
    exact ⟨D1, D2, hD, ⟨f, h1⟩, ⟨f, hrun⟩, hdis⟩
  · rintro ⟨D1, D2, rfl, ⟨f1, h1⟩, ⟨f2, h2⟩, hdis⟩
    exact ⟨f1 + f2, cs_join st f1 f2 w1 w2 [] D1 _ h1 (cs_onto st f2 w2 D1 D2 h2 hdis)⟩

theorem sub_single_iff (st : Store) (id : NodeId) (path : String) (D : List (NodeId × Info)) :
    Sub st [(id, path)] D ↔ ∃ n D0, st.get? id = some n ∧ D = (id, infoOf path) :: D0 ∧
      Sub st (childEntries n path) D0 ∧ id ∉ D0.map (·.1) := by
  constructor
  · rintro ⟨f, h⟩
    cases f with
    | zero => rw [cs_zero] at h; cases h
    | succ f =>
      obtain ⟨n, hn, _, h⟩ := (cs_cons_ok st f id path [] [] D).mp h
      rw [List.append_nil, List.nil_append] at h
      obtain ⟨D0, hD, hrun, hdis⟩ := cs_from st f _ _ D h
      exact ⟨n, D0, hn, hD, ⟨f, hrun⟩, fun hm => hdis id hm (by simp)⟩
  · rintro ⟨n, D0, hn, rfl, ⟨f, h⟩, hid⟩
    refine ⟨f + 1, (cs_cons_ok st f id path [] [] _).mpr ⟨n, hn, by simp, ?_⟩⟩
    rw [List.append_nil, List.nil_append]
    refine cs_onto st f _ [(id, infoOf path)] D0 h ?_
    intro x hx hm
    simp only [List.map_cons, List.map_nil, List.mem_singleton] at hm
    subst hm; exact hid hx

theorem sub_cons_iff (st : Store) (x : NodeId × String) (w : List (NodeId × String)) (D : List (NodeId × Info)) :
    Sub st (x :: w) D ↔ ∃ D1 D2, D = D1 ++ D2 ∧ Sub st [x] D1 ∧ Sub st w D2 ∧
      ∀ y ∈ D2.map (·.1), y ∉ D1.map (·.1) :=
  sub_append_iff st [x] w D

theorem perm_keys_disjoint {A A' B B' : List (NodeId × Info)} (hA : A.Perm A') (hB : B.Perm B')
    (h : ∀ y ∈ B.map (·.1), y ∉ A.map (·.1)) : ∀ y ∈ B'.map (·.1), y ∉ A'.map (·.1) := by
  intro y hy hm
  exact h y ((hB.map _).mem_iff.mpr hy) ((hA.map _).mem_iff.mpr hm)

theorem sub_perm (st : Store) {w w' : List (NodeId × String)} (hp : w.Perm w') :
    ∀ D, Sub st w D → ∃ D', Sub st w' D' ∧ D.Perm D' := by
  induction hp with
  | nil => intro D h; exact ⟨D, h, List.Perm.refl _⟩
  | cons x _ ih =>
    intro D h
    obtain ⟨D1, D2, rfl, h1, h2, hdis⟩ := (sub_cons_iff st x _ D).mp h
    obtain ⟨D2', h2', hp2⟩ := ih D2 h2
    exact ⟨D1 ++ D2', (sub_cons_iff st x _ _).mpr ⟨D1, D2', rfl, h1, h2', perm_keys_disjoint (List.Perm.refl _) hp2 hdis⟩,
      List.Perm.append_left _ hp2⟩
  | swap x y l =>
    intro D h
    obtain ⟨Dy, D2, rfl, hy, h2, hdis1⟩ := (sub_cons_iff st y _ D).mp h
    obtain ⟨Dx, Dl, rfl, hx, hl, hdis2⟩ := (sub_cons_iff st x _ D2).mp h2
    refine ⟨Dx ++ (Dy ++ Dl), (sub_cons_iff st x _ _).mpr ⟨Dx, Dy ++ Dl, rfl, hx,
      (sub_cons_iff st y _ _).mpr ⟨Dy, Dl, rfl, hy, hl, ?_⟩, ?_⟩, ?_⟩
    · intro z hz
      exact hdis1 z (by simp only [List.map_append, List.mem_append]; exact Or.inr hz)
    · intro z hz hm
      simp only [List.map_append, List.mem_append] at hz
      rcases hz with hz | hz
      · exact hdis1 z (by simp only [List.map_append, List.mem_append]; exact Or.inl hm) hz
      · exact hdis2 z hz hm
    · rw [← List.append_assoc, ← List.append_assoc]
      exact List.Perm.append_right _ List.perm_append_comm
  | trans _ _ ih1 ih2 =>
    intro D h
    obtain ⟨D', h', hp'⟩ := ih1 D h
    obtain ⟨D'', h'', hp''⟩ := ih2 D' h'
    exact ⟨D'', h'', hp'.trans hp''⟩

theorem sub_store_perm (st st' : Store) (hst : permStore st st') : ∀ f w D,
    checkStructure st f w [] = .ok D → ∃ D', Sub st' w D' ∧ D.Perm D' := by
  intro f
  induction f with
  | zero => intro w D h; rw [cs_zero] at h; cases h
  | succ f ih =>
    have single : ∀ x D1, checkStructure st (f + 1) [x] [] = .ok D1 → ∃ D1', Sub st' [x] D1' ∧ D1.Perm D1' := by
      intro x D1 h
      obtain ⟨id, path⟩ := x
      obtain ⟨n, hn, _, h⟩ := (cs_cons_ok st f id path [] [] D1).mp h
      rw [List.append_nil, List.nil_append] at h
      obtain ⟨D0, hD, hrun, hdis⟩ := cs_from st f _ _ D1 h
      obtain ⟨n', hn', hpn⟩ := permStore_get' hst hn
      obtain ⟨E, hE, hpE⟩ := ih _ _ hrun
      obtain ⟨E', hE', hpE'⟩ := sub_perm st' (childEntries_perm hpn path) E hE
      refine ⟨(id, infoOf path) :: E', (sub_single_iff st' id path _).mpr ⟨n', E', hn', rfl, hE', ?_⟩, ?_⟩
      · exact fun hm => hdis id (((hpE.trans hpE').map _).mem_iff.mpr hm) (by simp)
      · rw [hD]; exact List.Perm.cons _ (hpE.trans hpE')
    intro w
    induction w with
    | nil =>
      intro D h
      rw [cs_nil] at h
      simp only [Res.ok.injEq] at h
      subst h
      exact ⟨[], sub_nil st', List.Perm.refl _⟩
    | cons x w ihw =>
      intro D h
      obtain ⟨mid, hm1, hm2⟩ := cs_split st (f + 1) [x] w [] _ h
      obtain ⟨D2, rfl, hrun2, hdis⟩ := cs_from st (f + 1) w mid D hm2
      obtain ⟨E1, hE1, hp1⟩ := single x mid hm1
      obtain ⟨E2, hE2, hp2⟩ := ihw D2 hrun2
      exact ⟨E1 ++ E2, (sub_cons_iff st' x w _).mpr ⟨E1, E2, rfl, hE1, hE2, perm_keys_disjoint hp1 hp2 hdis⟩,
        hp1.append hp2⟩

/-- `st.size + 2` is the fuel `resolveDocStep` gives checkStructure; it never runs out
    (`C10.checkStructure_no_fuel_gen`: every schema is registered at most once) -/
theorem checkStructure_perm_ok (st st' : Store) (hst : permStore st st') (root : NodeId) (fresh : List (NodeId × Info))
    (h : checkStructure st (st.size + 2) [(root, "")] [] = .ok fresh) :
    ∃ fresh', checkStructure st' (st'.size + 2) [(root, "")] [] = .ok fresh' ∧ fresh.Perm fresh' := by
  obtain ⟨fresh', ⟨f', hf'⟩, hp⟩ := sub_store_perm st st' hst _ _ _ h
  refine ⟨fresh', ?_, hp⟩
  have hnf : checkStructure st' (st'.size + 2) [(root, "")] [] ≠ .fuel :=
    C10.checkStructure_no_fuel_gen st' _ _ [] ⟨List.nodup_nil, fun _ h => nomatch h⟩ (by simp)
  rcases Nat.le_total f' (st'.size + 2) with hle | hle
  · exact cs_mono_ok st' f' _ _ _ _ hf' hle
  · obtain ⟨k, rfl⟩ := Nat.exists_eq_add_of_le hle
    rw [← cs_mono st' _ k _ _ hnf]; exact hf'

theorem checkStructure_perm_outcome (st st' : Store) (hst : permStore st st') (root : NodeId) :
    match checkStructure st (st.size + 2) [(root, "")] [], checkStructure st' (st'.size + 2) [(root, "")] [] with
    | .ok a, .ok b => a.Perm b
    | .err, .err => True
    | _, _ => False := by
  have out : ∀ s : Store, checkStructure s (s.size + 2) [(root, "")] [] = .err ∨
      ∃ a, checkStructure s (s.size + 2) [(root, "")] [] = .ok a := fun s =>
    (C10.NoPF_iff _).mp ⟨C10.checkStructure_no_panic_gen s _ _ _,
      C10.checkStructure_no_fuel_gen s _ _ [] ⟨List.nodup_nil, fun _ h => nomatch h⟩ (by simp)⟩
  rcases out st with h1 | ⟨a, h1⟩
  · rcases out st' with h2 | ⟨b, h2⟩
    · rw [h1, h2]; trivial
    · obtain ⟨a, ha, _⟩ := checkStructure_perm_ok st' st (permStore_symm hst) root b h2
      rw [h1] at ha; cases ha
  · obtain ⟨b, hb, hp⟩ := checkStructure_perm_ok st st' hst root a h1
    rw [h1, hb]; exact hp

end RPerm
end Go
end JSV
