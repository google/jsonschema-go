/-
  Resolve commutes with a renaming of schema node ids: from related resolutions to related Spec environments
  (`Iso.TablesSim` / `Iso.EnvSim`); a tree and its clone (`CloneS`); and a Loader universe SHARED by both sides.

  Two trees that look alike are resolved against the same Loader, whose documents are the same schema objects on both
  sides (a tree and its clone live in one heap, next to the documents the Loader hands out).  The renaming is the
  pairing of the two trees (`PairR`) extended by the identity on the schemas of the Loader documents (`PairL`).  Two
  trees each resolved on its own (the Loader has no document to hand out: `NoDocs`) are the case of an empty universe.
  The id `1000000000` of the hypotheses `hnil` is `Go.nilId` (see ResIsoTrees.lean).
-/
import JSV.Proofs.ResIsoTrees
import JSV.Proofs.IsoTrees
namespace JSV
namespace Go
namespace RIso
open RInv

theorem tablesSim_of_infos {R : NodeId → NodeId → Prop} {v₁ v₂ : VEnv}
    (h : ∀ x y, R x y → OptRel (InfoRel R) (v₁.info? x) (v₂.info? y)) :
    Iso.TablesSim R (Refine.specEnvOf v₁) (Refine.specEnvOf v₂) := by
  refine ⟨?_, ?_, ?_, ?_, ?_⟩
  · exact fun a b hab => OptRel.bind (fun _ _ hi => hi.resolvedRef) (h a b hab)
  · exact fun a b hab => OptRel.bind (fun _ _ hi => hi.resolvedDynamicRef) (h a b hab)
  · intro a b hab
    show ((v₁.info? a).map (·.dynamicRefAnchor)).getD "" = ((v₂.info? b).map (·.dynamicRefAnchor)).getD ""
    rcases (h a b hab).inv with ⟨e1, e2⟩ | ⟨i₁, i₂, e1, e2, hi⟩
    · rw [e1, e2]
    · rw [e1, e2]; exact hi.dynamicRefAnchor
  · exact fun a b hab => OptRel.bind (fun _ _ hi => hi.base) (h a b hab)
  · intro r₁ r₂ name hr
    refine OptRel.bind (fun i₁ i₂ hi => ?_) (h r₁ r₂ hr)
    rcases (lookup_krel name hi.anchors).inv with ⟨h1, h2⟩ | ⟨a₁, a₂, h1, h2, hl⟩
    · rw [h1, h2]; trivial
    · rw [h1, h2]
      dsimp only
      rw [← hl.2]
      cases a₁.dynamic with
      | false => trivial
      | true => exact hl.1

def venvOf (st : Store) (rs : Resolved) (reMatch : String → String → Bool) (hash : GoVal → UInt64) : VEnv :=
  { st := st, draft := rs.draft, infos := rs.infos, reMatch := reMatch, hash := hash }

def specOf (st : Store) (rs : Resolved) (reMatch : String → String → Bool) : Spec.Env :=
  Refine.specEnvOf (venvOf st rs reMatch fun _ => 0)

theorem specOf_hash (st : Store) (rs : Resolved) (reMatch : String → String → Bool) (hash : GoVal → UInt64) :
    Refine.specEnvOf (venvOf st rs reMatch hash) = specOf st rs reMatch := rfl

theorem envSim_of_resolved {R : NodeId → NodeId → Prop} {st₁ st₂ : Store} {rs₁ rs₂ : Resolved}
    (hres : ResolvedRel R rs₁ rs₂)
    (hn : ∀ a b, R a b → OptRel (Iso.NodeSim R) (st₁.get? a) (st₂.get? b)) (reMatch : String → String → Bool) :
    Iso.EnvSim R (specOf st₁ rs₁ reMatch) (specOf st₂ rs₂ reMatch) :=
  (tablesSim_of_infos (v₁ := venvOf st₁ rs₁ reMatch fun _ => 0) (v₂ := venvOf st₂ rs₂ reMatch fun _ => 0)
    hres.infos).toEnvSim hres.draft rfl hn

/-- `env.st.size + 2`: the fuel `resolveDocStep` gives checkStructure -/
theorem resolve_ok_cs (env : Env) (fuel : Nat) (root : NodeId) (base : String) (rs : Resolved)
    (h : resolve env fuel root base = .ok rs) :
    ∃ fresh, checkStructure env.st (env.st.size + 2) [(root, "")] [] = .ok fresh := by
  obtain ⟨s, b, d, hs, _, _, _⟩ := resolve_ok env fuel root base rs h
  cases fuel with
  | zero => simp [resolveDoc] at hs
  | succ fuel =>
    exact (resolveDocStep_docs env _ (resolveDoc_docs env fuel) _ _ _ _ _ hs (docsOk_init env)).2

theorem resolve_fresh_known (env : Env) (fuel : Nat) (root : NodeId) (base : String) (rs : Resolved)
    (h : resolve env fuel root base = .ok rs) (fresh : List (NodeId × Info))
    (hfresh : checkStructure env.st (env.st.size + 2) [(root, "")] [] = .ok fresh) :
    ∀ id, id ∈ fresh.map (·.1) → (lookupNat id rs.infos).isSome = true := by
  obtain ⟨s, b, d, hs, hd, _, hinfos⟩ := resolve_ok env fuel root base rs h
  intro id hmem
  cases fuel with
  | zero => simp [resolveDoc] at hs
  | succ fuel =>
    obtain ⟨hdocs, _⟩ := resolveDocStep_docs env _ (resolveDoc_docs env fuel) _ _ _ _ _ hs (docsOk_init env)
    have hknown : d.known.contains id = true := hdocs root d hd fresh hfresh id hmem
    rw [hinfos, lookupNat_filter_key id (fun x => d.known.contains x) s.infos hknown]
    exact resolveDocStep_table env _ (resolveDoc_keeps env fuel) _ _ _ _ _ hs fresh hfresh id hmem

def CloneS (B : Nat) (st st' : Store) (a b : NodeId) : Prop := ∃ d, Sim B st st' d a b

theorem cloneS_treeSim {B : Nat} {st st' : Store} (hs : st.size ≤ B) (hs' : st'.size ≤ B) :
    TreeSim (CloneS B st st') st st' := by
  rintro a b ⟨d, hsim⟩
  rcases Sim.cases hsim with ⟨hB, rfl⟩ | ⟨d', n, n', ha, hb, hrel⟩
  · rw [get?_eq_none_iff.2 (Nat.le_trans hs hB), get?_eq_none_iff.2 (Nat.le_trans hs' hB)]
    trivial
  · rw [ha, hb]
    exact NodeRel.imp (fun x y hxy => ⟨d', hxy⟩) hrel

theorem NodeRel.flip {R : NodeId → NodeId → Prop} {n n' : Node} (h : NodeRel R n n') :
    NodeRel (fun b a => R a b) n' n := by
  obtain ⟨fs', hrel, rfl⟩ := h
  refine ⟨n.childFields, ?_, (setChildFields_shallow n fs').symm⟩
  rw [childFields_set hrel]
  exact ListRel.imp (fun _ _ hf => FieldRel.flip hf) (ListRel.flip hrel)

theorem TreeSim.flip {S : NodeId → NodeId → Prop} {st₁ st₂ : Store} (h : TreeSim S st₁ st₂) :
    TreeSim (fun b a => S a b) st₂ st₁ :=
  fun b a hab => OptRel.imp (fun _ _ h => NodeRel.flip h) (OptRel.flip (h a b hab))

def PairL (S : NodeId → NodeId → Prop) (fresh₁ fresh₂ : List (NodeId × Info)) (L : NodeId → Prop) (a b : NodeId) : Prop :=
  PairR S fresh₁ fresh₂ a b ∨ (a = b ∧ L a)

/-- `L` is a set of schemas (ids; nil ones included) shared by the two environments: the two stores agree on it, it is
    closed under the schema-valued fields, and it contains the root of every document the Loader hands out -/
structure DocsOK (env₁ env₂ : Env) (L : NodeId → Prop) : Prop where
  agree : ∀ a, L a → env₁.st.get? a = env₂.st.get? a
  closed : ∀ a n, L a → env₁.st.get? a = some n → ∀ f, f ∈ n.childFields → ∀ x, x ∈ f.ids → L x
  roots : ∀ t key l, env₁.loader = some t → Json.lookup key t = some (.doc l) → L l

theorem nodeRel_refl {R : NodeId → NodeId → Prop} (n : Node) (h : ∀ f, f ∈ n.childFields → ∀ x, x ∈ f.ids → R x x) :
    NodeRel R n n :=
  ⟨n.childFields, ListRel.refl_of _ fun f hf => FieldRel.refl_of f (h f hf), rfl⟩

section
variable {S : NodeId → NodeId → Prop} {env₁ env₂ : Env} (hS : TreeSim S env₁.st env₂.st)
  (hre : env₁.reOk = env₂.reOk) (hd7 : env₁.draft7URIs = env₂.draft7URIs) (hl : env₂.loader = env₁.loader)
  (hnil₁ : env₁.st.get? 1000000000 = none) (hnil₂ : env₂.st.get? 1000000000 = none)
  {r₁ r₂ : NodeId} (hr : S r₁ r₂) {f₁ f₂ : Nat} {fresh₁ fresh₂ : List (NodeId × Info)}
  (hcs₁ : checkStructure env₁.st f₁ [(r₁, "")] [] = .ok fresh₁)
  (hcs₂ : checkStructure env₂.st f₂ [(r₂, "")] [] = .ok fresh₂)
  {L : NodeId → Prop} (hL : DocsOK env₁ env₂ L)
  (hd₁ : ∀ a, L a → a ∉ fresh₁.map (·.1)) (hd₂ : ∀ a, L a → a ∉ fresh₂.map (·.1))
include hS hre hd7 hl hnil₁ hnil₂ hr hcs₁ hcs₂ hL hd₁ hd₂

omit hd₁ hd₂ hre hd7 hl hnil₁ hnil₂ in
theorem pairL_nodeRel : ∀ a b, PairL S fresh₁ fresh₂ L a b →
    OptRel (NodeRel (PairL S fresh₁ fresh₂ L)) (env₁.st.get? a) (env₂.st.get? b) := by
  intro a b hab
  rcases hab with hab | ⟨rfl, hla⟩
  · exact OptRel.imp (fun _ _ h => NodeRel.imp (fun _ _ h => Or.inl h) h) (pairR_nodeRel hS hr hcs₁ hcs₂ a b hab)
  · rw [← hL.agree a hla]
    cases e1 : env₁.st.get? a with
    | none => trivial
    | some n => exact nodeRel_refl n fun f hf x hx => Or.inr ⟨rfl, hL.closed a n hla e1 f hf x hx⟩

omit hS hr hL hre hd7 hl hnil₁ hnil₂ in
theorem pairL_biu : BiU (PairL S fresh₁ fresh₂ L) := by
  intro a b a' b' h h'
  rcases h with h | ⟨rfl, hla⟩
  · rcases h' with h' | ⟨rfl, hla'⟩
    · exact pairR_biu hcs₁ hcs₂ a b a' b' h h'
    · have hm := List.of_mem_zip h.2
      exact ⟨fun e => absurd (e ▸ hm.1) (hd₁ a' hla'), fun e => absurd (e ▸ hm.2) (hd₂ a' hla')⟩
  · rcases h' with h' | ⟨rfl, _⟩
    · have hm := List.of_mem_zip h'.2
      exact ⟨fun e => absurd (e ▸ hm.1) (hd₁ a hla), fun e => absurd (e ▸ hm.2) (hd₂ a hla)⟩
    · exact Iff.rfl

theorem envRel_of_trees_docs : EnvRel (PairL S fresh₁ fresh₂ L) env₁ env₂ := by
  refine ⟨pairL_biu hcs₁ hcs₂ hd₁ hd₂, ?_, ?_, hd7⟩
  · exact fun a b hab =>
      OptRel.imp (fun _ _ h => RNode.of_nodeRel hre hnil₁ hnil₂ h) (pairL_nodeRel hS hr hcs₁ hcs₂ hL a b hab)
  · intro t₁ ht₁
    exact ⟨t₁, by rw [hl, ht₁], fun key l₁ hk => ⟨l₁, hk, Or.inr ⟨rfl, hL.roots t₁ key l₁ ht₁ hk⟩⟩⟩

end

theorem evalFuel_of_resolvedRel {R : NodeId → NodeId → Prop} {st₁ st₂ : Store} {rs₁ rs₂ : Resolved}
    (hres : ResolvedRel R rs₁ rs₂) (hnode : ∀ a b, R a b → OptRel (NodeRel R) (st₁.get? a) (st₂.get? b))
    {r₁ r₂ : NodeId} (hroot : R r₁ r₂) (reMatch : String → String → Bool) (vfuel : Nat) (j : Json) :
    Spec.evalFuel (specOf st₁ rs₁ reMatch) vfuel [] r₁ j = Spec.evalFuel (specOf st₂ rs₂ reMatch) vfuel [] r₂ j := by
  have hn : ∀ a b, R a b → OptRel (Iso.NodeSim R) (st₁.get? a) (st₂.get? b) := fun a b hab =>
    OptRel.imp (fun _ _ h => Iso.NodeSim.of_nodeRel h) (hnode a b hab)
  exact Iso.evalFuel_sim (envSim_of_resolved hres hn reMatch) vfuel .nil hroot j

/-- **Resolve commutes with the renaming between two trees that look alike, next to a shared Loader universe**: as
    `resolve_trees`, with documents fetched through the Loader (the same schema objects on both sides, disjoint from the
    two trees) -/
theorem resolve_trees_docs {S : NodeId → NodeId → Prop} {env₁ env₂ : Env} (hS : TreeSim S env₁.st env₂.st)
    (hre : env₁.reOk = env₂.reOk) (hd7 : env₁.draft7URIs = env₂.draft7URIs) (hl : env₂.loader = env₁.loader)
    (hnil₁ : env₁.st.get? 1000000000 = none) (hnil₂ : env₂.st.get? 1000000000 = none)
    {r₁ r₂ : NodeId} (hr : S r₁ r₂) {L : NodeId → Prop} (hL : DocsOK env₁ env₂ L)
    (fuel : Nat) (base : String) {rs₁ : Resolved} (h₁ : resolve env₁ fuel r₁ base = .ok rs₁)
    {f₂ : Nat} {fresh₂ : List (NodeId × Info)} (hcs₂ : checkStructure env₂.st f₂ [(r₂, "")] [] = .ok fresh₂)
    (hd₁ : ∀ fresh₁, checkStructure env₁.st (env₁.st.size + 2) [(r₁, "")] [] = .ok fresh₁ →
      ∀ a, L a → a ∉ fresh₁.map (·.1))
    (hd₂ : ∀ a, L a → a ∉ fresh₂.map (·.1)) :
    ∃ rs₂, resolve env₂ fuel r₂ base = .ok rs₂ ∧ rs₁.draft = rs₂.draft ∧ rs₁.log = rs₂.log ∧
      ∀ (reMatch : String → String → Bool) (vfuel : Nat) (j : Json),
        Spec.evalFuel (specOf env₁.st rs₁ reMatch) vfuel [] r₁ j = Spec.evalFuel (specOf env₂.st rs₂ reMatch) vfuel [] r₂ j := by
  obtain ⟨fresh₁, hcs₁⟩ := resolve_ok_cs env₁ fuel r₁ base rs₁ h₁
  have hE := envRel_of_trees_docs hS hre hd7 hl hnil₁ hnil₂ hr hcs₁ hcs₂ hL (hd₁ fresh₁ hcs₁) hd₂
  have hroot : PairL S fresh₁ fresh₂ L r₁ r₂ := Or.inl (pairR_root hS hr hcs₁ hcs₂)
  obtain ⟨rs₂, h₂, hres⟩ := resolve_rel hE fuel hroot base rs₁ h₁
  exact ⟨rs₂, h₂, hres.draft, hres.log, fun reMatch vfuel j =>
    evalFuel_of_resolvedRel hres (pairL_nodeRel hS hr hcs₁ hcs₂ hL) hroot reMatch vfuel j⟩

section
variable {S : NodeId → NodeId → Prop} {env₁ env₂ : Env} (hS : TreeSim S env₁.st env₂.st)
  (hre : env₁.reOk = env₂.reOk) (hd7 : env₁.draft7URIs = env₂.draft7URIs) (hl : env₂.loader = env₁.loader)
  (hnd : NoDocs env₁) (hnil₁ : env₁.st.get? 1000000000 = none) (hnil₂ : env₂.st.get? 1000000000 = none)
  {r₁ r₂ : NodeId} (hr : S r₁ r₂)
include hS hre hd7 hl hnd hnil₁ hnil₂ hr

/-- **Resolve commutes with the renaming between two trees that look alike** (self-contained resolution).  If the
    left `Resolve` returns normally and checkStructure accepts the right root, the right `Resolve` returns normally, and
    the two results are related along a one-to-one relation `R` (the pairing `PairL` with an empty Loader universe) that
    relates the roots and along which paired schemas are shallow copies of each other with paired members. -/
theorem resolve_trees (fuel : Nat) (base : String) {rs₁ : Resolved} (h₁ : resolve env₁ fuel r₁ base = .ok rs₁)
    {f₂ : Nat} {fresh₂ : List (NodeId × Info)} (hcs₂ : checkStructure env₂.st f₂ [(r₂, "")] [] = .ok fresh₂) :
    ∃ (R : NodeId → NodeId → Prop) (rs₂ : Resolved), resolve env₂ fuel r₂ base = .ok rs₂ ∧ BiU R ∧ R r₁ r₂ ∧
      (∀ a b, R a b → S a b ∧ (lookupNat a rs₁.infos).isSome = true) ∧
      (∀ a b, R a b → OptRel (NodeRel R) (env₁.st.get? a) (env₂.st.get? b)) ∧ ResolvedRel R rs₁ rs₂ := by
  obtain ⟨fresh₁, hcs₁⟩ := resolve_ok_cs env₁ fuel r₁ base rs₁ h₁
  have hL : DocsOK env₁ env₂ (fun _ => False) := ⟨fun _ h => h.elim, fun _ _ h => h.elim, hnd⟩
  have hE := envRel_of_trees_docs hS hre hd7 hl hnil₁ hnil₂ hr hcs₁ hcs₂ hL (fun _ h => h.elim) (fun _ h => h.elim)
  have hroot : PairL S fresh₁ fresh₂ (fun _ => False) r₁ r₂ := Or.inl (pairR_root hS hr hcs₁ hcs₂)
  obtain ⟨rs₂, h₂, hres⟩ := resolve_rel hE fuel hroot base rs₁ h₁
  refine ⟨_, rs₂, h₂, hE.biu, hroot, ?_, pairL_nodeRel hS hr hcs₁ hcs₂ hL, hres⟩
  rintro a b (h | ⟨-, h⟩)
  · exact ⟨h.1, resolve_fresh_known env₁ fuel r₁ base rs₁ h₁ fresh₁ hcs₁ a (List.of_mem_zip h.2).1⟩
  · exact h.elim

theorem trees_validate_same (fuel : Nat) (base : String) {rs₁ rs₂ : Resolved}
    (h₁ : resolve env₁ fuel r₁ base = .ok rs₁) (h₂ : resolve env₂ fuel r₂ base = .ok rs₂) :
    rs₁.draft = rs₂.draft ∧ rs₁.log = rs₂.log ∧ ∀ (reMatch : String → String → Bool) (vfuel : Nat) (j : Json),
      Spec.evalFuel (specOf env₁.st rs₁ reMatch) vfuel [] r₁ j = Spec.evalFuel (specOf env₂.st rs₂ reMatch) vfuel [] r₂ j := by
  obtain ⟨fresh₂, hcs₂⟩ := resolve_ok_cs env₂ fuel r₂ base rs₂ h₂
  obtain ⟨rs₂', h₂', r⟩ := resolve_trees_docs hS hre hd7 hl hnil₁ hnil₂ hr (L := fun _ => False)
    ⟨fun _ h => h.elim, fun _ _ h => h.elim, hnd⟩ fuel base h₁ hcs₂ (fun _ _ _ h => h.elim) (fun _ h => h.elim)
  rw [h₂] at h₂'
  cases h₂'
  exact r

/-- The same for the evaluator itself (`Go.validateFuel`, through `Refine.validate_refines_spec`).  `v₁`, `v₂`: the
    environments `Validate` runs on — the drafts of the two `Resolved`; tables and stores that agree with the tables of
    the `Resolved` and with the resolved stores on the schemas the `Resolved` know (elsewhere they are arbitrary: the
    evaluation never gets there); the same regexp matcher —, well formed (`EnvWF`, `StoreWF`).  ONE Spec result governs
    the two runs: wherever the Spec decides, both return an error or both succeed with annotations denoting the same
    evaluated sets. -/
theorem trees_validate_iso (fuel : Nat) (base : String) {rs₁ rs₂ : Resolved}
    (h₁ : resolve env₁ fuel r₁ base = .ok rs₁) (h₂ : resolve env₂ fuel r₂ base = .ok rs₂) (v₁ v₂ : VEnv)
    (hi₁ : ∀ a, (lookupNat a rs₁.infos).isSome = true → v₁.info? a = lookupNat a rs₁.infos)
    (hi₂ : ∀ b, (lookupNat b rs₂.infos).isSome = true → v₂.info? b = lookupNat b rs₂.infos)
    (hd₁ : v₁.draft = rs₁.draft) (hd₂ : v₂.draft = rs₂.draft)
    (hs₁ : ∀ a, (lookupNat a rs₁.infos).isSome = true → v₁.st.get? a = env₁.st.get? a)
    (hs₂ : ∀ b, (lookupNat b rs₂.infos).isSome = true → v₂.st.get? b = env₂.st.get? b)
    (hrm : v₁.reMatch = v₂.reMatch) (hwf₁ : Refine.EnvWF v₁) (hwf₂ : Refine.EnvWF v₂)
    (hst₁ : Refine.StoreWF v₁.st) (hst₂ : Refine.StoreWF v₂.st) (vfuel : Nat) (j : Json) (hj : Json.WF j = true) :
    Refine.Rel j (Spec.evalFuel (Refine.specEnvOf v₁) vfuel [] r₁ j) (validateFuel v₁ vfuel [] (GoVal.ofJson j) r₁) ∧
      Refine.Rel j (Spec.evalFuel (Refine.specEnvOf v₁) vfuel [] r₁ j)
        (validateFuel v₂ vfuel [] (GoVal.ofJson j) r₂) := by
  obtain ⟨fresh₂, hcs₂⟩ := resolve_ok_cs env₂ fuel r₂ base rs₂ h₂
  obtain ⟨R, rs₂', h₂', _, hroot, hknown, hnode, hres⟩ :=
    resolve_trees hS hre hd7 hl hnd hnil₁ hnil₂ hr fuel base h₁ hcs₂
  rw [h₂] at h₂'
  cases h₂'
  have hkn : ∀ a b, R a b → (lookupNat a rs₁.infos).isSome = true ∧ (lookupNat b rs₂.infos).isSome = true := by
    intro a b hab
    have hka := (hknown a b hab).2
    exact ⟨hka, by rw [← OptRel.isSome_eq (hres.infos a b hab)]; exact hka⟩
  have hinfo : ∀ x y, R x y → OptRel (InfoRel R) (v₁.info? x) (v₂.info? y) := by
    intro x y hxy
    rw [hi₁ x (hkn x y hxy).1, hi₂ y (hkn x y hxy).2]
    exact hres.infos x y hxy
  have hn : ∀ a b, R a b → OptRel (Iso.NodeSim R) (v₁.st.get? a) (v₂.st.get? b) := by
    intro a b hab
    rw [hs₁ a (hkn a b hab).1, hs₂ b (hkn a b hab).2]
    exact OptRel.imp (fun _ _ h => Iso.NodeSim.of_nodeRel h) (hnode a b hab)
  have hE : Iso.EnvSim R (Refine.specEnvOf v₁) (Refine.specEnvOf v₂) :=
    (tablesSim_of_infos hinfo).toEnvSim (by show v₁.draft = v₂.draft; rw [hd₁, hd₂, hres.draft]) hrm hn
  exact Iso.validate_iso v₁ v₂ hwf₁ hwf₂ hst₁ hst₂ hE vfuel .nil (fun _ hx => nomatch hx) (fun _ hx => nomatch hx)
    hroot j hj

end

end RIso
end Go
end JSV
