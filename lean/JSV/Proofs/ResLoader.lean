/-
  Schema.Resolve consults the Loader only at the URIs it logs: a successful run is a run under any Loader that hands
  out the same documents for the logged URIs (`resolve_loader`).  Hence the several-document soundness theorem needs
  the freshness assumption only of the documents that were loaded (`resolve_G_logged`); a run that loaded nothing
  needs none.
-/
import JSV.Proofs.ResDesigMulti
namespace JSV
namespace Go
namespace RInv
open Uri RDraft

abbrev Loader := Option (List (String × LoaderResult))

def LoaderAgree (env : Env) (l : Loader) (log : List String) : Prop :=
  ∀ k ∈ log, loaderDoc { env with loader := l } k = loaderDoc env k

theorem resolveURIsLoop_loader (env : Env) (l : Loader) (draft : Draft) (root : NodeId) :
    ∀ fuel work s, resolveURIsLoop { env with loader := l } draft root fuel work s =
      resolveURIsLoop env draft root fuel work s := by
  intro fuel
  induction fuel with
  | zero => intro work s; rw [resolveURIsLoop, resolveURIsLoop]
  | succ fuel ih =>
    intro work s
    cases work with
    | nil => rw [resolveURIsLoop, resolveURIsLoop]
    | cons w work =>
      obtain ⟨id, base⟩ := w
      rw [resolveURIsLoop_cons, resolveURIsLoop_cons]
      simp only [ih]

def RecAg (env : Env) (l : Loader) (r r' : ResolveDoc) : Prop :=
  ∀ root b d s s', r root b d s = .ok s' → LoaderAgree env l s'.log → r' root b d s = .ok s'

theorem LoaderAgree.of_ext {env : Env} {l : Loader} {a b : RState} (h : LoaderAgree env l b.log) (e : Ext a b) :
    LoaderAgree env l a.log := by
  obtain ⟨⟨x, hx⟩, _⟩ := e
  intro k hk
  exact h k (by rw [hx]; exact List.mem_append_left _ hk)

/- In this file a `show` before a rewrite only restates the goal with `env.st`, `env.reOk` for
   `{ env with loader := l }.st`, `.reOk`, so that the hypothesis about `env` matches syntactically. -/

theorem findDoc_ag (env : Env) (l : Loader) (r r' : ResolveDoc) (hs : RecSpec env r) (h : RecAg env l r r')
    (root : NodeId) (s : RState) (d : DocRes) (u : Url) (p : NodeId × RState)
    (hf : findDoc env r root s d u = .ok p) (ha : LoaderAgree env l p.2.log) :
    findDoc { env with loader := l } r' root s d u = .ok p := by
  cases h1 : Json.lookup (Uri.toString u) d.uris with
  | some t => rw [findDoc_hit h1] at hf ⊢; exact hf
  | none =>
    cases h2 : Json.lookup (Uri.toString u) s.loaded with
    | some lroot => rw [findDoc_cached h1 h2] at hf ⊢; exact hf
    | none =>
      rw [findDoc_load h1 h2] at hf ⊢
      obtain ⟨lroot, hl, hf⟩ := Res.bind_eq_ok_iff.mp hf
      obtain ⟨s2, hr, hf⟩ := Res.bind_eq_ok_iff.mp hf
      cases hf
      have ha2 : LoaderAgree env l s2.log := by
        intro k hk; exact ha k (by rw [(mergeKnown_same s2 root lroot).1]; exact hk)
      have hk : Uri.toString u ∈ s2.log := by
        obtain ⟨⟨x, hx⟩, _⟩ := (hs _ _ _ _ _ hr).1
        rw [hx]; simp
      rw [ha2 _ hk, hl, Res.bind_ok]
      show Res.bind (r' lroot u d.draft { s with log := s.log ++ [Uri.toString u] }) _ = _
      rw [h _ _ _ _ _ hr ha2, Res.bind_ok]

theorem resolveRef_ag (env : Env) (l : Loader) (r r' : ResolveDoc) (hs : RecSpec env r) (h : RecAg env l r r')
    (root : NodeId) (s : RState) (id : NodeId) (ref : String) (o : RefOut) (s' : RState)
    (hr : resolveRef env r root s id ref = .ok (o, s')) (ha : LoaderAgree env l s'.log) :
    resolveRef { env with loader := l } r' root s id ref = .ok (o, s') := by
  rw [resolveRef_eq] at hr ⊢
  obtain ⟨u0, hp, hr⟩ := Res.bind_eq_ok_iff.mp hr
  rw [hp, Res.bind_ok]
  split at hr
  · rename_i bu d hbu hd
    obtain ⟨p, hf, hr⟩ := Res.bind_eq_ok_iff.mp hr
    obtain ⟨o', hfo, hr⟩ := Res.bind_eq_ok_iff.mp hr
    cases hr
    rw [findDoc_ag env l r r' hs h root s d _ p hf ha, Res.bind_ok]
    show Res.bind (fragOut env p.2 root p.1 _) _ = _
    rw [hfo, Res.bind_ok]
  · cases hr

theorem refStep_ag (env : Env) (l : Loader) (r r' : ResolveDoc) (hs : RecSpec env r) (h : RecAg env l r r')
    (root id : NodeId) (on : Bool) (ref : String) (upd : RefOut → Info → Info) (a b : RState)
    (hr : refStep env r root id on ref upd a = .ok b) (ha : LoaderAgree env l b.log) :
    refStep { env with loader := l } r' root id on ref upd a = .ok b := by
  unfold refStep at hr ⊢
  split
  · rename_i hon
    rw [if_pos hon] at hr
    obtain ⟨⟨o, a1⟩, hr1, hb⟩ := Res.bind_eq_ok_iff.mp hr
    cases hb
    rw [resolveRef_ag env l r r' hs h root a id ref o a1 hr1 (by rw [← (updInfo_same a1 id (upd o)).1]; exact ha),
      Res.bind_ok]
  · rename_i hon
    rw [if_neg hon] at hr
    exact hr

theorem refStep_ext (env : Env) (r : ResolveDoc) (hs : RecSpec env r) (root id : NodeId) (on : Bool) (ref : String)
    (upd : RefOut → Info → Info) (a b : RState) (hr : refStep env r root id on ref upd a = .ok b) : Ext a b := by
  rcases refStep_ok hr with rfl | ⟨o, a1, hr1, rfl⟩
  · exact Ext.refl _
  · exact (resolveRef_spec env r hs _ _ _ _ _ _ hr1).1.trans (updInfo_same _ _ _).ext

theorem resolveRefsLoop_ag (env : Env) (l : Loader) (r r' : ResolveDoc) (hs : RecSpec env r) (h : RecAg env l r r')
    (root : NodeId) : ∀ ids s s', resolveRefsLoop env r root ids s = .ok s' → LoaderAgree env l s'.log →
      resolveRefsLoop { env with loader := l } r' root ids s = .ok s' := by
  intro ids
  induction ids with
  | nil => intro s s' hr _; rw [resolveRefsLoop] at hr ⊢; exact hr
  | cons id rest ih =>
    intro s s' hr ha
    rw [resolveRefsLoop_cons] at hr ⊢
    show (match env.st.get? id with
      | none => Res.panic
      | some n => _) = _
    cases hn : env.st.get? id with
    | none => rw [hn] at hr; cases hr
    | some n =>
      rw [hn] at hr
      obtain ⟨s1, e1, hr⟩ := Res.bind_eq_ok_iff.mp hr
      obtain ⟨s2, e2, hr⟩ := Res.bind_eq_ok_iff.mp hr
      have x3 : Ext s2 s' := (resolveRefsLoop_spec env r hs root _ _ _ hr).1
      have x2 : Ext s1 s2 := refStep_ext env r hs _ _ _ _ _ _ _ e2
      have a2 := ha.of_ext x3
      simp only
      rw [refStep_ag env l r r' hs h _ _ _ _ _ _ _ e1 (a2.of_ext x2), Res.bind_ok,
        refStep_ag env l r r' hs h _ _ _ _ _ _ _ e2 a2, Res.bind_ok]
      exact ih _ _ hr ha

theorem resolveDocStep_ag (env : Env) (l : Loader) (r r' : ResolveDoc) (hs : RecSpec env r) (h : RecAg env l r r') :
    RecAg env l (resolveDocStep env r) (resolveDocStep { env with loader := l } r') := by
  intro root b inh s s' hr ha
  rw [resolveDocStep_eq] at hr ⊢
  show (if b.fragment != "" then Res.err else
    match env.st.get? root with
    | none => Res.err
    | some rn => _) = _
  split at hr
  · cases hr
  rename_i hb
  rw [if_neg hb]
  cases hrn : env.st.get? root with
  | none => rw [hrn] at hr; cases hr
  | some rn =>
    rw [hrn] at hr
    obtain ⟨fresh, hfresh, hr⟩ := Res.bind_eq_ok_iff.mp hr
    split at hr
    · cases hr
    rename_i hloc
    obtain ⟨sB, hB, hr⟩ := Res.bind_eq_ok_iff.mp hr
    simp only
    show Res.bind (checkStructure env.st (env.st.size + 2) [(root, "")] []) _ = _
    rw [hfresh, Res.bind_ok]
    show (if !localOkAll env fresh then Res.err else _) = _
    rw [if_neg hloc, resolveURIsLoop_loader]
    show Res.bind (resolveURIsLoop env (docDraft env rn inh) root (env.st.size + 2) [(root, root)]
      (beforeURIs root b (docDraft env rn inh) fresh s)) _ = _
    rw [hB, Res.bind_ok]
    exact resolveRefsLoop_ag env l r r' hs h root _ _ _ hr ha

theorem resolveDoc_ag (env : Env) (l : Loader) :
    ∀ fuel, RecAg env l (resolveDoc env fuel) (resolveDoc { env with loader := l } fuel) := by
  intro fuel
  induction fuel with
  | zero => intro root b d s s' hr; cases hr
  | succ fuel ih => exact resolveDocStep_ag env l _ _ (resolveDoc_spec env fuel) ih

theorem resolve_loader (env : Env) (l : Loader) (fuel : Nat) (root : NodeId) (base : String) (rs : Resolved)
    (h : resolve env fuel root base = .ok rs) (ha : LoaderAgree env l rs.log) :
    resolve { env with loader := l } fuel root base = .ok rs := by
  rw [resolve_eq] at h ⊢
  obtain ⟨b, hb, h⟩ := Res.bind_eq_ok_iff.mp h
  obtain ⟨s, hs, h⟩ := Res.bind_eq_ok_iff.mp h
  rw [hb, Res.bind_ok]
  have hlog : rs.log = s.log := by
    split at h
    · cases h
    · cases h; rfl
  rw [resolveDoc_ag env l fuel root b .d2020 {} s hs (hlog ▸ ha), Res.bind_ok]
  exact h

def onlyLogged (env : Env) (log : List String) : Env :=
  { env with loader := env.loader.map fun tbl => tbl.filter fun e => log.contains e.1 }

theorem loaderAgree_onlyLogged (env : Env) (log : List String) :
    LoaderAgree env (onlyLogged env log).loader log := by
  intro k hk
  unfold loaderDoc onlyLogged
  cases env.loader with
  | none => rfl
  | some tbl =>
    simp only [Option.map_some]
    rw [Json.lookup_filter_key k (fun x => log.contains x) tbl (by simpa using hk)]

theorem onlyLogged_doc {env : Env} {log : List String} {tbl : List (String × LoaderResult)} {k : String}
    {x : LoaderResult} (htbl : (onlyLogged env log).loader = some tbl) (hk : Json.lookup k tbl = some x) : k ∈ log := by
  unfold onlyLogged at htbl
  cases hl : env.loader with
  | none => rw [hl] at htbl; cases htbl
  | some t =>
    rw [hl] at htbl
    cases htbl
    simpa using (List.mem_filter.mp (Json.mem_of_lookup hk)).2

theorem resolve_G_logged (env : Env) (fuel : Nat) (root : NodeId) (base : String) (rs : Resolved)
    (h : resolve env fuel root base = .ok rs) (hfresh : LoaderFresh (onlyLogged env rs.log) root) :
    ∃ s b d rets, retrievalOf base = .ok b ∧ rets root = b ∧ s.doc? root = some d ∧ rs.draft = d.draft ∧
      GInv (onlyLogged env rs.log) root rets s ∧
      ∀ id ∈ allNodes env.st (env.st.size + 2) [root], ∀ n, env.st.get? id = some n →
        (n.ref ≠ "" → ∃ info t, lookupNat id rs.infos = some info ∧ info.resolvedRef = some t ∧
          GDesig env rets s ⟨env.st, rs.draft, root⟩ id n.ref t) ∧
        (rs.draft = .d2020 → n.dynamicRef ≠ "" →
          ∃ info t, lookupNat id rs.infos = some info ∧ info.resolvedDynamicRef = some t ∧
          GDesig env rets s ⟨env.st, rs.draft, root⟩ id n.dynamicRef t) :=
  resolve_G (onlyLogged env rs.log) fuel root base rs hfresh
    (resolve_loader env _ fuel root base rs h (loaderAgree_onlyLogged env rs.log))

end RInv
end Go
end JSV
