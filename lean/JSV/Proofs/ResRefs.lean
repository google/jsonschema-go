/-
  Every `$ref` met by resolveRefs gets a recorded target, and recorded targets are never lost (a second pass over
  resolveDoc / resolveRefsLoop / resolveRef, for the facts about table lookups).
-/
import JSV.Proofs.ResInv
namespace JSV
namespace Go
namespace RInv
open Uri

def HasRef (infos : List (NodeId × Info)) (id : NodeId) : Prop :=
  ∃ i t, lookupNat id infos = some i ∧ i.resolvedRef = some t

def Keeps (s s' : RState) : Prop :=
  (∀ id, (lookupNat id s.infos).isSome = true → (lookupNat id s'.infos).isSome = true) ∧
  (∀ id, HasRef s.infos id → HasRef s'.infos id)

theorem Keeps.refl (s : RState) : Keeps s s := ⟨fun _ h => h, fun _ h => h⟩
theorem Keeps.trans {a b c : RState} (h1 : Keeps a b) (h2 : Keeps b c) : Keeps a c :=
  ⟨fun id h => h2.1 id (h1.1 id h), fun id h => h2.2 id (h1.2 id h)⟩
theorem Keeps.of_infos_eq {a b : RState} (h : b.infos = a.infos) : Keeps a b := by
  unfold Keeps; rw [h]; exact ⟨fun _ h => h, fun _ h => h⟩

theorem updInfo_infos_lookup (s : RState) (id : NodeId) (f : Info → Info) (k : NodeId) :
    lookupNat k (s.updInfo id f).infos =
      if id = k then (lookupNat k s.infos).map f else lookupNat k s.infos := by
  unfold RState.updInfo
  split
  · rename_i i hi
    show lookupNat k (setNat id (f i) s.infos) = _
    rw [lookupNat_setNat]
    split
    · rename_i h; subst h; rw [hi]; rfl
    · rfl
  · rename_i hi
    split
    · rename_i h; subst h; rw [hi]; rfl
    · rfl

theorem updInfo_lookup_some {s : RState} {id k : NodeId} {f : Info → Info} {i : Info}
    (h : lookupNat k (s.updInfo id f).infos = some i) :
    (k = id ∧ ∃ i0, lookupNat k s.infos = some i0 ∧ i = f i0) ∨ (k ≠ id ∧ lookupNat k s.infos = some i) := by
  rw [updInfo_infos_lookup] at h
  split at h
  · rename_i e
    obtain ⟨i0, h0, e'⟩ := Option.map_eq_some_iff.mp h
    exact Or.inl ⟨e.symm, i0, h0, e'.symm⟩
  · rename_i e
    exact Or.inr ⟨fun e' => e e'.symm, h⟩

theorem updInfo_keeps (s : RState) (id : NodeId) (f : Info → Info)
    (hf : ∀ i t, i.resolvedRef = some t → ∃ t', (f i).resolvedRef = some t') :
    Keeps s (s.updInfo id f) := by
  constructor
  · intro k hk
    rw [updInfo_infos_lookup]
    split
    · cases h : lookupNat k s.infos <;> simp_all
    · exact hk
  · intro k ⟨i, t, hi, ht⟩
    unfold HasRef
    rw [updInfo_infos_lookup]
    split
    · obtain ⟨t', ht'⟩ := hf i t ht
      exact ⟨f i, t', by rw [hi]; rfl, ht'⟩
    · exact ⟨i, t, hi, ht⟩

theorem setAnchor_keeps (s : RState) (b t : NodeId) (a : String) (d : Bool) : Keeps s (setAnchor s b t a d) := by
  unfold setAnchor
  split
  · exact Keeps.refl s
  · apply updInfo_keeps
    intro i t ht
    split
    · exact ⟨t, ht⟩
    · exact ⟨t, ht⟩

theorem resolveURIsLoop_keeps (env : Env) (draft : Draft) (root : NodeId) :
    ∀ fuel work s s', resolveURIsLoop env draft root fuel work s = .ok s' → Keeps s s' := by
  intro fuel work s s' h
  refine resolveURIsLoop_inv env draft root (Keeps s) ?_ ?_ ?_ ?_ fuel work s s' h (Keeps.refl _)
  · exact fun a id u ha => ha.trans (updInfo_keeps _ _ _ (fun i t ht => ⟨t, ht⟩))
  · exact fun a id b ha => ha.trans (updInfo_keeps _ _ _ (fun i t ht => ⟨t, ht⟩))
  · exact fun a b t x dyn _ ha => ha.trans (setAnchor_keeps _ _ _ _ _)
  · exact fun a d u _ ha => ha.trans (Keeps.of_infos_eq (setDoc_infos _ _))

/-- what the open-recursion callback must satisfy -/
def RecKeeps (recDoc : ResolveDoc) : Prop :=
  ∀ root base draft s s', recDoc root base draft s = .ok s' → Keeps s s'

theorem resolveRef_keeps (env : Env) (recDoc : ResolveDoc) (hrec : RecKeeps recDoc)
    (root : NodeId) (s : RState) (id : NodeId) (ref : String) (o : RefOut) (s' : RState)
    (h : resolveRef env recDoc root s id ref = .ok (o, s')) :
    Keeps s s' ∧ (lookupNat id s.infos).isSome = true := by
  obtain ⟨refURI0, info, base, bInfo, bu, d, r, _, hinfo, _, _, _, _, hloc, _⟩ :=
    resolveRef_unfold env recDoc root s id ref o s' h
  refine ⟨?_, by rw [info?_lookup _ _ _ _ hinfo]; rfl⟩
  unfold Located at hloc
  simp only at hloc
  rcases hloc with ⟨_, rfl⟩ | ⟨_, _, rfl⟩ | ⟨_, _, tbl, s2, _, _, hdoc, rfl⟩
  · exact Keeps.refl _
  · exact Keeps.of_infos_eq (mergeKnown_infos _ _ _)
  · exact (Keeps.trans (Keeps.of_infos_eq rfl) (hrec _ _ _ _ _ hdoc)).trans (Keeps.of_infos_eq (mergeKnown_infos _ _ _))

theorem resolveRefsLoop_keeps (env : Env) (recDoc : ResolveDoc) (hrec : RecKeeps recDoc) (root : NodeId) :
    ∀ ids s s', resolveRefsLoop env recDoc root ids s = .ok s' →
      Keeps s s' ∧ ∀ id ∈ ids, ∀ n, env.st.get? id = some n → n.ref ≠ "" → HasRef s'.infos id := by
  intro ids
  induction ids with
  | nil => intro s s' h; rw [resolveRefsLoop] at h; cases h; exact ⟨Keeps.refl _, fun _ h => nomatch h⟩
  | cons id rest ih =>
    intro s s' h
    rw [resolveRefsLoop_cons] at h
    cases hn : env.st.get? id with
    | none => rw [hn] at h; cases h
    | some n =>
      rw [hn] at h
      simp only [Res.bind_eq_ok_iff] at h
      obtain ⟨s1, h1, s2, h2, h⟩ := h
      have g1 : Keeps s s1 ∧ (n.ref ≠ "" → HasRef s1.infos id) := by
        rcases refStep_ok' h1 with ⟨hoff, rfl⟩ | ⟨_, o, sa, hr, rfl⟩
        · exact ⟨Keeps.refl _, fun h => absurd hoff (by simpa using h)⟩
        · obtain ⟨k, hl⟩ := resolveRef_keeps env recDoc hrec _ _ _ _ _ _ hr
          refine ⟨k.trans (updInfo_keeps _ _ _ (fun i t _ => ⟨_, rfl⟩)), fun _ => ?_⟩
          -- `id` has a record, which now holds the target
          unfold HasRef
          rw [updInfo_infos_lookup, if_pos rfl]
          cases hg : lookupNat id sa.infos with
          | none => have := k.1 id hl; rw [hg] at this; cases this
          | some i => exact ⟨_, _, rfl, rfl⟩
      have g2 : Keeps s1 s2 := by
        rcases refStep_ok h2 with rfl | ⟨o, sa, hr, rfl⟩
        · exact Keeps.refl _
        · exact (resolveRef_keeps env recDoc hrec _ _ _ _ _ _ hr).1.trans (updInfo_keeps _ _ _ (fun i t ht => ⟨t, ht⟩))
      obtain ⟨k3, c3⟩ := ih _ _ h
      refine ⟨g1.1.trans (g2.trans k3), ?_⟩
      intro id' hid' n' hn' hne
      rcases List.mem_cons.mp hid' with e | e
      · subst e
        obtain rfl : n = n' := Option.some.inj (hn.symm.trans hn')
        exact k3.2 _ (g2.2 _ (g1.2 hne))
      · exact c3 id' e n' hn' hne

theorem resolveDocStep_keeps (env : Env) (recDoc : ResolveDoc) (hrec : RecKeeps recDoc)
    (root : NodeId) (baseURI : Url) (inherit : Draft) (s s' : RState)
    (h : resolveDocStep env recDoc root baseURI inherit s = .ok s') :
    Keeps s s' ∧ ∀ id ∈ allNodes env.st (env.st.size + 2) [root], ∀ n, env.st.get? id = some n →
      n.ref ≠ "" → HasRef s'.infos id := by
  obtain ⟨rn, fresh, sB, _, hfresh, hB, h⟩ := RDraft.resolveDocStep_unfold env recDoc root baseURI inherit s s' h
  have kB := resolveURIsLoop_keeps _ _ _ _ _ _ _ hB
  obtain ⟨kC, cC⟩ := resolveRefsLoop_keeps env recDoc hrec _ _ _ _ h
  refine ⟨?_, cC⟩
  have kA : Keeps s { s with infos := s.infos ++ fresh } := by
    constructor
    · intro id hid
      show (lookupNat id (s.infos ++ fresh)).isSome = true
      rw [lookupNat_append_of_isSome _ _ _ hid]; exact hid
    · intro id ⟨i, t, hi, ht⟩
      refine ⟨i, t, ?_, ht⟩
      show lookupNat id (s.infos ++ fresh) = some i
      rw [lookupNat_append_of_isSome _ _ _ (by rw [hi]; rfl)]; exact hi
  exact kA.trans (((Keeps.of_infos_eq (setDoc_infos _ _)).trans
    (updInfo_keeps _ _ _ (by intro i t ht; exact ⟨t, ht⟩))).trans (kB.trans (Keeps.trans (Keeps.of_infos_eq rfl) kC)))

theorem resolveDoc_keeps (env : Env) : ∀ fuel, RecKeeps (resolveDoc env fuel) := by
  intro fuel
  induction fuel with
  | zero => intro root base draft s s' h; simp [resolveDoc] at h
  | succ fuel ih => intro root base draft s s' h; exact (resolveDocStep_keeps env _ ih _ _ _ _ _ h).1

end RInv
end Go
end JSV
