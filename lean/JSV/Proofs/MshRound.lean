/-
  For C05 (marshal / unmarshal round trip): the marshalled pieces on absent fields, the boolean schemas, the keys of
  the emitted object (`KeyIn`, `emittedNames`), the name tables as equations (`knownKeys_eq`, `structNames_eq`), members
  with unknown keys (`setFields_unknown`), and a node that has nothing but `Extra`.
-/
import JSV.Proofs.MshNode
import JSV.Proofs.MshFacts
import JSV.Proofs.MshNorm
import JSV.Proofs.InvUnmarshal
import JSV.Model.Unmarshal
namespace JSV
namespace Go

theorem mOne_none (st : Store) (rec : MRec) (k : String) : mOne st rec k none = .ok [] := rfl
theorem mMany_none (st : Store) (rec : MRec) (k : String) : mMany st rec k none = .ok [] := rfl
theorem mManyNN_none (st : Store) (rec : MRec) (k : String) : mManyNN st rec k none = .ok [] := rfl
theorem mKeyed_none (st : Store) (rec : MRec) (k : String) : mKeyed st rec k none = .ok [] := rfl
theorem mPropsField_none (st : Store) (rec : MRec) (o : List String) : mPropsField st rec none o = .ok [] := rfl
theorem mDeps_none (st : Store) (rec : MRec) : mDeps st rec none none = .ok none := rfl
theorem mItemsField_none (st : Store) (rec : MRec) : mItemsField st rec none none = .ok [] := rfl

theorem mStr_empty (k : String) : mStr k "" = [] := rfl
theorem mStr_ne (k : String) {s : String} (h : s ≠ "") : mStr k s = [(k, .str s)] := by
  unfold mStr
  rw [if_neg]
  simpa using h
theorem mBool_false (k : String) : mBool k false = [] := rfl
theorem mNum_none (k : String) : mNum k none = [] := rfl
theorem mInt_none (k : String) : mInt k none = [] := rfl
theorem mem_none (k : String) : mem k none = [] := rfl
theorem mem_some (k : String) (j : Json) : mem k (some j) = [(k, j)] := rfl
theorem mNonEmptyList_none (k : String) : mNonEmptyList k none = [] := rfl

theorem mFinish_obj {M ms : List (String × Json)} (h : mFinish M = .ok (.obj ms)) : ms = M := by
  unfold mFinish at h
  split at h
  · cases h
  · cases h
  · cases h; rfl

theorem marshalStep_empty (st : Store) (rec : MRec) (id : NodeId) (h : st.get? id = some emptyNode) :
    marshalStep st rec id = .ok (.bool true) := by
  rw [marshalStep_eq, h]
  rfl

theorem marshalStep_false (st : Store) (rec : MRec) (id inner : NodeId)
    (h : st.get? id = some { emptyNode with not := some inner })
    (hi : st.get? inner = some emptyNode) (hrec : rec inner = .ok (.bool true)) :
    marshalStep st rec id = .ok (.bool false) := by
  rw [marshalStep_eq, h]
  have e : mOne st rec "not" (some inner) = .ok [("not", .bool true)] := by
    simp only [mOne, mSchema, hi, hrec, Res.bind_ok]
  dsimp only [emptyNode]
  rw [if_neg (by simp [marshalChecksOk, basicChecksOk, hasDup]), if_neg (by simp)]
  unfold marshalNode marshalParts
  dsimp only
  simp only [mOne_none, mMany_none, mManyNN_none, mKeyed_none, mPropsField_none, mDeps_none,
    mItemsField_none, e, Res.bind_ok]
  unfold mMembers
  dsimp only
  simp only [mTyp, mVocab, mDepReq, mRequired, mExtra, sortKV, mStr_empty, mBool_false, mNum_none, mInt_none,
    mem_none, mNonEmptyList_none, Option.map_none, Option.getD_none, List.map_nil, List.foldr_nil,
    bne_self_eq_false, Bool.false_eq_true, if_false, List.append_nil, List.nil_append]
  rfl

theorem unmarshal_true (st : Store) : unmarshal (.bool true) st = .ok (st.alloc emptyNode) := rfl
theorem unmarshal_false (st : Store) : unmarshal (.bool false) st = .ok (allocFalse st) := rfl

theorem marshal_alloc_empty (st : Store) : marshal (st.alloc emptyNode).2 (st.alloc emptyNode).1 = .ok (.bool true) := by
  show marshalStep (st.push emptyNode) _ st.size = _
  exact marshalStep_empty _ _ _ (get?_push_size _ _)

theorem marshal_allocFalse (st : Store) : marshal (allocFalse st).2 (allocFalse st).1 = .ok (.bool false) := by
  show marshalStep ((st.push emptyNode).push { emptyNode with not := some st.size })
    (marshalFuel ((st.push emptyNode).push { emptyNode with not := some st.size })
      (((st.push emptyNode).push { emptyNode with not := some st.size }).size + 1)) (st.push emptyNode).size = _
  have hi : Store.get? ((st.push emptyNode).push { emptyNode with not := some st.size }) st.size = some emptyNode := by
    rw [get?_push_lt _ (by rw [Array.size_push]; exact Nat.lt_succ_self _), get?_push_size]
  refine marshalStep_false _ _ _ st.size (get?_push_size _ _) hi ?_
  exact marshalStep_empty _ _ _ hi

def KeyIn (k : String) (l : List (String × Json)) : Prop := l = [] ∨ ∃ j, l = [(k, j)]

theorem keyIn_mem (k : String) (v : Option Json) : KeyIn k (mem k v) := by
  cases v with
  | none => exact Or.inl rfl
  | some j => exact Or.inr ⟨j, rfl⟩

theorem keyIn_mStr (k s : String) : KeyIn k (mStr k s) := by
  unfold mStr; split
  · exact Or.inl rfl
  · exact Or.inr ⟨_, rfl⟩

theorem keyIn_mBool (k : String) (b : Bool) : KeyIn k (mBool k b) := by
  cases b
  · exact Or.inl rfl
  · exact Or.inr ⟨_, rfl⟩

theorem keyIn_mNum (k : String) (q : Option Rat) : KeyIn k (mNum k q) := keyIn_mem k _
theorem keyIn_mInt (k : String) (q : Option Int) : KeyIn k (mInt k q) := keyIn_mem k _

theorem keyIn_mTyp (n : Node) : KeyIn "type" (mTyp n) := by
  unfold mTyp; split
  · exact Or.inr ⟨_, rfl⟩
  · split
    · exact Or.inr ⟨_, rfl⟩
    · exact Or.inl rfl

theorem keyIn_mVocab (n : Node) : KeyIn "$vocabulary" (mVocab n) := by
  unfold mVocab; split
  · exact Or.inr ⟨_, rfl⟩
  · exact Or.inl rfl

theorem keyIn_mDepReq (n : Node) : KeyIn "dependentRequired" (mDepReq n) := by
  unfold mDepReq; split
  · exact Or.inr ⟨_, rfl⟩
  · exact Or.inl rfl

theorem keyIn_mRequired (n : Node) : KeyIn "required" (mRequired n) := by
  unfold mRequired; split
  · exact Or.inr ⟨_, rfl⟩
  · exact Or.inl rfl

theorem keyIn_mNonEmptyList (k : String) (l : Option (List Json)) : KeyIn k (mNonEmptyList k l) := by
  unfold mNonEmptyList; split
  · exact Or.inr ⟨_, rfl⟩
  · exact Or.inl rfl

theorem keyIn_mOne {st : Store} {rec : MRec} {k : String} {c : Option NodeId} {l : List (String × Json)}
    (h : mOne st rec k c = .ok l) : KeyIn k l := by
  cases c with
  | none => cases h; exact Or.inl rfl
  | some x =>
    simp only [mOne] at h
    obtain ⟨j, _, h2⟩ := Res.bind_eq_ok h
    cases h2
    exact Or.inr ⟨j, rfl⟩

theorem keyIn_mMany {st : Store} {rec : MRec} {k : String} {c : Option (List NodeId)} {l : List (String × Json)}
    (h : mMany st rec k c = .ok l) : KeyIn k l := by
  unfold mMany at h
  split at h
  · cases h; exact Or.inl rfl
  · cases h; exact Or.inl rfl
  · obtain ⟨j, _, h2⟩ := Res.bind_eq_ok h
    cases h2
    exact Or.inr ⟨_, rfl⟩

theorem keyIn_mManyNN {st : Store} {rec : MRec} {k : String} {c : Option (List NodeId)} {l : List (String × Json)}
    (h : mManyNN st rec k c = .ok l) : KeyIn k l := by
  unfold mManyNN at h
  split at h
  · cases h; exact Or.inl rfl
  · obtain ⟨j, _, h2⟩ := Res.bind_eq_ok h
    cases h2
    exact Or.inr ⟨_, rfl⟩

theorem keyIn_mKeyed {st : Store} {rec : MRec} {k : String} {c : Option (List (String × NodeId))}
    {l : List (String × Json)} (h : mKeyed st rec k c = .ok l) : KeyIn k l := by
  unfold mKeyed at h
  split at h
  · cases h; exact Or.inl rfl
  · cases h; exact Or.inl rfl
  · obtain ⟨j, _, h2⟩ := Res.bind_eq_ok h
    cases h2
    exact Or.inr ⟨_, rfl⟩

theorem keyIn_mPropsField {st : Store} {rec : MRec} {c : Option (List (String × NodeId))} {o : List String}
    {l : List (String × Json)} (h : mPropsField st rec c o = .ok l) : KeyIn "properties" l := by
  unfold mPropsField at h
  split at h
  · obtain ⟨j, _, h2⟩ := Res.bind_eq_ok h
    cases h2
    exact Or.inr ⟨_, rfl⟩
  · cases h; exact Or.inl rfl

theorem keyIn_mItemsField {st : Store} {rec : MRec} {c : Option NodeId} {a : Option (List NodeId)}
    {l : List (String × Json)} (h : mItemsField st rec c a = .ok l) : KeyIn "items" l := by
  unfold mItemsField at h
  split at h
  · exact keyIn_mOne h
  · obtain ⟨j, _, h2⟩ := Res.bind_eq_ok h
    cases h2
    exact Or.inr ⟨_, rfl⟩
  · cases h; exact Or.inl rfl

/-- the tagged / wrapper names in emission order, written as the append chain the member list has -/
def emittedNames : List String :=
  (((((((((((((((((((((((((((((((((((((((((((((((((((((((((((["type"] ++ ["properties"]) ++ ["dependencies"]) ++ ["items"]) ++ ["enum"]) ++ ["anyOf"]) ++ ["oneOf"]) ++ ["$vocabulary"]) ++ ["$id"]) ++ ["$schema"]) ++ ["$ref"]) ++ ["$comment"]) ++ ["$defs"]) ++ ["definitions"]) ++ ["$anchor"]) ++ ["$dynamicAnchor"]) ++ ["$dynamicRef"]) ++ ["title"]) ++ ["description"]) ++ ["default"]) ++ ["deprecated"]) ++ ["readOnly"]) ++ ["writeOnly"]) ++ ["examples"]) ++ ["const"]) ++ ["multipleOf"]) ++ ["minimum"]) ++ ["maximum"]) ++ ["exclusiveMinimum"]) ++ ["exclusiveMaximum"]) ++ ["minLength"]) ++ ["maxLength"]) ++ ["pattern"]) ++ ["prefixItems"]) ++ ["minItems"]) ++ ["maxItems"]) ++ ["additionalItems"]) ++ ["uniqueItems"]) ++ ["contains"]) ++ ["minContains"]) ++ ["maxContains"]) ++ ["unevaluatedItems"]) ++ ["minProperties"]) ++ ["maxProperties"]) ++ ["required"]) ++ ["dependentRequired"]) ++ ["patternProperties"]) ++ ["additionalProperties"]) ++ ["propertyNames"]) ++ ["unevaluatedProperties"]) ++ ["allOf"]) ++ ["not"]) ++ ["if"]) ++ ["then"]) ++ ["else"]) ++ ["dependentSchemas"]) ++ ["contentEncoding"]) ++ ["contentMediaType"]) ++ ["contentSchema"]) ++ ["format"])

theorem emittedNames_eq : emittedNames = ["type", "properties", "dependencies", "items", "enum", "anyOf", "oneOf", "$vocabulary", "$id", "$schema", "$ref", "$comment", "$defs", "definitions", "$anchor", "$dynamicAnchor", "$dynamicRef", "title", "description", "default", "deprecated", "readOnly", "writeOnly", "examples", "const", "multipleOf", "minimum", "maximum", "exclusiveMinimum", "exclusiveMaximum", "minLength", "maxLength", "pattern", "prefixItems", "minItems", "maxItems", "additionalItems", "uniqueItems", "contains", "minContains", "maxContains", "unevaluatedItems", "minProperties", "maxProperties", "required", "dependentRequired", "patternProperties", "additionalProperties", "propertyNames", "unevaluatedProperties", "allOf", "not", "if", "then", "else", "dependentSchemas", "contentEncoding", "contentMediaType", "contentSchema", "format"] := rfl

theorem keys_cons_sub {k : String} {p rest : List (String × Json)} {L : List String} (h : KeyIn k p)
    (hr : (rest.map (·.1)).Sublist L) : ((p ++ rest).map (·.1)).Sublist (k :: L) := by
  rcases h with rfl | ⟨j, rfl⟩
  · exact hr.cons k
  · exact hr.cons_cons k

theorem keys_mMembers_sub {st : Store} {rec : MRec} {n : Node} {p : Pieces} (hp : IsPieces st rec n p) :
    ((mMembers n p).map (·.1)).Sublist (emittedNames ++ (mExtra n).map (·.1)) := by
  obtain ⟨e1, e2, e3, e4, e5, e6, e7, e8, e9, e10, e11, e12, e13, e14, e15, e16, e17, e18, e19, e20, e21, e22⟩ := hp
  rw [emittedNames_eq]
  unfold mMembers
  refine keys_cons_sub (keyIn_mTyp n) ?_
  refine keys_cons_sub (keyIn_mPropsField e1) ?_
  refine keys_cons_sub (keyIn_mem _ _) ?_
  refine keys_cons_sub (keyIn_mItemsField e3) ?_
  refine keys_cons_sub (keyIn_mem _ _) ?_
  refine keys_cons_sub (keyIn_mManyNN e15) ?_
  refine keys_cons_sub (keyIn_mManyNN e16) ?_
  refine keys_cons_sub (keyIn_mVocab n) ?_
  refine keys_cons_sub (keyIn_mStr _ _) ?_
  refine keys_cons_sub (keyIn_mStr _ _) ?_
  refine keys_cons_sub (keyIn_mStr _ _) ?_
  refine keys_cons_sub (keyIn_mStr _ _) ?_
  refine keys_cons_sub (keyIn_mKeyed e4) ?_
  refine keys_cons_sub (keyIn_mKeyed e5) ?_
  refine keys_cons_sub (keyIn_mStr _ _) ?_
  refine keys_cons_sub (keyIn_mStr _ _) ?_
  refine keys_cons_sub (keyIn_mStr _ _) ?_
  refine keys_cons_sub (keyIn_mStr _ _) ?_
  refine keys_cons_sub (keyIn_mStr _ _) ?_
  refine keys_cons_sub (keyIn_mem _ _) ?_
  refine keys_cons_sub (keyIn_mBool _ _) ?_
  refine keys_cons_sub (keyIn_mBool _ _) ?_
  refine keys_cons_sub (keyIn_mBool _ _) ?_
  refine keys_cons_sub (keyIn_mNonEmptyList _ _) ?_
  refine keys_cons_sub (keyIn_mem _ _) ?_
  refine keys_cons_sub (keyIn_mNum _ _) ?_
  refine keys_cons_sub (keyIn_mNum _ _) ?_
  refine keys_cons_sub (keyIn_mNum _ _) ?_
  refine keys_cons_sub (keyIn_mNum _ _) ?_
  refine keys_cons_sub (keyIn_mNum _ _) ?_
  refine keys_cons_sub (keyIn_mInt _ _) ?_
  refine keys_cons_sub (keyIn_mInt _ _) ?_
  refine keys_cons_sub (keyIn_mStr _ _) ?_
  refine keys_cons_sub (keyIn_mMany e6) ?_
  refine keys_cons_sub (keyIn_mInt _ _) ?_
  refine keys_cons_sub (keyIn_mInt _ _) ?_
  refine keys_cons_sub (keyIn_mOne e7) ?_
  refine keys_cons_sub (keyIn_mBool _ _) ?_
  refine keys_cons_sub (keyIn_mOne e8) ?_
  refine keys_cons_sub (keyIn_mInt _ _) ?_
  refine keys_cons_sub (keyIn_mInt _ _) ?_
  refine keys_cons_sub (keyIn_mOne e9) ?_
  refine keys_cons_sub (keyIn_mInt _ _) ?_
  refine keys_cons_sub (keyIn_mInt _ _) ?_
  refine keys_cons_sub (keyIn_mRequired n) ?_
  refine keys_cons_sub (keyIn_mDepReq n) ?_
  refine keys_cons_sub (keyIn_mKeyed e10) ?_
  refine keys_cons_sub (keyIn_mOne e11) ?_
  refine keys_cons_sub (keyIn_mOne e12) ?_
  refine keys_cons_sub (keyIn_mOne e13) ?_
  refine keys_cons_sub (keyIn_mMany e14) ?_
  refine keys_cons_sub (keyIn_mOne e17) ?_
  refine keys_cons_sub (keyIn_mOne e18) ?_
  refine keys_cons_sub (keyIn_mOne e19) ?_
  refine keys_cons_sub (keyIn_mOne e20) ?_
  refine keys_cons_sub (keyIn_mKeyed e21) ?_
  refine keys_cons_sub (keyIn_mStr _ _) ?_
  refine keys_cons_sub (keyIn_mStr _ _) ?_
  refine keys_cons_sub (keyIn_mOne e22) ?_
  refine keys_cons_sub (keyIn_mStr _ _) ?_
  exact List.Sublist.refl _

theorem marshalNode_obj_keys {st : Store} {rec : MRec} {n : Node} {ms : List (String × Json)}
    (h : marshalNode st rec n = .ok (.obj ms)) :
    (ms.map (·.1)).Sublist (emittedNames ++ (mExtra n).map (·.1)) := by
  obtain ⟨p, hp, hf⟩ := marshalNode_inv h
  rw [mFinish_obj hf]
  exact keys_mMembers_sub hp

theorem mFinish_of_mem {M : List (String × Json)} {j : Json} {e : String × Json} (he : e ∈ M) (hne : e.1 ≠ "not")
    (h : mFinish M = .ok j) : j = .obj M := by
  rw [mFinish_other (M := M)] at h
  · cases h; rfl
  · intro h0; rw [h0] at he; cases he
  · intro h0
    rw [h0, List.mem_singleton] at he
    exact hne (by rw [he])

theorem mVocab_some {n : Node} {vs : List (String × Bool)} (hv : n.vocabulary = some vs) :
    mVocab n = [("$vocabulary", Json.obj (sortKV (vs.map fun (k, b) => (k, Json.bool b))))] := by
  unfold mVocab
  rw [hv]

/-- a non-nil Vocabulary, empty or not, is written: the wrapper struct of MarshalJSON holds it as an `any` -/
theorem marshalNode_vocab {st : Store} {rec : MRec} {n : Node} {j : Json} {vs : List (String × Bool)}
    (hv : n.vocabulary = some vs) (h : marshalNode st rec n = .ok j) :
    ∃ ms, j = .obj ms ∧ ("$vocabulary", Json.obj (sortKV (vs.map fun (k, b) => (k, Json.bool b)))) ∈ ms := by
  obtain ⟨p, -, hf⟩ := marshalNode_inv h
  have hm : ("$vocabulary", Json.obj (sortKV (vs.map fun (k, b) => (k, Json.bool b)))) ∈ mMembers n p := by
    unfold mMembers
    simp only [List.mem_append, mVocab_some hv, List.mem_singleton, true_or, or_true]
  exact ⟨_, mFinish_of_mem hm (show "$vocabulary" ≠ "not" by decide) hf, hm⟩

theorem emittedNames_nodup : emittedNames.Nodup := by
  rw [emittedNames_eq]; decide +kernel

theorem emittedNames_sublist : emittedNames.Sublist structNames := by
  rw [emittedNames_eq]; decide +kernel

/-- UnmarshalJSON's keys are the tagged names followed by the three names of the `-`-tagged unions -/
theorem knownKeys_eq : knownKeys = taggedNames ++ ["type", "items", "dependencies"] := by decide +kernel

/-- the names marshalStructWithMap protects: those of the wrapper struct, then the tagged names ("properties" is
    in the wrapper) -/
theorem structNames_eq : structNames =
    ["type", "properties", "dependencies", "items", "enum", "anyOf", "oneOf", "$vocabulary"] ++
      taggedNames.filter (· != "properties") := by decide +kernel

theorem taggedNames_sub : (∀ k, k ∈ taggedNames → k ∈ knownKeys) ∧ (∀ k, k ∈ taggedNames → k ∈ structNames) := by
  refine ⟨fun _ h => knownKeys_eq ▸ List.mem_append_left _ h, fun k h => ?_⟩
  rw [structNames_eq]
  by_cases hk : k = "properties"
  · subst hk; simp
  · exact List.mem_append_right _ (List.mem_filter.2 ⟨h, by simpa using hk⟩)

theorem structNames_iff_knownKeys (k : String) : k ∈ structNames ↔ k ∈ knownKeys := by
  constructor
  · intro h
    rw [structNames_eq] at h
    rcases List.mem_append.1 h with h | h
    · have : ∀ a ∈ ["type", "properties", "dependencies", "items", "enum", "anyOf", "oneOf", "$vocabulary"],
          a ∈ knownKeys := by decide +kernel
      exact this k h
    · exact taggedNames_sub.1 k (List.mem_filter.1 h).1
  · intro h
    rw [knownKeys_eq] at h
    rcases List.mem_append.1 h with h | h
    · exact taggedNames_sub.2 k h
    · have : ∀ a ∈ ["type", "items", "dependencies"], a ∈ structNames := by decide +kernel
      exact this k h

theorem map_sortJson_keys (l : List (String × Json)) :
    (l.map fun (k, v) => (k, sortJson v)).map (·.1) = l.map (·.1) :=
  map_fst_map _ _ (fun _ => rfl) l

theorem keys_mExtra_perm (n : Node) : ((mExtra n).map (·.1)).Perm ((n.extra.getD []).map (·.1)) := by
  unfold mExtra
  refine ((sortKV_perm _).map _).trans ?_
  rw [map_sortJson_keys]

theorem marshalStep_extra (st : Store) (rec : MRec) (id : NodeId) (es : List (String × Json))
    (hn : st.get? id = some { extra := some es }) (hne : es ≠ [])
    (hk : ∀ e, e ∈ es → e.1 ∉ structNames) (hs : ∀ e, e ∈ es → sortJson e.2 = e.2) :
    marshalStep st rec id = .ok (.obj (sortKV es)) := by
  rw [marshalStep_eq, hn]
  have hE : mExtra { extra := some es } = sortKV es := by
    unfold mExtra
    dsimp only [Option.getD]
    rw [map_sortJson_id es hs]
  have hany : ((es.any fun e => structNames.contains e.1) = true) → False := by
    intro h
    rw [List.any_eq_true] at h
    obtain ⟨e, he, hc⟩ := h
    exact hk e he (by simpa using hc)
  dsimp only [Option.getD_some]
  rw [if_neg (by simp [marshalChecksOk, basicChecksOk, hasDup]), if_neg hany]
  unfold marshalNode marshalParts
  dsimp only
  simp only [mOne_none, mMany_none, mManyNN_none, mKeyed_none, mPropsField_none, mDeps_none,
    mItemsField_none, Res.bind_ok]
  unfold mMembers
  dsimp only
  simp only [mTyp, mVocab, mDepReq, mRequired, mStr_empty, mBool_false, mNum_none, mInt_none,
    mem_none, mNonEmptyList_none, Option.map_none,
    bne_self_eq_false, Bool.false_eq_true, if_false, List.nil_append, hE]
  have hp := sortKV_perm es
  apply mFinish_other
  · intro h0
    rw [h0] at hp
    exact hne hp.symm.eq_nil
  · intro h0
    rw [h0] at hp
    exact hk ("not", .bool true) (hp.mem_iff.1 List.mem_cons_self) (by decide)

/-- the second hypothesis is H_D4 -/
theorem setFields_unknown (rec : URec) : ∀ (l : List (String × Json)) (m : Node) (st : Store),
    (∀ e, e ∈ l → e.1 ∉ knownKeys) → (∀ e, e ∈ l → isFoldedKey e.1 = false) →
    setFields rec l m st = .ok (l.foldl addExtra m, st)
  | [], _, _, _, _ => rfl
  | (k, v) :: l, m, st, h, hf => by
    simp only [setFields, setMember_eq_setField rec m st v
        (canonKey_of_not_mem (h (k, v) List.mem_cons_self) (hf (k, v) List.mem_cons_self)),
      setField_unknown rec m st k v (h (k, v) List.mem_cons_self), Res.bind_ok, List.foldl_cons]
    exact setFields_unknown rec l _ st (fun e he => h e (List.mem_cons_of_mem _ he))
      (fun e he => hf e (List.mem_cons_of_mem _ he))

theorem unmarshalStep_extra (rec : URec) (l : List (String × Json)) (st : Store) (hne : l ≠ [])
    (hk : ∀ e, e ∈ l → e.1 ∉ knownKeys) (hf : ∀ e, e ∈ l → isFoldedKey e.1 = false) :
    unmarshalStep rec (.obj l) st = .ok (st.alloc { extra := some l }) := by
  simp only [unmarshalStep, setFields_unknown rec l emptyNode st hk hf, Res.bind_ok, foldl_addExtra l emptyNode hne]
  rfl

end Go
end JSV
