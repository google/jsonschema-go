/-
  Definedness ("no hang"): on an environment whose in-place reference graph carries a rank certificate
  (`Go.ranked`) and whose tables are complete (`Go.closed`), `Spec.evalFuel` is DEFINED at every schema `s` of the store with any fuel
  from `depth j * (maxRank env + 1) + rankOf env s + 1` on.

  Lexicographic argument on (nesting depth of the instance, rank of the schema): an in-place application keeps the
  instance and goes to a schema of strictly smaller rank; an application to a child of the instance goes to an
  instance of strictly smaller depth and to a schema of any rank; each consumes one unit of fuel.
  A step is defined if `sub` is defined on the questions it asks (`specBody_calls`, `Calls.isSome`).

  Second half: the bounds `rankOf ≤ maxRank ≤ size + 1` (`maxRank_le_size`, hence a fuel bound in the size of the store),
  and `ranked_guarded`: a rank certificate excludes in-place cycles, so the cycle search `Go.guarded` finds none.
-/
import JSV.Proofs.SpecStepCalls
import JSV.Proofs.LookupNat
import JSV.Model.Guarded
import JSV.Proofs.ListFacts
namespace JSV
namespace Refine
open Go

def refEdges (env : VEnv) (s : NodeId) (n : Node) : List NodeId :=
  if n.ref != "" then ((env.info? s).bind (·.resolvedRef)).toList else []

def dynEdges (env : VEnv) (s : NodeId) (n : Node) : List NodeId :=
  if n.dynamicRef != "" then
    (((env.info? s).bind (·.resolvedDynamicRef)).toList) ++
    (match env.info? s with
     | some i => if i.dynamicRefAnchor != "" then dynAnchorTargets env.infos i.dynamicRefAnchor else []
     | none => [])
  else []

theorem inPlaceEdges_eq (env : VEnv) (s : NodeId) (n : Node) (hn : env.st.get? s = some n) :
    inPlaceEdges env s =
      refEdges env s n ++ dynEdges env s n ++ (n.allOf.getD []) ++ (n.anyOf.getD []) ++ (n.oneOf.getD []) ++
        n.not.toList ++ n.if_.toList ++ n.then_.toList ++ n.else_.toList ++
        ((n.dependentSchemas.getD []).map (·.2)) ++ ((n.dependencySchemas.getD []).map (·.2)) := by
  unfold inPlaceEdges refEdges dynEdges
  rw [hn]
  rfl

theorem mem_inPlaceEdges (env : VEnv) (s : NodeId) (n : Node) (hn : env.st.get? s = some n) {t : NodeId} :
    t ∈ inPlaceEdges env s ↔ t ∈ refEdges env s n ∨ t ∈ dynEdges env s n ∨ t ∈ n.allOf.getD [] ∨
      t ∈ n.anyOf.getD [] ∨ t ∈ n.oneOf.getD [] ∨ n.not = some t ∨
      (n.if_ = some t ∨ n.then_ = some t ∨ n.else_ = some t) ∨
      t ∈ (n.dependentSchemas.getD []).map (·.2) ++ (n.dependencySchemas.getD []).map (·.2) := by
  rw [inPlaceEdges_eq env s n hn]
  simp only [List.mem_append, Option.mem_toList, or_assoc]

theorem dynTarget_mem (env : VEnv) (scope : List NodeId) (name : String) (t : NodeId)
    (h : Spec.dynTarget (specEnvOf env) scope name = some t) : t ∈ dynAnchorTargets env.infos name := by
  unfold Spec.dynTarget at h
  obtain ⟨x, _, hx⟩ := List.exists_of_findSome?_eq_some h
  cases hr : (specEnvOf env).resource x with
  | none => rw [hr] at hx; cases hx
  | some r =>
    rw [hr] at hx
    obtain ⟨i, hi, hx⟩ := Option.bind_eq_some_iff.1 (hx : (env.info? r).bind _ = some t)
    cases hl : Json.lookup name i.anchors with
    | none => rw [hl] at hx; cases hx
    | some a =>
      rw [hl] at hx
      obtain ⟨hdy, hx⟩ := Option.ite_none_right_eq_some.1 hx
      unfold dynAnchorTargets
      refine List.mem_flatMap.2 ⟨(r, i), lookupNat_mem _ _ _ hi, List.mem_filterMap.2 ⟨(name, a), Json.mem_of_lookup hl, ?_⟩⟩
      simp only [beq_self_eq_true, hdy, Bool.and_self, if_true, hx]
/-- what `Go.closed` says at one schema object; `dyn` under 2020-12 only: under draft-07 `$dynamicRef` is an unknown
    keyword, Resolve leaves it unresolved and the Spec does not read it -/
structure ClosedAt (env : VEnv) (s : NodeId) (n : Node) : Prop where
  ref : (n.ref != "") = true → ((env.info? s).bind (·.resolvedRef)).isSome = true
  dyn : env.draft = .d2020 → (n.dynamicRef != "") = true → ((env.info? s).bind (·.resolvedDynamicRef)).isSome = true

theorem StepEdge.inPlace {env : VEnv} {scope0 : List NodeId} {s t : NodeId} {n : Node} (hn : env.st.get? s = some n)
    (h : StepEdge (specEnvOf env) scope0 s n t) : t ∈ inPlaceEdges env s := by
  refine (mem_inPlaceEdges env s n hn).2 ?_
  rcases h with ⟨hp, ht⟩ | ⟨hp, ht⟩ | h
  · refine .inl ?_
    unfold refEdges
    rw [if_pos hp, show (env.info? s).bind (·.resolvedRef) = some t from ht]
    exact List.mem_singleton.2 rfl
  · refine .inr (.inl ?_)
    have hp' : (n.dynamicRef != "") = true := by
      cases hd : env.draft <;> simp only [specEnvOf, hd, Spec.vocab] at hp
      · exact absurd hp (by simp)
      · exact hp
    unfold dynEdges
    rw [if_pos hp']
    rcases ht with ht | ⟨hnm, ht⟩
    · rw [show (env.info? s).bind (·.resolvedDynamicRef) = some t from ht]
      exact List.mem_append_left _ (List.mem_singleton.2 rfl)
    · refine List.mem_append_right _ ?_
      have hmem := dynTarget_mem env _ _ t ht
      cases hinfo : env.info? s with
      | none => simp [specEnvOf, hinfo] at hnm
      | some i0 =>
        have hname : (specEnvOf env).dynName s = i0.dynamicRefAnchor := by
          simp only [specEnvOf, hinfo, Option.map_some, Option.getD_some]
        rw [hname] at hnm hmem
        simp only
        rw [if_pos (by simpa using hnm)]
        exact hmem
  · exact .inr (.inr h)

theorem evalStep_isSome (env : VEnv) (srec : Spec.Rec) (scope0 : List NodeId) (s : NodeId) (j : Json) (n : Node)
    (hn : env.st.get? s = some n) (hcl : ClosedAt env s n)
    (hin : ∀ t, t ∈ inPlaceEdges env s → (srec (scope0 ++ [s]) t j).isSome = true)
    (hch : ∀ t, t ∈ descEdges n → ∀ x, Json.depth x < Json.depth j → (srec (scope0 ++ [s]) t x).isSome = true) :
    (Spec.evalStep (specEnvOf env) srec scope0 s j).isSome = true := by
  rw [Inv.evalStep_get (env := specEnvOf env) hn]
  refine (specBody_calls (specEnvOf env) scope0 s j n).isSome ⟨hcl.ref, fun hp => ?_⟩ ?_
  · cases hd : env.draft <;> simp only [specEnvOf, hd, Spec.vocab] at hp
    · exact absurd hp (by simp)
    · exact hcl.dyn hd hp
  · rintro t x (⟨he, rfl⟩ | hd)
    · exact hin t (he.inPlace hn)
    · exact hch t hd.1 x hd.2

theorem ranked_spec (env : VEnv) (h : ranked env = true) (s t : NodeId) (hs : s < env.st.size)
    (ht : t ∈ inPlaceEdges env s) : rankOf env t < rankOf env s := by
  unfold ranked rankedBy at h
  have h1 := List.all_eq_true.1 h s (List.mem_range.2 hs)
  have h2 := List.all_eq_true.1 h1 t ht
  exact of_decide_eq_true h2

def AllLe (b : Nat) (r : Array Nat) : Prop := ∀ x, x ∈ r.toList → x ≤ b

theorem getD_le_of_AllLe {b : Nat} {r : Array Nat} (h : AllLe b r) (t : Nat) : r.getD t 0 ≤ b := by
  by_cases ht : t < r.size
  · rw [Array.getD_eq_getD_getElem?, Array.getElem?_eq_getElem ht, Option.getD_some]
    exact h _ (Array.getElem_mem_toList ht)
  · rw [Array.getD_eq_getD_getElem?, Array.getElem?_eq_none (Nat.le_of_not_lt ht), Option.getD_none]
    exact Nat.zero_le _

theorem rankOf_le_maxRank (env : VEnv) (s : NodeId) : rankOf env s ≤ maxRank env :=
  getD_le_of_AllLe (fun x hx => (le_foldl_max _ 0).2 x hx) s

theorem closed_spec (env : VEnv) (h : closed env = true) (s : NodeId) (n : Node) (hn : env.st.get? s = some n) :
    ClosedAt env s n ∧ ∀ t, t ∈ inPlaceEdges env s ++ descEdges n → t < env.st.size := by
  have hlt : s < env.st.size := (Array.getElem?_eq_some_iff.1 hn).1
  unfold closed at h
  have h1 := List.all_eq_true.1 h s (List.mem_range.2 hlt)
  rw [hn] at h1
  simp only [Bool.and_eq_true, Bool.or_eq_true, List.all_eq_true, decide_eq_true_eq] at h1
  obtain ⟨⟨hr, hd⟩, he⟩ := h1
  refine ⟨⟨?_, ?_⟩, he⟩
  · intro hp
    rcases hr with hr | hr
    · simp only [bne, hr, Bool.not_true] at hp
      cases hp
    · exact hr
  · intro h20 hp
    rcases hd with (hd | hd) | hd
    · simp only [bne, hd, Bool.not_true] at hp
      cases hp
    · rw [h20] at hd; cases hd
    · exact hd

/-- **Definedness.**  Lexicographic induction on (depth of the instance, rank of the schema), one unit of fuel per step. -/
theorem evalFuel_isSome (env : VEnv) (hr : ranked env = true) (hc : closed env = true) :
    ∀ (fuel : Nat) (scope : List NodeId) (s : NodeId) (j : Json), s < env.st.size →
      Json.depth j * (maxRank env + 1) + rankOf env s + 1 ≤ fuel →
      (Spec.evalFuel (specEnvOf env) fuel scope s j).isSome = true
  | 0, _, _, _, _, hf => by omega
  | fuel + 1, scope, s, j, hs, hf => by
    have hn : env.st.get? s = some env.st[s] := Array.getElem?_eq_getElem hs
    obtain ⟨hcl, hin⟩ := closed_spec env hc s _ hn
    show (Spec.evalStep (specEnvOf env) (Spec.evalFuel (specEnvOf env) fuel) scope s j).isSome = true
    apply evalStep_isSome env _ scope s j _ hn hcl
    · intro t ht
      have hlt := ranked_spec env hr s t hs ht
      exact evalFuel_isSome env hr hc fuel _ t j (hin t (List.mem_append_left _ ht)) (by omega)
    · intro t ht x hx
      have hrk := rankOf_le_maxRank env t
      have hm : (Json.depth x + 1) * (maxRank env + 1) ≤ Json.depth j * (maxRank env + 1) :=
        Nat.mul_le_mul_right _ hx
      rw [Nat.add_mul, Nat.one_mul] at hm
      exact evalFuel_isSome env hr hc fuel _ t x (hin t (List.mem_append_right _ ht)) (by omega)

/-- a bound that does not mention the schema -/
theorem evalFuel_isSome_uniform (env : VEnv) (hr : ranked env = true) (hc : closed env = true)
    (fuel : Nat) (scope : List NodeId) (s : NodeId) (j : Json) (hs : s < env.st.size)
    (hf : (Json.depth j + 1) * (maxRank env + 1) ≤ fuel) :
    (Spec.evalFuel (specEnvOf env) fuel scope s j).isSome = true := by
  have hrk := rankOf_le_maxRank env s
  rw [Nat.add_mul, Nat.one_mul] at hf
  exact evalFuel_isSome env hr hc fuel scope s j hs (by omega)

/-- the fold `Go.relaxRanks` runs for one entry (there with `a = 0`) -/
def supFrom (r : Array Nat) (ts : List NodeId) (a : Nat) : Nat := ts.foldl (fun m t => max m (r.getD t 0 + 1)) a

theorem supFrom_cons (r : Array Nat) (t : NodeId) (ts : List NodeId) (a : Nat) :
    supFrom r (t :: ts) a = supFrom r ts (max a (r.getD t 0 + 1)) := rfl

theorem supFrom_eq (r : Array Nat) (ts : List NodeId) (a : Nat) :
    supFrom r ts a = (ts.map fun t => r.getD t 0 + 1).foldl max a := List.foldl_map.symm

theorem mem_le_supFrom (r : Array Nat) (ts : List NodeId) (a : Nat) (t : NodeId) (h : t ∈ ts) :
    r.getD t 0 + 1 ≤ supFrom r ts a := by
  rw [supFrom_eq]
  exact (le_foldl_max _ a).2 _ (List.mem_map_of_mem h)

theorem supFrom_witness (r : Array Nat) : ∀ (ts : List NodeId) (a : Nat),
    supFrom r ts a = a ∨ ∃ t, t ∈ ts ∧ supFrom r ts a = r.getD t 0 + 1
  | [], _ => Or.inl rfl
  | t :: ts, a => by
    rw [supFrom_cons]
    rcases supFrom_witness r ts (max a (r.getD t 0 + 1)) with h | ⟨t', ht', h⟩
    · rw [h]
      by_cases hm : r.getD t 0 + 1 ≤ a
      · exact Or.inl (Nat.max_eq_left hm)
      · exact Or.inr ⟨t, List.mem_cons_self, Nat.max_eq_right (by omega)⟩
    · exact Or.inr ⟨t', List.mem_cons_of_mem _ ht', h⟩

theorem relaxRanks_le (edges : List (List NodeId)) {b : Nat} {r : Array Nat} (h : AllLe b r) :
    AllLe (b + 1) (relaxRanks edges r) := by
  intro x hx
  unfold relaxRanks at hx
  obtain ⟨ts, _, rfl⟩ := List.mem_map.1 hx
  show supFrom r ts 0 ≤ b + 1  -- the fold of `relaxRanks` is `supFrom r · 0` by definition
  rcases supFrom_witness r ts 0 with h0 | ⟨t, _, ht⟩
  · rw [h0]; exact Nat.zero_le _
  · rw [ht]; exact Nat.succ_le_succ (getD_le_of_AllLe h t)

theorem iterRanks_le (edges : List (List NodeId)) : ∀ (k b : Nat) (r : Array Nat), AllLe b r →
    AllLe (b + k) (iterRanks edges k r)
  | 0, _, _, h => h
  | k + 1, b, r, h => by
    have ih := iterRanks_le edges k (b + 1) _ (relaxRanks_le edges h)
    rw [show b + (k + 1) = b + 1 + k by omega]
    exact ih

/-- `size + 1` rounds of relaxation from the empty table, each raising the largest entry by at most one -/
theorem maxRank_le_size (env : VEnv) : maxRank env ≤ env.st.size + 1 := by
  unfold maxRank rankTable
  have h := iterRanks_le (inPlaceTable env) (env.st.size + 1) 0 #[] (fun _ hx => nomatch hx)
  rw [Nat.zero_add] at h
  exact foldl_max_le _ 0 (Nat.zero_le _) h

/-- the bound with the size of the store in place of the largest rank -/
theorem evalFuel_isSome_size (env : VEnv) (hr : ranked env = true) (hc : closed env = true)
    (fuel : Nat) (scope : List NodeId) (s : NodeId) (j : Json) (hs : s < env.st.size)
    (hf : (Json.depth j + 1) * (env.st.size + 2) ≤ fuel) :
    (Spec.evalFuel (specEnvOf env) fuel scope s j).isSome = true := by
  apply evalFuel_isSome_uniform env hr hc fuel scope s j hs
  have h1 : maxRank env + 1 ≤ env.st.size + 2 := by have := maxRank_le_size env; omega
  exact Nat.le_trans (Nat.mul_le_mul_left _ h1) hf

/-! A rank certificate excludes in-place cycles, so the breadth-first search of `guarded` finds none: a prefilter on
`ranked` never lets through a universe that `guarded` rejects. -/

theorem inPlaceEdges_lt_size (env : VEnv) (u x : NodeId) (h : x ∈ inPlaceEdges env u) : u < env.st.size := by
  unfold inPlaceEdges at h
  cases hn : env.st.get? u with
  | none => rw [hn] at h; cases h
  | some n => exact (Array.getElem?_eq_some_iff.1 hn).1

/-- everything the search collects lies strictly below the rank of its starting point -/
theorem reachFrom_below (env : VEnv) (hr : ranked env = true) (b : Nat) :
    ∀ (fuel : Nat) (frontier seen : List NodeId), (∀ x, x ∈ frontier → rankOf env x ≤ b) →
      (∀ x, x ∈ seen → rankOf env x < b) → ∀ x, x ∈ reachFrom env fuel frontier seen → rankOf env x < b
  | 0, _, _, _, hs => hs
  | fuel + 1, frontier, seen, hf, hs => by
    have hnext : ∀ x, x ∈ ((frontier.flatMap (inPlaceEdges env)).eraseDups.filter fun x => !seen.contains x) →
        rankOf env x < b := by
      intro x hx
      have hx1 := List.mem_eraseDups.1 (List.mem_filter.1 hx).1
      obtain ⟨u, hu, hxu⟩ := List.mem_flatMap.1 hx1
      have h1 := ranked_spec env hr u x (inPlaceEdges_lt_size env u x hxu) hxu
      have h2 := hf u hu
      omega
    unfold reachFrom
    simp only
    split
    · exact hs
    · exact reachFrom_below env hr b fuel _ _ (fun x hx => Nat.le_of_lt (hnext x hx))
        fun x hx => (List.mem_append.1 hx).elim (hs x) (hnext x)

theorem ranked_guarded (env : VEnv) (hr : ranked env = true) : guarded env = true := by
  unfold guarded
  apply List.all_eq_true.2
  intro s _
  cases hc : (reachFrom env (env.st.size + 1) [s] []).contains s with
  | false => rfl
  | true =>
    have hmem : s ∈ reachFrom env (env.st.size + 1) [s] [] := by simpa using hc
    have := reachFrom_below env hr (rankOf env s) (env.st.size + 1) [s] []
      (fun x hx => by rw [List.mem_singleton.1 hx]; exact Nat.le_refl _) (fun _ hx => nomatch hx) s hmem
    omega

end Refine
end JSV
