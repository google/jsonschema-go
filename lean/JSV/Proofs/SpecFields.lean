/-
  Which fields of a schema object each keyword function of the Spec reads: two objects that agree on them give the same
  outcome.
-/
import JSV.Spec.Valid
namespace JSV
namespace Spec
open Go (Draft)

section
variable {env : Env} {sub : NodeId → Json → Out} {n n' : Node} {j : Json}

theorem kwRef_fields {s : NodeId} (h : n'.ref = n.ref) : kwRef env sub s n' j = kwRef env sub s n j := by
  unfold kwRef; rw [h]

theorem kwDynamicRef_fields {scope : List NodeId} {s : NodeId} (h : n'.dynamicRef = n.dynamicRef) :
    kwDynamicRef env sub scope s n' j = kwDynamicRef env sub scope s n j := by
  unfold kwDynamicRef; rw [h]

theorem kwAllOf_fields (h : n'.allOf = n.allOf) : kwAllOf sub n' j = kwAllOf sub n j := by
  unfold kwAllOf; rw [h]

theorem kwAnyOf_fields (h : n'.anyOf = n.anyOf) : kwAnyOf sub n' j = kwAnyOf sub n j := by
  unfold kwAnyOf; rw [h]

theorem kwOneOf_fields (h : n'.oneOf = n.oneOf) : kwOneOf sub n' j = kwOneOf sub n j := by
  unfold kwOneOf; rw [h]

theorem kwNot_fields (h : n'.not = n.not) : kwNot sub n' j = kwNot sub n j := by
  unfold kwNot; rw [h]

theorem kwIf_fields (h1 : n'.if_ = n.if_) (h2 : n'.then_ = n.then_) (h3 : n'.else_ = n.else_) :
    kwIf sub n' j = kwIf sub n j := by
  unfold kwIf; rw [h1, h2, h3]

theorem kwItems_fields (h : arrayShape env n' = arrayShape env n) : kwItems env sub n' j = kwItems env sub n j := by
  unfold kwItems; rw [h]

theorem arrayShape_fields (h1 : n'.prefixItems = n.prefixItems) (h2 : n'.items = n.items)
    (h3 : n'.itemsArray = n.itemsArray) (h4 : n'.additionalItems = n.additionalItems) :
    arrayShape env n' = arrayShape env n := by
  unfold arrayShape; rw [h1, h2, h3, h4]

theorem kwContains_fields (h1 : n'.contains = n.contains) (h2 : n'.minContains = n.minContains)
    (h3 : n'.maxContains = n.maxContains) : kwContains sub n' j = kwContains sub n j := by
  unfold kwContains; rw [h1, h2, h3]

theorem kwProps_fields (h1 : n'.properties = n.properties) (h2 : n'.patternProperties = n.patternProperties)
    (h3 : n'.additionalProperties = n.additionalProperties) : kwProps env sub n' j = kwProps env sub n j := by
  unfold kwProps; rw [h1, h2, h3]

theorem kwPropertyNames_fields (h : n'.propertyNames = n.propertyNames) :
    kwPropertyNames sub n' j = kwPropertyNames sub n j := by
  unfold kwPropertyNames; rw [h]

theorem kwDependentSchemas_fields (h1 : n'.dependencySchemas = n.dependencySchemas)
    (h2 : n'.dependentSchemas = n.dependentSchemas) :
    kwDependentSchemas env sub n' j = kwDependentSchemas env sub n j := by
  unfold kwDependentSchemas; rw [h1, h2]

theorem kwUnevaluatedItems_fields (h : n'.unevaluatedItems = n.unevaluatedItems) :
    kwUnevaluatedItems sub n' j = kwUnevaluatedItems sub n j := by
  funext ev; unfold kwUnevaluatedItems; rw [h]

theorem kwUnevaluatedProps_fields (h : n'.unevaluatedProperties = n.unevaluatedProperties) :
    kwUnevaluatedProps sub n' j = kwUnevaluatedProps sub n j := by
  funext ev; unfold kwUnevaluatedProps; rw [h]

theorem kwUnevaluatedItems_vocab_fields {d : Draft} (h : n'.unevaluatedItems = n.unevaluatedItems) :
    kwUnevaluatedItems sub (vocab d n') j = kwUnevaluatedItems sub (vocab d n) j :=
  kwUnevaluatedItems_fields (congrArg (fun x => if d == .d7 then none else x) h)

theorem kwUnevaluatedProps_vocab_fields {d : Draft} (h : n'.unevaluatedProperties = n.unevaluatedProperties) :
    kwUnevaluatedProps sub (vocab d n') j = kwUnevaluatedProps sub (vocab d n) j :=
  kwUnevaluatedProps_fields (congrArg (fun x => if d == .d7 then none else x) h)

theorem typeOk_fields (h1 : n'.type = n.type) (h2 : n'.types = n.types) : typeOk n' j = typeOk n j := by
  unfold typeOk; rw [h1, h2]

theorem enumOk_fields (h : n'.enum = n.enum) : enumOk n' j = enumOk n j := by
  unfold enumOk; rw [h]

theorem constOk_fields (h : n'.const = n.const) : constOk n' j = constOk n j := by
  unfold constOk; rw [h]

theorem numericOk_fields (h1 : n'.multipleOf = n.multipleOf) (h2 : n'.minimum = n.minimum) (h3 : n'.maximum = n.maximum)
    (h4 : n'.exclusiveMinimum = n.exclusiveMinimum) (h5 : n'.exclusiveMaximum = n.exclusiveMaximum) :
    numericOk n' j = numericOk n j := by
  unfold numericOk; rw [h1, h2, h3, h4, h5]

theorem stringOk_fields (h1 : n'.minLength = n.minLength) (h2 : n'.maxLength = n.maxLength)
    (h3 : n'.pattern = n.pattern) : stringOk env n' j = stringOk env n j := by
  unfold stringOk; rw [h1, h2, h3]

theorem arrayLimitsOk_fields (h1 : n'.minItems = n.minItems) (h2 : n'.maxItems = n.maxItems)
    (h3 : n'.uniqueItems = n.uniqueItems) : arrayLimitsOk n' j = arrayLimitsOk n j := by
  unfold arrayLimitsOk; rw [h1, h2, h3]

theorem objectLimitsOk_fields (h1 : n'.minProperties = n.minProperties) (h2 : n'.maxProperties = n.maxProperties)
    (h3 : n'.required = n.required) (h4 : n'.dependencyStrings = n.dependencyStrings)
    (h5 : n'.dependentRequired = n.dependentRequired) : objectLimitsOk env n' j = objectLimitsOk env n j := by
  unfold objectLimitsOk; rw [h1, h2, h3, h4, h5]

end
end Spec
end JSV
