/-
  `Schema.Resolve` does not run out of fuel when the fuel exceeds the number of entries of the loader table.

  * resolveURIs walks the tree checkStructure accepted: every schema is met once, so the `st.size + 2` steps the
    entry point supplies suffice (the fuel outcome of `resolveURIs_sp`, ResUris.lean);
  * resolver.resolve enters `r.loaded[baseURI]` before it follows references: every recursive call is for a URI of
    the loader table that is not yet cached, and caches it; the measure is the number of table entries whose URI is
    not cached.
  At the end, with ResNoPanic.lean: under `docsDisjoint` and with fuel above the size of the Loader table, Schema.Resolve ends in a
  value or an error (`resolve_total`).
-/
import JSV.Proofs.ResBase
import JSV.Proofs.ResUris
import JSV.Proofs.ResNoPanic
import JSV.Proofs.ListFacts
namespace JSV
namespace Go
namespace RTot
open RInv
open Uri

def tblKeys (env : Env) : List String := (env.loader.getD []).map (·.1)

def missing (env : Env) (loaded : List (String × NodeId)) : Nat :=
  ((tblKeys env).filter fun k => (Json.lookup k loaded).isNone).length

def missingBut (env : Env) (loaded : List (String × NodeId)) (key : String) : Nat :=
  ((tblKeys env).filter fun k => k != key && (Json.lookup k loaded).isNone).length

theorem missing_mono (env : Env) (a b : List (String × NodeId))
    (h : ∀ k, (Json.lookup k a).isSome = true → (Json.lookup k b).isSome = true) :
    missing env b ≤ missing env a :=
  filter_length_mono _ _ _ (fun k _ hk => isNone_of_isSome_imp (h k) hk)

theorem missingBut_lt (env : Env) (loaded : List (String × NodeId)) (key : String)
    (hk : key ∈ tblKeys env) (hn : Json.lookup key loaded = none) :
    missingBut env loaded key < missing env loaded := by
  apply filter_length_lt
  · intro x _ hx
    simp only [Bool.and_eq_true] at hx
    exact hx.2
  · refine ⟨key, hk, by rw [hn]; rfl, by simp⟩

/-- the update of `r.loaded` in resolver.resolve -/
theorem missing_after (env : Env) (l : List (String × NodeId)) (a b : String) (r : NodeId) :
    missing env (l.filter (fun e => e.1 != a && e.1 != b) ++ [(a, r), (b, r)]) ≤ missingBut env l a := by
  apply filter_length_mono
  intro k _ hk
  obtain ⟨h1, _, h2⟩ := loaded_update l a b r
  simp only [Bool.and_eq_true, bne_iff_ne, ne_eq]
  constructor
  · intro e
    subst e
    rw [Option.isNone_iff_eq_none] at hk
    rw [hk] at h1; cases h1
  · exact isNone_of_isSome_imp (h2 k) hk

theorem missingBut_le (env : Env) (loaded : List (String × NodeId)) (key : String) :
    missingBut env loaded key ≤ (env.loader.getD []).length := by
  unfold missingBut tblKeys
  have := List.length_filter_le (fun k => k != key && (Json.lookup k loaded).isNone) ((env.loader.getD []).map (·.1))
  rw [List.length_map] at this
  exact this

def RecNF (env : Env) (m : Nat) (recDoc : ResolveDoc) : Prop :=
  ∀ root base draft s, Uri.toString base ∈ tblKeys env → Json.lookup (Uri.toString base) s.loaded = none →
    missing env s.loaded ≤ m → recDoc root base draft s ≠ .fuel

theorem findDoc_nf (env : Env) (m : Nat) (recDoc : ResolveDoc) (hrecF : RecNF env m recDoc) (root : NodeId)
    (s : RState) (d : DocRes) (u : Url) (hm : missing env s.loaded ≤ m) :
    findDoc env recDoc root s d u ≠ .fuel := by
  cases h1 : Json.lookup (Uri.toString u) d.uris with
  | some t => rw [findDoc_hit h1]; nofun
  | none =>
    cases h2 : Json.lookup (Uri.toString u) s.loaded with
    | some lroot => rw [findDoc_cached h1 h2]; nofun
    | none =>
      rw [findDoc_load h1 h2]
      refine C10.NoF_bind (loaderDoc_NoPF env _).2 fun lroot hl => ?_
      obtain ⟨tbl, htbl, hlk⟩ := loaderDoc_eq_ok_iff.mp hl
      refine C10.NoF_bind ?_ fun _ _ => by simp
      apply hrecF
      · unfold tblKeys
        rw [htbl]
        exact List.mem_map.mpr ⟨_, Json.mem_of_lookup hlk, rfl⟩
      · exact h2
      · exact hm

theorem fragOut_ne_fuel (env : Env) (s : RState) (root r : NodeId) (frag : String) :
    fragOut env s root r frag ≠ .fuel := by
  unfold fragOut
  split
  · cases s.info? root r with
    | none => nofun
    | some rInfo =>
      dsimp only
      cases Json.lookup frag rInfo.anchors <;> nofun
  · exact C10.NoF_bind (C10.dereference_NoPF _ _ _ _ _).2 fun _ _ => by simp

theorem resolveRef_nf (env : Env) (m : Nat) (recDoc : ResolveDoc) (hrecF : RecNF env m recDoc)
    (root : NodeId) (s : RState) (id : NodeId) (ref : String) (hm : missing env s.loaded ≤ m) :
    resolveRef env recDoc root s id ref ≠ .fuel := by
  rw [resolveRef_eq]
  refine C10.NoF_bind (parse_NoPF ref).2 fun refURI0 _ => ?_
  split
  · exact C10.NoF_bind (findDoc_nf env m recDoc hrecF root s _ _ hm) fun p _ =>
      C10.NoF_bind (fragOut_ne_fuel env _ _ _ _) fun _ _ => by simp
  · simp

theorem refStep_nf (env : Env) (m : Nat) (recDoc : ResolveDoc) (hrecS : RecSpec env recDoc)
    (hrecF : RecNF env m recDoc) (root id : NodeId) (on : Bool) (ref : String) (upd : RefOut → Info → Info)
    (s : RState) (hm : missing env s.loaded ≤ m) :
    refStep env recDoc root id on ref upd s ≠ .fuel ∧
    ∀ s1, refStep env recDoc root id on ref upd s = .ok s1 → missing env s1.loaded ≤ m := by
  constructor
  · unfold refStep
    split
    · exact C10.NoF_bind (resolveRef_nf env m recDoc hrecF root s id ref hm) fun _ _ => by simp
    · simp
  · intro s1 h1
    rcases refStep_ok h1 with rfl | ⟨o, sa, hr, rfl⟩
    · exact hm
    · obtain ⟨e, _, _⟩ := resolveRef_spec env recDoc hrecS _ _ _ _ _ _ hr
      rw [(updInfo_same _ _ _).2]
      exact Nat.le_trans (missing_mono env _ _ e.2) hm

theorem resolveRefsLoop_nf (env : Env) (m : Nat) (recDoc : ResolveDoc) (hrecS : RecSpec env recDoc)
    (hrecF : RecNF env m recDoc) (root : NodeId) :
    ∀ ids s, missing env s.loaded ≤ m → resolveRefsLoop env recDoc root ids s ≠ .fuel := by
  intro ids
  induction ids with
  | nil => intro s _; rw [resolveRefsLoop]; simp
  | cons id rest ih =>
    intro s hm
    rw [resolveRefsLoop_cons]
    split
    · simp
    · have step := refStep_nf env m recDoc hrecS hrecF root id
      refine C10.NoF_bind (step _ _ _ s hm).1 fun s1 h1 => ?_
      have hm1 := (step _ _ _ s hm).2 s1 h1
      refine C10.NoF_bind (step _ _ _ s1 hm1).1 fun s2 h2 => ?_
      exact ih s2 ((step _ _ _ s1 hm1).2 s2 h2)

theorem resolveDocStep_nf (env : Env) (m : Nat) (recDoc : ResolveDoc) (hrecS : RecSpec env recDoc)
    (hrecF : RecNF env m recDoc) (root : NodeId) (baseURI : Url) (inherit : Draft) (s : RState)
    (hm : missingBut env s.loaded (Uri.toString baseURI) ≤ m) :
    resolveDocStep env recDoc root baseURI inherit s ≠ .fuel := by
  rw [RDraft.resolveDocStep_eq]
  split
  · simp
  split
  · simp
  refine C10.NoF_bind (C10.checkStructure_no_fuel_gen env.st _ _ [] ⟨List.nodup_nil, fun _ h => nomatch h⟩
    (by simp only [List.length_nil]; omega)) fun fresh hfresh => ?_
  split
  · simp
  refine C10.NoF_bind (resolveURIs_ne_fuel env root baseURI _ fresh hfresh s) fun sB hB => ?_
  · obtain ⟨sameB, _⟩ := resolveURIsLoop_spec _ _ _ _ _ _ _ hB
    have hl : sB.loaded = s.loaded := ((beforeURIs_same _ _ _ _ _).trans sameB).2
    apply resolveRefsLoop_nf env m recDoc hrecS hrecF
    show missing env (sB.loaded.filter _ ++ _) ≤ m
    rw [hl]
    exact Nat.le_trans (missing_after env s.loaded _ _ root) hm

theorem resolveDoc_nf (env : Env) : ∀ f root base draft s, missingBut env s.loaded (Uri.toString base) ≤ f →
    resolveDoc env (f + 1) root base draft s ≠ .fuel := by
  intro f
  induction f with
  | zero =>
    intro root base draft s hm
    rw [resolveDoc]
    apply resolveDocStep_nf env 0 _ (resolveDoc_spec env 0) ?_ root base draft s hm
    intro r b d s' hk hn hle
    have := missingBut_lt env s'.loaded _ hk hn
    omega
  | succ f ih =>
    intro root base draft s hm
    rw [resolveDoc]
    apply resolveDocStep_nf env (f + 1) _ (resolveDoc_spec env (f + 1)) ?_ root base draft s hm
    intro r b d s' hk hn hle
    apply ih
    have := missingBut_lt env s'.loaded _ hk hn
    omega

theorem resolve_ne_fuel (env : Env) (fuel : Nat) (root : NodeId) (base : String)
    (h : (env.loader.getD []).length + 1 ≤ fuel) : resolve env fuel root base ≠ .fuel := by
  obtain ⟨f, rfl⟩ : ∃ f, fuel = f + 1 := ⟨fuel - 1, by omega⟩
  rw [resolve_eq]
  refine C10.NoF_bind (retrievalOf_NoPF base).2 fun b _ => ?_
  · refine C10.NoF_bind ?_ fun s _ => ?_
    · apply resolveDoc_nf
      have := missingBut_le env ({} : RState).loaded (Uri.toString b)
      omega
    · split <;> simp

theorem resolve_total (env : Env) (fuel : Nat) (root : NodeId) (base : String)
    (hd : docsDisjoint env root = true) (hf : (env.loader.getD []).length + 1 ≤ fuel) :
    resolve env fuel root base = .err ∨ ∃ rs, resolve env fuel root base = .ok rs :=
  (C10.NoPF_iff _).1 ⟨resolve_ne_panic env fuel root base hd, resolve_ne_fuel env fuel root base hf⟩

theorem resolve_total_noloader (env : Env) (hl : env.loader = none) (fuel : Nat) (hf : 1 ≤ fuel) (root : NodeId)
    (base : String) : resolve env fuel root base = .err ∨ ∃ rs, resolve env fuel root base = .ok rs :=
  resolve_total env fuel root base (docsDisjoint_noloader env root hl) (by rw [hl]; simpa using hf)

end RTot
end Go
end JSV
