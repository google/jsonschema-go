/-
  C11 (Equal = JSON value equality): `Json.eqv` is an equivalence on well-formed values and `equalValue` computes it
  (`equalValue_eq`).  C12 (hash law, uniqueItems): the bytes `hashValue` writes are a function `Json.enc` of the JSON
  value (`hashEnc_eq`) that respects `eqv` (`enc_eq_of_eqv`; `sortEntries` is an insertion sort, whose result does not
  depend on the order in which a map is enumerated: `sortEntries_eq_of_perm`); the uniqueItems loop (`uniqueLoop_eq`).
-/
import JSV.Model.Unique
import JSV.Proofs.JsonLookup
namespace JSV

theorem GoVal.induct {P : GoVal → Prop}
    (invalid : P .invalid) (bool : ∀ b, P (.bool b)) (int : ∀ v, P (.int v)) (uint : ∀ v, P (.uint v))
    (float : ∀ v, P (.float v)) (jnum : ∀ q t, P (.jnum q t)) (str : ∀ s, P (.str s))
    (list : ∀ xs, (∀ x, x ∈ xs → P x) → P (.list xs))
    (map : ∀ kvs, (∀ k v, (k, v) ∈ kvs → P v) → P (.map kvs))
    (ptr : ∀ v, P v → P (.ptr v)) (iface : ∀ v, P v → P (.iface v))
    (other : ∀ k, P (.other k)) : ∀ v, P v :=
  GoVal.rec (motive_1 := P)
    (motive_2 := fun xs => ∀ x, x ∈ xs → P x)
    (motive_3 := fun kvs => ∀ k v, (k, v) ∈ kvs → P v)
    (motive_4 := fun p => P p.2)
    invalid bool int uint float jnum str list map ptr iface other
    (fun x h => nomatch h)
    (fun hd tl ih1 ih2 x hx => by
      rcases List.mem_cons.1 hx with rfl | h
      · exact ih1
      · exact ih2 x h)
    (fun k v h => nomatch h)
    (fun hd tl ih1 ih2 k v hx => by
      rcases List.mem_cons.1 hx with rfl | h
      · exact ih1
      · exact ih2 k v h)
    (fun _ _ ih => ih)

namespace Json
theorem eqvObj_iff {ky : List (String × Json)} : ∀ {kx : List (String × Json)},
    eqvObj kx ky = true ↔ ∀ k v, (k, v) ∈ kx → ∃ v', lookup k ky = some v' ∧ eqv v v' = true
  | [] => by simp [eqvObj]
  | (k, v) :: rest => by
    simp only [eqvObj, Bool.and_eq_true, eqvObj_iff (kx := rest), List.mem_cons]
    constructor
    · rintro ⟨h1, h2⟩ k' v' (h | h)
      · cases h
        cases hl : lookup k ky with
        | none => simp [hl] at h1
        | some w => exact ⟨w, rfl, by simpa [hl] using h1⟩
      · exact h2 k' v' h
    · intro h
      refine ⟨?_, fun k' v' hm => h k' v' (Or.inr hm)⟩
      obtain ⟨w, hw, he⟩ := h k v (Or.inl rfl)
      simp [hw, he]

theorem eqvList_length : ∀ {xs ys : List Json}, eqvList xs ys = true → xs.length = ys.length
  | [], [], _ => rfl
  | [], _ :: _, h => by simp [eqvList] at h
  | _ :: _, [], h => by simp [eqvList] at h
  | x :: xs, y :: ys, h => by
    simp only [eqvList, Bool.and_eq_true] at h
    simp [eqvList_length h.2]

theorem eqvList_refl : ∀ {xs : List Json}, (∀ x, x ∈ xs → eqv x x = true) → eqvList xs xs = true
  | [], _ => by simp [eqvList]
  | x :: xs, h => by
    simp only [eqvList, Bool.and_eq_true]
    exact ⟨h x List.mem_cons_self, eqvList_refl fun y hy => h y (List.mem_cons_of_mem _ hy)⟩

theorem eqvList_symm : ∀ {xs ys : List Json},
    (∀ x, x ∈ xs → ∀ y, y ∈ ys → eqv x y = true → eqv y x = true) →
    eqvList xs ys = true → eqvList ys xs = true
  | [], [], _, _ => by simp [eqvList]
  | [], _ :: _, _, h => by simp [eqvList] at h
  | _ :: _, [], _, h => by simp [eqvList] at h
  | x :: xs, y :: ys, ih, h => by
    simp only [eqvList, Bool.and_eq_true] at h ⊢
    exact ⟨ih x List.mem_cons_self y List.mem_cons_self h.1,
      eqvList_symm (fun a ha b hb => ih a (List.mem_cons_of_mem _ ha) b (List.mem_cons_of_mem _ hb)) h.2⟩

theorem eqvObj_matches_right {kx ky : List (String × Json)} (nx : (keys kx).Nodup) (ny : (keys ky).Nodup)
    (hl : kx.length = ky.length) (h : eqvObj kx ky = true) :
    ∀ k v', (k, v') ∈ ky → ∃ v, (k, v) ∈ kx ∧ eqv v v' = true := by
  rw [eqvObj_iff] at h
  have hsub : keys kx ⊆ keys ky := by
    intro k hk
    obtain ⟨p, hp, rfl⟩ := List.mem_map.1 hk
    obtain ⟨v', hv', _⟩ := h p.1 p.2 hp
    exact mem_keys_of_mem (mem_of_lookup hv')
  have hsup : keys ky ⊆ keys kx := subset_of_nodup_of_length_le nx hsub (by simp [keys, hl])
  intro k v' hm
  obtain ⟨v, hv⟩ := lookup_isSome_of_mem_keys (hsup (mem_keys_of_mem hm))
  have hvm := mem_of_lookup hv
  obtain ⟨v'', hv'', he⟩ := h k v hvm
  rw [lookup_of_mem_nodup ny hm] at hv''
  cases hv''
  exact ⟨v, hvm, he⟩

theorem eqv_symm_imp : ∀ a b, WF a = true → WF b = true → eqv a b = true → eqv b a = true := by
  intro a
  induction a using Json.induct with
  | null => intro b _ _ h; cases b <;> simp_all [eqv]
  | bool x => intro b _ _ h; cases b <;> simp_all [eqv]
  | num x => intro b _ _ h; cases b <;> simp_all [eqv]
  | str x => intro b _ _ h; cases b <;> simp_all [eqv]
  | arr xs ih =>
    intro b ha hb h
    cases b with
    | arr ys =>
      simp only [eqv] at h ⊢
      exact eqvList_symm (fun x hx y hy => ih x hx y (WF_arr ha x hx) (WF_arr hb y hy)) h
    | _ => simp [eqv] at h
  | obj kx ih =>
    intro b ha hb h
    cases b with
    | obj ky =>
      obtain ⟨nx, wx⟩ := WF_obj ha
      obtain ⟨ny, wy⟩ := WF_obj hb
      simp only [eqv, Bool.and_eq_true, beq_iff_eq] at h ⊢
      refine ⟨h.1.symm, eqvObj_iff.2 fun k v' hm => ?_⟩
      obtain ⟨v, hv, he⟩ := eqvObj_matches_right nx ny h.1 h.2 k v' hm
      exact ⟨v, lookup_of_mem_nodup nx hv, ih k v hv v' (wx k v hv) (wy k v' hm) he⟩
    | _ => simp [eqv] at h

theorem eqvList_trans : ∀ {xs ys zs : List Json},
    (∀ x, x ∈ xs → ∀ y z, eqv x y = true → eqv y z = true → eqv x z = true) →
    eqvList xs ys = true → eqvList ys zs = true → eqvList xs zs = true
  | [], [], [], _, _, _ => by simp [eqvList]
  | [], [], _ :: _, _, _, h => by simp [eqvList] at h
  | [], _ :: _, _, _, h, _ => by simp [eqvList] at h
  | _ :: _, [], _, _, h, _ => by simp [eqvList] at h
  | _ :: _, _ :: _, [], _, _, h => by simp [eqvList] at h
  | x :: xs, y :: ys, z :: zs, ih, h1, h2 => by
    simp only [eqvList, Bool.and_eq_true] at h1 h2 ⊢
    exact ⟨ih x List.mem_cons_self y z h1.1 h2.1,
      eqvList_trans (fun a ha => ih a (List.mem_cons_of_mem _ ha)) h1.2 h2.2⟩

/-- transitivity needs no well-formedness -/
theorem eqv_trans_imp : ∀ a b c, eqv a b = true → eqv b c = true → eqv a c = true := by
  intro a
  induction a using Json.induct with
  | null => intro b c h1 h2; cases b <;> simp [eqv] at h1; exact h2
  | bool x => intro b c h1 h2; cases b <;> simp [eqv] at h1; subst h1; exact h2
  | num x => intro b c h1 h2; cases b <;> simp [eqv] at h1; subst h1; exact h2
  | str x => intro b c h1 h2; cases b <;> simp [eqv] at h1; subst h1; exact h2
  | arr xs ih =>
    intro b c h1 h2
    cases b with
    | arr ys =>
      cases c with
      | arr zs =>
        simp only [eqv] at h1 h2 ⊢
        exact eqvList_trans ih h1 h2
      | _ => simp [eqv] at h2
    | _ => simp [eqv] at h1
  | obj kx ih =>
    intro b c h1 h2
    cases b with
    | obj ky =>
      cases c with
      | obj kz =>
        simp only [eqv, Bool.and_eq_true, beq_iff_eq] at h1 h2 ⊢
        refine ⟨h1.1.trans h2.1, ?_⟩
        have h1 := eqvObj_iff.1 h1.2
        have h2 := eqvObj_iff.1 h2.2
        rw [eqvObj_iff]
        intro k v hm
        obtain ⟨v', hv', e1⟩ := h1 k v hm
        obtain ⟨v'', hv'', e2⟩ := h2 k v' (mem_of_lookup hv')
        exact ⟨v'', hv'', ih k v hm v' v'' e1 e2⟩
      | _ => simp [eqv] at h2
    | _ => simp [eqv] at h1

theorem eqv_symm_of_WF (a b : Json) (ha : WF a = true) (hb : WF b = true) : eqv a b = eqv b a := by
  cases h1 : eqv a b with
  | true => exact (eqv_symm_imp a b ha hb h1).symm
  | false =>
    cases h2 : eqv b a with
    | false => rfl
    | true => rw [eqv_symm_imp b a hb ha h2] at h1; cases h1

end Json

namespace GoVal

theorem denoteList_cons_some {x : GoVal} {xs : List GoVal} {js : List Json} :
    denoteList (x :: xs) = some js ↔
      ∃ j js', denote x = some j ∧ denoteList xs = some js' ∧ js = j :: js' := by
  rw [denoteList]
  cases hd : denote x <;> cases hl : denoteList xs <;> simp
  exact eq_comm

theorem denoteObj_cons_some {k : String} {v : GoVal} {rest : List (String × GoVal)} {js : List (String × Json)} :
    denoteObj ((k, v) :: rest) = some js ↔
      ∃ j js', denote v = some j ∧ denoteObj rest = some js' ∧ js = (k, j) :: js' := by
  rw [denoteObj]
  cases hd : denote v <;> cases hl : denoteObj rest <;> simp
  exact eq_comm

theorem denoteList_length : ∀ {xs : List GoVal} {js : List Json}, denoteList xs = some js → js.length = xs.length
  | [], js, h => by simp [denoteList] at h; subst h; simp
  | x :: xs, js, h => by
    obtain ⟨j, js', _, h2, rfl⟩ := denoteList_cons_some.1 h
    simp [denoteList_length h2]

theorem denoteObj_length : ∀ {xs : List (String × GoVal)} {js : List (String × Json)},
    denoteObj xs = some js → js.length = xs.length
  | [], js, h => by simp [denoteObj] at h; subst h; simp
  | (k, v) :: xs, js, h => by
    obtain ⟨j, js', _, h2, rfl⟩ := denoteObj_cons_some.1 h
    simp [denoteObj_length h2]

theorem lookup_denoteObj (k : String) : ∀ {kvs : List (String × GoVal)} {js : List (String × Json)},
    denoteObj kvs = some js →
    (match Json.lookup k kvs with
      | none => Json.lookup k js = none
      | some v => ∃ j, denote v = some j ∧ Json.lookup k js = some j)
  | [], js, h => by simp [denoteObj] at h; subst h; simp
  | (k', v) :: xs, js, h => by
    obtain ⟨j, js', h1, h2, rfl⟩ := denoteObj_cons_some.1 h
    simp only [Json.lookup_cons]
    by_cases hk : k' = k
    · simp [hk, h1]
    · simp only [hk, if_false]
      exact lookup_denoteObj k h2

theorem denote_of_mem_list : ∀ {xs : List GoVal} {js : List Json}, denoteList xs = some js →
    ∀ x, x ∈ xs → ∃ j, j ∈ js ∧ denote x = some j
  | [], _, _, x, hx => by simp at hx
  | y :: ys, js, h, x, hx => by
    obtain ⟨j, js', h1, h2, rfl⟩ := denoteList_cons_some.1 h
    rcases List.mem_cons.1 hx with rfl | hx
    · exact ⟨j, List.mem_cons_self, h1⟩
    · obtain ⟨j', hj', hd⟩ := denote_of_mem_list h2 x hx
      exact ⟨j', List.mem_cons_of_mem _ hj', hd⟩

/-- a value on which the pointer/interface stripping loop has finished -/
def Stripped : GoVal → Prop
  | .ptr _ => False
  | .iface _ => False
  | _ => True

theorem strip_stripped : ∀ v : GoVal, Stripped (strip v) := by
  intro v
  induction v using GoVal.induct with
  | ptr v ih => exact ih
  | iface v ih => exact ih
  | _ => trivial

theorem denote_strip : ∀ v : GoVal, denote (strip v) = denote v := by
  intro v
  induction v using GoVal.induct with
  | ptr v ih => simpa only [strip, denote] using ih
  | iface v ih => simpa only [strip, denote] using ih
  | _ => rfl

theorem strip_of_stripped : ∀ {v : GoVal}, Stripped v → strip v = v := by
  intro v h
  cases v <;> simp_all [strip, Stripped]

/-- Inversion of `denote` on a stripped value: the representations of each kind of JSON value.  A number is known
    through `jsonNumber` and `jsonType` only (four Go kinds carry one). -/
theorem denote_view {v : GoVal} (hs : Stripped v) : ∀ j : Json, denote v = some j →
    match j with
    | .null => v = .invalid
    | .bool b => v = .bool b
    | .str s => v = .str s
    | .num q => jsonNumber v = some q ∧ jsonType v = some (Json.num q).typeName
    | .arr js => ∃ xs, v = .list xs ∧ denoteList xs = some js
    | .obj jkvs => ∃ kvs, v = .map kvs ∧ denoteObj kvs = some jkvs := by
  intro j h
  cases v with
  | ptr _ => exact hs.elim
  | iface _ => exact hs.elim
  | other _ => simp [denote] at h
  | list xs =>
    simp only [denote, Option.map_eq_some_iff] at h
    obtain ⟨js, h1, rfl⟩ := h
    exact ⟨xs, rfl, h1⟩
  | map kvs =>
    simp only [denote, Option.map_eq_some_iff] at h
    obtain ⟨js, h1, rfl⟩ := h
    exact ⟨kvs, rfl, h1⟩
  | jnum q t =>
    cases q with
    | none => simp [denote] at h
    | some q => simp only [denote, Option.some.injEq] at h; subst h; exact ⟨rfl, rfl⟩
  | int n => simp only [denote, Option.some.injEq] at h; subst h; simp [jsonNumber, jsonType, Json.typeName]
  | uint n => simp only [denote, Option.some.injEq] at h; subst h; simp [jsonNumber, jsonType, Json.typeName]
  | _ => simp only [denote, Option.some.injEq] at h; subst h; first | rfl | exact ⟨rfl, rfl⟩

end GoVal

namespace Go
open GoVal Json

/-- the leaf block of equalValue (numbers first, then eqLeaf) -/
theorem leaf_eq (x y' : GoVal) (jx jy : Json) (hx : denote x = some jx) (hy : denote y' = some jy)
    (hxs : Stripped x) (hys : Stripped y') (hnl : ∀ xs, x ≠ .list xs) (hnm : ∀ kvs, x ≠ .map kvs) :
    (match jsonNumber x, jsonNumber y' with
      | some a, some b => Res.ok (a == b)
      | some _, none => .ok false
      | none, some _ => .ok false
      | none, none => eqLeaf x y') = .ok (eqv jx jy) := by
  cases jx with
  | arr _ => obtain ⟨xs, rfl, _⟩ := denote_view hxs _ hx; exact absurd rfl (hnl _)
  | obj _ => obtain ⟨xs, rfl, _⟩ := denote_view hxs _ hx; exact absurd rfl (hnm _)
  | num q =>
    rw [(denote_view hxs _ hx).1]
    cases jy with
    | num r => rw [(denote_view hys _ hy).1]; simp [eqv]
    | arr _ => obtain ⟨ys, rfl, _⟩ := denote_view hys _ hy; simp [jsonNumber, eqv]
    | obj _ => obtain ⟨ys, rfl, _⟩ := denote_view hys _ hy; simp [jsonNumber, eqv]
    | _ => have vy := denote_view hys _ hy; subst vy; simp [jsonNumber, eqv]
  | _ =>
    have vx := denote_view hxs _ hx
    subst vx
    cases jy with
    | num r => rw [(denote_view hys _ hy).1]; simp [jsonNumber, eqv]
    | arr _ => obtain ⟨ys, rfl, _⟩ := denote_view hys _ hy; simp [jsonNumber, eqLeaf, eqv]
    | obj _ => obtain ⟨ys, rfl, _⟩ := denote_view hys _ hy; simp [jsonNumber, eqLeaf, eqv]
    | _ => have vy := denote_view hys _ hy; subst vy; simp [jsonNumber, eqLeaf, eqv]

/-- a slice or a map reaches `eqLeaf` only against a value of another kind: never equal -/
theorem eqLeaf_list (xs : List GoVal) (jxs : List Json) (y' : GoVal) (jy : Json)
    (hy : denote y' = some jy) (hys : Stripped y') (hnl : ∀ ys, y' ≠ .list ys) :
    eqLeaf (.list xs) y' = .ok (eqv (.arr jxs) jy) := by
  have he : eqLeaf (.list xs) y' = .ok false := by cases y' <;> rfl
  rw [he]
  cases jy with
  | arr _ => obtain ⟨ys, rfl, _⟩ := denote_view hys _ hy; exact absurd rfl (hnl _)
  | _ => simp [eqv]

theorem eqLeaf_map (kx : List (String × GoVal)) (jkx : List (String × Json)) (y' : GoVal) (jy : Json)
    (hy : denote y' = some jy) (hys : Stripped y') (hnl : ∀ ys, y' ≠ .map ys) :
    eqLeaf (.map kx) y' = .ok (eqv (.obj jkx) jy) := by
  have he : eqLeaf (.map kx) y' = .ok false := by cases y' <;> rfl
  rw [he]
  cases jy with
  | obj _ => obtain ⟨ys, rfl, _⟩ := denote_view hys _ hy; exact absurd rfl (hnl _)
  | _ => simp [eqv]

theorem equalList_eq : ∀ {xs ys : List GoVal} {jxs jys : List Json},
    (∀ x, x ∈ xs → ∀ (y : GoVal) (jx jy : Json), denote x = some jx → denote y = some jy →
      equalValue x y = .ok (eqv jx jy)) →
    denoteList xs = some jxs → denoteList ys = some jys → xs.length = ys.length →
    equalList xs ys = .ok (eqvList jxs jys)
  | [], [], jxs, jys, _, h1, h2, _ => by
    simp [denoteList] at h1 h2; subst h1; subst h2; simp [equalList, eqvList]
  | [], _ :: _, _, _, _, _, _, hl => by simp at hl
  | _ :: _, [], _, _, _, _, _, hl => by simp at hl
  | x :: xs, y :: ys, jxs, jys, ih, h1, h2, hl => by
    obtain ⟨jx, jxs', hx, hxs, rfl⟩ := denoteList_cons_some.1 h1
    obtain ⟨jy, jys', hy, hys, rfl⟩ := denoteList_cons_some.1 h2
    simp only [equalList, eqvList]
    rw [ih x List.mem_cons_self y jx jy hx hy, Res.bind_ok]
    cases eqv jx jy
    · simp
    · simp only [if_true, Bool.true_and]
      exact equalList_eq (fun a ha => ih a (List.mem_cons_of_mem _ ha)) hxs hys (by simpa using hl)

theorem equalMap_eq {ky : List (String × GoVal)} {jky : List (String × Json)}
    (hky : denoteObj ky = some jky) : ∀ {kx : List (String × GoVal)} {jkx : List (String × Json)},
    (∀ k x, (k, x) ∈ kx → ∀ (y : GoVal) (jx jy : Json), denote x = some jx → denote y = some jy →
      equalValue x y = .ok (eqv jx jy)) →
    denoteObj kx = some jkx →
    equalMap kx ky = .ok (eqvObj jkx jky)
  | [], jkx, _, h1 => by
    simp [denoteObj] at h1; subst h1; simp [equalMap, eqvObj]
  | (k, x) :: kx, jkx, ih, h1 => by
    obtain ⟨jx, jkx', hx, hxs, rfl⟩ := denoteObj_cons_some.1 h1
    simp only [equalMap, eqvObj]
    have hl := lookup_denoteObj k hky
    cases hlk : Json.lookup k ky with
    | none =>
      rw [hlk] at hl
      simp [hl]
    | some vy =>
      rw [hlk] at hl
      obtain ⟨jy, hy, hl⟩ := hl
      simp only [hl]
      rw [ih k x List.mem_cons_self vy jx jy hx hy, Res.bind_ok]
      cases eqv jx jy
      · simp
      · simp only [if_true, Bool.true_and]
        exact equalMap_eq hky (fun k' a ha => ih k' a (List.mem_cons_of_mem _ ha)) hxs

theorem eqvList_false_of_length {jxs jys : List Json} (h : jxs.length ≠ jys.length) :
    eqvList jxs jys = false := by
  cases he : eqvList jxs jys with
  | false => rfl
  | true => exact absurd (eqvList_length he) h

theorem equalValue_eq : ∀ (x y : GoVal) (jx jy : Json),
    denote x = some jx → denote y = some jy → equalValue x y = .ok (eqv jx jy) := by
  intro x
  induction x using GoVal.induct with
  | ptr v ih | iface v ih =>
    intro y jx jy hx hy
    simp only [equalValue]
    exact ih y jx jy (by simpa [denote] using hx) hy
  | list xs ih =>
    intro y jx jy hx hy
    simp only [equalValue]
    have hs := strip_stripped y
    have hd : denote (strip y) = some jy := by rw [denote_strip]; exact hy
    generalize strip y = y' at hs hd
    simp only [denote, Option.map_eq_some_iff] at hx
    obtain ⟨jxs, hxs, rfl⟩ := hx
    by_cases hyl : ∃ ys, y' = .list ys
    · obtain ⟨ys, rfl⟩ := hyl
      simp only [denote, Option.map_eq_some_iff] at hd
      obtain ⟨jys, hys, rfl⟩ := hd
      simp only [eqv]
      by_cases hl : xs.length = ys.length
      · simp only [hl, bne_self_eq_false, Bool.false_eq_true, if_false]
        exact equalList_eq ih hxs hys hl
      · have : eqvList jxs jys = false :=
          eqvList_false_of_length (by rw [denoteList_length hxs, denoteList_length hys]; exact hl)
        simp [hl, this]
    · have hnl : ∀ ys, y' ≠ .list ys := fun ys h => hyl ⟨ys, h⟩
      rw [← eqLeaf_list xs jxs y' jy hd hs hnl]
      cases y' <;> first | rfl | exact absurd rfl (hnl _)
  | map kx ih =>
    intro y jx jy hx hy
    simp only [equalValue]
    have hs := strip_stripped y
    have hd : denote (strip y) = some jy := by rw [denote_strip]; exact hy
    generalize strip y = y' at hs hd
    simp only [denote, Option.map_eq_some_iff] at hx
    obtain ⟨jkx, hkx, rfl⟩ := hx
    by_cases hyl : ∃ ky, y' = .map ky
    · obtain ⟨ky, rfl⟩ := hyl
      simp only [denote, Option.map_eq_some_iff] at hd
      obtain ⟨jky, hky, rfl⟩ := hd
      simp only [eqv]
      by_cases hl : kx.length = ky.length
      · have hl' : jkx.length = jky.length := by
          rw [denoteObj_length hkx, denoteObj_length hky]; exact hl
        simp only [hl, hl', bne_self_eq_false, Bool.false_eq_true, if_false, beq_self_eq_true,
          Bool.true_and]
        exact equalMap_eq hky ih hkx
      · have hl' : jkx.length ≠ jky.length := by
          rw [denoteObj_length hkx, denoteObj_length hky]; exact hl
        simp [hl, hl']
    · have hnl : ∀ ys, y' ≠ .map ys := fun ys h => hyl ⟨ys, h⟩
      rw [← eqLeaf_map kx jkx y' jy hd hs hnl]
      cases y' <;> first | rfl | exact absurd rfl (hnl _)
  | invalid | bool | int | uint | float | jnum | str | other =>
    intro y jx jy hx hy
    simp only [equalValue]
    have hs := strip_stripped y
    have hd : denote (strip y) = some jy := by rw [denote_strip]; exact hy
    exact leaf_eq _ _ jx jy hx hd (by simp [Stripped]) hs (by simp) (by simp)

end Go

namespace Go

theorem insertEntry_nil {α} (e : String × α) : insertEntry e [] = [e] := rfl
theorem insertEntry_cons {α} (e x : String × α) (xs : List (String × α)) :
    insertEntry e (x :: xs) = if e.1 ≤ x.1 then e :: x :: xs else x :: insertEntry e xs := rfl

theorem insertEntry_perm {α} (e : String × α) (l : List (String × α)) : (insertEntry e l).Perm (e :: l) :=
  ins_perm (le := fun a b => a.1 ≤ b.1) insertEntry_nil insertEntry_cons e l

theorem sortEntries_perm {α} (l : List (String × α)) : (sortEntries l).Perm l :=
  insSort_perm (le := fun a b => a.1 ≤ b.1) insertEntry_nil insertEntry_cons l

theorem sortEntries_sorted {α} (l : List (String × α)) : (sortEntries l).Pairwise (fun a b => a.1 ≤ b.1) :=
  insSort_sorted (le := fun a b => a.1 ≤ b.1) insertEntry_nil insertEntry_cons keyLe_trans keyLe_total l

/-- sorting by key does not depend on the order in which a map with distinct keys is enumerated -/
theorem sortEntries_eq_of_perm {α} {l₁ l₂ : List (String × α)} (hp : l₁.Perm l₂)
    (hn : (Json.keys l₁).Nodup) : sortEntries l₁ = sortEntries l₂ :=
  insSort_eq_of_perm (le := fun a b => a.1 ≤ b.1) insertEntry_nil insertEntry_cons keyLe_trans keyLe_total hp
    (entry_eq_of_key_le hn)

theorem sortEntries_eq_of_mem_iff {α} {l₁ l₂ : List (String × α)}
    (hn₁ : (Json.keys l₁).Nodup) (hn₂ : (Json.keys l₂).Nodup) (h : ∀ a, a ∈ l₁ ↔ a ∈ l₂) :
    sortEntries l₁ = sortEntries l₂ :=
  sortEntries_eq_of_perm
    ((List.perm_ext_iff_of_nodup (nodup_of_nodup_keys hn₁) (nodup_of_nodup_keys hn₂)).2 h) hn₁

end Go

namespace Json

mutual
  /-- the byte stream `hashValue` writes for (any representation of) a JSON value -/
  def enc : Json → List UInt8
    | .null => [0]
    | .bool b => [if b then 1 else 0]
    | .num q => Go.hashNum q
    | .str s => s.toUTF8.toList
    | .arr xs => Go.be64 xs.length ++ encList xs
    | .obj kvs => Go.be64 kvs.length ++ Go.flattenEntries (Go.sortEntries (encEntries kvs))
  def encList : List Json → List UInt8
    | [] => []
    | x :: xs => enc x ++ encList xs
  def encEntries : List (String × Json) → List (String × List UInt8)
    | [] => []
    | (k, v) :: rest => (k, enc v) :: encEntries rest
end

theorem keys_encEntries : ∀ kvs : List (String × Json), keys (encEntries kvs) = keys kvs
  | [] => rfl
  | (k, v) :: rest => by
    have ih := keys_encEntries rest
    simp only [keys] at ih
    simp [encEntries, keys, ih]

theorem mem_encEntries {k : String} {e : List UInt8} : ∀ {kvs : List (String × Json)},
    (k, e) ∈ encEntries kvs ↔ ∃ v, (k, v) ∈ kvs ∧ e = enc v
  | [] => by simp [encEntries]
  | (k', v') :: rest => by
    simp only [encEntries, List.mem_cons, mem_encEntries (kvs := rest), Prod.mk.injEq]
    constructor
    · rintro (⟨rfl, rfl⟩ | ⟨v, hv, rfl⟩)
      · exact ⟨v', Or.inl ⟨rfl, rfl⟩, rfl⟩
      · exact ⟨v, Or.inr hv, rfl⟩
    · rintro ⟨v, (⟨rfl, rfl⟩ | hv), rfl⟩
      · exact Or.inl ⟨rfl, rfl⟩
      · exact Or.inr ⟨v, hv, rfl⟩

theorem encList_eq : ∀ {xs ys : List Json},
    (∀ x, x ∈ xs → ∀ y, y ∈ ys → eqv x y = true → enc x = enc y) →
    eqvList xs ys = true → encList xs = encList ys
  | [], [], _, _ => rfl
  | [], _ :: _, _, h => by simp [eqvList] at h
  | _ :: _, [], _, h => by simp [eqvList] at h
  | x :: xs, y :: ys, ih, h => by
    simp only [eqvList, Bool.and_eq_true] at h
    simp only [encList]
    rw [ih x List.mem_cons_self y List.mem_cons_self h.1,
      encList_eq (fun a ha b hb => ih a (List.mem_cons_of_mem _ ha) b (List.mem_cons_of_mem _ hb)) h.2]

/-- the hash law on JSON values -/
theorem enc_eq_of_eqv : ∀ a b, WF a = true → WF b = true → eqv a b = true → enc a = enc b := by
  intro a
  induction a using Json.induct with
  | null => intro b _ _ h; cases b <;> simp_all [eqv]
  | bool x => intro b _ _ h; cases b <;> simp_all [eqv, enc]
  | num x => intro b _ _ h; cases b <;> simp_all [eqv, enc]
  | str x => intro b _ _ h; cases b <;> simp_all [eqv, enc]
  | arr xs ih =>
    intro b ha hb h
    cases b with
    | arr ys =>
      simp only [eqv] at h
      simp only [enc]
      rw [eqvList_length h, encList_eq (fun x hx y hy => ih x hx y (WF_arr ha x hx) (WF_arr hb y hy)) h]
    | _ => simp [eqv] at h
  | obj kx ih =>
    intro b ha hb h
    cases b with
    | obj ky =>
      obtain ⟨nx, wx⟩ := WF_obj ha
      obtain ⟨ny, wy⟩ := WF_obj hb
      simp only [eqv, Bool.and_eq_true, beq_iff_eq] at h
      simp only [enc]
      rw [h.1]
      congr 2
      -- the two lists of encoded entries have the same members: each entry is matched, from the left and from the right
      apply Go.sortEntries_eq_of_mem_iff (by rw [keys_encEntries]; exact nx) (by rw [keys_encEntries]; exact ny)
      rintro ⟨k, e⟩
      rw [mem_encEntries, mem_encEntries]
      constructor
      · rintro ⟨v, hv, rfl⟩
        obtain ⟨v', hv', he⟩ := eqvObj_iff.1 h.2 k v hv
        have hm := mem_of_lookup hv'
        exact ⟨v', hm, ih k v hv v' (wx k v hv) (wy k v' hm) he⟩
      · rintro ⟨v', hv', rfl⟩
        obtain ⟨v, hv, he⟩ := eqvObj_matches_right nx ny h.1 h.2 k v' hv'
        exact ⟨v, hv, (ih k v hv v' (wx k v hv) (wy k v' hv') he).symm⟩
    | _ => simp [eqv] at h

end Json

namespace Go
open GoVal

theorem hashList_eq : ∀ {xs : List GoVal} {js : List Json},
    (∀ x, x ∈ xs → ∀ j, denote x = some j → hashEnc x = .ok (Json.enc j)) →
    denoteList xs = some js → hashList xs = .ok (Json.encList js)
  | [], js, _, h => by simp [denoteList] at h; subst h; simp [hashList, Json.encList]
  | x :: xs, js, ih, h => by
    obtain ⟨j, js', hx, hxs, rfl⟩ := denoteList_cons_some.1 h
    simp only [hashList, Json.encList]
    rw [ih x List.mem_cons_self j hx, Res.bind_ok,
      hashList_eq (fun a ha => ih a (List.mem_cons_of_mem _ ha)) hxs, Res.bind_ok]

theorem hashEntries_eq : ∀ {kvs : List (String × GoVal)} {js : List (String × Json)},
    (∀ k x, (k, x) ∈ kvs → ∀ j, denote x = some j → hashEnc x = .ok (Json.enc j)) →
    denoteObj kvs = some js → hashEntries kvs = .ok (Json.encEntries js)
  | [], js, _, h => by simp [denoteObj] at h; subst h; simp [hashEntries, Json.encEntries]
  | (k, x) :: xs, js, ih, h => by
    obtain ⟨j, js', hx, hxs, rfl⟩ := denoteObj_cons_some.1 h
    simp only [hashEntries, Json.encEntries]
    rw [ih k x List.mem_cons_self j hx, Res.bind_ok,
      hashEntries_eq (fun k' a ha => ih k' a (List.mem_cons_of_mem _ ha)) hxs, Res.bind_ok]

/-- hashValue writes a stream that depends on the JSON value only -/
theorem hashEnc_eq : ∀ (x : GoVal) (j : Json), denote x = some j → hashEnc x = .ok (Json.enc j) := by
  intro x
  induction x using GoVal.induct with
  | ptr v ih => intro j h; simp only [hashEnc]; exact ih j (by simpa [denote] using h)
  | iface v ih => intro j h; simp only [hashEnc]; exact ih j (by simpa [denote] using h)
  | list xs ih =>
    intro j h
    simp only [denote, Option.map_eq_some_iff] at h
    obtain ⟨js, hjs, rfl⟩ := h
    simp only [hashEnc, Json.enc]
    rw [hashList_eq ih hjs, Res.bind_ok, denoteList_length hjs]
  | map kvs ih =>
    intro j h
    simp only [denote, Option.map_eq_some_iff] at h
    obtain ⟨js, hjs, rfl⟩ := h
    simp only [hashEnc, Json.enc]
    rw [hashEntries_eq ih hjs, Res.bind_ok, denoteObj_length hjs]
  | jnum q t =>
    intro j h
    cases q with
    | none => simp [denote] at h
    | some q => simp only [denote, Option.some.injEq] at h; subst h; simp [hashEnc, Json.enc]
  | other k => intro j h; simp [denote] at h
  | invalid | bool | int | uint | float | str =>
    intro j h
    simp only [denote, Option.some.injEq] at h
    subst h
    simp [hashEnc, Json.enc]

end Go

namespace GoVal

theorem denoteList_snoc : ∀ {pre : List GoVal} {jpre : List Json} {x : GoVal} {jx : Json},
    denoteList pre = some jpre → denote x = some jx → denoteList (pre ++ [x]) = some (jpre ++ [jx])
  | [], jpre, x, jx, h, hx => by
    simp [denoteList] at h; subst h
    exact denoteList_cons_some.2 ⟨jx, [], hx, by simp [denoteList], rfl⟩
  | y :: pre, jpre, x, jx, h, hx => by
    obtain ⟨jy, jpre', hy, hpre, rfl⟩ := denoteList_cons_some.1 h
    exact denoteList_cons_some.2 ⟨jy, jpre' ++ [jx], hy, denoteList_snoc hpre hx, rfl⟩

end GoVal

namespace Go
open GoVal

theorem checkSames_eq (hash : GoVal → UInt64) (x : GoVal) (jx : Json) (hx : denote x = some jx) :
    ∀ (pre : List GoVal) (jpre : List Json), denoteList pre = some jpre →
      (∀ y, y ∈ pre → equalValue x y = .ok true → hash x = hash y) →
      checkSames x ((pre.map fun e => (hash e, e)).filter fun p => p.1 == hash x)
        = .ok (jpre.any fun p => Json.eqv jx p)
  | [], jpre, h, _ => by simp [denoteList] at h; subst h; simp [checkSames]
  | y :: pre, jpre, h, hh => by
    obtain ⟨jy, jpre', hy, hpre, rfl⟩ := denoteList_cons_some.1 h
    have ih := checkSames_eq hash x jx hx pre jpre' hpre
      (fun z hz => hh z (List.mem_cons_of_mem _ hz))
    have he := equalValue_eq x y jx jy hx hy
    simp only [List.map_cons, List.filter_cons, List.any_cons]
    by_cases hhash : hash y = hash x
    · simp only [hhash, beq_self_eq_true, if_true, checkSames]
      rw [he, Res.bind_ok, ih]
      cases Json.eqv jx jy <;> simp
    · -- `y` is in another bucket and is not compared: nothing is lost, since equal values have equal hashes (`hh`)
      have hne : (hash y == hash x) = false := by simpa using hhash
      simp only [hne, Bool.false_eq_true, if_false]
      have : Json.eqv jx jy = false := by
        cases hq : Json.eqv jx jy with
        | false => rfl
        | true =>
          rw [hq] at he
          exact absurd (hh y List.mem_cons_self he).symm hhash
      rw [ih, this, Bool.false_or]

/-- on well-formed values the loop's test (`equalValue item earlier`) is the specification's (`eqv earlier item`) -/
theorem any_eqv_comm {jx : Json} (wx : Json.WF jx = true) : ∀ {jpre : List Json}, Json.wfList jpre = true →
    (jpre.any fun p => Json.eqv jx p) = !(jpre.all fun p => !Json.eqv p jx)
  | [], _ => rfl
  | p :: ps, h => by
    simp only [Json.wfList, Bool.and_eq_true] at h
    simp only [List.any_cons, List.all_cons, any_eqv_comm wx h.2, Json.eqv_symm_of_WF jx p wx h.1]
    cases Json.eqv p jx <;> simp

theorem uniqueLoop_eq (hash : GoVal → UInt64) : ∀ (xs pre : List GoVal) (jxs jpre : List Json),
    denoteList xs = some jxs → denoteList pre = some jpre →
    Json.wfList jxs = true → Json.wfList jpre = true →
    (∀ x y, x ∈ pre ++ xs → y ∈ pre ++ xs → equalValue x y = .ok true → hash x = hash y) →
    uniqueLoop hash xs (pre.map fun e => (hash e, e)) =
      if ((jxs.all fun x => jpre.all fun p => !Json.eqv p x) && Spec.distinct jxs) = true
      then .ok () else .err
  | [], pre, jxs, jpre, h, _, _, _, _ => by
    simp [denoteList] at h; subst h; simp [uniqueLoop, Spec.distinct]
  | x :: xs, pre, jxs, jpre, h, hpre, wxs, wpre, hh => by
    obtain ⟨jx, jxs', hx, hxs, rfl⟩ := denoteList_cons_some.1 h
    simp only [Json.wfList, Bool.and_eq_true] at wxs
    simp only [uniqueLoop]
    rw [checkSames_eq hash x jx hx pre jpre hpre
      (fun y hy => hh x y (by simp) (List.mem_append_left _ hy)), Res.bind_ok, any_eqv_comm wxs.1 wpre]
    cases hall : jpre.all fun p => !Json.eqv p jx with
    | false => simp [hall]
    | true =>
      have hmap : (pre.map fun e => (hash e, e)) ++ [(hash x, x)] = (pre ++ [x]).map fun e => (hash e, e) := by
        simp
      simp only [Bool.not_true, Bool.false_eq_true, if_false]
      rw [hmap, uniqueLoop_eq hash xs (pre ++ [x]) jxs' (jpre ++ [jx]) hxs (denoteList_snoc hpre hx) wxs.2
        (Json.wfList_snoc wpre wxs.1)
        (by intro a b ha hb; exact hh a b (by simpa using ha) (by simpa using hb))]
      simp only [List.all_append, List.all_cons, List.all_nil, Bool.and_true, Spec.distinct, hall,
          Bool.true_and, all_and, Bool.and_assoc]

theorem distinct_short : ∀ {js : List Json}, js.length ≤ 1 → Spec.distinct js = true
  | [], _ => rfl
  | [_], _ => rfl
  | _ :: _ :: _, h => by simp at h

/-- `hw`: the loop evaluates `equalValue x_j x_i` for `i < j`, `Spec.distinct` evaluates `eqv x_i x_j`, and `eqv` is
    symmetric only on objects without duplicate keys -/
theorem uniqueItems_eq (hash : GoVal → UInt64) (items : List GoVal) (js : List Json)
    (hd : GoVal.denoteList items = some js) (hw : Json.wfList js = true)
    (hh : ∀ x y, x ∈ items → y ∈ items → equalValue x y = .ok true → hash x = hash y) :
    uniqueItems hash items = if Spec.distinct js then .ok () else .err := by
  unfold uniqueItems
  by_cases hl : items.length > 1
  · simp only [hl, if_true]
    have := uniqueLoop_eq hash items [] js [] hd (by simp [denoteList]) hw (by simp [Json.wfList])
      (by simpa using hh)
    have ht : (js.all fun x => ([] : List Json).all fun p => !Json.eqv p x) = true := by simp
    rw [ht, Bool.true_and] at this
    exact this
  · simp only [hl, if_false]
    rw [distinct_short (by rw [denoteList_length hd]; omega)]
    simp

end Go

end JSV
