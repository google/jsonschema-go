/-
  Refinement theorem: the operational evaluator (`Go.validateFuel`) computes the declarative
  validity relation (`Spec.evalFuel`) together with its evaluated sets.
  One step of the evaluator is `$ref`, then a chain of blocks (`stepChain`), each with its `Step` obligation; the Spec's
  step is the same chain read off its keyword list: the constants agree (`conj_chain`, the limits sit where the blocks
  read them) and the end of the chain is the Spec's `unevaluated*` (`specTail_chain`).
-/
import JSV.Proofs.RefineObject
import JSV.Proofs.SpecStep
namespace JSV
namespace Refine
open Go GoVal

theorem conj_append (l1 l2 : List Spec.R) : Spec.conj (l1 ++ l2) = conj2 (Spec.conj l1) (Spec.conj l2) := by
  induction l1 with
  | nil =>
    rw [List.nil_append, conj_nil]
    cases Spec.conj l2 <;> simp [conj2, union_empty_left]
  | cons r l1 ih => rw [List.cons_append, conj_cons, conj_cons, ih, conj2_assoc]

def assertsPart (env : VEnv) (n : Node) (i : Info) (g : GoVal) : Res Unit :=
  Res.bind (bType n g) fun _ => Res.bind (bEnum n g) fun _ => Res.bind (bConst n g) fun _ =>
  Res.bind (bNumeric n g) fun _ => bString env n (some i) g

def assertsOK (senv : Spec.Env) (n : Node) (j : Json) : Bool :=
  Spec.typeOk n j && Spec.enumOk n j && Spec.constOk n j && Spec.numericOk n j && Spec.stringOk senv n j

theorem bind_ok_right {α} (m : Res α) : Res.bind m .ok = m := by cases m <;> rfl

theorem bind_okIf_okIf (a b : Bool) : (Res.bind (okIf a) fun _ => okIf b) = okIf (a && b) := by cases a <;> rfl

theorem assertsPart_eq (env : VEnv) (n : Node) (i : Info) (j : Json) :
    assertsPart env n i (ofJson j) = okIf (assertsOK (specEnvOf env) n j) := by
  unfold assertsPart assertsOK
  rw [bType_eq, bEnum_eq, bConst_eq, bNumeric_eq, bString_eq]
  simp only [bind_okIf_okIf, Bool.and_assoc]

/-- what `validateStep` runs once `$ref` is through, on the annotations `$ref` produced -/
def stepChain (env : VEnv) (rec : Go.Rec) (stack : List NodeId) (n : Node) (i : Info) (g : GoVal) (a : Anns) : Res Anns :=
  Res.bind (Res.bind (assertsPart env n i g) fun _ => .ok a) fun a =>
  Res.bind (bDynamicRef env rec stack n (some i) g a) fun a =>
  Res.bind (bAllOf rec stack n g a) fun a =>
  Res.bind (bAnyOf rec stack n g a) fun a =>
  Res.bind (bOneOf rec stack n g a) fun a =>
  Res.bind (bNot rec stack n g a) fun a =>
  Res.bind (bIf rec stack n g a) fun a =>
  Res.bind (bArray env rec stack n g a) fun a => bObject env rec stack n (some i) g a

theorem validateStep_chain (env : VEnv) (rec : Go.Rec) (stack0 : List NodeId) (g : GoVal) (s : NodeId) (n : Node)
    (i : Info) (hn : env.st.get? s = some n) (hinfo : env.info? s = some i) :
    validateStep env rec stack0 g s =
      Res.bind (bRef env rec (stack0 ++ [s]) n (some i) (strip g)) fun p =>
        if p.2 = true then .ok p.1 else stepChain env rec (stack0 ++ [s]) n i (strip g) p.1 := by
  unfold validateStep stepChain assertsPart
  simp only [hn, hinfo, Option.isNone_some, Bool.and_false, Bool.false_eq_true, if_false, Res.bind_assoc, Res.bind_ok]

theorem rConsts_append (cs1 cs2 : List Spec.R) (f : Spec.Ev → Option Spec.R) :
    rConsts cs1 (rConsts cs2 f) = rConsts (cs1 ++ cs2) f := by
  unfold rConsts; rw [List.foldr_append]

/-- The Spec's end of a step against a chain: the constants of the chain are the Spec's keywords and its assertions
    (`hc`), and the end of the chain is the Spec's two `unevaluated*` (`hu`). -/
theorem specTail_chain (e1 : Spec.Ev) (rs cs : List Spec.R) (A : Bool) (ui up u : Spec.Ev → Option Spec.R)
    (hc : Spec.conj cs = conj2 (Spec.conj rs) (okR A))
    (hu : ∀ ev, u ev = (ui ev).bind fun ri => (up ev).map fun rp => conj2 ri rp) :
    specTail (Spec.conj (some e1 :: rs)) A ui up = (rConsts cs u e1).map (conj2 (some e1)) := by
  rw [rConsts_eq, hc, conj_cons]
  cases Spec.conj rs with
  | none => rfl
  | some E =>
    cases A with
    | false => rfl
    | true =>
      simp only [okR, if_true, conj2_some, union_empty_right, specTail, Bool.not_true, Bool.false_eq_true, if_false, hu]
      cases ui (e1.union E) with
      | none => rfl
      | some ri =>
        cases up (e1.union E) with
        | none => rfl
        | some rp =>
          simp only [Option.bind_some, Option.map_some, conj_cons, conj_nil, conj2_empty_right, ← conj2_assoc, conj2_some]

theorem Rel_of_Blk {j : Json} {a : Anns} {e : Spec.Ev} {T : Res Anns} (hm : AnnsMatch j a e) {C : Option Spec.R}
    (hS : ∀ x, C = some x → Blk j a x T) : Rel j (C.map (conj2 (some e))) T := by
  cases C with
  | none => trivial
  | some x =>
    have b := hS x rfl
    cases x with
    | none => exact b
    | some ex => obtain ⟨a', hT, hx⟩ := b; exact ⟨a', hT, AnnsMatch_of_Ext hm hx⟩

section
variable {sub : NodeId → Json → Spec.Out} {rec : Go.Rec} {stack : List NodeId}
variable (H : SubRel sub rec stack)
include H

theorem stepChain_step (env : VEnv) {s : NodeId} {i : Info} (hinfo : env.info? s = some i) (n : Node) {j : Json}
    (hj : Json.WF j = true)
    (hlookup : ∀ name, dynLookup env name stack = .ok (Spec.dynTarget (specEnvOf env) stack name))
    -- `r2 … r12`, `h2 … h12` here and in RefineArray / RefineObject: the positions in `Inv.kwList`
    {r2 r3 r4 r5 r6 r7 : Spec.R}
    (h2 : Spec.kwDynamicRef (specEnvOf env) sub stack s (Spec.vocab env.draft n) j = some r2)
    (h3 : Spec.kwAllOf sub n j = some r3) (h4 : Spec.kwAnyOf sub n j = some r4)
    (h5 : Spec.kwOneOf sub n j = some r5) (h6 : Spec.kwNot sub n j = some r6)
    (h7 : Spec.kwIf sub n j = some r7) {cs : List Spec.R} {u : Spec.Ev → Option Spec.R}
    (hT : Step j (rConsts cs u) fun a => Res.bind (bArray env rec stack n (ofJson j) a) fun a =>
      bObject env rec stack n (some i) (ofJson j) a) :
    Step j (rConsts ([okR (assertsOK (specEnvOf env) n j), r2, r3, r4, r5, r6, r7] ++ cs) u)
      (stepChain env rec stack n i (ofJson j)) := by
  rw [← rConsts_append]
  exact (Step.assert (assertsPart_eq env n i j)).bind <|
    (Step.const fun a => bDynamicRef_blk H hj env hinfo n a hlookup h2).bind <|
    (Step.const fun a => bAllOf_blk H hj n a h3).bind <|
    (Step.const fun a => bAnyOf_blk H hj n a h4).bind <|
    (Step.const fun a => bOneOf_blk H hj n a h5).bind <|
    (Step.const fun a => bNot_blk H hj n a h6).bind <|
    (Step.const fun a => bIf_blk H hj n a h7).bind hT

omit H in
theorem map_conj2_empty (o : Option Spec.R) : o.map (conj2 (some {})) = o := by
  rw [funext conj2_empty_left]; exact Option.map_id'

omit H in
theorem bind_conj2_empty (o : Option Spec.R) : (o.bind fun ri => (some (some {}) : Option Spec.R).map fun rp => conj2 ri rp) = o := by
  cases o with
  | none => rfl
  | some r => simp only [Option.bind_some, Option.map_some, conj2_empty_right]

/-- the end of the chain: the array block on an array, the object block on an object, nothing on the rest; its
    constants are the Spec's keywords 8-12 and the two limits, its end the Spec's two `unevaluated*` -/
theorem tail_step (env : VEnv) (hwf : EnvWF env) (n : Node) (i : Info) (j : Json) (hj : Json.WF j = true)
    (hpnd : ((n.properties.getD []).map (·.1)).Nodup) {r8 r9 r10 r11 r12 : Spec.R}
    (h8 : Spec.kwItems (specEnvOf env) sub n j = some r8)
    (h9 : Spec.kwContains sub (Spec.vocab env.draft n) j = some r9)
    (h10 : Spec.kwProps (specEnvOf env) sub n j = some r10)
    (h11 : Spec.kwPropertyNames sub n j = some r11)
    (h12 : Spec.kwDependentSchemas (specEnvOf env) sub n j = some r12) :
    ∃ (cs : List Spec.R) (u : Spec.Ev → Option Spec.R),
      Step j (rConsts cs u) (fun a => Res.bind (bArray env rec stack n (ofJson j) a) fun a =>
        bObject env rec stack n (some i) (ofJson j) a) ∧
      Spec.conj cs = conj2 (Spec.conj [r8, r9, r10, r11, r12])
        (okR (Spec.arrayLimitsOk n j && Spec.objectLimitsOk (specEnvOf env) n j)) ∧
      ∀ ev, u ev = (Spec.kwUnevaluatedItems sub (Spec.vocab env.draft n) j ev).bind fun ri =>
        (Spec.kwUnevaluatedProps sub (Spec.vocab env.draft n) j ev).map fun rp => conj2 ri rp := by
  cases j with
  | arr xs =>
    have hO : (fun a => bObject env rec stack n (some i) (ofJson (.arr xs)) a) = Res.ok := by
      funext a; simp [ofJson, bObject]
    cases (by simpa [Spec.kwProps] using h10.symm : r10 = some {})
    cases (by simpa [Spec.kwPropertyNames] using h11.symm : r11 = some {})
    cases (by simpa [Spec.kwDependentSchemas] using h12.symm : r12 = some {})
    refine ⟨_, _, by simpa only [hO, bind_ok_right] using bArray_step H env hwf n xs hj h8 h9, ?_, fun ev => ?_⟩
    · rw [arrayLimitsOk_arr, show Spec.objectLimitsOk (specEnvOf env) n (.arr xs) = true by simp [Spec.objectLimitsOk]]
      cases itemsLimOk n xs.length <;> cases (!n.uniqueItems || Spec.distinct xs) <;>
        simp only [okR, conj_cons, conj_nil, conj2_empty_right, conj2_none_right, Bool.and_self, Bool.and_true,
          Bool.and_false, if_true, if_false, Bool.false_eq_true]
    · rw [show Spec.kwUnevaluatedProps sub (Spec.vocab env.draft n) (.arr xs) ev = some (some {}) by
        simp [Spec.kwUnevaluatedProps], bind_conj2_empty]
  | obj kvs =>
    have hA : ∀ a, bArray env rec stack n (ofJson (.obj kvs)) a = .ok a := by intro a; simp [ofJson, bArray]
    cases (by simpa [Spec.kwItems] using h8.symm : r8 = some {})
    cases (by simpa [Spec.kwContains] using h9.symm : r9 = some {})
    refine ⟨_, _, by simpa only [hA, Res.bind_ok] using bObject_step H env i n kvs hj hpnd h10 h11 h12, ?_, fun ev => ?_⟩
    · rw [objectLimitsOk_obj, show Spec.arrayLimitsOk n (.obj kvs) = true by simp [Spec.arrayLimitsOk],
        show (specEnvOf env).draft = env.draft from rfl]
      cases objLim3 n kvs <;> cases depReqOk env.draft n kvs <;>
        simp only [okR, conj_cons, conj_nil, conj2_empty_right, conj2_empty_left, conj2_none_right, conj2_none_left,
          Bool.and_self, Bool.and_true, Bool.and_false, if_true, if_false, Bool.false_eq_true]
    · rw [show Spec.kwUnevaluatedItems sub (Spec.vocab env.draft n) (.obj kvs) ev = some (some {}) by
        simp [Spec.kwUnevaluatedItems], Option.bind_some]
      exact (map_conj2_empty _).symm
  | _ =>
    cases Option.some.inj h8; cases Option.some.inj h9; cases Option.some.inj h10
    cases Option.some.inj h11; cases Option.some.inj h12
    exact ⟨[], fun _ => some (some {}), Step.const fun a => Blk_ok _ a, rfl, fun _ => rfl⟩

end

/-- the constants of the chain against the Spec's list: the chain puts the assertions first and the limits where the
    blocks read them -/
theorem conj_chain (A1 A2 : Bool) (rs cs ts : List Spec.R) (h : Spec.conj cs = conj2 (Spec.conj ts) (okR A2)) :
    Spec.conj ([okR A1] ++ rs ++ cs) = conj2 (Spec.conj (rs ++ ts)) (okR (A1 && A2)) := by
  rw [conj_append, conj_append, conj_append, h, conj_cons, conj_nil]
  generalize Spec.conj rs = X
  generalize Spec.conj ts = Y
  cases A1 <;> cases A2 <;> cases X <;> cases Y <;>
    simp only [okR, conj2_none_left, conj2_none_right, conj2_empty_left, conj2_empty_right, Bool.and_self,
      Bool.and_true, Bool.and_false, if_true, if_false, Bool.false_eq_true]

section
variable {sub : NodeId → Json → Spec.Out} {rec : Go.Rec} {stack : List NodeId}
variable (H : SubRel sub rec stack) {j : Json} (hj : Json.WF j = true)
include H hj

/-- `$ref` outside the draft-07 case: a block started on no annotations that does not finish the schema object -/
theorem bRef_blk (env : VEnv) {s : NodeId} {i : Info} (hinfo : env.info? s = some i) (n : Node)
    (hnd7 : (env.draft == .d7 && n.ref != "") = false) {r1 : Spec.R}
    (h1 : Spec.kwRef (specEnvOf env) sub s n j = some r1) :
    ∃ m : Res Anns, Blk j {} r1 m ∧
      bRef env rec stack n (some i) (ofJson j) = Res.bind m (fun anns => .ok (anns, false)) := by
  by_cases hr : n.ref = ""
  · refine ⟨.ok {}, ?_, by rw [bRef_noref env n _ hr]; rfl⟩
    have : r1 = some {} := by
      unfold Spec.kwRef Spec.inPlace at h1
      simpa [hr] using h1.symm
    rw [this]; exact Blk_ok j {}
  · obtain ⟨m, hb, he⟩ := bRef_spec H hj env hinfo n hr h1
    refine ⟨m, hb, ?_⟩
    have hd : (env.draft == Draft.d7) = false := by
      have : (n.ref != "") = true := by simp [hr]
      simpa [this] using hnd7
    rw [he]
    simp only [hd, Bool.false_eq_true, if_false]

end

theorem evalStep_undefined (senv : Spec.Env) (srec : Spec.Rec) (scope0 : List NodeId) (s : NodeId) (j : Json) (n : Node)
    (hn : senv.st.get? s = some n) (hnd7 : (senv.draft == .d7 && n.ref != "") = false)
    (h : Spec.sequence (Inv.kwList senv srec scope0 s j n) = none) :
    Spec.evalStep senv srec scope0 s j = none := by
  rw [Inv.evalStep_get hn, Inv.specBody_eq _ _ _ _ _ hnd7]
  exact congrArg (Option.bind · _) h

theorem step_refines (env : VEnv) (hwf : EnvWF env) (hst : StoreWF env.st) (srec : Spec.Rec) (rec : Go.Rec)
    (IH : ∀ stack, StackOK env stack → SubRel (srec stack) rec stack) :
    ∀ stack0, StackOK env stack0 →
      SubRel (Spec.evalStep (specEnvOf env) srec stack0) (validateStep env rec) stack0 := by
  intro stack0 hstk s j g hj hg
  have hst' : (specEnvOf env).st = env.st := rfl
  cases hn : env.st.get? s with
  | none =>
    rw [Inv.evalStep_none (env := specEnvOf env) hn]; trivial
  | some n =>
    obtain ⟨i, hinfo⟩ := Option.isSome_iff_exists.1 (hwf.info_total s n hn)
    have hstk' : StackOK env (stack0 ++ [s]) := hstk.snoc hwf hn
    have H := IH (stack0 ++ [s]) hstk'
    have hlookup := fun name => dynLookup_eq env hwf name (stack0 ++ [s]) hstk'
    have hpnd : ((n.properties.getD []).map (·.1)).Nodup := Json.nodupKeys_iff.1 (hst s n hn)
    rw [validateStep_chain env rec stack0 g s n i hn hinfo, hg]
    by_cases hd7 : (env.draft == .d7 && n.ref != "") = true
    · -- draft-07 `$ref`: every other member is ignored
      rw [Inv.evalStep_get (env := specEnvOf env) hn, Inv.specBody_d7ref _ _ _ _ _ hd7]
      have hr : n.ref ≠ "" := by
        intro h; simp [h] at hd7
      have hd : (env.draft == Draft.d7) = true := by
        simp only [Bool.and_eq_true] at hd7; exact hd7.1
      cases h1 : Spec.kwRef (specEnvOf env) (srec (stack0 ++ [s])) s n j with
      | none => trivial
      | some r1 =>
        obtain ⟨m, hb, he⟩ := bRef_spec H hj env hinfo n hr h1
        rw [he]
        simp only [hd, if_true, Res.bind_assoc, Res.bind_ok, Option.map_some]
        cases r1 with
        | none => simp only [Blk] at hb; subst hb; rfl
        | some e1 =>
          obtain ⟨a', rfl, _⟩ := hb
          exact ⟨{}, rfl, AnnsMatch_empty j⟩
    · have hnd7 : (env.draft == .d7 && n.ref != "") = false := by simpa using hd7
      rw [Inv.evalStep_get (env := specEnvOf env) hn, Inv.specBody_eq _ _ _ _ _ hnd7]
      cases hseq : Spec.sequence (Inv.kwList (specEnvOf env) srec stack0 s j n) with
      | none => trivial
      | some rs =>
        obtain ⟨r1, rs1, h1, hs1, rfl⟩ := sequence_cons_eq_some hseq
        obtain ⟨r2, rs2, h2, hs2, rfl⟩ := sequence_cons_eq_some hs1
        obtain ⟨r3, rs3, h3, hs3, rfl⟩ := sequence_cons_eq_some hs2
        obtain ⟨r4, rs4, h4, hs4, rfl⟩ := sequence_cons_eq_some hs3
        obtain ⟨r5, rs5, h5, hs5, rfl⟩ := sequence_cons_eq_some hs4
        obtain ⟨r6, rs6, h6, hs6, rfl⟩ := sequence_cons_eq_some hs5
        obtain ⟨r7, rs7, h7, hs7, rfl⟩ := sequence_cons_eq_some hs6
        obtain ⟨r8, rs8, h8, hs8, rfl⟩ := sequence_cons_eq_some hs7
        obtain ⟨r9, rs9, h9, hs9, rfl⟩ := sequence_cons_eq_some hs8
        obtain ⟨r10, rs10, h10, hs10, rfl⟩ := sequence_cons_eq_some hs9
        obtain ⟨r11, rs11, h11, hs11, rfl⟩ := sequence_cons_eq_some hs10
        obtain ⟨r12, rs12, h12, hs12, rfl⟩ := sequence_cons_eq_some hs11
        cases hs12
        rw [Option.bind_some]
        obtain ⟨m, hb1, hbref⟩ := bRef_blk H hj env hinfo n hnd7 h1
        rw [hbref]
        simp only [Res.bind_assoc, Res.bind_ok, Bool.false_eq_true, if_false]
        cases r1 with
        | none => simp only [Blk] at hb1; rw [hb1]; rfl
        | some e1 =>
          obtain ⟨a0, rfl, hx0⟩ := hb1
          have hm0 : AnnsMatch j a0 e1 := AnnsMatch_of_Ext (AnnsMatch_empty j) hx0
          obtain ⟨cs, u, hT, hc, hu⟩ := tail_step H env hwf n i j hj hpnd h8 h9 h10 h11 h12
          have hS := stepChain_step H env hinfo n hj hlookup h2 h3 h4 h5 h6 h7 hT a0 e1 hm0
          have hA : Inv.assertsOf (specEnvOf env) n j = (assertsOK (specEnvOf env) n j &&
              (Spec.arrayLimitsOk n j && Spec.objectLimitsOk (specEnvOf env) n j)) := Bool.and_assoc _ _ _
          rw [Res.bind_ok, hA]
          exact Eq.mpr (congrArg (Rel j · _) (specTail_chain e1 [r2, r3, r4, r5, r6, r7, r8, r9, r10, r11, r12] _ _ _ _ u
            (conj_chain _ _ [r2, r3, r4, r5, r6, r7] cs _ hc) hu)) (Rel_of_Blk hm0 hS)

theorem validateFuel_refines (env : VEnv) (hwf : EnvWF env) (hst : StoreWF env.st) :
    ∀ (fuel : Nat) (stack : List NodeId), StackOK env stack →
      SubRel (Spec.evalFuel (specEnvOf env) fuel stack) (validateFuel env fuel) stack
  | 0, _, _ => fun _ _ _ _ _ => trivial
  | fuel + 1, stack, hstk =>
    step_refines env hwf hst (Spec.evalFuel (specEnvOf env) fuel) (validateFuel env fuel)
      (fun st h => validateFuel_refines env hwf hst fuel st h) stack hstk

/-- **Refinement theorem.**  Whenever the declarative Spec decides (with some fuel), the evaluator run on the
    canonical Go representation of the instance returns an error exactly when the Spec says invalid, and otherwise
    returns annotations that agree with the Spec's evaluated properties / items on the keys and indices of the instance.

    The hypothesis on `stack`: every schema on the caller's stack has a resolution record (`$dynamicRef` walks
    the stack and dereferences these records; `Validate` starts with the empty stack and only pushes schemas
    that exist in the store, for which `EnvWF.info_total` gives the record). -/
theorem validate_refines_spec (env : VEnv) (hwf : EnvWF env) (hst : StoreWF env.st) :
    ∀ (fuel : Nat) (stack : List NodeId), (∀ x, x ∈ stack → (env.info? x).isSome = true) →
      ∀ (s : NodeId) (j : Json), Json.WF j = true →
      Rel j (Spec.evalFuel (specEnvOf env) fuel stack s j)
            (Go.validateFuel env fuel stack (GoVal.ofJson j) s) :=
  fun fuel stack hstk s j hj => validateFuel_refines env hwf hst fuel stack hstk s j (ofJson j) hj (strip_ofJson j)

/-- at the entry point (empty stack) no extra hypothesis is needed -/
theorem validate_refines_spec_root (env : VEnv) (hwf : EnvWF env) (hst : StoreWF env.st)
    (fuel : Nat) (s : NodeId) (j : Json) (hj : Json.WF j = true) :
    Rel j (Spec.evalFuel (specEnvOf env) fuel [] s j) (Go.validateFuel env fuel [] (GoVal.ofJson j) s) :=
  validate_refines_spec env hwf hst fuel [] (fun _ h => nomatch h) s j hj

end Refine
end JSV
