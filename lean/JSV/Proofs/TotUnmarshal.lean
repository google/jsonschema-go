/-
  UnmarshalJSON neither panics nor runs out of fuel when the fuel covers the size of the document.
-/
import JSV.Proofs.SetField
namespace JSV
namespace C10
open Go

theorem size_pos (j : Json) : 1 ≤ Json.size j := by
  cases j <;> simp [Json.size]

theorem size_le_sizeList : ∀ {xs : List Json} {x : Json}, x ∈ xs → Json.size x ≤ Json.sizeList xs
  | y :: ys, x, h => by
    simp only [Json.sizeList]
    rcases List.mem_cons.1 h with rfl | h
    · omega
    · have := size_le_sizeList h; omega

theorem size_le_sizeObj : ∀ {kvs : List (String × Json)} {k : String} {v : Json}, (k, v) ∈ kvs →
    Json.size v ≤ Json.sizeObj kvs
  | (k', v') :: ys, k, v, h => by
    simp only [Json.sizeObj]
    rcases List.mem_cons.1 h with h | h
    · cases h; omega
    · have := size_le_sizeObj h; omega

theorem size_lt_of_mem_obj {es : List (String × Json)} {e : String × Json} (he : e ∈ es) :
    Json.size e.2 < Json.size (.obj es) := by
  have h1 := size_le_sizeObj (k := e.1) (v := e.2) he
  simp only [Json.size]
  omega

theorem size_le_of_mem_obj {es : List (String × Json)} {e : String × Json} {G : Nat} (he : e ∈ es)
    (h : Json.size (.obj es) ≤ G) : Json.size e.2 ≤ G :=
  Nat.le_trans (Nat.le_of_lt (size_lt_of_mem_obj he)) h

theorem size_le_of_mem_arr {js : List Json} {j : Json} {G : Nat} (hj : j ∈ js) (h : Json.size (.arr js) ≤ G) :
    Json.size j ≤ G := by
  have h1 := size_le_sizeList hj
  simp only [Json.size] at h
  omega

def Small (rec : URec) (m : Nat) : Prop := ∀ j st, Json.size j ≤ m → NoPF (rec j st)

theorem decSchemaPtr_NoPF {rec : URec} {m : Nat} (hrec : Small rec m) (v : Json) (st : Store) (hv : Json.size v ≤ m) :
    NoPF (decSchemaPtr rec v st) := by
  cases v <;> first
    | exact NoPF_ok _
    | exact NoPF_bind (hrec _ st hv) fun _ _ => NoPF_ok _

theorem decSchemaElems_NoPF {rec : URec} {m : Nat} (hrec : Small rec m) : ∀ (xs : List Json) (st : Store),
    (∀ x ∈ xs, Json.size x ≤ m) → NoPF (decSchemaElems rec xs st)
  | [], st, _ => NoPF_ok _
  | x :: rest, st, h => by
    have hr : ∀ st, NoPF (decSchemaElems rec rest st) :=
      fun st => decSchemaElems_NoPF hrec rest st fun y hy => h y (List.mem_cons_of_mem _ hy)
    by_cases hx : x = .null
    · rw [hx, decSchemaElems_cons_null]
      exact NoPF_bind (hr st) fun _ _ => NoPF_ok _
    · rw [decSchemaElems_cons rec hx]
      exact NoPF_bind (hrec _ st (h x List.mem_cons_self)) fun _ _ => NoPF_bind (hr _) fun _ _ => NoPF_ok _

theorem decSchemaList_NoPF {rec : URec} {m : Nat} (hrec : Small rec m) (v : Json) (st : Store) (hv : Json.size v ≤ m) :
    NoPF (decSchemaList rec v st) := by
  cases v with
  | arr xs =>
    refine NoPF_bind (decSchemaElems_NoPF hrec xs st fun x hx => ?_) fun _ _ => NoPF_ok _
    exact size_le_of_mem_arr hx hv
  | null => exact NoPF_ok _
  | _ => exact NoPF_err

theorem decSchemaEntries_NoPF {rec : URec} {m : Nat} (hrec : Small rec m) : ∀ (kvs : List (String × Json)) (st : Store),
    (∀ k v, (k, v) ∈ kvs → Json.size v ≤ m) → NoPF (decSchemaEntries rec kvs st)
  | [], st, _ => NoPF_ok _
  | (k, x) :: rest, st, h => by
    have hr : ∀ st, NoPF (decSchemaEntries rec rest st) :=
      fun st => decSchemaEntries_NoPF hrec rest st fun k' y hy => h k' y (List.mem_cons_of_mem _ hy)
    by_cases hx : x = .null
    · rw [hx, decSchemaEntries_cons_null]
      exact NoPF_bind (hr st) fun _ _ => NoPF_ok _
    · rw [decSchemaEntries_cons rec hx]
      exact NoPF_bind (hrec _ st (h k x List.mem_cons_self)) fun _ _ => NoPF_bind (hr _) fun _ _ => NoPF_ok _

theorem decSchemaMap_NoPF {rec : URec} {m : Nat} (hrec : Small rec m) (v : Json) (st : Store) (hv : Json.size v ≤ m) :
    NoPF (decSchemaMap rec v st) := by
  cases v with
  | obj kvs =>
    refine NoPF_bind (decSchemaEntries_NoPF hrec kvs st fun k x hx => ?_) fun _ _ => NoPF_ok _
    exact size_le_of_mem_obj hx hv
  | null => exact NoPF_ok _
  | _ => exact NoPF_err

theorem decDependencies_NoPF {rec : URec} {m : Nat} (hrec : Small rec m) : ∀ (kvs : List (String × Json)) (n : Node) (st : Store),
    (∀ k v, (k, v) ∈ kvs → Json.size v ≤ m) → NoPF (decDependencies rec kvs n st)
  | [], n, st, _ => NoPF_ok _
  | (k, x) :: rest, n, st, h => by
    have hr : ∀ n st, NoPF (decDependencies rec rest n st) :=
      fun n st => decDependencies_NoPF hrec rest n st fun k' y hy => h k' y (List.mem_cons_of_mem _ hy)
    by_cases hx : ∃ xs, x = .arr xs
    · obtain ⟨xs, rfl⟩ := hx
      rw [decDependencies_cons_arr]
      exact NoPF_bind (decStrList_NoPF _) fun _ _ => hr _ _
    · rw [decDependencies_cons rec fun xs hxs => hx ⟨xs, hxs⟩]
      exact NoPF_bind (hrec _ st (h k x List.mem_cons_self)) fun _ _ => hr _ _

theorem setField_NoPF {rec : URec} {m : Nat} (hrec : Small rec m) (n : Node) (st : Store) (k : String) (v : Json)
    (hv : Json.size v ≤ m) : NoPF (setField rec n st k v) := by
  have h := setField_slot rec n st k v none
  generalize setField rec n st k v = r, setField rec (Inv.withExtra none n) st k v = r' at h
  cases h with
  | plain d set hp => exact NoPF_bind hp fun _ _ => NoPF_ok _
  | one => exact NoPF_bind (decSchemaPtr_NoPF hrec v st hv) fun _ _ => NoPF_ok _
  | many => exact NoPF_bind (decSchemaList_NoPF hrec v st hv) fun _ _ => NoPF_ok _
  | keyed => exact NoPF_bind (decSchemaMap_NoPF hrec v st hv) fun _ _ => NoPF_ok _
  | extra => exact NoPF_ok _
  | typ =>
    rw [setField_type]
    cases v <;> first
      | exact NoPF_ok _
      | exact NoPF_err
      | exact NoPF_bind (decStrList_NoPF _) fun _ _ => NoPF_ok _
  | items =>
    rw [setField_items]
    cases v with
    | arr xs =>
      refine NoPF_bind (decSchemaElems_NoPF hrec xs st fun x hx => ?_) fun _ _ => NoPF_ok _
      exact size_le_of_mem_arr hx hv
    | _ => exact NoPF_bind (hrec _ st hv) fun _ _ => NoPF_ok _
  | deps =>
    rw [setField_dependencies]
    cases v with
    | obj kvs =>
      refine decDependencies_NoPF hrec kvs n st fun k x hx => ?_
      exact size_le_of_mem_obj hx hv
    | null => exact NoPF_ok _
    | _ => exact NoPF_err

theorem setMember_NoPF {rec : URec} {m : Nat} (hrec : Small rec m) (n : Node) (st : Store) (k : String) (v : Json)
    (hv : Json.size v ≤ m) : NoPF (setMember rec n st k v) := by
  unfold setMember
  split
  · exact setField_NoPF hrec n st k v hv
  · exact NoPF_bind (setField_NoPF hrec n st (canonKey k) v hv) fun _ _ => NoPF_ok _

theorem setFields_NoPF {rec : URec} {m : Nat} (hrec : Small rec m) : ∀ (kvs : List (String × Json)) (n : Node) (st : Store),
    (∀ k v, (k, v) ∈ kvs → Json.size v ≤ m) → NoPF (setFields rec kvs n st)
  | [], n, st, _ => NoPF_ok _
  | (k, v) :: rest, n, st, h => by
    rw [setFields]
    exact NoPF_bind (setMember_NoPF hrec n st k v (h k v List.mem_cons_self)) fun _ _ =>
      setFields_NoPF hrec rest _ _ fun k' y hy => h k' y (List.mem_cons_of_mem _ hy)

theorem unmarshalStep_NoPF {rec : URec} {m : Nat} (hrec : Small rec m) (j : Json) (st : Store) (hj : Json.size j ≤ m + 1) :
    NoPF (unmarshalStep rec j st) := by
  unfold unmarshalStep
  split
  · exact NoPF_ok _
  · exact NoPF_ok _
  · exact NoPF_ok _
  · next kvs =>
    refine NoPF_bind (setFields_NoPF hrec kvs _ st fun k v hm => ?_) fun _ _ => NoPF_ok _
    have : Json.size v < _ := size_lt_of_mem_obj hm
    omega
  · exact NoPF_err

theorem unmarshalFuel_NoPF : ∀ fuel, Small (unmarshalFuel fuel) fuel := by
  intro fuel
  induction fuel with
  | zero => intro j st h; have := size_pos j; omega
  | succ fuel ih => intro j st h; exact unmarshalStep_NoPF ih j st h

end C10
end JSV
