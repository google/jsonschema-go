/-
  `rootOf` (the identifier an assignment's left-hand side starts with) read off a prefix: a left-hand side that starts
  with `p`, where `p` ends in '.' or '[', has the root of `p`.  `rootVia P` looks the prefix up in a list `P` and so
  decodes only the prefix, not the whole left-hand side.
-/
import JSV.Proofs.ConcFacts
namespace JSV
namespace C13

def rootL (cs : List Char) : List Char :=
  (match cs with
    | '*' :: r => r
    | r => r).takeWhile fun c => c != '.' && c != '['

theorem rootOf_eq (s : String) : rootOf s = String.ofList (rootL s.toList) := rfl

theorem takeWhile_stop {ok : Char → Bool} {c : Char} (hc : ok c = false) (t : List Char) :
    ∀ xs : List Char, (xs ++ c :: t).takeWhile ok = (xs ++ [c]).takeWhile ok
  | [] => by simp [hc]
  | x :: xs => by
    simp only [List.cons_append, List.takeWhile_cons, takeWhile_stop hc t xs]

theorem rootL_cons (x : Char) (l : List Char) :
    rootL (x :: l) = (if x = '*' then l else x :: l).takeWhile fun c => c != '.' && c != '[' := by
  unfold rootL
  split <;> simp_all

theorem rootL_append {c : Char} (hc : (c != '.' && c != '[') = false) (cs t : List Char) :
    rootL (cs ++ [c] ++ t) = rootL (cs ++ [c]) := by
  have hstar : c ≠ '*' := by rintro rfl; exact absurd hc (by decide)
  cases cs with
  | nil => simp [rootL_cons, hstar, hc]
  | cons x xs =>
    simp only [List.cons_append, List.append_assoc, rootL_cons]
    split
    · exact takeWhile_stop hc t xs
    · exact takeWhile_stop hc t (x :: xs)

def stops (p : String) : Bool :=
  match p.toList.getLast? with
  | some c => !(c != '.' && c != '[')
  | none => false

def rootVia (P : List String) (s : String) : String :=
  match P.find? fun p => s.startsWith p with
  | some p => rootOf p
  | none => rootOf s

theorem rootVia_eq (P : List String) (hP : ∀ p ∈ P, stops p = true) (s : String) : rootVia P s = rootOf s := by
  unfold rootVia
  split
  · rename_i p hf
    have hs : s.startsWith p = true := by simpa using List.find?_some hf
    obtain ⟨t, ht⟩ := String.startsWith_string_iff.1 hs
    have hp := hP p (List.mem_of_find?_eq_some hf)
    unfold stops at hp
    split at hp
    · rename_i c hl
      obtain ⟨cs, hcs⟩ := List.getLast?_eq_some_iff.1 hl
      rw [rootOf_eq, rootOf_eq, ← ht, hcs]
      exact congrArg String.ofList (rootL_append (Bool.not_eq_true' _ ▸ hp) cs t).symm
    · cases hp
  · rfl

end C13
end JSV
