/-
  C09 (embedded fields): on the domain the strict decoder `decodableE` is the decoder of the flattened type
  (`decodableE_flatten`: the field the search finds is the live visible field of that JSON name, since visible = dominant),
  and the flattened type is in the domain of `Models.tight` (`inDomain_flatten`); hence `tightE`.
-/
import JSV.Proofs.InfEmbSound
import JSV.Proofs.InfTight
namespace JSV
namespace EncJsonEmb
open Go Spec EncJson

/-- the decoder's search among the fields of a struct without embedded fields, for either way of matching the key -/
def findPlain (m : String → String → Bool) : List (String × String × GoType) → String → Json → Option Bool
  | [], _, _ => none
  | f :: rest, k, v =>
    if !(fieldJSONInfo f.1 f.2.1).omitted && m (fieldJSONInfo f.1 f.2.1).name k then some (decodable f.2.2 v)
    else findPlain m rest k v

theorem decodableExact_eq : ∀ (fs : List (String × String × GoType)) (k : String) (v : Json),
    decodableExact fs k v = findPlain (fun n k => n == k) fs k v
  | [], _, _ => rfl
  | f :: rest, k, v => by simp only [decodableExact, findPlain, decodableExact_eq rest]

theorem decodableFold_eq : ∀ (fs : List (String × String × GoType)) (k : String) (v : Json),
    decodableFold fs k v = findPlain foldEq fs k v
  | [], _, _ => rfl
  | f :: rest, k, v => by simp only [decodableFold, findPlain, decodableFold_eq rest]

theorem findPlain_append (m : String → String → Bool) (k : String) (v : Json) : ∀ (a b : List (String × String × GoType)),
    findPlain m (a ++ b) k v = match findPlain m a k v with
      | some r => some r
      | none => findPlain m b k v
  | [], b => rfl
  | f :: a, b => by
    simp only [List.cons_append, findPlain]
    split
    · rfl
    · exact findPlain_append m k v a b

theorem decodableE_flatten_aux :
    (∀ T : GoTypeE, InDomainE T = true → ∀ j, decodableE T j = decodable (flatten T) j) ∧
    (∀ fs : List (FieldE GoTypeE), inDomainFieldsE fs = true → ∀ (all : List VField) (m : String → String → Bool)
      (pre : List Nat) (i : Nat) (k : String) (v : Json), namesOk all = true → (∀ g, g ∈ allFields pre i fs → g ∈ all) →
      decodableFindE ((all.filter live).map toT) m pre i fs k v =
        findPlain m (((allFields pre i fs).filter (keep all)).map flatV) k v) := by
  refine GoTypeE.ind_wt (fun _ _ _ => rfl) ?_ ?_ ?_ ?_ ?_ ?_ ?_ (fun _ _ _ _ _ _ _ _ _ => rfl) ?_
  · intro n h; simp [InDomainE] at h
  · intro n u _ h; simp [InDomainE] at h
  · intro e ih h j
    simp only [InDomainE] at h
    simp only [flatten, decodableE, decodable]
    exact ih h j
  · intro e ih h j
    simp only [InDomainE] at h
    simp only [flatten, decodableE, decodable, funext (ih h)]
    rfl
  · intro n e ih h j
    simp only [InDomainE] at h
    simp only [flatten, decodableE, decodable, funext (ih h)]
    rfl
  · intro kk e ih h j
    simp only [InDomainE, Bool.and_eq_true] at h
    simp only [flatten, decodableE, decodable, funext (ih h.2)]
    rfl
  · intro fs ih h j
    simp only [InDomainE, Bool.and_eq_true] at h
    rw [flatten_struct]
    simp only [decodableE, decodable]
    cases j with
    | obj kvs =>
      simp only
      refine List.all_congr rfl fun p => ?_
      have hfl : plainOf (visibleFields fs) = ((allFields [] 0 fs).filter (keep (allFields [] 0 fs))).map flatV := by
        unfold plainOf visibleFields
        rw [List.filter_filter]
        rfl
      rw [candidates_eq fs [] 0 h.2, ih h.2 _ _ [] 0 p.1 p.2 h.1 (fun _ hg => hg),
        ih h.2 _ _ [] 0 p.1 p.2 h.1 (fun _ hg => hg), decodableExact_eq, decodableFold_eq, hfl]
      generalize findPlain (fun n k => n == k) _ p.1 p.2 = o
      cases o <;> rfl
    | _ => rfl
  · intro f rest ihT ihE ihR hd all m pre i k v hok hsub
    simp only [inDomainFieldsE, Bool.and_eq_true] at hd
    have hR := ihR hd.2 all m pre (i + 1) k v hok fun g hg => hsub g (mem_allFields_tail hg)
    simp only [decodableFindE, allFields, List.filter_cons, List.filter_append]
    rcases classify_domain hd.1 with ⟨he, hc, hde⟩ | ⟨he, hc, hbad⟩ | ⟨he, hc, hx, ho, hdt⟩
    · -- an embedded struct: not a field itself, its fields are searched
      obtain ⟨fs', hg, hdf⟩ := Go.EmbIs.of_inDomain hde
      have hnl : keep all (headV pre i f) = false := by
        unfold keep live headV
        simp [he]
      have hE := ihE fs' hg hdf all m (pre ++ [i]) 0 k v hok fun g hgm => hsub g (hg.mem_allFields he hgm)
      rw [hc]
      change _ = findPlain m (List.map flatV (if keep all (headV pre i f) = true then _ else _)) k v
      simp only [hnl, Bool.false_eq_true, if_false, he, if_true, List.map_append]
      rw [findPlain_append, hg.fields, ← hE, ← hR, hg.decodableFind]
      generalize decodableFindE _ m (pre ++ [i]) 0 fs' k v = o
      cases o <;> rfl
    · have hnl : keep all (headV pre i f) = false := by
        unfold keep live headV
        rcases hbad with h | h <;> simp [h]
      rw [hc]
      change _ = findPlain m (List.map flatV (if keep all (headV pre i f) = true then _ else _)) k v
      simp only [hnl, Bool.false_eq_true, if_false, he, List.filter_nil, List.nil_append]
      exact hR
    · -- a field of its own: it is searched iff it is visible, i.e. dominant
      have hlive := live_headV (pre := pre) (i := i) he hx ho
      have hk : keep all (headV pre i f) = isDominant ((all.filter live).map toT) (mkTField (pre ++ [i]) f) := by
        unfold keep
        rw [hlive, Bool.true_and]
        exact visible_eq_dominant hok (hsub _ (headV_mem pre i f rest)) hlive
      rw [hc]
      change _ = findPlain m (List.map flatV (if keep all (headV pre i f) = true then _ else _)) k v
      rw [hk]
      cases isDominant ((all.filter live).map toT) (mkTField (pre ++ [i]) f)
      · simp only [Bool.false_and, Bool.false_eq_true, if_false, he, List.filter_nil, List.nil_append]
        exact hR
      · simp only [Bool.true_and, if_true, he, Bool.false_eq_true, if_false, List.filter_nil, List.nil_append, List.map_cons,
          findPlain, flatV, ho, Bool.not_false]
        rw [ihT hdt v, hR]
        cases m (fieldJSONInfo f.goName f.tag).name k <;> rfl

theorem decodableE_flatten (T : GoTypeE) (h : InDomainE T = true) (j : Json) : decodableE T j = decodable (flatten T) j :=
  decodableE_flatten_aux.1 T h j

theorem inDomainFields_of_forall : ∀ {l : List (String × String × GoType)}, (∀ g, g ∈ l → InDomain g.2.2 = true) →
    inDomainFields l = true
  | [], _ => rfl
  | g :: l, h => by
    simp only [inDomainFields, Bool.and_eq_true, Bool.or_eq_true]
    exact ⟨Or.inr (h g List.mem_cons_self), inDomainFields_of_forall fun g' hg' => h g' (List.mem_cons_of_mem _ hg')⟩

theorem inDomain_flatten_aux :
    (∀ T : GoTypeE, InDomainE T = true → InDomain (flatten T) = true) ∧
    (∀ fs : List (FieldE GoTypeE), inDomainFieldsE fs = true → ∀ (pre : List Nat) (i : Nat) (x : VField),
      x ∈ allFields pre i fs → live x = true → fieldTagOk x.goName x.tag = true ∧ InDomain (flatten x.type) = true) := by
  refine GoTypeE.ind_wt (fun _ h => h) ?_ ?_ ?_ ?_ ?_ ?_ ?_ (fun _ _ _ _ hx => nomatch hx) ?_
  · intro n h; simp [InDomainE] at h
  · intro n u _ h; simp [InDomainE] at h
  · intro e ih h; simp only [InDomainE] at h; simp only [flatten, InDomain]; exact ih h
  · intro e ih h; simp only [InDomainE] at h; simp only [flatten, InDomain]; exact ih h
  · intro n e ih h; simp only [InDomainE] at h; simp only [flatten, InDomain]; exact ih h
  · intro kk e ih h
    simp only [InDomainE, Bool.and_eq_true] at h
    simp only [flatten, InDomain, Bool.and_eq_true]
    exact ⟨h.1, ih h.2⟩
  · intro fs ih h
    simp only [InDomainE, Bool.and_eq_true] at h
    have hmem : ∀ g, g ∈ plainOf (visibleFields fs) →
        fieldTagOk g.1 g.2.1 = true ∧ InDomain g.2.2 = true := fun g hg => by
      obtain ⟨x, hx, rfl⟩ := List.mem_map.1 hg
      obtain ⟨hx, hl⟩ := List.mem_filter.1 hx
      exact ih h.2 [] 0 x (mem_visibleFields hx) hl
    rw [flatten_struct]
    simp only [InDomain, Bool.and_eq_true, List.all_eq_true]
    refine ⟨⟨?_, fun g hg => (hmem g hg).1⟩, inDomainFields_of_forall fun g hg => (hmem g hg).2⟩
    rw [jsonNames_plainOf]
    exact (nodup_iff _).2 (loopNames_nodup h.1)
  · intro f rest ihT ihE ihR hd pre i x hx hl
    simp only [inDomainFieldsE, Bool.and_eq_true] at hd
    rcases mem_allFields_cons hx with rfl | ⟨he, fs', hg, hx⟩ | hx
    · rcases classify_domain hd.1 with ⟨he, _, _⟩ | ⟨he, _, hbad⟩ | ⟨he, _, hx, ho, hdt⟩
      · simp [live, headV, he] at hl
      · rcases hbad with h | h <;> simp [live, headV, h] at hl
      · have h1 := hd.1
        simp only [he, Bool.false_eq_true, if_false, hx, Bool.not_true, ho, Bool.false_or, Bool.and_eq_true] at h1
        exact ⟨h1.1, ihT hdt⟩
    · have h1 := hd.1
      simp only [he, if_true, Bool.and_eq_true] at h1
      exact ihE fs' hg (hg.inDomain h1.2) _ 0 x hx hl
    · exact ihR hd.2 pre (i + 1) x hx hl

theorem inDomain_flatten (T : GoTypeE) (h : InDomainE T = true) : InDomain (flatten T) = true := inDomain_flatten_aux.1 T h

/-- **what the schema accepts decodes**: for a type in the domain (`InDomainE`) and a `PlainInts` document -/
theorem tightE {nfs : Bool} {st : Store} {re : String → String → Bool} (T : GoTypeE) (hdom : InDomainE T = true) (an : Bool)
    (id : NodeId) (hm : Models nfs st (flatten T) an id) (f : Nat) (scope : List NodeId) (j : Json) (hp : PlainInts j = true)
    (hv : Valid (evalFuel (specEnvNoRefs st re) f scope id j)) : decodableE T j = true := by
  rw [decodableE_flatten T hdom]
  exact Models.tight (flatten T) an id hm (inDomain_flatten T hdom) f scope j hp hv

/-- a struct schema requires the always-written fields of `typeFields` -/
theorem requiredE {nfs : Bool} {st : Store} {re : String → String → Bool} {fields : List (FieldE GoTypeE)}
    (hdom : InDomainE (.struct fields) = true) {an : Bool} {id : NodeId}
    (hm : Models nfs st (flatten (.struct fields)) an id) {f : Nat} {scope : List NodeId}
    {kvs : List (String × Json)} (hv : Valid (evalFuel (specEnvNoRefs st re) f scope id (.obj kvs))) :
    ∀ k, k ∈ alwaysFieldNames fields → (Json.lookup k kvs).isSome = true := by
  simp only [InDomainE, Bool.and_eq_true] at hdom
  rw [flatten_struct] at hm
  intro k hk
  refine Models.required hm hv k ?_
  rw [alwaysNames_plainOf, ← alwaysFieldNames_eq hdom.1 hdom.2]
  exact hk

end EncJsonEmb
end JSV
