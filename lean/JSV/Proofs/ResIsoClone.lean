/-
  The clone of a tree is a tree: if checkStructure accepts `root`, it accepts the clone of `root`.

  `cloneFuel` allocates one fresh node per visit, after the clones of the children: the clones of two siblings occupy
  disjoint intervals of ids, and the copy itself comes after both.  So the clone of a subtree that checkStructure
  accepts on its own (`RPerm.Sub`) is accepted on its own, with all its schemas in the interval allocated by the call.
-/
import JSV.Proofs.ResPermStructure
import JSV.Proofs.MshClone
namespace JSV
namespace Go
namespace RIso
open RPerm (Sub)

theorem cs_ext {s s' : Store} (he : Ext s s') : ∀ (f : Nat) (w : List (NodeId × String)) (acc res : List (NodeId × Info)),
    checkStructure s f w acc = .ok res → checkStructure s' f w acc = .ok res := by
  intro f
  induction f with
  | zero => intro w acc res h; rw [RPerm.cs_zero] at h; cases h
  | succ f ih =>
    intro w acc res h
    cases w with
    | nil => rw [RPerm.cs_nil] at h ⊢; exact h
    | cons e w =>
      obtain ⟨id, path⟩ := e
      obtain ⟨n, hn, hid, hrest⟩ := (RPerm.cs_cons_ok _ _ _ _ _ _ _).mp h
      exact (RPerm.cs_cons_ok _ _ _ _ _ _ _).mpr ⟨n, he.get? hn, hid, ih _ _ _ hrest⟩

theorem sub_ext {s s' : Store} (he : Ext s s') {w : List (NodeId × String)} {D : List (NodeId × Info)}
    (h : Sub s w D) : Sub s' w D := by
  obtain ⟨f, hf⟩ := h
  exact ⟨f, cs_ext he f w [] D hf⟩

def InIv (lo hi : Nat) (D : List (NodeId × Info)) : Prop := ∀ k, k ∈ D.map (·.1) → lo ≤ k ∧ k < hi

theorem InIv.mono {lo hi lo' hi' : Nat} {D : List (NodeId × Info)} (h : InIv lo hi D) (h1 : lo' ≤ lo) (h2 : hi ≤ hi') :
    InIv lo' hi' D := fun k hk => ⟨Nat.le_trans h1 (h k hk).1, Nat.lt_of_lt_of_le (h k hk).2 h2⟩

theorem InIv.append {lo mid hi : Nat} {D₁ D₂ : List (NodeId × Info)} (h₁ : InIv lo mid D₁) (h₂ : InIv mid hi D₂)
    (hlm : lo ≤ mid) (hmh : mid ≤ hi) : InIv lo hi (D₁ ++ D₂) := by
  intro k hk
  rw [List.map_append, List.mem_append] at hk
  rcases hk with hk | hk
  · exact (h₁.mono (Nat.le_refl _) hmh) k hk
  · exact (h₂.mono hlm (Nat.le_refl _)) k hk

theorem InIv.disjoint {lo mid hi : Nat} {D₁ D₂ : List (NodeId × Info)} (h₁ : InIv lo mid D₁) (h₂ : InIv mid hi D₂) :
    ∀ x ∈ D₂.map (·.1), x ∉ D₁.map (·.1) := by
  intro x hx hx'
  have a := (h₂ x hx).1
  have b := (h₁ x hx').2
  omega

theorem inIv_nil (lo hi : Nat) : InIv lo hi [] := fun _ hk => by simp at hk

/-- what checkStructure pushes for one field: `childEntries` is the `flatMap` of this (`childEntries_eq`) -/
def fieldEntries (path : String) : ChildField → List (NodeId × String)
  | .one j (some c) => [(c, path ++ "/" ++ j)]
  | .one _ none => []
  | .many j cs => (cs.getD []).zipIdx.map fun (c, i) => (c, path ++ "/" ++ j ++ "/" ++ toString i)
  | .keyed j cs => (cs.getD []).map fun (k, c) => (c, path ++ "/" ++ j ++ "/" ++ Pointer.escapeSegment k)

theorem childEntries_eq (n : Node) (path : String) :
    childEntries n path = n.childFields.flatMap (fieldEntries path) := by
  unfold childEntries
  congr 1

/-- what is assumed of the recursive call: the clone of a subtree that checkStructure accepts in the original store
    `st0` is accepted, under the same path, in the extended store, and lies in the interval the call has allocated -/
def RecTree (st0 : Store) (rec : CRec) : Prop :=
  ∀ x s x' s' p D, Ext st0 s → Sub st0 [(x, p)] D → rec x s = .ok (x', s') →
    Ext s s' ∧ ∃ D', Sub s' [(x', p)] D' ∧ InIv s.size s'.size D'

section
variable {st0 : Store} {rec : CRec} (hrec : RecTree st0 rec)
include hrec

/-- `h`, `g`, `hh` instead of a lambda in the statement, so that `h` unifies with the pattern-matching lambda of
    `fieldEntries` -/
theorem cloneIds_tree (h : NodeId × Nat → NodeId × String) (g : Nat → String) (hh : ∀ c i, h (c, i) = (c, g i)) :
    ∀ (l : List NodeId) (k : Nat) (s : Store) (l' : List NodeId) (s' : Store) (D : List (NodeId × Info)),
      Ext st0 s → Sub st0 ((l.zipIdx k).map h) D → cloneIds rec l s = .ok (l', s') →
      Ext s s' ∧ ∃ D', Sub s' ((l'.zipIdx k).map h) D' ∧ InIv s.size s'.size D'
  | [], k, s, l', s', D, _, _, hc => by
    simp only [cloneIds] at hc
    cases hc
    exact ⟨Ext.refl _, [], RPerm.sub_nil _, inIv_nil _ _⟩
  | x :: xs, k, s, l', s', D, he, hsub, hc => by
    simp only [cloneIds] at hc
    obtain ⟨⟨x', s1⟩, h1, h2⟩ := Res.bind_eq_ok hc
    obtain ⟨⟨xs', s2⟩, h3, h4⟩ := Res.bind_eq_ok h2
    cases h4
    rw [List.zipIdx_cons, List.map_cons, hh] at hsub ⊢
    obtain ⟨D1, D2, _, hs1, hs2, _⟩ := (RPerm.sub_cons_iff _ _ _ _).mp hsub
    obtain ⟨e1, D1', hs1', hi1⟩ := hrec x s x' s1 (g k) D1 he hs1 h1
    obtain ⟨e2, D2', hs2', hi2⟩ := cloneIds_tree h g hh xs (k + 1) s1 xs' s2 D2 (he.trans e1) hs2 h3
    refine ⟨e1.trans e2, D1' ++ D2', ?_, hi1.append hi2 e1.1 e2.1⟩
    exact (RPerm.sub_cons_iff _ _ _ _).mpr ⟨D1', D2', rfl, sub_ext e2 hs1', hs2', hi1.disjoint hi2⟩

theorem cloneEntries_tree (h : String × NodeId → NodeId × String) (g : String → String)
    (hh : ∀ k c, h (k, c) = (c, g k)) :
    ∀ (l : List (String × NodeId)) (s : Store) (l' : List (String × NodeId)) (s' : Store) (D : List (NodeId × Info)),
      Ext st0 s → Sub st0 (l.map h) D → cloneEntries rec l s = .ok (l', s') →
      Ext s s' ∧ ∃ D', Sub s' (l'.map h) D' ∧ InIv s.size s'.size D'
  | [], s, l', s', D, _, _, hc => by
    simp only [cloneEntries] at hc
    cases hc
    exact ⟨Ext.refl _, [], RPerm.sub_nil _, inIv_nil _ _⟩
  | (k, x) :: xs, s, l', s', D, he, hsub, hc => by
    simp only [cloneEntries] at hc
    obtain ⟨⟨x', s1⟩, h1, h2⟩ := Res.bind_eq_ok hc
    obtain ⟨⟨xs', s2⟩, h3, h4⟩ := Res.bind_eq_ok h2
    cases h4
    rw [List.map_cons, hh] at hsub ⊢
    obtain ⟨D1, D2, _, hs1, hs2, _⟩ := (RPerm.sub_cons_iff _ _ _ _).mp hsub
    obtain ⟨e1, D1', hs1', hi1⟩ := hrec x s x' s1 (g k) D1 he hs1 h1
    obtain ⟨e2, D2', hs2', hi2⟩ := cloneEntries_tree h g hh xs s1 xs' s2 D2 (he.trans e1) hs2 h3
    refine ⟨e1.trans e2, D1' ++ D2', ?_, hi1.append hi2 e1.1 e2.1⟩
    exact (RPerm.sub_cons_iff _ _ _ _).mpr ⟨D1', D2', rfl, sub_ext e2 hs1', hs2', hi1.disjoint hi2⟩

theorem cloneField_tree (path : String) {f : ChildField} {s : Store} {f' : ChildField} {s' : Store}
    {D : List (NodeId × Info)} (he : Ext st0 s) (hsub : Sub st0 (fieldEntries path f) D)
    (hc : cloneField rec f s = .ok (f', s')) :
    Ext s s' ∧ ∃ D', Sub s' (fieldEntries path f') D' ∧ InIv s.size s'.size D' := by
  cases f with
  | one k c =>
    simp only [cloneField] at hc
    obtain ⟨⟨c', s1⟩, h1, h2⟩ := Res.bind_eq_ok hc
    cases h2
    cases c with
    | none =>
      simp only [cloneOpt] at h1
      cases h1
      exact ⟨Ext.refl _, [], RPerm.sub_nil _, inIv_nil _ _⟩
    | some x =>
      simp only [cloneOpt] at h1
      obtain ⟨⟨x', s2⟩, h3, h4⟩ := Res.bind_eq_ok h1
      cases h4
      exact hrec x s x' _ _ D he hsub h3
  | many k cs =>
    simp only [cloneField] at hc
    obtain ⟨⟨c', s1⟩, h1, h2⟩ := Res.bind_eq_ok hc
    cases h2
    cases cs with
    | none =>
      simp only [cloneList] at h1
      cases h1
      exact ⟨Ext.refl _, [], RPerm.sub_nil _, inIv_nil _ _⟩
    | some l =>
      simp only [cloneList] at h1
      obtain ⟨⟨l', s2⟩, h3, h4⟩ := Res.bind_eq_ok h1
      cases h4
      exact cloneIds_tree hrec _ (fun i => path ++ "/" ++ k ++ "/" ++ toString i) (fun _ _ => rfl) l 0 s l' _ D he
        hsub h3
  | keyed k cs =>
    simp only [cloneField] at hc
    obtain ⟨⟨c', s1⟩, h1, h2⟩ := Res.bind_eq_ok hc
    cases h2
    cases cs with
    | none =>
      simp only [cloneMap] at h1
      cases h1
      exact ⟨Ext.refl _, [], RPerm.sub_nil _, inIv_nil _ _⟩
    | some l =>
      simp only [cloneMap] at h1
      obtain ⟨⟨l', s2⟩, h3, h4⟩ := Res.bind_eq_ok h1
      cases h4
      exact cloneEntries_tree hrec _ (fun key => path ++ "/" ++ k ++ "/" ++ Pointer.escapeSegment key)
        (fun _ _ => rfl) l s l' _ D he hsub h3

theorem cloneFields_tree (path : String) : ∀ (fs : List ChildField) (s : Store) (fs' : List ChildField) (s' : Store)
    (D : List (NodeId × Info)), Ext st0 s → Sub st0 (fs.flatMap (fieldEntries path)) D →
    cloneFields rec fs s = .ok (fs', s') →
    Ext s s' ∧ ∃ D', Sub s' (fs'.flatMap (fieldEntries path)) D' ∧ InIv s.size s'.size D'
  | [], s, fs', s', D, _, _, hc => by
    simp only [cloneFields] at hc
    cases hc
    exact ⟨Ext.refl _, [], RPerm.sub_nil _, inIv_nil _ _⟩
  | f :: fs, s, fs', s', D, he, hsub, hc => by
    simp only [cloneFields] at hc
    obtain ⟨⟨f', s1⟩, h1, h2⟩ := Res.bind_eq_ok hc
    obtain ⟨⟨fs'', s2⟩, h3, h4⟩ := Res.bind_eq_ok h2
    cases h4
    rw [List.flatMap_cons] at hsub ⊢
    obtain ⟨D1, D2, _, hs1, hs2, _⟩ := (RPerm.sub_append_iff _ _ _ _).mp hsub
    obtain ⟨e1, D1', hs1', hi1⟩ := cloneField_tree hrec path he hs1 h1
    obtain ⟨e2, D2', hs2', hi2⟩ := cloneFields_tree path fs s1 fs'' s2 D2 (he.trans e1) hs2 h3
    refine ⟨e1.trans e2, D1' ++ D2', ?_, hi1.append hi2 e1.1 e2.1⟩
    exact (RPerm.sub_append_iff _ _ _ _).mpr ⟨D1', D2', rfl, sub_ext e2 hs1', hs2', hi1.disjoint hi2⟩

end

theorem cloneFuel_tree (st0 : Store) : ∀ fc, RecTree st0 (cloneFuel fc)
  | 0 => fun _ _ _ _ _ _ _ _ h => by cases h
  | fc + 1 => by
    intro x s x' s' p D he hsub hc
    change cloneStep (cloneFuel fc) x s = _ at hc
    obtain ⟨n, D0, hn, _, hsub0, _⟩ := (RPerm.sub_single_iff _ _ _ _).mp hsub
    have hns : s.get? x = some n := he.get? hn
    obtain ⟨fs', s'', h1, rfl, rfl⟩ := cloneStep_some hns hc
    rw [childEntries_eq] at hsub0
    obtain ⟨e1, D0', hs0', hi0⟩ := cloneFields_tree (cloneFuel_tree st0 fc) p n.childFields s fs' s'' D0 he hsub0 h1
    have hshape := (cloneFields_inv (cloneInv_ext (fun _ _ _ _ h' => cloneFuel_ext _ h')) trivial
      (fun _ _ _ _ => trivial) h1).2
    have hcf : (setChildFields n fs').childFields = fs' := childFields_set hshape
    have epush : Ext s'' (s''.push (setChildFields n fs')) := Ext.push _ _
    refine ⟨e1.trans epush, (s''.size, RPerm.infoOf p) :: D0', ?_, ?_⟩
    · refine (RPerm.sub_single_iff _ _ _ _).mpr ⟨setChildFields n fs', D0', get?_push_size _ _, rfl, ?_, ?_⟩
      · rw [childEntries_eq, hcf]
        exact sub_ext epush hs0'
      · intro hm
        have := (hi0 _ hm).2
        omega
    · intro k hk
      rw [List.map_cons, List.mem_cons] at hk
      have hsz : (s''.push (setChildFields n fs')).size = s''.size + 1 := Array.size_push _
      rcases hk with hk | hk
      · subst hk
        have := e1.1
        dsimp only
        omega
      · have := hi0 k hk
        omega

/-- **the clone of a tree is a tree**: if checkStructure accepts `root`, it accepts the clone of `root` — under the
    same initial path, with some amount of fuel — and every schema of the clone is a new node -/
theorem clone_checkStructure (st : Store) (root c : NodeId) (st' : Store) (p : String) (f : Nat)
    (fresh : List (NodeId × Info)) (hcs : checkStructure st f [(root, p)] [] = .ok fresh)
    (h : clone st root = .ok (c, st')) :
    ∃ f' fresh', checkStructure st' f' [(c, p)] [] = .ok fresh' ∧ InIv st.size st'.size fresh' := by
  obtain ⟨_, D', ⟨f', hf'⟩, hi⟩ := cloneFuel_tree st (st.size + 2) root st c st' p fresh (Ext.refl st) ⟨f, hcs⟩ h
  exact ⟨f', D', hf', hi⟩

end RIso
end Go
end JSV
