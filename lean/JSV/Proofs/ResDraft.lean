/-
  The draft of every Resolved.  `resolveDocStep` registers a document under the draft
  its root declares, or, when it declares none, under the draft handed over by the referring document
  (`resolveRef` passes `d.draft` of the Resolved it runs for).  Two invariants over the open recursion:
  * `AllDraft D` (no assumption on the Loader): every Resolved has draft `D`;
  * the parent relation `Par` (under the freshness assumption): every loaded document is registered under
    `docDraft` of the draft of a Resolved that merged it.
-/
import JSV.Proofs.ResDesigMulti
namespace JSV
namespace Go
namespace RDraft
open RInv

theorem docDraft_none (env : Env) (rn : Node) (inherit : Draft) (h : rn.schema = "") :
    docDraft env rn inherit = inherit := by
  unfold docDraft; rw [h]; rfl

theorem docDraft_some (env : Env) (rn : Node) (inherit : Draft) (h : rn.schema ≠ "") :
    docDraft env rn inherit = detectDraft env rn.schema := by
  unfold docDraft
  have : (rn.schema == "") = false := by simpa using h
  rw [this]; rfl

theorem mem_setDoc (s : RState) (d x : DocRes) (h : x ∈ (s.setDoc d).docs) : x ∈ s.docs ∨ x = d := by
  unfold RState.setDoc at h
  simp only at h
  split at h
  · obtain ⟨y, hy, he⟩ := List.mem_map.mp h
    split at he
    · exact Or.inr he.symm
    · exact Or.inl (he ▸ hy)
  · rcases List.mem_append.mp h with h | h
    · exact Or.inl h
    · exact Or.inr (List.mem_singleton.mp h)

theorem doc?_mem (s : RState) (r : NodeId) (d : DocRes) (h : s.doc? r = some d) : d ∈ s.docs := by
  unfold RState.doc? at h
  exact List.mem_of_find?_eq_some h

def AllDraft (D : Draft) (s : RState) : Prop := ∀ d ∈ s.docs, d.draft = D

theorem AllDraft.draftOf {D : Draft} {s : RState} (h : AllDraft D s) (r : NodeId) (hr : (s.doc? r).isSome = true) :
    s.draftOf r = D := by
  unfold RState.draftOf
  cases hd : s.doc? r with
  | none => rw [hd] at hr; cases hr
  | some d => exact h d (doc?_mem s r d hd)

theorem AllDraft.of_docs_eq {D : Draft} {a b : RState} (h : b.docs = a.docs) (ha : AllDraft D a) : AllDraft D b := by
  unfold AllDraft; rw [h]; exact ha

theorem allDraft_setDoc {D : Draft} (s : RState) (d : DocRes) (hd : d.draft = D) (h : AllDraft D s) :
    AllDraft D (s.setDoc d) := by
  intro x hx
  rcases mem_setDoc s d x hx with hx | hx
  · exact h x hx
  · rw [hx]; exact hd

theorem allDraft_mergeKnown {D : Draft} (s : RState) (a b : NodeId) (h : AllDraft D s) :
    AllDraft D (mergeKnown s a b) := by
  unfold mergeKnown
  split
  · rename_i d l hd hl
    exact allDraft_setDoc s _ (h d (doc?_mem s a d hd)) h
  · exact h

theorem allDraft_updInfo {D : Draft} (a : RState) (id : NodeId) (f : Info → Info) (ha : AllDraft D a) :
    AllDraft D (a.updInfo id f) :=
  AllDraft.of_docs_eq (updInfo_docs a id f) ha

theorem allDraft_resolveURIs (env : Env) (D : Draft) (root : NodeId) (baseURI : Uri.Url)
    (fresh : List (NodeId × Info)) (s : RState) (hs : AllDraft D s) {fuel : Nat} {work : List (NodeId × NodeId)}
    {sB : RState} (hB : resolveURIsLoop env D root fuel work (beforeURIs root baseURI D fresh s) = .ok sB) :
    AllDraft D sB := by
  have hA : AllDraft D (beforeURIs root baseURI D fresh s) := by
    unfold beforeURIs
    apply allDraft_updInfo
    apply allDraft_setDoc _ _ rfl
    exact AllDraft.of_docs_eq rfl hs
  exact resolveURIsLoop_pres env D root (AllDraft D) allDraft_updInfo
    (fun a d u ha hd => allDraft_setDoc a _ (ha d (doc?_mem a root d hd)) ha) _ _ _ _ hB hA

/-- the document rooted at `r` is read under `D` when the referrer's draft is `inh` -/
def ReadsAs (env : Env) (D : Draft) (r : NodeId) (inh : Draft) : Prop :=
  ∀ rn, env.st.get? r = some rn → docDraft env rn inh = D

/-- every Loader document declares no `$schema`, or one that selects `D` -/
def LoaderDeclares (env : Env) (D : Draft) : Prop :=
  ∀ tbl k r, env.loader = some tbl → Json.lookup k tbl = some (.doc r) → ReadsAs env D r D

def RecAll (env : Env) (D : Draft) (recDoc : ResolveDoc) : Prop :=
  ∀ root base inh s s', recDoc root base inh s = .ok s' → ReadsAs env D root inh → AllDraft D s → AllDraft D s'

theorem resolveRef_all (env : Env) (D : Draft) (recDoc : ResolveDoc) (hrec : RecAll env D recDoc)
    (hload : LoaderDeclares env D) (root : NodeId) (a : RState) (id : NodeId) (ref : String) (o : RefOut) (b : RState)
    (ha : AllDraft D a) (h : resolveRef env recDoc root a id ref = .ok (o, b)) : AllDraft D b := by
  obtain ⟨d, hd, hc⟩ := resolveRef_cases env recDoc root a id ref o b h
  rcases hc with rfl | ⟨r, rfl⟩ | ⟨u, tbl, r, a2, _, htbl, hl, hcall, rfl⟩
  · exact ha
  · exact allDraft_mergeKnown _ _ _ ha
  · apply allDraft_mergeKnown
    have hdD : d.draft = D := ha d (doc?_mem a root d hd)
    rw [hdD] at hcall
    exact hrec _ _ _ _ _ hcall (hload tbl _ r htbl hl) (AllDraft.of_docs_eq rfl ha)

theorem resolveDocStep_all (env : Env) (D : Draft) (recDoc : ResolveDoc) (hrec : RecAll env D recDoc)
    (hload : LoaderDeclares env D) : RecAll env D (resolveDocStep env recDoc) := by
  intro root baseURI inh s s' h hroot hs
  obtain ⟨rn, fresh, sB, hrn, _, hB, hC⟩ := resolveDocStep_unfold env recDoc root baseURI inh s s' h
  have hdr : docDraft env rn inh = D := hroot rn hrn
  rw [hdr] at hB
  have hsB := allDraft_resolveURIs env D root baseURI fresh s hs hB
  exact resolveRefsLoop_pres env recDoc root (AllDraft D) allDraft_updInfo
    (fun a id ref o b ha hr => resolveRef_all env D recDoc hrec hload root a id ref o b ha hr) _ _ _ hC
    (AllDraft.of_docs_eq rfl hsB)

theorem resolveDoc_all (env : Env) (D : Draft) (hload : LoaderDeclares env D) :
    ∀ fuel, RecAll env D (resolveDoc env fuel) := by
  intro fuel
  induction fuel with
  | zero => intro root base inh s s' h; simp [resolveDoc] at h
  | succ fuel ih => exact resolveDocStep_all env D _ ih hload

theorem allDraft_init (D : Draft) : AllDraft D {} := fun _ h => absurd h (by simp)

/-- Schema.Resolve: when the top document is read under `D` and every Loader document declares no `$schema` or one that
    selects `D`, every Resolved of the final state, the root's included, has draft `D` -/
theorem resolve_all_draft (env : Env) (D : Draft) (fuel : Nat) (root : NodeId) (base : String) (rs : Resolved)
    (h : resolve env fuel root base = .ok rs) (hroot : ReadsAs env D root .d2020) (hload : LoaderDeclares env D) :
    rs.draft = D ∧ ∃ s b, resolveDoc env fuel root b .d2020 {} = .ok s ∧ rs.log = s.log ∧
      ∀ d ∈ s.docs, d.draft = D := by
  obtain ⟨s, b, d0, _, hs, hd0, _, hdr, hlog, _⟩ := resolve_eq_ok env fuel root base rs h
  have hall : AllDraft D s := resolveDoc_all env D hload fuel root b .d2020 {} s hs hroot (allDraft_init D)
  exact ⟨by rw [hdr]; exact hall d0 (doc?_mem s root d0 hd0), s, b, hs, hlog, hall⟩

def IsLogged (env : Env) (top : NodeId) (log : List String) (r : NodeId) : Prop :=
  r = top ∨ ∃ tbl k, env.loader = some tbl ∧ k ∈ log ∧ Json.lookup k tbl = some (.doc r)

def Logged (env : Env) (top : NodeId) (s : RState) : Prop :=
  ∀ r, (s.doc? r).isSome = true → IsLogged env top s.log r

/-- what the parent relation needs of the Loader: every URI has its own document, none of them the top one -/
def LoaderInj (env : Env) (top : NodeId) : Prop :=
  ∀ tbl, env.loader = some tbl →
    (∀ k r, Json.lookup k tbl = some (.doc r) → r ≠ top) ∧
    (∀ k1 k2 r, Json.lookup k1 tbl = some (.doc r) → Json.lookup k2 tbl = some (.doc r) → k1 = k2)

theorem LoaderFresh.inj {env : Env} {top : NodeId} (h : LoaderFresh env top) : LoaderInj env top := by
  intro tbl htbl
  obtain ⟨h1, h2⟩ := h tbl htbl
  constructor
  · intro k r hk e
    subst e
    exact h1 k r hk r (reach_root env.st r) (reach_root env.st r)
  · intro k1 k2 r hk1 hk2
    apply Classical.byContradiction
    intro hne
    exact h2 k1 k2 r r hne hk1 hk2 r (reach_root env.st r) (reach_root env.st r)

theorem IsLogged.mono {env : Env} {top : NodeId} {l l' : List String} {r : NodeId}
    (h : IsLogged env top l r) (hl : ∀ k ∈ l, k ∈ l') : IsLogged env top l' r := by
  rcases h with h | ⟨tbl, k, h1, h2, h3⟩
  · exact Or.inl h
  · exact Or.inr ⟨tbl, k, h1, hl k h2, h3⟩

def DocLe (s s' : RState) : Prop :=
  ∀ r d, s.doc? r = some d → ∃ d', s'.doc? r = some d' ∧ d'.draft = d.draft ∧ ∀ x ∈ d.known, x ∈ d'.known

theorem DocLe.refl (s : RState) : DocLe s s := fun _ d h => ⟨d, h, rfl, fun _ hx => hx⟩

theorem DocLe.trans {a b c : RState} (h1 : DocLe a b) (h2 : DocLe b c) : DocLe a c := by
  intro r d hd
  obtain ⟨d1, hd1, e1, k1⟩ := h1 r d hd
  obtain ⟨d2, hd2, e2, k2⟩ := h2 r d1 hd1
  exact ⟨d2, hd2, e2.trans e1, fun x hx => k2 x (k1 x hx)⟩

theorem DocLe.of_docs_eq {a b : RState} (h : b.docs = a.docs) : DocLe a b := by
  intro r d hd
  exact ⟨d, by rw [doc?_of_docs_eq h]; exact hd, rfl, fun _ hx => hx⟩

theorem DocLe.none {a b : RState} (h : DocLe a b) (r : NodeId) (hb : b.doc? r = none) : a.doc? r = none := by
  cases ha : a.doc? r with
  | none => rfl
  | some d =>
    obtain ⟨d', hd', _⟩ := h r d ha
    rw [hb] at hd'; cases hd'

theorem docLe_setDoc_upd (a : RState) (d dn : DocRes) (r : NodeId) (hd : a.doc? r = some d) (hr : dn.root = r)
    (hdr : dn.draft = d.draft) (hk : ∀ x ∈ d.known, x ∈ dn.known) : DocLe a (a.setDoc dn) := by
  intro r' d' h'
  rw [doc?_setDoc]
  split
  · rename_i e
    have : r' = r := by rw [← e, hr]
    subst this
    cases hd.symm.trans h'
    exact ⟨dn, rfl, hdr, hk⟩
  · exact ⟨d', h', rfl, fun _ hx => hx⟩

theorem docLe_setDoc_new (a : RState) (dn : DocRes) (h : a.doc? dn.root = none) : DocLe a (a.setDoc dn) := by
  intro r' d' h'
  rw [doc?_setDoc]
  split
  · rename_i e
    rw [e, h'] at h; cases h
  · exact ⟨d', h', rfl, fun _ hx => hx⟩

theorem docLe_mergeKnown (s : RState) (a b : NodeId) : DocLe s (mergeKnown s a b) := by
  unfold mergeKnown
  split
  · rename_i d l hd hl
    refine docLe_setDoc_upd s d _ a hd (doc?_root s a d hd) rfl ?_
    intro x hx
    exact List.mem_append_left _ hx
  · exact DocLe.refl s

theorem mergeKnown_isSome (s : RState) (a b r : NodeId) :
    ((mergeKnown s a b).doc? r).isSome = (s.doc? r).isSome := by
  unfold mergeKnown
  split
  · rename_i d l hd hl
    rw [doc?_setDoc]
    split
    · rename_i e
      have e' : d.root = r := e
      rw [← e', doc?_root s a d hd, hd]; rfl
    · rfl
  · rfl

theorem mergeKnown_knows (s : RState) (a b : NodeId) (da db : DocRes) (ha : s.doc? a = some da)
    (hb : s.doc? b = some db) (x : NodeId) (hx : x ∈ db.known) :
    ∃ dp, (mergeKnown s a b).doc? a = some dp ∧ dp.draft = da.draft ∧ x ∈ dp.known := by
  unfold mergeKnown
  rw [ha, hb]
  simp only
  refine ⟨{ da with known := da.known ++ db.known.filter (fun x => !da.known.contains x) },
    by rw [doc?_setDoc, if_pos (doc?_root s a da ha)], rfl, ?_⟩
  simp only [List.mem_append, List.mem_filter, List.contains_eq_mem, Bool.not_eq_true', decide_eq_false_iff_not]
  by_cases hm : x ∈ da.known
  · exact Or.inl hm
  · exact Or.inr ⟨hx, hm⟩

/-- document `r`, registered under `dr`, was read under the draft of the Resolved of `p`, which merged it -/
def Par (env : Env) (s : RState) (r : NodeId) (dr : Draft) (p : NodeId) : Prop :=
  ∃ rn dp, env.st.get? r = some rn ∧ s.doc? p = some dp ∧ p ≠ r ∧ r ∈ dp.known ∧ dr = docDraft env rn dp.draft

theorem Par.mono {env : Env} {s s' : RState} {r p : NodeId} {dr : Draft} (hle : DocLe s s')
    (h : Par env s r dr p) : Par env s' r dr p := by
  obtain ⟨rn, dp, h1, h2, h3, h4, h5⟩ := h
  obtain ⟨dp', h2', e, k⟩ := hle p dp h2
  exact ⟨rn, dp', h1, h2', h3, k r h4, by rw [e]; exact h5⟩

/-- the documents registered between `a` and `b` have a parent: `X`, or another such document -/
def NewPar (env : Env) (X : NodeId) (a b : RState) : Prop :=
  ∀ r d, a.doc? r = none → b.doc? r = some d → ∃ p, (p = X ∨ a.doc? p = none) ∧ Par env b r d.draft p

theorem newPar_of_none (env : Env) (X : NodeId) (a b : RState) (h : ∀ r, a.doc? r = none → b.doc? r = none) :
    NewPar env X a b := by
  intro r d ha hb
  rw [h r ha] at hb; cases hb

theorem NewPar.trans {env : Env} {X : NodeId} {a b c : RState} (hab : DocLe a b) (hbc : DocLe b c)
    (h1 : NewPar env X a b) (h2 : NewPar env X b c) : NewPar env X a c := by
  intro r d ha hc
  cases hb : b.doc? r with
  | some db =>
    obtain ⟨d', hd', e, _⟩ := hbc r db hb
    cases hc.symm.trans hd'
    obtain ⟨p, hp, hpar⟩ := h1 r db ha hb
    exact ⟨p, hp, by rw [e]; exact hpar.mono hbc⟩
  | none =>
    obtain ⟨p, hp, hpar⟩ := h2 r d hb hc
    refine ⟨p, ?_, hpar⟩
    rcases hp with hp | hp
    · exact Or.inl hp
    · exact Or.inr (hab.none p hp)

/-- the invariant of resolveRefs running for document `X`, entered in state `a0` -/
structure JB (env : Env) (top X : NodeId) (a0 b : RState) : Prop where
  logOk : LogOk b none
  logged : Logged env top b
  reg : (b.doc? X).isSome = true
  le : DocLe a0 b
  par : NewPar env X a0 b

theorem JB.of_eq {env : Env} {top X : NodeId} {a0 b b' : RState} (h : JB env top X a0 b) (hd : b'.docs = b.docs)
    (hl : b'.log = b.log) (hld : b'.loaded = b.loaded) : JB env top X a0 b' := by
  have hdoc : ∀ r, b'.doc? r = b.doc? r := doc?_of_docs_eq hd
  refine ⟨?_, ?_, ?_, ?_, ?_⟩
  · have := h.logOk
    unfold LogOk at this ⊢
    rw [hl, hld]; exact this
  · intro r hr
    rw [hdoc] at hr
    rw [hl]; exact h.logged r hr
  · rw [hdoc]; exact h.reg
  · exact h.le.trans (DocLe.of_docs_eq hd)
  · intro r d ha hb
    rw [hdoc] at hb
    obtain ⟨p, hp, hpar⟩ := h.par r d ha hb
    exact ⟨p, hp, hpar.mono (DocLe.of_docs_eq hd)⟩

theorem JB.updInfo {env : Env} {top X : NodeId} {a0 b : RState} (h : JB env top X a0 b) (id : NodeId) (f : Info → Info) :
    JB env top X a0 (b.updInfo id f) :=
  h.of_eq (updInfo_docs b id f) (updInfo_same b id f).1 (updInfo_same b id f).2

theorem JB.mergeKnown {env : Env} {top X : NodeId} {a0 b : RState} (h : JB env top X a0 b) (x y : NodeId) :
    JB env top X a0 (mergeKnown b x y) := by
  have hsame := mergeKnown_same b x y
  refine ⟨hsame.logOk h.logOk, ?_, ?_, h.le.trans (docLe_mergeKnown b x y), ?_⟩
  · intro r hr
    rw [mergeKnown_isSome] at hr
    rw [hsame.1]; exact h.logged r hr
  · rw [mergeKnown_isSome]; exact h.reg
  · refine NewPar.trans h.le (docLe_mergeKnown b x y) h.par (newPar_of_none env X _ _ ?_)
    intro r hr
    have := mergeKnown_isSome b x y r
    rw [hr] at this
    cases hm : (Go.mergeKnown b x y).doc? r with
    | none => rfl
    | some d => rw [hm] at this; cases this

/-- what the open-recursion callback must satisfy, entered for a document that is not registered yet -/
def RecDr (env : Env) (top : NodeId) (recDoc : ResolveDoc) : Prop :=
  ∀ root base inh s s', recDoc root base inh s = .ok s' →
    LogOk s (some (Uri.toString base)) → Logged env top s → IsLogged env top s.log root → s.doc? root = none →
    Logged env top s' ∧ DocLe s s' ∧
    (∃ rn d, env.st.get? root = some rn ∧ s'.doc? root = some d ∧ d.draft = docDraft env rn inh ∧ root ∈ d.known) ∧
    (∀ r d, r ≠ root → s.doc? r = none → s'.doc? r = some d → ∃ p, s.doc? p = none ∧ Par env s' r d.draft p)

theorem resolveRef_dr (env : Env) (top : NodeId) (recDoc : ResolveDoc) (hrec : RecSpec env recDoc)
    (hdr : RecDr env top recDoc) (hinj : LoaderInj env top) (a0 : RState) (X : NodeId) (a : RState) (id : NodeId)
    (ref : String) (o : RefOut) (b : RState) (ha : JB env top X a0 a)
    (h : resolveRef env recDoc X a id ref = .ok (o, b)) : JB env top X a0 b := by
  obtain ⟨d, hd, hc⟩ := resolveRef_cases env recDoc X a id ref o b h
  rcases hc with rfl | ⟨r, rfl⟩ | ⟨u, tbl, r, a2, hnone, htbl, hl, hcall, rfl⟩
  · exact ha
  · exact ha.mergeKnown _ _
  · obtain ⟨hext, _, hlog⟩ := hrec _ _ _ _ _ hcall
    have hlogOk2 : LogOk a2 none := hlog (logOk_push a _ ha.logOk hnone)
    have hlogged1 : Logged env top { a with log := a.log ++ [Uri.toString u] } := by
      intro x hx
      exact (ha.logged x hx).mono (fun k hk => List.mem_append_left _ hk)
    have hislogged : IsLogged env top (a.log ++ [Uri.toString u]) r :=
      Or.inr ⟨tbl, _, htbl, by simp, hl⟩
    have hnew : a.doc? r = none := by
      apply Option.not_isSome_iff_eq_none.mp
      intro hr
      rcases ha.logged r hr with e | ⟨tbl', k, htbl', hk, hl'⟩
      · exact (hinj tbl htbl).1 _ r hl e
      · cases htbl.symm.trans htbl'
        cases (hinj tbl htbl).2 _ _ r hl' hl
        have := (ha.logOk.2 _ hk).resolve_left (by simp)
        rw [hnone] at this
        cases this
    obtain ⟨hlogged2, hle12, ⟨rn, dl, hrn, hdl, hdraft, hself⟩, hothers⟩ :=
      hdr _ _ _ _ _ hcall (logOk_push a _ ha.logOk hnone) hlogged1 hislogged hnew
    have hle2 : DocLe a a2 := hle12
    obtain ⟨dX, hdX, hdXdr, _⟩ := hle2 X d hd
    have hXr : X ≠ r := by
      intro e; rw [e, hnew] at hd; cases hd
    have hsame := mergeKnown_same a2 X r
    have hleM := docLe_mergeKnown a2 X r
    refine ⟨hsame.logOk hlogOk2, ?_, ?_, ha.le.trans (hle2.trans hleM), ?_⟩
    · intro x hx
      rw [mergeKnown_isSome] at hx
      rw [hsame.1]; exact hlogged2 x hx
    · rw [mergeKnown_isSome, hdX]; rfl
    · refine NewPar.trans ha.le (hle2.trans hleM) ha.par ?_
      intro r' d' hr' hb'
      by_cases e : r' = r
      · subst e
        rw [mergeKnown_doc_ne a2 X r' r' (fun e => hXr e.symm), hdl] at hb'
        simp only [Option.some.injEq] at hb'
        subst hb'
        obtain ⟨dp, hdp, hdpdr, hk⟩ := mergeKnown_knows a2 X r' dX dl hdX hdl r' hself
        exact ⟨X, Or.inl rfl, rn, dp, hrn, hdp, hXr, hk, by rw [hdraft, hdpdr, hdXdr]⟩
      · have hne : r' ≠ X := by
          intro e'; rw [e', hd] at hr'; cases hr'
        rw [mergeKnown_doc_ne a2 X r r' hne] at hb'
        obtain ⟨p, hp, hpar⟩ := hothers r' d' e hr' hb'
        exact ⟨p, Or.inr hp, hpar.mono hleM⟩

/-- resolveURIs changes the Resolved of `root` only, and keeps its draft and what it knows -/
def QU (root : NodeId) (s0 b : RState) : Prop :=
  (∀ r, r ≠ root → b.doc? r = s0.doc? r) ∧
  (∀ d, s0.doc? root = some d → ∃ d', b.doc? root = some d' ∧ d'.draft = d.draft ∧ d'.known = d.known)

theorem resolveURIsLoop_qu (env : Env) (draft : Draft) (root : NodeId) (fuel : Nat) (work : List (NodeId × NodeId))
    (s s' : RState) (h : resolveURIsLoop env draft root fuel work s = .ok s') : QU root s s' := by
  refine resolveURIsLoop_pres env draft root (QU root s) ?_ ?_ fuel work s s' h
    ⟨fun _ _ => rfl, fun d hd => ⟨d, hd, rfl, rfl⟩⟩
  · intro a id f ha
    have hdoc : ∀ r, (a.updInfo id f).doc? r = a.doc? r := doc?_of_docs_eq (updInfo_docs a id f)
    exact ⟨fun r hr => by rw [hdoc]; exact ha.1 r hr, fun d hd => by rw [hdoc]; exact ha.2 d hd⟩
  · intro a d u ha hd
    have hroot : d.root = root := doc?_root a root d hd
    constructor
    · intro r hr
      rw [doc?_setDoc]
      simp only [hroot]
      rw [if_neg (fun e => hr e.symm)]
      exact ha.1 r hr
    · intro d0 hd0
      obtain ⟨d', hd', e1, e2⟩ := ha.2 d0 hd0
      cases hd.symm.trans hd'
      refine ⟨{ d with uris := u }, ?_, e1, e2⟩
      rw [doc?_setDoc]
      simp only [hroot, if_true]

theorem resolveDocStep_dr (env : Env) (top : NodeId) (recDoc : ResolveDoc) (hrec : RecSpec env recDoc)
    (hdr : RecDr env top recDoc) (hinj : LoaderInj env top) : RecDr env top (resolveDocStep env recDoc) := by
  intro root baseURI inh s s' h hlogOk hlogged hislogged hnew
  obtain ⟨rn, fresh, sB, hrn, hfresh, hB, hC⟩ := resolveDocStep_unfold env recDoc root baseURI inh s s' h
  obtain ⟨sameB, _⟩ := resolveURIsLoop_spec _ _ _ _ _ _ _ hB
  have hqu := resolveURIsLoop_qu env _ root _ _ _ _ hB
  obtain ⟨hBlog, hBloaded⟩ := (beforeURIs_same root baseURI (docDraft env rn inh) fresh s).trans sameB
  have hCdoc : ∀ r, (afterURIs root baseURI sB).doc? r = sB.doc? r := fun _ => rfl
  have hCne : ∀ r, r ≠ root → (afterURIs root baseURI sB).doc? r = s.doc? r := by
    intro r hr
    rw [hCdoc, hqu.1 r hr, beforeURIs_doc?, if_neg (fun e => hr e.symm)]
  obtain ⟨dB, hdB, hdBdr, hdBk⟩ := hqu.2 _ (by rw [beforeURIs_doc?, if_pos rfl])
  have hCroot : (afterURIs root baseURI sB).doc? root = some dB := by rw [hCdoc]; exact hdB
  have hleC : DocLe s (afterURIs root baseURI sB) := by
    intro r d hd
    have hr : r ≠ root := by
      intro e; rw [e, hnew] at hd; cases hd
    exact ⟨d, by rw [hCne r hr]; exact hd, rfl, fun _ hx => hx⟩
  have hJ : JB env top root (afterURIs root baseURI sB) (afterURIs root baseURI sB) := by
    refine ⟨logOk_afterURIs root baseURI s sB hBlog hBloaded hlogOk, ?_, by rw [hCroot]; rfl, DocLe.refl _,
      newPar_of_none env root _ _ (fun _ h => h)⟩
    intro r hr
    have hlogC : (afterURIs root baseURI sB).log = s.log := hBlog
    rw [hlogC]
    by_cases e : r = root
    · rw [e]; exact hislogged
    · rw [hCne r e] at hr
      exact hlogged r hr
  have hJ' : JB env top root (afterURIs root baseURI sB) s' :=
    resolveRefsLoop_pres env recDoc root (JB env top root (afterURIs root baseURI sB))
      (fun a id f ha => ha.updInfo id f)
      (fun a id ref o b ha hr => resolveRef_dr env top recDoc hrec hdr hinj _ root a id ref o b ha hr) _ _ _ hC hJ
  refine ⟨hJ'.logged, hleC.trans hJ'.le, ?_, ?_⟩
  · obtain ⟨d', hd', e, k⟩ := hJ'.le root dB hCroot
    refine ⟨rn, d', hrn, hd', by rw [e, hdBdr], k root ?_⟩
    rw [hdBk]
    exact checkStructure_root_mem env.st _ root fresh hfresh
  · intro r d hr hs hs'
    obtain ⟨p, hp, hpar⟩ := hJ'.par r d (by rw [hCne r hr]; exact hs) hs'
    refine ⟨p, ?_, hpar⟩
    rcases hp with hp | hp
    · rw [hp]; exact hnew
    · exact hleC.none p hp

theorem resolveDoc_dr (env : Env) (top : NodeId) (hinj : LoaderInj env top) :
    ∀ fuel, RecDr env top (resolveDoc env fuel) := by
  intro fuel
  induction fuel with
  | zero => intro root base inh s s' h; simp [resolveDoc] at h
  | succ fuel ih => exact resolveDocStep_dr env top _ (resolveDoc_spec env fuel) ih hinj

end RDraft
end Go
end JSV
