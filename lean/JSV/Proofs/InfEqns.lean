/-
  Equations of `inferStep`, one per shape of the type after pointer stripping; the lists of JSON names and the
  PropertyOrder clean-up when the names are distinct; without IgnoreInvalidTypes a call that returns normally returns
  a schema (`inferFuel_never_none`).
-/
import JSV.Proofs.InfStep
namespace JSV
namespace Go
open EncJson (jsonNames alwaysNames nodup)

theorem inferStep_basic {opts : IOpts} {rec : IRec} {t0 : GoType} {kind : String} {an : Bool} {seen : List String}
    {st : Store} (h : stripPtrs t0 = (.basic kind, an)) :
    inferStep opts rec t0 seen st =
      match kindEntry kind with
      | some (ty, mn, mx) => .ok (some st.size, st.push (addNull an (basicNode ty mn mx)))
      | none => if opts.ignore then .ok (none, st) else .err := by
  rw [inferStep_eq, h]
  simp only [under, shapeOf]
  cases kindEntry kind <;> rfl

theorem inferStep_map {opts : IOpts} {rec : IRec} {t0 : GoType} {keyKind : String} {e : GoType} {an : Bool}
    {seen : List String} {st : Store} (h : stripPtrs t0 = (.map keyKind e, an)) :
    inferStep opts rec t0 seen st =
      if keyKind != "String" then (if opts.ignore then .ok (none, st) else .err)
      else Res.bind (rec e seen st) fun r =>
        match r.1 with
        | none => .ok (none, r.2)
        | some eid => .ok (some r.2.size, r.2.push (addNull an (mapNode eid))) := by
  rw [inferStep_eq, h]
  simp only [under, shapeOf]
  cases (keyKind != "String") <;> rfl

theorem inferStep_slice {opts : IOpts} {rec : IRec} {t0 : GoType} {e : GoType} {an : Bool}
    {seen : List String} {st : Store} (h : stripPtrs t0 = (.slice e, an)) :
    inferStep opts rec t0 seen st =
      Res.bind (rec e seen st) fun r =>
        match r.1 with
        | none => .ok (none, r.2)
        | some eid => .ok (some r.2.size, r.2.push (addNull an (sliceNode opts.nullForSlices eid))) := by
  rw [inferStep_eq, h]
  rfl

theorem inferStep_array {opts : IOpts} {rec : IRec} {t0 : GoType} {len : Nat} {e : GoType} {an : Bool}
    {seen : List String} {st : Store} (h : stripPtrs t0 = (.array len e, an)) :
    inferStep opts rec t0 seen st =
      Res.bind (rec e seen st) fun r =>
        match r.1 with
        | none => .ok (none, r.2)
        | some eid => .ok (some r.2.size, r.2.push (addNull an (arrayNode len eid))) := by
  rw [inferStep_eq, h]
  rfl

theorem inferStep_struct {opts : IOpts} {rec : IRec} {t0 : GoType} {fields : List (String × String × GoType)} {an : Bool}
    {seen : List String} {st : Store} (h : stripPtrs t0 = (.struct fields, an)) :
    inferStep opts rec t0 seen st =
      Res.bind (structLoop rec seen fields (structNode0 (st.size + 1)) ((st.push emptyNode).push (falseNode st.size)))
        fun r => .ok (some r.2.size, r.2.push (addNull an (finalOrder r.1))) := by
  rw [inferStep_eq, h]
  rfl

theorem inferStep_table {opts : IOpts} {rec : IRec} {t0 t : GoType} {nm : String} {an : Bool} {seen : List String}
    {st : Store} {sid : NodeId} (h : stripPtrs t0 = (t, an)) (hn : typeName t = some nm)
    (hseen : seen.contains nm = false) (hs : Json.lookup nm opts.schemas = some sid) :
    inferStep opts rec t0 seen st =
      Res.bind (clone st sid) fun r =>
        match r.2.get? r.1 with
        | none => .panic
        | some cn => .ok (some r.1, r.2.set! r.1 (tableNull (opts.nullForSlices && an) cn)) := by
  rw [inferStep_eq, h]
  simp only [hn]
  exact stepG_table hseen hs

theorem inferStep_seen {opts : IOpts} {rec : IRec} {t0 t : GoType} {nm : String} {an : Bool} {seen : List String}
    {st : Store} (h : stripPtrs t0 = (t, an)) (hn : typeName t = some nm) (hseen : seen.contains nm = true) :
    inferStep opts rec t0 seen st = .err := by
  rw [inferStep_eq, h]
  simp only [hn]
  exact stepG_seen hseen

theorem nodup_iff : ∀ (l : List String), nodup l = true ↔ l.Nodup
  | [] => by simp [nodup]
  | k :: ks => by
    simp only [nodup, Bool.and_eq_true, Bool.not_eq_true', List.nodup_cons, nodup_iff ks]
    constructor
    · rintro ⟨h1, h2⟩
      exact ⟨by simpa using h1, h2⟩
    · rintro ⟨h1, h2⟩
      exact ⟨by simpa using h1, h2⟩

theorem dedup_foldl (m : List String) : ∀ (acc : List String), (acc ++ m).Nodup →
    m.foldl (fun acc x => if acc.contains x then acc else acc ++ [x]) acc = acc ++ m := by
  induction m with
  | nil => intro acc _; simp
  | cons x m ih =>
    intro acc h
    have hx : acc.contains x = false := by
      rw [List.nodup_append] at h
      have := h.2.2
      cases hc : acc.contains x with
      | false => rfl
      | true =>
        have hm : x ∈ acc := by simpa using hc
        exact absurd rfl (this x hm x List.mem_cons_self)
    simp only [List.foldl_cons, hx, Bool.false_eq_true, if_false]
    rw [ih (acc ++ [x]) (by simpa using h)]
    simp

theorem dedupKeepLast_of_nodup {l : List String} (h : nodup l = true) : dedupKeepLast l = l := by
  unfold dedupKeepLast
  have hn : l.reverse.Nodup := by
    have := (nodup_iff l).1 h
    unfold List.Nodup at this ⊢
    rw [List.pairwise_reverse]
    exact this.imp fun h => h.symm
  rw [dedup_foldl l.reverse [] (by simpa using hn)]
  simp

theorem inferStep_never_none {opts : IOpts} (hi : opts.ignore = false) {rec : IRec}
    (hrec : ∀ T seen st st', rec T seen st ≠ .ok (none, st')) :
    ∀ T seen st st', inferStep opts rec T seen st ≠ .ok (none, st') := by
  intro t0 seen st st' h
  rw [inferStep_eq] at h
  have hsh : ∀ t, ShapeSome opts rec (shapeOf opts rec t) := fun t => by
    have helem : ∀ e seen st r st1, rec e seen st = .ok (r, st1) → ∃ id, r = some id := fun e seen st r st1 he => by
      cases r with
      | none => exact absurd he (hrec _ _ _ _)
      | some id => exact ⟨id, rfl⟩
    cases t with
    | basic k => simp only [shapeOf]; split <;> first | trivial | exact hi
    | map k e => simp only [shapeOf]; split <;> first | exact hi | exact helem e
    | slice e => exact helem e
    | array n e => exact helem e
    | struct fs => trivial
    | _ => exact fun _ h => nomatch h
  obtain ⟨_, hid⟩ := stepG_some (hsh _) h
  cases hid

theorem inferFuel_never_none {opts : IOpts} (hi : opts.ignore = false) :
    ∀ fuel T seen st st', inferFuel opts fuel T seen st ≠ .ok (none, st')
  | 0 => fun _ _ _ _ h => by cases h
  | fuel + 1 => inferStep_never_none hi (inferFuel_never_none hi fuel)

theorem alwaysNames_subset : ∀ (l : List (String × String × GoType)) {k : String}, k ∈ alwaysNames l → k ∈ jsonNames l
  | [], k, h => by simp [alwaysNames] at h
  | f :: rest, k, h => by
    rw [alwaysNames_cons] at h
    rw [jsonNames_cons]
    cases ho : (fieldJSONInfo f.1 f.2.1).omitted
    · simp only [ho, Bool.false_or] at h
      simp only [Bool.false_eq_true, if_false]
      split at h
      · exact List.mem_cons_of_mem _ (alwaysNames_subset rest h)
      · rcases List.mem_cons.1 h with rfl | h
        · exact List.mem_cons_self
        · exact List.mem_cons_of_mem _ (alwaysNames_subset rest h)
    · simp only [ho, Bool.true_or, if_true] at h ⊢
      exact alwaysNames_subset rest h

theorem mem_jsonNames_of_mem : ∀ {l : List (String × String × GoType)} {f : String × String × GoType}, f ∈ l →
    (fieldJSONInfo f.1 f.2.1).omitted = false → (fieldJSONInfo f.1 f.2.1).name ∈ jsonNames l
  | g :: rest, f, hf, ho => by
    rw [jsonNames_cons]
    rcases List.mem_cons.1 hf with rfl | hf
    · simp [ho]
    · have := mem_jsonNames_of_mem hf ho
      split
      · exact this
      · exact List.mem_cons_of_mem _ this

theorem mem_alwaysNames_iff : ∀ {l : List (String × String × GoType)} {f : String × String × GoType},
    nodup (jsonNames l) = true → f ∈ l → (fieldJSONInfo f.1 f.2.1).omitted = false →
    ((fieldJSONInfo f.1 f.2.1).name ∈ alwaysNames l ↔
      ((fieldJSONInfo f.1 f.2.1).omitempty = false ∧ (fieldJSONInfo f.1 f.2.1).omitzero = false))
  | g :: rest, f, hnd, hf, ho => by
    rw [jsonNames_cons] at hnd
    rw [alwaysNames_cons]
    rcases List.mem_cons.1 hf with rfl | hf
    · simp only [ho, Bool.false_eq_true, if_false, nodup, Bool.and_eq_true, Bool.not_eq_true'] at hnd
      have hnot : (fieldJSONInfo f.1 f.2.1).name ∉ alwaysNames rest := fun h => by
        have := alwaysNames_subset rest h
        have h1 := hnd.1
        simp at h1
        exact h1 this
      cases he : (fieldJSONInfo f.1 f.2.1).omitempty <;> cases hz : (fieldJSONInfo f.1 f.2.1).omitzero <;>
        simp [ho, hnot]
    · cases hog : (fieldJSONInfo g.1 g.2.1).omitted
      · simp only [hog, Bool.false_eq_true, if_false, nodup, Bool.and_eq_true, Bool.not_eq_true'] at hnd
        have hne : (fieldJSONInfo f.1 f.2.1).name ≠ (fieldJSONInfo g.1 g.2.1).name := fun h => by
          have h1 := hnd.1
          simp at h1
          exact h1 (h ▸ mem_jsonNames_of_mem hf ho)
        rw [← mem_alwaysNames_iff hnd.2 hf ho]
        simp only [Bool.false_or]
        split
        · exact Iff.rfl
        · simp [hne]
      · simp only [hog, if_true] at hnd
        simp only [Bool.true_or, if_true]
        exact mem_alwaysNames_iff hnd hf ho

theorem finalOrder_required (n : Node) : (finalOrder n).required = n.required := by
  rw [finalOrder_eq]

theorem finalOrder_properties (n : Node) : (finalOrder n).properties = n.properties := by
  rw [finalOrder_eq]

theorem finalOrder_type (n : Node) : (finalOrder n).type = n.type := by
  rw [finalOrder_eq]

theorem finalOrder_order_of_nodup (n : Node) (h : nodup (n.propertyOrder.getD []) = true) :
    (finalOrder n).propertyOrder = n.propertyOrder := by
  unfold finalOrder
  split
  · rename_i po hpo
    rw [hpo] at h
    split
    · simp only [hpo]
      rw [dedupKeepLast_of_nodup (by simpa using h)]
    · rfl
  · rfl

theorem coreOf_type {n n' : Node} (h : coreOf n' = coreOf n) : n'.type = n.type :=
  show (coreOf n').type = (coreOf n).type from congrArg Node.type h

theorem addNull_false (n : Node) : addNull false n = n := by
  unfold addNull
  simp

theorem inferStep_struct_ok {opts : IOpts} {rec : IRec} {t0 : GoType} {fields : List (String × String × GoType)}
    {an : Bool} {seen : List String} {st : Store} {r : Option NodeId} {st' : Store}
    (hs : stripPtrs t0 = (.struct fields, an)) (h : inferStep opts rec t0 seen st = .ok (r, st')) :
    ∃ n st1, structLoop rec seen fields (structNode0 (st.size + 1)) ((st.push emptyNode).push (falseNode st.size)) = .ok (n, st1) ∧
      r = some st1.size ∧ st' = st1.push (addNull an (finalOrder n)) := by
  rw [inferStep_struct hs] at h
  obtain ⟨⟨n, st1⟩, hl, h⟩ := Res.bind_eq_ok h
  cases h
  exact ⟨n, st1, hl, rfl, rfl⟩

end Go
end JSV
