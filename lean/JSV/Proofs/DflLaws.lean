/-
  C15: hasDefaults is sound, what is inserted is declared, idempotence (under `PropsNodup`), fuel monotonicity of
  ApplyDefaults, an extension is no smaller (`size_le_of_ExtP`: the entry point's fuel grows with the instance); what a run
  of `validateDefaultsLoop` that returns has checked (`validateDefaultsLoop_iff`).
-/
import JSV.Proofs.Dfl
import JSV.Proofs.ResShape
namespace JSV
namespace C15
open Go Json

theorem hasDefaultsFuel_mono (st : Store) : ∀ f id, hasDefaultsFuel st f id = true → hasDefaultsFuel st (f + 1) id = true := by
  intro f
  induction f with
  | zero => intro id h; simp [hasDefaultsFuel] at h
  | succ f ih =>
    intro id h
    rw [hasDefaultsFuel] at h ⊢
    cases hn : st.get? id with
    | none => rw [hn] at h; simp at h
    | some n =>
      rw [hn] at h
      simp only [Bool.or_eq_true, List.any_eq_true, Bool.and_eq_true] at h ⊢
      rcases h with h | ⟨x, hx, h1, h2⟩
      · exact Or.inl h
      · exact Or.inr ⟨x, hx, h1, ih _ h2⟩

theorem defaultsLoop_nonempty (st : Store) (rec : DRec) (req : List String) :
    ∀ (props : List (String × NodeId)) (kvs kvs' : List (String × Json)),
      defaultsLoop st rec req props kvs = .ok kvs' →
      (kvs ≠ [] ∨ ∃ p c, (p, c) ∈ props ∧ req.contains p = false ∧ hasDefaults st c = true) → kvs' ≠ [] :=
  defaultsLoop_ok_induct
    (motive := fun props kvs kvs' =>
      (kvs ≠ [] ∨ ∃ p c, (p, c) ∈ props ∧ req.contains p = false ∧ hasDefaults st c = true) → kvs' ≠ [])
    (fun kvs hc => by
      rcases hc with hc | ⟨p, c, hm, _⟩
      · exact hc
      · simp at hm)
    (fun prop sub rest kvs kvs' hs _ ih hc => by
      -- a skipped property is required or has no defaults: the witness, if any, is further down
      refine ih (hc.imp_right ?_)
      rintro ⟨p, c, hm, hr, hd⟩
      rcases List.mem_cons.1 hm with hm | hm
      · cases hm
        rcases dflStep_skip hs with h | ⟨_, h⟩
        · rw [h] at hr; cases hr
        · rw [h] at hd; cases hd
      · exact ⟨p, c, hm, hr, hd⟩)
    (fun _ _ _ _ _ _ _ _ _ _ ih _ => ih (Or.inl (setKey_ne_nil _ _ _)))

/-- the recursive call on `{}` under a schema that "has defaults" but no default of its own gives a non-empty object -/
def RecSound (st : Store) (rec : DRec) : Prop :=
  ∀ s sn o, hasDefaults st s = true → st.get? s = some sn → sn.default = none → rec s (.obj []) = .ok o →
    ∃ kvs, o = .obj kvs ∧ kvs ≠ []

/-- `k` is a declared, non-required property, and `v'` extends its default or is a non-empty object made of the
    defaults below it -/
def Declared (st : Store) (req : List String) (props : List (String × NodeId)) (k : String) (v' : Json) : Prop :=
  ∃ sub sn, (k, sub) ∈ props ∧ req.contains k = false ∧ st.get? sub = some sn ∧
    ((∃ d, sn.default = some d ∧ ExtP d v') ∨
     (sn.default = none ∧ hasDefaults st sub = true ∧ ∃ o, v' = .obj o ∧ o ≠ []))

theorem Declared.cons {st : Store} {req : List String} {props : List (String × NodeId)} {k : String} {v' : Json}
    (p : String × NodeId) : Declared st req props k v' → Declared st req (p :: props) k v'
  | ⟨s, sn, hm, r⟩ => ⟨s, sn, List.mem_cons_of_mem _ hm, r⟩

theorem defaultsLoop_inserted (st : Store) (rec : DRec) (req : List String) (hext : RecExt rec) (hs : RecSound st rec) :
    ∀ (props : List (String × NodeId)) (kvs kvs' : List (String × Json)),
      defaultsLoop st rec req props kvs = .ok kvs' →
      ∀ k v', Json.lookup k kvs = none → Json.lookup k kvs' = some v' → Declared st req props k v' :=
  defaultsLoop_ok_induct
    (motive := fun props kvs kvs' =>
      ∀ k v', Json.lookup k kvs = none → Json.lookup k kvs' = some v' → Declared st req props k v')
    (fun _ _ _ hn hs' => by rw [hn] at hs'; cases hs')
    (fun _ _ _ _ _ _ _ ih k v' hn hs' => (ih k v' hn hs').cons _)
    (fun prop sub rest kvs kvs' a v hstep hv hl ih k v' hn hs' => by
      by_cases hk : k = prop
      · -- the key stored now: it is still there at the end, extended
        subst hk
        obtain ⟨v'', h1, h2⟩ := ExtPObj_lookup (defaultsLoop_ext st rec req hext _ _ _ hl)
          (show Json.lookup k (setKey k v kvs) = some v by rw [lookup_setKey, if_pos rfl])
        rw [hs'] at h1
        cases h1
        obtain ⟨hreq, sn, hsn, ha⟩ := dflStep_call hstep
        rw [hn] at ha
        refine ⟨sub, sn, List.mem_cons_self, hreq, hsn, ?_⟩
        rcases ha with hd | ⟨hd, hhd, rfl⟩
        · exact Or.inl ⟨a, hd, ExtP_trans _ _ _ (hext _ _ _ hv) h2⟩
        · obtain ⟨o, rfl, ho⟩ := hs sub sn v hhd hsn hd hv
          obtain ⟨o', rfl, ho'⟩ := ExtP_obj.1 h2
          refine Or.inr ⟨hd, hhd, o', rfl, ?_⟩
          rintro rfl
          have := ExtPObj_length ho'
          exact ho (List.eq_nil_of_length_eq_zero (Nat.le_zero.1 this))
      · exact (ih k v' (by rw [lookup_setKey, if_neg (fun h => hk h.symm)]; exact hn) hs').cons _)

theorem defaultsLoop_other (st : Store) (rec : DRec) (req : List String) (p : String) :
    ∀ (props : List (String × NodeId)) (kvs kvs' : List (String × Json)),
      defaultsLoop st rec req props kvs = .ok kvs' → p ∉ props.map (·.1) → Json.lookup p kvs' = Json.lookup p kvs := by
  refine defaultsLoop_ok_induct
    (motive := fun props kvs kvs' => p ∉ props.map (·.1) → Json.lookup p kvs' = Json.lookup p kvs)
    (fun _ _ => rfl) ?_ ?_
  · intro prop sub rest kvs kvs' _ _ ih hp
    exact ih (List.ne_and_not_mem_of_not_mem_cons hp).2
  · intro prop sub rest kvs kvs' a v _ _ _ ih hp
    obtain ⟨hne, hp⟩ := List.ne_and_not_mem_of_not_mem_cons hp
    rw [ih hp, lookup_setKey, if_neg (Ne.symm hne)]

theorem defaultsLoop_idem (st : Store) (rec : DRec) (req : List String)
    (hid : ∀ s c o, rec s c = .ok o → rec s o = .ok o) :
    ∀ (props : List (String × NodeId)) (kvs kvs' : List (String × Json)),
      (props.map (·.1)).Nodup → defaultsLoop st rec req props kvs = .ok kvs' →
      defaultsLoop st rec req props kvs' = .ok kvs' := by
  intro props kvs kvs' hnd h
  revert hnd
  refine defaultsLoop_ok_induct
    (motive := fun (props : List (String × NodeId)) _ kvs' => (props.map (·.1)).Nodup → defaultsLoop st rec req props kvs' = .ok kvs')
    (fun _ _ => rfl) ?_ ?_ props kvs kvs' h
  · -- skipped in the first pass: the second pass sees the same lookup of `prop`, and skips
    intro prop sub rest kvs kvs' hs hl ih hnd
    obtain ⟨hp, hnd⟩ := List.nodup_cons.1 hnd
    rw [defaultsLoop_cons, dflStep_congr st req prop sub (defaultsLoop_other st rec req prop _ _ _ hl hp), hs]
    exact ih hnd
  · -- the first pass stored `v` under `prop`: the second pass finds it and leaves it alone
    intro prop sub rest kvs kvs' a v hs hv hl ih hnd
    obtain ⟨hp, hnd⟩ := List.nodup_cons.1 hnd
    have hlook : Json.lookup prop kvs' = some v := by
      rw [defaultsLoop_other st rec req prop _ _ _ hl hp, lookup_setKey, if_pos rfl]
    obtain ⟨hreq, sn, hsn, _⟩ := dflStep_call hs
    rw [defaultsLoop_cons, dflStep_present hreq hsn hlook]
    show Res.bind (rec sub v) _ = _
    rw [hid _ _ _ hv, Res.bind_ok, setKey_same _ _ _ hlook]
    exact ih hnd

/-- property names of every schema object are pairwise distinct (they are the keys of a Go map) -/
def PropsNodup (st : Store) : Prop :=
  ∀ id n, st.get? id = some n → ((n.properties.getD []).map (·.1)).Nodup

theorem defaultsLoop_congr (st : Store) (rec rec' : DRec) (req : List String)
    (hrr : ∀ s c o, rec s c = .ok o → rec' s c = .ok o) :
    ∀ (props : List (String × NodeId)) (kvs kvs' : List (String × Json)),
      defaultsLoop st rec req props kvs = .ok kvs' → defaultsLoop st rec' req props kvs = .ok kvs' :=
  defaultsLoop_ok_induct (motive := fun props kvs kvs' => defaultsLoop st rec' req props kvs = .ok kvs')
    (fun _ => rfl)
    (fun prop sub rest kvs _ hs _ ih => by rw [defaultsLoop_cons, hs]; exact ih)
    (fun prop sub rest kvs _ a v hs hv _ ih => by
      rw [defaultsLoop_cons, hs]
      show Res.bind (rec' sub a) _ = _
      rw [hrr _ _ _ hv, Res.bind_ok]
      exact ih)

theorem applyDefaultsFuel_mono (env : VEnv) : ∀ fuel s c o,
    applyDefaultsFuel env fuel s c = .ok o → applyDefaultsFuel env (fuel + 1) s c = .ok o := by
  intro fuel
  induction fuel with
  | zero => intro s c o h; simp [applyDefaultsFuel] at h
  | succ fuel ih =>
    intro s c o h
    obtain ⟨n, i, hn, hi, ⟨kvs, kvs', rfl, hl, rfl⟩ | ho⟩ := applyDefaultsStep_ok.1 h
    · exact applyDefaultsStep_ok.2 ⟨n, i, hn, hi,
        Or.inl ⟨kvs, kvs', rfl, defaultsLoop_congr env.st _ _ _ ih _ _ _ hl, rfl⟩⟩
    · exact applyDefaultsStep_ok.2 ⟨n, i, hn, hi, Or.inr ho⟩

theorem sizeObj_le_of_ExtPObj : ∀ {kx ky : List (String × Json)},
    (∀ k v, (k, v) ∈ kx → ∀ b, ExtP v b → Json.size v ≤ Json.size b) →
    ExtPObj kx ky → Json.sizeObj kx ≤ Json.sizeObj ky
  | [], _, _, _ => by simp [Json.sizeObj]
  | (k, v) :: rest, ky, ih, h => by
    simp only [ExtPObj] at h
    obtain ⟨v', ry, rfl, hv, hr⟩ := h
    simp only [Json.sizeObj]
    have h1 := ih k v List.mem_cons_self v' hv
    have h2 := sizeObj_le_of_ExtPObj (fun k' w hm => ih k' w (List.mem_cons_of_mem _ hm)) hr
    omega

theorem size_le_of_ExtP : ∀ a b, ExtP a b → Json.size a ≤ Json.size b := by
  intro a
  induction a using obj_induct with
  | leaf a h => intro b he; rw [(ExtP_nonobj h).1 he]; exact Nat.le_refl _
  | obj kx ih =>
    intro b h
    obtain ⟨ky, rfl, h'⟩ := ExtP_obj.1 h
    simp only [Json.size]
    have := sizeObj_le_of_ExtPObj ih h'
    omega

theorem validateDefaultsLoop_iff (env : VEnv) (fuel : Nat) : ∀ ids : List NodeId,
    validateDefaultsLoop env fuel ids = .ok () ↔
      ∀ id ∈ ids, ∃ n, env.st.get? id = some n ∧ (env.draft = .d2020 → n.dynamicRef = "") ∧
        ∀ d, n.default = some d → (validateFuel env fuel [] (GoVal.ofJson d) id).isOk = true
  | [] => by simp [validateDefaultsLoop]
  | id :: rest => by
    rw [validateDefaultsLoop, List.forall_mem_cons, ← validateDefaultsLoop_iff env fuel rest]
    cases hn : env.st.get? id with
    | none => simp
    | some n =>
      -- the test of the code is the negation of the first conjunct
      have hb : (n.dynamicRef != "" && env.draft == .d2020) = true ↔ ¬ (env.draft = .d2020 → n.dynamicRef = "") := by
        cases env.draft <;> simp
      by_cases hc : (env.draft = .d2020 → n.dynamicRef = "")
      · have hb' : (n.dynamicRef != "" && env.draft == .d2020) = false := by
          cases h : (n.dynamicRef != "" && env.draft == .d2020)
          · rfl
          · exact absurd hc (hb.1 h)
        simp only [hb', Bool.false_eq_true, if_false, Option.some.injEq, exists_eq_left', iff_true_intro hc, true_and]
        cases n.default with
        | none => simp
        | some d =>
          simp only [Option.some.injEq, forall_eq']
          cases validateFuel env fuel [] (GoVal.ofJson d) id <;> simp [Res.isOk]
      · simp only [hb.2 hc, if_true, Option.some.injEq, exists_eq_left', iff_false_intro hc, false_and]
        simp

end C15
end JSV
