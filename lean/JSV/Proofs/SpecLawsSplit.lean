/-
  Algebraic laws: adjacent keywords are a conjunction.  The keywords of a schema object fall into GROUPS that the
  Spec evaluates independently of each other (`Group`); `pick sel n` keeps the groups selected by `sel`.  A schema object
  without `unevaluated*` (and, under draft-07, without `$ref`) is the conjunction of `pick sel n` and `pick (not ∘ sel) n`, for every selection (`specBody_split`)
  — up to `OutSim`, not `=`: the evaluated properties and items of the two parts come out in another order.
  The groups are what must stay together: `properties`/`patternProperties`/`additionalProperties`,
  `prefixItems`/`items` (`items`/`additionalItems` in draft-07), `contains`/`minContains`/`maxContains`, `if`/`then`/`else`.
-/
import JSV.Proofs.SpecLawsCongr
import JSV.Proofs.SpecLawsScope
namespace JSV
namespace Laws
open Go GoVal Refine _root_.JSV.Inv

inductive Group where
  | ref | dynamicRef | allOf | anyOf | oneOf | not
  /-- `if`, `then`, `else` -/
  | cond
  /-- `prefixItems`, `items`, and the draft-07 `items` array / `additionalItems` -/
  | array
  /-- `contains`, `minContains`, `maxContains` -/
  | contains
  /-- `properties`, `patternProperties`, `additionalProperties` -/
  | props
  | propertyNames
  /-- `dependentSchemas`, schema-form `dependencies` -/
  | dependent
  | type
  | enum | const
  /-- `multipleOf`, `minimum`, `maximum`, `exclusiveMinimum`, `exclusiveMaximum` -/
  | numeric
  /-- `minLength`, `maxLength`, `pattern` -/
  | string
  /-- `minItems`, `maxItems`, `uniqueItems` -/
  | arrayLimits
  /-- `minProperties`, `maxProperties`, `required`, `dependentRequired`, string-form `dependencies` -/
  | objectLimits
  deriving DecidableEq, Repr

def pick (sel : Group → Bool) (n : Node) : Node :=
  { ref := if sel .ref then n.ref else "",
    dynamicRef := if sel .dynamicRef then n.dynamicRef else "",
    allOf := if sel .allOf then n.allOf else none,
    anyOf := if sel .anyOf then n.anyOf else none,
    oneOf := if sel .oneOf then n.oneOf else none,
    not := if sel .not then n.not else none,
    if_ := if sel .cond then n.if_ else none,
    then_ := if sel .cond then n.then_ else none,
    else_ := if sel .cond then n.else_ else none,
    prefixItems := if sel .array then n.prefixItems else none,
    items := if sel .array then n.items else none,
    itemsArray := if sel .array then n.itemsArray else none,
    additionalItems := if sel .array then n.additionalItems else none,
    contains := if sel .contains then n.contains else none,
    minContains := if sel .contains then n.minContains else none,
    maxContains := if sel .contains then n.maxContains else none,
    properties := if sel .props then n.properties else none,
    patternProperties := if sel .props then n.patternProperties else none,
    additionalProperties := if sel .props then n.additionalProperties else none,
    propertyNames := if sel .propertyNames then n.propertyNames else none,
    dependencySchemas := if sel .dependent then n.dependencySchemas else none,
    dependentSchemas := if sel .dependent then n.dependentSchemas else none,
    type := if sel .type then n.type else "",
    types := if sel .type then n.types else none,
    enum := if sel .enum then n.enum else none,
    const := if sel .const then n.const else none,
    multipleOf := if sel .numeric then n.multipleOf else none,
    minimum := if sel .numeric then n.minimum else none,
    maximum := if sel .numeric then n.maximum else none,
    exclusiveMinimum := if sel .numeric then n.exclusiveMinimum else none,
    exclusiveMaximum := if sel .numeric then n.exclusiveMaximum else none,
    minLength := if sel .string then n.minLength else none,
    maxLength := if sel .string then n.maxLength else none,
    pattern := if sel .string then n.pattern else "",
    minItems := if sel .arrayLimits then n.minItems else none,
    maxItems := if sel .arrayLimits then n.maxItems else none,
    uniqueItems := if sel .arrayLimits then n.uniqueItems else false,
    minProperties := if sel .objectLimits then n.minProperties else none,
    maxProperties := if sel .objectLimits then n.maxProperties else none,
    required := if sel .objectLimits then n.required else none,
    dependencyStrings := if sel .objectLimits then n.dependencyStrings else none,
    dependentRequired := if sel .objectLimits then n.dependentRequired else none }

theorem pick_all (n : Node) :
    pick (fun _ => true) n = { keywords n with unevaluatedItems := none, unevaluatedProperties := none } := by rfl

theorem pick_noUneval (sel : Group → Bool) (n : Node) : NoUneval (pick sel n) := ⟨rfl, rfl⟩

/-- the outcome of a keyword whose group is selected, that of an absent keyword otherwise -/
abbrev gateK (b : Bool) (k : Spec.Out) : Spec.Out := if b then k else some (some {})

section kws
variable (env : Spec.Env) (sub : NodeId → Json → Spec.Out) (sel : Group → Bool) (n : Node) (j : Json)

/- Each field of `pick sel n` is `if sel g then n.f else (absent)`: for an unselected group the keyword is absent
   (`if_neg`), for a selected one the keyword reads the fields of `n` (`if_pos`, through the `_fields` lemma). -/

theorem kwRef_pick (s : NodeId) : Spec.kwRef env sub s (pick sel n) j = gateK (sel .ref) (Spec.kwRef env sub s n j) := by
  cases h : sel .ref
  · exact kwRef_absent env sub _ j s (if_neg (Bool.eq_false_iff.1 h))
  · exact Spec.kwRef_fields (if_pos h)

theorem kwDynamicRef_pick (scope : List NodeId) (s : NodeId) :
    Spec.kwDynamicRef env sub scope s (pick sel n) j = gateK (sel .dynamicRef) (Spec.kwDynamicRef env sub scope s n j) := by
  cases h : sel .dynamicRef
  · exact kwDynamicRef_absent env sub _ j scope s (if_neg (Bool.eq_false_iff.1 h))
  · exact Spec.kwDynamicRef_fields (if_pos h)

theorem kwDynamicRef_vocab_pick (d : Draft) (scope : List NodeId) (s : NodeId) :
    Spec.kwDynamicRef env sub scope s (Spec.vocab d (pick sel n)) j
      = gateK (sel .dynamicRef) (Spec.kwDynamicRef env sub scope s (Spec.vocab d n) j) := by
  cases h : sel .dynamicRef
  · exact kwDynamicRef_vocab_absent env sub _ j d scope s (if_neg (Bool.eq_false_iff.1 h))
  · cases d
    · rfl
    · exact Spec.kwDynamicRef_fields (if_pos h)

theorem kwAllOf_pick : Spec.kwAllOf sub (pick sel n) j = gateK (sel .allOf) (Spec.kwAllOf sub n j) := by
  cases h : sel .allOf
  · exact kwAllOf_absent sub _ j (if_neg (Bool.eq_false_iff.1 h))
  · exact Spec.kwAllOf_fields (if_pos h)

theorem kwAnyOf_pick : Spec.kwAnyOf sub (pick sel n) j = gateK (sel .anyOf) (Spec.kwAnyOf sub n j) := by
  cases h : sel .anyOf
  · exact kwAnyOf_absent sub _ j (if_neg (Bool.eq_false_iff.1 h))
  · exact Spec.kwAnyOf_fields (if_pos h)

theorem kwOneOf_pick : Spec.kwOneOf sub (pick sel n) j = gateK (sel .oneOf) (Spec.kwOneOf sub n j) := by
  cases h : sel .oneOf
  · exact kwOneOf_absent sub _ j (if_neg (Bool.eq_false_iff.1 h))
  · exact Spec.kwOneOf_fields (if_pos h)

theorem kwNot_pick : Spec.kwNot sub (pick sel n) j = gateK (sel .not) (Spec.kwNot sub n j) := by
  cases h : sel .not
  · exact kwNot_absent sub _ j (if_neg (Bool.eq_false_iff.1 h))
  · exact Spec.kwNot_fields (if_pos h)

theorem kwIf_pick : Spec.kwIf sub (pick sel n) j = gateK (sel .cond) (Spec.kwIf sub n j) := by
  cases h : sel .cond
  · exact kwIf_absent sub _ j (if_neg (Bool.eq_false_iff.1 h))
  · exact Spec.kwIf_fields (if_pos h) (if_pos h) (if_pos h)

theorem kwItems_pick : Spec.kwItems env sub (pick sel n) j = gateK (sel .array) (Spec.kwItems env sub n j) := by
  cases h : sel .array
  · have hf := Bool.eq_false_iff.1 h
    exact kwItems_absent env sub _ j (if_neg hf) (if_neg hf) (if_neg hf)
  · exact Spec.kwItems_fields (Spec.arrayShape_fields (if_pos h) (if_pos h) (if_pos h) (if_pos h))

theorem kwContains_pick : Spec.kwContains sub (pick sel n) j = gateK (sel .contains) (Spec.kwContains sub n j) := by
  cases h : sel .contains
  · exact kwContains_absent sub _ j (if_neg (Bool.eq_false_iff.1 h))
  · exact Spec.kwContains_fields (if_pos h) (if_pos h) (if_pos h)

theorem kwContains_vocab_pick (d : Draft) :
    Spec.kwContains sub (Spec.vocab d (pick sel n)) j = gateK (sel .contains) (Spec.kwContains sub (Spec.vocab d n) j) := by
  cases h : sel .contains
  · exact kwContains_absent sub _ j (if_neg (Bool.eq_false_iff.1 h))
  · cases d
    · exact Spec.kwContains_fields (if_pos h) rfl rfl
    · exact Spec.kwContains_fields (if_pos h) (if_pos h) (if_pos h)

theorem kwProps_pick : Spec.kwProps env sub (pick sel n) j = gateK (sel .props) (Spec.kwProps env sub n j) := by
  cases h : sel .props
  · have hf := Bool.eq_false_iff.1 h
    exact kwProps_absent env sub _ j (if_neg hf) (if_neg hf) (if_neg hf)
  · exact Spec.kwProps_fields (if_pos h) (if_pos h) (if_pos h)

theorem kwPropertyNames_pick :
    Spec.kwPropertyNames sub (pick sel n) j = gateK (sel .propertyNames) (Spec.kwPropertyNames sub n j) := by
  cases h : sel .propertyNames
  · exact kwPropertyNames_absent sub _ j (if_neg (Bool.eq_false_iff.1 h))
  · exact Spec.kwPropertyNames_fields (if_pos h)

theorem kwDependentSchemas_pick :
    Spec.kwDependentSchemas env sub (pick sel n) j = gateK (sel .dependent) (Spec.kwDependentSchemas env sub n j) := by
  cases h : sel .dependent
  · have hf := Bool.eq_false_iff.1 h
    exact kwDependentSchemas_absent env sub _ j (if_neg hf) (if_neg hf)
  · exact Spec.kwDependentSchemas_fields (if_pos h) (if_pos h)

theorem typeOk_pick : Spec.typeOk (pick sel n) j = (!sel .type || Spec.typeOk n j) := by
  cases h : sel .type
  · have hf := Bool.eq_false_iff.1 h
    exact typeOk_absent _ j (if_neg hf) (if_neg hf)
  · exact Spec.typeOk_fields (if_pos h) (if_pos h)

theorem enumOk_pick : Spec.enumOk (pick sel n) j = (!sel .enum || Spec.enumOk n j) := by
  cases h : sel .enum
  · exact enumOk_absent _ j (if_neg (Bool.eq_false_iff.1 h))
  · exact Spec.enumOk_fields (if_pos h)

theorem constOk_pick : Spec.constOk (pick sel n) j = (!sel .const || Spec.constOk n j) := by
  cases h : sel .const
  · exact constOk_absent _ j (if_neg (Bool.eq_false_iff.1 h))
  · exact Spec.constOk_fields (if_pos h)

theorem numericOk_pick : Spec.numericOk (pick sel n) j = (!sel .numeric || Spec.numericOk n j) := by
  cases h : sel .numeric
  · have hf := Bool.eq_false_iff.1 h
    exact numericOk_absent _ j (if_neg hf) (if_neg hf) (if_neg hf) (if_neg hf) (if_neg hf)
  · exact Spec.numericOk_fields (if_pos h) (if_pos h) (if_pos h) (if_pos h) (if_pos h)

theorem stringOk_pick : Spec.stringOk env (pick sel n) j = (!sel .string || Spec.stringOk env n j) := by
  cases h : sel .string
  · have hf := Bool.eq_false_iff.1 h
    exact stringOk_absent env _ j (if_neg hf) (if_neg hf) (if_neg hf)
  · exact Spec.stringOk_fields (if_pos h) (if_pos h) (if_pos h)

theorem arrayLimitsOk_pick : Spec.arrayLimitsOk (pick sel n) j = (!sel .arrayLimits || Spec.arrayLimitsOk n j) := by
  cases h : sel .arrayLimits
  · have hf := Bool.eq_false_iff.1 h
    exact arrayLimitsOk_absent _ j (if_neg hf) (if_neg hf) (if_neg hf)
  · exact Spec.arrayLimitsOk_fields (if_pos h) (if_pos h) (if_pos h)

theorem objectLimitsOk_pick :
    Spec.objectLimitsOk env (pick sel n) j = (!sel .objectLimits || Spec.objectLimitsOk env n j) := by
  cases h : sel .objectLimits
  · have hf := Bool.eq_false_iff.1 h
    exact objectLimitsOk_absent env _ j (if_neg hf) (if_neg hf) (if_neg hf) (if_neg hf) (if_neg hf)
  · exact Spec.objectLimitsOk_fields (if_pos h) (if_pos h) (if_pos h) (if_pos h) (if_pos h)

theorem gate_split (m x : Bool) : x = ((!m || x) && (!(!m) || x)) := by cases m <;> cases x <;> rfl

theorem and_split_step {X G H x g h : Bool} (hX : X = (G && H)) (hx : x = (g && h)) :
    (X && x) = ((G && g) && (H && h)) := by
  subst hX hx; cases G <;> cases H <;> cases g <;> cases h <;> rfl

theorem assertsOf_split :
    assertsOf env n j = (assertsOf env (pick sel n) j && assertsOf env (pick (fun g => !sel g) n) j) := by
  simp only [assertsOf, typeOk_pick, enumOk_pick, constOk_pick, numericOk_pick, stringOk_pick, arrayLimitsOk_pick,
    objectLimitsOk_pick]
  exact and_split_step (and_split_step (and_split_step (and_split_step (and_split_step (and_split_step
    (gate_split _ _) (gate_split _ _)) (gate_split _ _)) (gate_split _ _)) (gate_split _ _))
    (gate_split _ _)) (gate_split _ _)

end kws

theorem oconj2_assoc (a b c : Spec.Out) : oconj2 (oconj2 a b) c = oconj2 a (oconj2 b c) := by
  cases a <;> cases b <;> cases c <;> simp [oconj2, conj2_assoc]

theorem conj2_comm_sim (a b : Spec.R) : RSim (conj2 a b) (conj2 b a) := by
  cases a <;> cases b <;> simp [conj2, Inv.OptRel]
  rename_i e1 e2
  constructor
  · intro k; simp only [Spec.Ev.union, List.mem_append]; exact Or.comm
  · intro i; simp only [Spec.Ev.union, List.mem_append]; exact Or.comm

theorem conj2_sim {a a' b b' : Spec.R} (h1 : RSim a a') (h2 : RSim b b') : RSim (conj2 a b) (conj2 a' b') := by
  cases a <;> cases a' <;> cases b <;> cases b' <;> simp_all [conj2, Inv.OptRel]
  exact EvEqv.union h1 h2

theorem oconj2_comm_sim (a b : Spec.Out) : OutSim (oconj2 a b) (oconj2 b a) := by
  cases a <;> cases b <;> simp [oconj2, Inv.OptRel]
  exact conj2_comm_sim _ _

theorem oconj2_sim {a a' b b' : Spec.Out} (h1 : OutSim a a') (h2 : OutSim b b') : OutSim (oconj2 a b) (oconj2 a' b') := by
  cases a <;> cases a' <;> try exact h1.elim
  · trivial
  · cases b <;> cases b' <;> try exact h2.elim
    · trivial
    · exact conj2_sim h1 h2

def maskK (ms : List Bool) (ks : List Spec.Out) : List Spec.Out := List.zipWith gateK ms ks

theorem seqConj_mask : ∀ (ks : List Spec.Out) (ms : List Bool), ms.length = ks.length →
    OutSim (seqConj ks) (oconj2 (seqConj (maskK ms ks)) (seqConj (maskK (ms.map (!·)) ks)))
  | [], [], _ => by simp [maskK]; exact OutSim.refl _
  | [], _ :: _, h => by simp at h
  | _ :: _, [], h => by simp at h
  | k :: ks, m :: ms, h => by
    have ih := seqConj_mask ks ms (by simpa using h)
    cases m with
    | true =>
      simp only [maskK, List.map_cons, List.zipWith_cons_cons, seqConj_cons, gateK, if_true, Bool.not_true,
        Bool.false_eq_true, if_false, oconj2_empty_left, oconj2_assoc]
      exact oconj2_sim (OutSim.refl k) ih
    | false =>
      simp only [maskK, List.map_cons, List.zipWith_cons_cons, seqConj_cons, gateK, if_true, Bool.not_false,
        Bool.false_eq_true, if_false, oconj2_empty_left]
      -- `k` belongs to the right conjunct: moved there by commutativity and associativity, which hold up to `OutSim`
      refine OutSim.trans (oconj2_sim (OutSim.refl k) ih) ?_
      refine OutSim.trans (oconj2_sim (OutSim.refl k) (oconj2_comm_sim _ _)) ?_
      rw [← oconj2_assoc]
      exact oconj2_comm_sim _ _

theorem oconj2_gateA (a b : Bool) (x y : Spec.Out) : oconj2 (gateA a x) (gateA b y) = gateA (a && b) (oconj2 x y) := by
  cases x <;> cases y <;> cases a <;> cases b <;> simp [gateA, oconj2]

theorem gateA_sim (a : Bool) {x y : Spec.Out} (h : OutSim x y) : OutSim (gateA a x) (gateA a y) := by
  cases a
  · cases x <;> cases y <;> simp_all [gateA, Inv.OptRel]
  · cases x <;> cases y <;> simp_all [gateA, Inv.OptRel]

def selList (sel : Group → Bool) : List Bool :=
  [sel .ref, sel .dynamicRef, sel .allOf, sel .anyOf, sel .oneOf, sel .not, sel .cond, sel .array, sel .contains,
   sel .props, sel .propertyNames, sel .dependent]

theorem kwList_pick (env : Spec.Env) (rec : Spec.Rec) (scope : List NodeId) (s : NodeId) (j : Json) (n : Node)
    (sel : Group → Bool) :
    kwList env rec scope s j (pick sel n) = maskK (selList sel) (kwList env rec scope s j n) := by
  simp only [kwList, kwRef_pick, kwDynamicRef_vocab_pick, kwAllOf_pick, kwAnyOf_pick, kwOneOf_pick, kwNot_pick,
    kwIf_pick, kwItems_pick, kwContains_vocab_pick, kwProps_pick, kwPropertyNames_pick, kwDependentSchemas_pick, maskK, selList,
    List.zipWith_cons_cons, List.zipWith_nil_right]

theorem pick_h7 (env : Spec.Env) (n : Node) (sel : Group → Bool) (h7 : (env.draft == .d7 && n.ref != "") = false) :
    (env.draft == .d7 && (pick sel n).ref != "") = false := by
  cases h : sel .ref
  · rw [show (pick sel n).ref = "" from if_neg (Bool.eq_false_iff.1 h)]; simp
  · rw [show (pick sel n).ref = n.ref from if_pos h]; exact h7

theorem specBody_split (env : Spec.Env) (rec : Spec.Rec) (scope : List NodeId) (s : NodeId) (j : Json) (n : Node)
    (sel : Group → Bool) (hu : NoUneval n) (h7 : (env.draft == .d7 && n.ref != "") = false) :
    OutSim (specBody env rec scope s j n)
      (oconj2 (specBody env rec scope s j (pick sel n)) (specBody env rec scope s j (pick (fun g => !sel g) n))) := by
  rw [specBody_nouneval env rec scope s j n hu h7,
    specBody_nouneval env rec scope s j _ (pick_noUneval _ n) (pick_h7 env n sel h7),
    specBody_nouneval env rec scope s j _ (pick_noUneval _ n) (pick_h7 env n _ h7),
    oconj2_gateA, ← assertsOf_split, kwList_pick, kwList_pick]
  apply gateA_sim
  exact seqConj_mask (kwList env rec scope s j n) (selList sel) rfl

theorem specBody_move (env : Spec.Env) (rec : Spec.Rec) (scope scope' : List NodeId) (s s' : NodeId) (j : Json) (n : Node)
    (hr : n.ref = "") (hd : n.dynamicRef = "") (hrec : rec (scope ++ [s]) = rec (scope' ++ [s'])) :
    specBody env rec scope s j n = specBody env rec scope' s' j n := by
  unfold specBody kwList
  rw [hrec, kwRef_absent env _ n j s hr, kwRef_absent env _ n j s' hr, kwDynamicRef_vocab_absent env _ n j _ _ s hd,
    kwDynamicRef_vocab_absent env _ n j _ _ s' hd]

def verdict2 (a b : Spec.Out) : Option Bool :=
  match a, b with
  | some r1, some r2 => some (r1.isSome && r2.isSome)
  | _, _ => none

@[simp] theorem verdict2_some (r1 r2 : Spec.R) : verdict2 (some r1) (some r2) = some (r1.isSome && r2.isSome) := rfl
@[simp] theorem verdict2_none_left (b : Spec.Out) : verdict2 none b = none := rfl
@[simp] theorem verdict2_none_right (a : Spec.Out) : verdict2 a none = none := by cases a <;> rfl

theorem oconj2_verdict (a b : Spec.Out) : (oconj2 a b).map (·.isSome) = verdict2 a b := by
  cases a <;> cases b <;> try rfl
  rename_i r1 r2
  cases r1 <;> cases r2 <;> rfl

theorem evalFuel_split (env : Spec.Env) (fuel : Nat) (scope : List NodeId) (s s1 s2 : NodeId) (n n1 n2 : Node) (j : Json)
    (sel : Group → Bool) (hn : env.st.get? s = some n) (hn1 : env.st.get? s1 = some n1) (hn2 : env.st.get? s2 = some n2)
    (hk1 : keywords n1 = pick sel n) (hk2 : keywords n2 = pick (fun g => !sel g) n)
    (hu : NoUneval n) (hr : n.ref = "") (hd : n.dynamicRef = "")
    (hs1 : ScopeEqv env (scope ++ [s1]) (scope ++ [s])) (hs2 : ScopeEqv env (scope ++ [s2]) (scope ++ [s])) :
    OutSim (Spec.evalFuel env (fuel + 1) scope s j)
      (oconj2 (Spec.evalFuel env (fuel + 1) scope s1 j) (Spec.evalFuel env (fuel + 1) scope s2 j)) := by
  rw [evalFuel_succ env fuel scope s j n hn, specBody_keywords,
    evalFuel_succ_of env fuel scope s1 j n1 _ hn1 hk1, evalFuel_succ_of env fuel scope s2 j n2 _ hn2 hk2]
  have hpr : ∀ sel', (pick sel' n).ref = "" ∧ (pick sel' n).dynamicRef = "" := by
    intro sel'
    constructor
    · show (if sel' .ref then n.ref else "") = ""; rw [hr]; split <;> rfl
    · show (if sel' .dynamicRef then n.dynamicRef else "") = ""; rw [hd]; split <;> rfl
  have e1 : Spec.evalFuel env fuel (scope ++ [s1]) = Spec.evalFuel env fuel (scope ++ [s]) := by
    funext t j'; exact evalFuel_scope_eqv env fuel _ _ t j' hs1
  have e2 : Spec.evalFuel env fuel (scope ++ [s2]) = Spec.evalFuel env fuel (scope ++ [s]) := by
    funext t j'; exact evalFuel_scope_eqv env fuel _ _ t j' hs2
  rw [specBody_move env _ scope scope s1 s j _ (hpr sel).1 (hpr sel).2 e1,
    specBody_move env _ scope scope s2 s j _ (hpr _).1 (hpr _).2 e2]
  exact specBody_split env _ scope s j n sel hu (by simp [hr])

end Laws
end JSV
