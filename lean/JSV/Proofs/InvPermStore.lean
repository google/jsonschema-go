/-
  Schema objects and stores up to the order of their maps (`withMaps`, `permNode`, `permStore`: C14, and the key-sorted
  normal form of the JSON round trip in IsoTrees); instances up to the order of their members, case by case
  (`permJson_cases`); the assertions of the Spec are invariant under both.
-/
import JSV.Proofs.InvPermLists
import JSV.Proofs.SpecStepCalls
namespace JSV
namespace Inv
open Go GoVal
open Go.RIso (KRel)

def optPerm {α : Type} : Option (List α) → Option (List α) → Prop
  | none, none => True
  | some a, some b => a.Perm b
  | _, _ => False

theorem optPerm.getD {α : Type} {a b : Option (List α)} (h : optPerm a b) : (a.getD []).Perm (b.getD []) := by
  cases a <;> cases b <;> simp_all [optPerm]

theorem optPerm.refl {α : Type} (a : Option (List α)) : optPerm a a := by
  cases a <;> simp [optPerm]

@[reducible] def withMaps (a : Node) (p pp d df ds : Option (List (String × NodeId)))
    (dst dr : Option (List (String × Option (List String)))) (dsc : Option (List (String × NodeId))) : Node :=
  { a with properties := p, patternProperties := pp, defs := d, definitions := df, dependencySchemas := ds,
           dependencyStrings := dst, dependentRequired := dr, dependentSchemas := dsc }

/-- `b` is `a` with the entry lists of its eight maps reordered; every other field is the same -/
def permNode (a b : Node) : Prop :=
  ∃ p pp d df ds dst dr dsc,
    optPerm a.properties p ∧ optPerm a.patternProperties pp ∧ optPerm a.defs d ∧ optPerm a.definitions df ∧
    optPerm a.dependencySchemas ds ∧ optPerm a.dependencyStrings dst ∧ optPerm a.dependentRequired dr ∧
    optPerm a.dependentSchemas dsc ∧ b = withMaps a p pp d df ds dst dr dsc

theorem permNode.refl (a : Node) : permNode a a :=
  ⟨_, _, _, _, _, _, _, _, optPerm.refl _, optPerm.refl _, optPerm.refl _, optPerm.refl _, optPerm.refl _,
    optPerm.refl _, optPerm.refl _, optPerm.refl _, rfl⟩

def permStore (s1 s2 : Store) : Prop :=
  s1.size = s2.size ∧
  ∀ i, match s1.get? i, s2.get? i with
    | some a, some b => permNode a b
    | none, none => True
    | _, _ => False

theorem permStore.refl (s : Store) : permStore s s :=
  ⟨rfl, fun i => by cases h : s.get? i <;> simp [permNode.refl]⟩

theorem permStore.optRel {s1 s2 : Store} (h : permStore s1 s2) (i : NodeId) : Go.OptRel permNode (s1.get? i) (s2.get? i) := by
  have := h.2 i
  cases h1 : s1.get? i <;> cases h2 : s2.get? i <;> rw [h1, h2] at this <;> exact this

def JRW (x y : Json) : Prop := permJson x y ∧ Json.WF x = true

theorem permJson_obj_PR {k1 k2 : List (String × Json)} (h : permJson (.obj k1) (.obj k2))
    (hw : Json.WF (.obj k1) = true) : PR (KRel JRW) k1 k2 := by
  obtain ⟨k', h1, h2⟩ := permJson_obj.1 h
  have hw' := (Json.WF_obj_iff.1 hw).2
  exact PR.imp_mem (PR.perm_right (PRg.of_all₂ ListCong.ofPerm h1) h2) (fun a b ha _ hr => ⟨hr.1, hr.2, hw' a ha⟩)

theorem permJson_arr_all₂ {xs ys : List Json} (h : permJson (.arr xs) (.arr ys)) (hw : Json.WF (.arr xs) = true) :
    All₂ JRW xs ys :=
  All₂.imp (fun a _ ha _ hr => ⟨hr, (Json.WF_arr_iff.1 hw) a ha⟩) (permJson_arr.1 h)

theorem permJson_cases {j1 j2 : Json} (h : permJson j1 j2) (hw : Json.WF j1 = true) :
    (∃ xs ys, j1 = .arr xs ∧ j2 = .arr ys ∧ All₂ JRW xs ys) ∨
    (∃ k1 k2, j1 = .obj k1 ∧ j2 = .obj k2 ∧ PR (KRel JRW) k1 k2) ∨
    (j2 = j1 ∧ (∀ xs, j1 ≠ .arr xs) ∧ ∀ kvs, j1 ≠ .obj kvs) := by
  cases j1 with
  | arr xs =>
    cases j2 with
    | arr ys => exact Or.inl ⟨xs, ys, rfl, rfl, permJson_arr_all₂ h hw⟩
    | _ => simp [permJson] at h
  | obj k1 =>
    cases j2 with
    | obj k2 => exact Or.inr (Or.inl ⟨k1, k2, rfl, rfl, permJson_obj_PR h hw⟩)
    | _ => simp [permJson] at h
  | null => cases j2 <;> simp [permJson] at h; exact Or.inr (Or.inr ⟨rfl, by simp, by simp⟩)
  | bool a => cases j2 <;> simp [permJson] at h; subst h; exact Or.inr (Or.inr ⟨rfl, by simp, by simp⟩)
  | num a => cases j2 <;> simp [permJson] at h; subst h; exact Or.inr (Or.inr ⟨rfl, by simp, by simp⟩)
  | str a => cases j2 <;> simp [permJson] at h; subst h; exact Or.inr (Or.inr ⟨rfl, by simp, by simp⟩)

theorem permJson_typeName {a b : Json} (h : permJson a b) (hw : Json.WF a = true) : a.typeName = b.typeName := by
  rcases permJson_cases h hw with ⟨_, _, rfl, rfl, _⟩ | ⟨_, _, rfl, rfl, _⟩ | ⟨rfl, _⟩ <;> rfl

theorem eqv_perm_right (e : Json) {a b : Json} (h : permJson a b) (ha : Json.WF a = true) :
    Json.eqv e a = Json.eqv e b := by
  have hb := permJson_WF a b h ha
  have hab := eqv_perm a b h ha hb
  have hba : Json.eqv b a = true := by rw [Json.eqv_symm_of_WF b a hb ha]; exact hab
  rw [Bool.eq_iff_iff]
  exact ⟨fun h1 => Json.eqv_trans_imp e a b h1 hab, fun h1 => Json.eqv_trans_imp e b a h1 hba⟩

theorem eqv_perm_both {a b c d : Json} (h1 : permJson a b) (h2 : permJson c d) (ha : Json.WF a = true)
    (hc : Json.WF c = true) : Json.eqv a c = Json.eqv b d := by
  have hb := permJson_WF a b h1 ha
  have hd := permJson_WF c d h2 hc
  rw [eqv_perm_right a h2 hc, Json.eqv_symm_of_WF a d ha hd, eqv_perm_right d h1 ha, Json.eqv_symm_of_WF d b hd hb]

theorem distinct_sim : ∀ {xs ys : List Json}, All₂ JRW xs ys → Spec.distinct xs = Spec.distinct ys
  | [], [], _ => rfl
  | x :: xs, y :: ys, h => by
    simp only [Spec.distinct]
    rw [distinct_sim h.2]
    congr 1
    exact PR.all_eq _ _ (PRg.of_all₂ ListCong.ofPerm h.2) (fun a b hr => by rw [eqv_perm_both h.1.1 hr.1 h.1.2 hr.2])
  | [], _ :: _, h => h.elim
  | _ :: _, [], h => h.elim

theorem typeOk_sim (n : Node) {j1 j2 : Json} (h : permJson j1 j2) (hw : Json.WF j1 = true) :
    Spec.typeOk n j1 = Spec.typeOk n j2 := by
  unfold Spec.typeOk Spec.typeMatches
  simp only [permJson_typeName h hw]

theorem enumOk_sim (n : Node) {j1 j2 : Json} (h : permJson j1 j2) (hw : Json.WF j1 = true) :
    Spec.enumOk n j1 = Spec.enumOk n j2 := by
  unfold Spec.enumOk
  cases n.enum with
  | none => rfl
  | some es => simp only [eqv_perm_right _ h hw]

theorem constOk_sim (n : Node) {j1 j2 : Json} (h : permJson j1 j2) (hw : Json.WF j1 = true) :
    Spec.constOk n j1 = Spec.constOk n j2 := by
  unfold Spec.constOk
  cases n.const with
  | none => rfl
  | some c => simp only [eqv_perm_right _ h hw]

theorem numericOk_sim (n : Node) {j1 j2 : Json} (h : permJson j1 j2) (hw : Json.WF j1 = true) :
    Spec.numericOk n j1 = Spec.numericOk n j2 := by
  rcases permJson_cases h hw with ⟨_, _, rfl, rfl, _⟩ | ⟨_, _, rfl, rfl, _⟩ | ⟨rfl, _⟩ <;> rfl

theorem stringOk_sim (env : Spec.Env) (n : Node) {j1 j2 : Json} (h : permJson j1 j2) (hw : Json.WF j1 = true) :
    Spec.stringOk env n j1 = Spec.stringOk env n j2 := by
  rcases permJson_cases h hw with ⟨_, _, rfl, rfl, _⟩ | ⟨_, _, rfl, rfl, _⟩ | ⟨rfl, _⟩ <;> rfl

theorem arrayLimitsOk_sim (n : Node) {j1 j2 : Json} (h : permJson j1 j2) (hw : Json.WF j1 = true) :
    Spec.arrayLimitsOk n j1 = Spec.arrayLimitsOk n j2 := by
  rcases permJson_cases h hw with ⟨xs, ys, rfl, rfl, ha⟩ | ⟨_, _, rfl, rfl, _⟩ | ⟨rfl, _⟩
  · simp only [Spec.arrayLimitsOk, ha.length, distinct_sim ha]
  · rfl
  · rfl

theorem objectLimitsOk_sim (env : Spec.Env) (n1 n2 : Node) (hmin : n2.minProperties = n1.minProperties)
    (hmax : n2.maxProperties = n1.maxProperties) (hreq : n2.required = n1.required)
    (hds : (n1.dependencyStrings.getD []).Perm (n2.dependencyStrings.getD []))
    (hdr : (n1.dependentRequired.getD []).Perm (n2.dependentRequired.getD []))
    {j1 j2 : Json} (h : permJson j1 j2) (hw : Json.WF j1 = true) :
    Spec.objectLimitsOk env n1 j1 = Spec.objectLimitsOk env n2 j2 := by
  rcases permJson_cases h hw with ⟨_, _, rfl, rfl, _⟩ | ⟨k1, k2, rfl, rfl, hpr⟩ | ⟨rfl, _, hno⟩
  · rfl
  · have hdep : (match env.draft with
        | .d7 => n1.dependencyStrings.getD []
        | .d2020 => n1.dependentRequired.getD []).Perm
        (match env.draft with
        | .d7 => n2.dependencyStrings.getD []
        | .d2020 => n2.dependentRequired.getD []) := by
      cases env.draft <;> assumption
    simp only [Spec.objectLimitsOk, hmin, hmax, hreq, hpr.length, PRg.lookup_isSome ListCong.ofPerm hpr]
    congr 1
    exact PR.all_eq _ _ (PR.of_perm (R := (· = ·)) (fun _ _ => rfl) hdep) (fun a b hab => by subst hab; rfl)
  · cases j2 <;> first | rfl | exact absurd rfl (hno _)

end Inv
end JSV
