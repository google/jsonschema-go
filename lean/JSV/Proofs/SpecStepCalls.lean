/-
  One step of the Spec as a tree of questions to the recursive calls (`specBody_calls`).  Monotonicity in the fuel
  (`evalStep_mono`, `evalFuel_mono(_le)`, here), definedness (Defined) and "sees verdicts only elsewhere" (SpecLawsLoc) are
  readings of it.
-/
import JSV.Proofs.SpecCalls
import JSV.Proofs.SpecStep
namespace JSV
namespace Refine
open Go JSV.Inv

namespace Calls
variable {α : Type} {tot : Prop} {P Q : NodeId → Json → Prop}

theorem ask {t : NodeId} {x : Json} (hp : P t x) : Calls tot P Q (fun sub => sub t x) :=
  (Calls.call t x hp (fun r _ => some r) fun r => .pure (some r) fun _ => rfl).of_eq fun sub => by
    cases sub t x <;> rfl

theorem seq_cons {a : Sub → Option α} {l : Sub → List (Option α)} (ha : Calls tot P Q a)
    (hl : Calls tot P Q fun sub => Spec.sequence (l sub)) : Calls tot P Q fun sub => Spec.sequence (a sub :: l sub) :=
  (ha.bind fun x => hl.map (x :: ·)).of_eq fun _ => sequence_cons _ _

end Calls

section
variable {Q : NodeId → Json → Prop} (env : Spec.Env) (scope : List NodeId) (s : NodeId) (n : Node) (j : Json)

theorem kwRef_calls :
    Calls ((n.ref != "") = true → (env.refTarget s).isSome = true)
      (fun t x => ((n.ref != "") = true ∧ env.refTarget s = some t) ∧ x = j) Q (fun sub => Spec.kwRef env sub s n j) := by
  unfold Spec.kwRef Spec.inPlace
  by_cases hp : (n.ref != "") = true
  · cases ht : env.refTarget s with
    | none => exact (Calls.pure none fun h => nomatch h hp).of_eq fun _ => by rw [if_pos hp]
    | some t => exact (Calls.ask ⟨⟨hp, rfl⟩, rfl⟩).of_eq fun _ => by rw [if_pos hp]
  · exact (Calls.pure (some (some {})) fun _ => rfl).of_eq fun _ => by rw [if_neg hp]

theorem kwDynamicRef_calls :
    Calls ((n.dynamicRef != "") = true → (env.dynInitial s).isSome = true)
      (fun t x => ((n.dynamicRef != "") = true ∧ (env.dynInitial s = some t ∨
          ((env.dynName s == "") = false ∧ Spec.dynTarget env scope (env.dynName s) = some t))) ∧ x = j) Q
      (fun sub => Spec.kwDynamicRef env sub scope s n j) := by
  unfold Spec.kwDynamicRef
  by_cases hp : (n.dynamicRef != "") = true
  · cases hi : env.dynInitial s with
    | none => exact (Calls.pure none fun h => nomatch h hp).of_eq fun _ => by rw [if_pos hp]
    | some i =>
      refine (Calls.ask (t := if (env.dynName s == "") = true then i
          else (Spec.dynTarget env scope (env.dynName s)).getD i) ⟨⟨hp, ?_⟩, rfl⟩).of_eq fun _ => by rw [if_pos hp]
      by_cases hnm : (env.dynName s == "") = true
      · rw [if_pos hnm]; exact .inl rfl
      · rw [if_neg hnm]
        cases hd : Spec.dynTarget env scope (env.dynName s) with
        | none => exact .inl rfl
        | some t => exact .inr ⟨Bool.eq_false_iff.2 hnm, rfl⟩
  · exact (Calls.pure (some (some {})) fun _ => rfl).of_eq fun _ => by rw [if_neg hp]

theorem kwIf_calls {tot : Prop} :
    Calls tot (fun t x => (n.if_ = some t ∨ n.then_ = some t ∨ n.else_ = some t) ∧ x = j) Q
      (fun sub => Spec.kwIf sub n j) := by
  unfold Spec.kwIf
  cases hi : n.if_ with
  | none => exact .pure _ fun _ => rfl
  | some c =>
    refine (Calls.call c j ⟨.inl rfl, rfl⟩ (fun rc sub =>
      match (if rc.isSome = true then n.then_ else n.else_) with
      | none => some (some (rc.getD {}))
      | some b => (sub b j).map fun rb => rb.map fun evb => (rc.getD {}).union evb) fun rc => ?_).of_eq fun sub => by
        dsimp only; cases sub c j <;> rfl
    cases hb : (if rc.isSome = true then n.then_ else n.else_) with
    | none => exact .pure _ fun _ => rfl
    | some b =>
      refine (Calls.ask ⟨?_, rfl⟩).map _
      by_cases hrc : rc.isSome = true
      · rw [if_pos hrc] at hb; exact .inr (.inl hb)
      · rw [if_neg hrc] at hb; exact .inr (.inr hb)

end

theorem specTail_calls {tot : Prop} {P Q : NodeId → Json → Prop} (R : Spec.R) (A : Bool)
    {ui up : Sub → Spec.Ev → Option Spec.R}
    (h1 : ∀ ev, Calls tot P Q (ui · ev)) (h2 : ∀ ev, Calls tot P Q (up · ev)) :
    Calls tot P Q fun sub => specTail R A (ui sub) (up sub) := by
  unfold specTail
  cases R with
  | none => exact .pure _ fun _ => rfl
  | some ev0 =>
    cases A with
    | false => exact .pure _ fun _ => rfl
    | true =>
      exact ((h1 ev0).bind fun ri => (h2 ev0).map fun rp => Spec.conj [some ev0, ri, rp]).of_eq fun sub => by
        show (match ui sub ev0, up sub ev0 with | some ri, some rp => _ | _, _ => _) = _
        cases ui sub ev0 <;> cases up sub ev0 <;> rfl

/-- the schemas one step may apply to the instance itself -/
def StepEdge (env : Spec.Env) (scope0 : List NodeId) (s : NodeId) (n : Node) (t : NodeId) : Prop :=
  ((n.ref != "") = true ∧ env.refTarget s = some t) ∨
  (((Spec.vocab env.draft n).dynamicRef != "") = true ∧ (env.dynInitial s = some t ∨
      ((env.dynName s == "") = false ∧ Spec.dynTarget env (scope0 ++ [s]) (env.dynName s) = some t))) ∨
  t ∈ n.allOf.getD [] ∨ t ∈ n.anyOf.getD [] ∨ t ∈ n.oneOf.getD [] ∨ n.not = some t ∨
  (n.if_ = some t ∨ n.then_ = some t ∨ n.else_ = some t) ∨
  t ∈ (n.dependentSchemas.getD []).map (·.2) ++ (n.dependencySchemas.getD []).map (·.2)

def StepTot (env : Spec.Env) (s : NodeId) (n : Node) : Prop :=
  ((n.ref != "") = true → (env.refTarget s).isSome = true) ∧
  (((Spec.vocab env.draft n).dynamicRef != "") = true → (env.dynInitial s).isSome = true)

/-- **One step of the Spec is a tree of questions**: whole answers about the instance itself from the schemas of
    `StepEdge`, verdicts only about instances of smaller depth (its children and its keys) from the schemas of `descEdges`. -/
theorem specBody_calls (env : Spec.Env) (scope0 : List NodeId) (s : NodeId) (j : Json) (n : Node) :
    Calls (StepTot env s n) (fun t x => StepEdge env scope0 s n t ∧ x = j) (Desc n j)
      (fun sub => specBody env (fun _ => sub) scope0 s j n) := by
  have hv : ∀ t x, Desc (Spec.vocab env.draft n) j t x → Desc n j t x := fun t x h => ⟨mem_desc_of_vocab h.1, h.2⟩
  have w : ∀ {tot' : Prop} {E : NodeId → Prop} {kw : Sub → Option Spec.R},
      Calls tot' (fun t x => E t ∧ x = j) (Desc n j) kw → (StepTot env s n → tot') → (∀ t, E t → StepEdge env scope0 s n t) →
      Calls (StepTot env s n) (fun t x => StepEdge env scope0 s n t ∧ x = j) (Desc n j) kw :=
    fun h ht hE => h.weaken ht (fun t x hp => ⟨hE t hp.1, hp.2⟩) (fun _ _ hq => hq)
  have hRef := w (kwRef_calls env s n j) (·.1) fun t h => .inl h
  by_cases hd7 : (env.draft == .d7 && n.ref != "") = true
  · exact (hRef.map _).of_eq fun sub => specBody_d7ref env _ scope0 s j hd7
  · refine Calls.of_eq ?_ fun sub => specBody_eq env _ scope0 s j (Bool.eq_false_iff.2 hd7)
    refine Calls.bind ?_ fun rs => specTail_calls _ _
      (fun ev => (kwUnevaluatedItems_calls _ j ev).weaken id (fun _ _ h => h) hv)
      (fun ev => (kwUnevaluatedProps_calls _ j ev).weaken id (fun _ _ h => h) hv)
    unfold kwList
    exact hRef.seq_cons <|
      (w (kwDynamicRef_calls env (scope0 ++ [s]) s (Spec.vocab env.draft n) j) (·.2) fun t h => .inr (.inl h)).seq_cons <|
      (w (kwAllOf_calls n j) id fun t h => by simp only [StepEdge, h, true_or, or_true]).seq_cons <|
      (w (kwAnyOf_calls n j) id fun t h => by simp only [StepEdge, h, true_or, or_true]).seq_cons <|
      (w (kwOneOf_calls n j) id fun t h => by simp only [StepEdge, h, true_or, or_true]).seq_cons <|
      (w (kwNot_calls n j) id fun t h => by simp only [StepEdge, h, true_or, or_true]).seq_cons <|
      (w (kwIf_calls n j) id fun t h => by simp only [StepEdge, h, true_or, or_true]).seq_cons <|
      (kwItems_calls env n j).seq_cons <|
      ((kwContains_calls _ j).weaken id (fun _ _ h => h) hv).seq_cons <|
      (kwProps_calls env n j).seq_cons <|
      (kwPropertyNames_calls n j).seq_cons <|
      (w (kwDependentSchemas_calls env n j) id fun t h => by simp only [StepEdge, h, or_true]).seq_cons <|
      .pure (some []) fun _ => rfl

theorem evalStep_mono (env : Spec.Env) {srec srec' : Spec.Rec} (h : SRecLe srec srec') :
    SRecLe (Spec.evalStep env srec) (Spec.evalStep env srec') := by
  intro scope0 s j
  cases hn : env.st.get? s with
  | none => rw [Inv.evalStep_none hn]; exact fun _ hr => nomatch hr
  | some n =>
    rw [Inv.evalStep_get hn, Inv.evalStep_get hn]
    exact (specBody_calls env scope0 s j n).mono fun t x _ => h _ t x

theorem evalFuel_mono (env : Spec.Env) : ∀ n, SRecLe (Spec.evalFuel env n) (Spec.evalFuel env (n + 1))
  | 0 => fun _ _ _ r hr => by simp [Spec.evalFuel] at hr
  | n + 1 => evalStep_mono env (evalFuel_mono env n)

theorem evalFuel_mono_le (env : Spec.Env) {n m : Nat} (h : n ≤ m) : SRecLe (Spec.evalFuel env n) (Spec.evalFuel env m) := by
  induction h with
  | refl => exact fun _ _ _ => OLe_refl _
  | step _ ih => exact fun sc s j r hr => evalFuel_mono env _ sc s j r (ih sc s j r hr)

end Refine
end JSV
