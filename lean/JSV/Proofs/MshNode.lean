/-
  marshalStep decomposed into named pieces (`marshalNode`), and its congruence under the simulation
  relation of JSV/Proofs/MshClone.lean: related subtrees, in stores of size at most `B`, marshal identically (`marshalNode_congr`, `Sim.marshal_eq`);
  one level calls the recursion only at the children (`marshalStep_congr_rec`); `goodB`, the decidable form of `Good`;
  an acyclic subtree is a copy of itself in any extension of the store (`Sim.of_good`).  (C20, C05)
-/
import JSV.Proofs.MshClone
import JSV.Proofs.RelatorsInv
namespace JSV
namespace Go

def mOne (st : Store) (rec : MRec) (k : String) (c : Option NodeId) : Res (List (String × Json)) :=
  match c with
  | none => .ok []
  | some id => Res.bind (mSchema st rec id) fun j => .ok [(k, j)]

def mMany (st : Store) (rec : MRec) (k : String) (cs : Option (List NodeId)) : Res (List (String × Json)) :=
  match cs with
  | none => .ok []
  | some [] => .ok []
  | some l => Res.bind (mSchemaList st rec l) fun js => .ok [(k, .arr js)]

/-- the model's `manyNonNil` (anyOf, oneOf go through the wrapper struct: only nil is omitted, `[]` is written) -/
def mManyNN (st : Store) (rec : MRec) (k : String) (cs : Option (List NodeId)) : Res (List (String × Json)) :=
  match cs with
  | none => .ok []
  | some l => Res.bind (mSchemaList st rec l) fun js => .ok [(k, .arr js)]

def mKeyed (st : Store) (rec : MRec) (k : String) (cs : Option (List (String × NodeId))) : Res (List (String × Json)) :=
  match cs with
  | none => .ok []
  | some [] => .ok []
  | some l => Res.bind (mSchemaMap st rec l) fun j => .ok [(k, j)]

def mPropsField (st : Store) (rec : MRec) (ps : Option (List (String × NodeId))) (order : List String) :
    Res (List (String × Json)) :=
  match ps with
  | some ps => Res.bind (mProperties st rec ps order) fun j => .ok [("properties", j)]
  | none => .ok []

def mDeps (st : Store) (rec : MRec) (dsch : Option (List (String × NodeId)))
    (dstrs : Option (List (String × Option (List String)))) : Res (Option Json) :=
  let ds := dsch.getD []
  let dstr := dstrs.getD []
  if ds.length + dstr.length == 0 then .ok none
  else
    Res.bind (mSchemaEntries st rec ds) fun es =>
      let merged := (es.filter fun e => !(dstr.any fun d => d.1 == e.1)) ++ dstr.map fun (k, l) => (k, strs (l.getD []))
      .ok (some (.obj (sortKV merged)))

def mItemsField (st : Store) (rec : MRec) (items : Option NodeId) (itemsArray : Option (List NodeId)) :
    Res (List (String × Json)) :=
  match items, itemsArray with
  | some it, _ => mOne st rec "items" (some it)
  | none, some ia => Res.bind (mSchemaList st rec ia) fun js => .ok [("items", .arr js)]
  | none, none => .ok []

def mTyp (n : Node) : List (String × Json) :=
  if n.type != "" then [("type", .str n.type)]
  else match n.types with
    | some ts => [("type", strs ts)]
    | none => []

def mVocab (n : Node) : List (String × Json) :=
  match n.vocabulary with
  | some vs => [("$vocabulary", Json.obj (sortKV (vs.map fun (k, b) => (k, Json.bool b))))]
  | none => []

def mDepReq (n : Node) : List (String × Json) :=
  match n.dependentRequired with
  | some (v :: vs) => [("dependentRequired", Json.obj (sortKV ((v :: vs).map fun (k, l) => (k, optStrs l))))]
  | _ => []

def mNonEmptyList (k : String) (l : Option (List Json)) : List (String × Json) :=
  match l with
  | some (x :: xs) => [(k, sortJson (.arr (x :: xs)))]
  | _ => []

def mRequired (n : Node) : List (String × Json) :=
  match n.required with
  | some (x :: xs) => [("required", strs (x :: xs))]
  | _ => []

def mExtra (n : Node) : List (String × Json) :=
  sortKV ((n.extra.getD []).map fun (k, v) => (k, sortJson v))

/-- `{}` is written as true and `{"not":true}` as false -/
def mFinish (members : List (String × Json)) : Res Json :=
  match members with
  | [] => .ok (.bool true)
  | [("not", .bool true)] => .ok (.bool false)
  | ms => .ok (.obj ms)

/-- the marshalled schema-valued members of a node, in the order `marshalStep` binds them -/
structure Pieces where
  props : List (String × Json)
  deps : Option Json
  items : List (String × Json)
  defs : List (String × Json)
  definitions : List (String × Json)
  prefixItems : List (String × Json)
  additionalItems : List (String × Json)
  contains : List (String × Json)
  unevaluatedItems : List (String × Json)
  patternProperties : List (String × Json)
  additionalProperties : List (String × Json)
  propertyNames : List (String × Json)
  unevaluatedProperties : List (String × Json)
  allOf : List (String × Json)
  anyOf : List (String × Json)
  oneOf : List (String × Json)
  not_ : List (String × Json)
  if_ : List (String × Json)
  then_ : List (String × Json)
  else_ : List (String × Json)
  dependentSchemas : List (String × Json)
  contentSchema : List (String × Json)

/-- the member list in emission order (a right-nested append, so that it is read member group by member group) -/
def mMembers (n : Node) (p : Pieces) : List (String × Json) :=
  mTyp n ++ (p.props ++ (mem "dependencies" p.deps ++ (p.items ++
  (mem "enum" (n.enum.map fun l => sortJson (.arr l)) ++ (p.anyOf ++ (p.oneOf ++ (mVocab n ++
  (mStr "$id" n.id ++ (mStr "$schema" n.schema ++ (mStr "$ref" n.ref ++ (mStr "$comment" n.comment ++
  (p.defs ++ (p.definitions ++
  (mStr "$anchor" n.anchor ++ (mStr "$dynamicAnchor" n.dynamicAnchor ++ (mStr "$dynamicRef" n.dynamicRef ++
  (mStr "title" n.title ++ (mStr "description" n.description ++ (mem "default" n.default ++
  (mBool "deprecated" n.deprecated ++ (mBool "readOnly" n.readOnly ++ (mBool "writeOnly" n.writeOnly ++
  (mNonEmptyList "examples" n.examples ++
  (mem "const" (n.const.map sortJson) ++
  (mNum "multipleOf" n.multipleOf ++ (mNum "minimum" n.minimum ++ (mNum "maximum" n.maximum ++
  (mNum "exclusiveMinimum" n.exclusiveMinimum ++ (mNum "exclusiveMaximum" n.exclusiveMaximum ++
  (mInt "minLength" n.minLength ++ (mInt "maxLength" n.maxLength ++ (mStr "pattern" n.pattern ++
  (p.prefixItems ++ (mInt "minItems" n.minItems ++ (mInt "maxItems" n.maxItems ++ (p.additionalItems ++
  (mBool "uniqueItems" n.uniqueItems ++ (p.contains ++ (mInt "minContains" n.minContains ++
  (mInt "maxContains" n.maxContains ++ (p.unevaluatedItems ++
  (mInt "minProperties" n.minProperties ++ (mInt "maxProperties" n.maxProperties ++ (mRequired n ++ (mDepReq n ++
  (p.patternProperties ++ (p.additionalProperties ++ (p.propertyNames ++ (p.unevaluatedProperties ++
  (p.allOf ++ (p.not_ ++ (p.if_ ++ (p.then_ ++ (p.else_ ++ (p.dependentSchemas ++
  (mStr "contentEncoding" n.contentEncoding ++ (mStr "contentMediaType" n.contentMediaType ++ (p.contentSchema ++
  (mStr "format" n.format ++
  mExtra n)))))))))))))))))))))))))))))))))))))))))))))))))))))))))))

/-- the bind chain of marshalStep over already-computed pieces -/
def marshalParts (n : Node) (pProps : Res (List (String × Json))) (pDeps : Res (Option Json))
    (p_items p_defs p_definitions p_prefixItems p_additionalItems p_contains p_unevaluatedItems p_patternProperties p_additionalProperties p_propertyNames p_unevaluatedProperties p_allOf p_anyOf p_oneOf p_not_ p_if_ p_then_ p_else_ p_dependentSchemas p_contentSchema : Res (List (String × Json))) : Res Json :=
  Res.bind pProps fun props =>
  Res.bind pDeps fun deps =>
  Res.bind p_items fun items =>
  Res.bind p_defs fun defs =>
  Res.bind p_definitions fun definitions =>
  Res.bind p_prefixItems fun prefixItems =>
  Res.bind p_additionalItems fun additionalItems =>
  Res.bind p_contains fun contains =>
  Res.bind p_unevaluatedItems fun unevaluatedItems =>
  Res.bind p_patternProperties fun patternProperties =>
  Res.bind p_additionalProperties fun additionalProperties =>
  Res.bind p_propertyNames fun propertyNames =>
  Res.bind p_unevaluatedProperties fun unevaluatedProperties =>
  Res.bind p_allOf fun allOf =>
  Res.bind p_anyOf fun anyOf =>
  Res.bind p_oneOf fun oneOf =>
  Res.bind p_not_ fun not_ =>
  Res.bind p_if_ fun if_ =>
  Res.bind p_then_ fun then_ =>
  Res.bind p_else_ fun else_ =>
  Res.bind p_dependentSchemas fun dependentSchemas =>
  Res.bind p_contentSchema fun contentSchema =>
  mFinish (mMembers n ⟨props, deps, items, defs, definitions, prefixItems, additionalItems, contains, unevaluatedItems, patternProperties, additionalProperties, propertyNames, unevaluatedProperties, allOf, anyOf, oneOf, not_, if_, then_, else_, dependentSchemas, contentSchema⟩)

def marshalNode (st : Store) (rec : MRec) (n : Node) : Res Json :=
  marshalParts n
    (mPropsField st rec n.properties (n.propertyOrder.getD []))
    (mDeps st rec n.dependencySchemas n.dependencyStrings)
    (mItemsField st rec n.items n.itemsArray)
    (mKeyed st rec "$defs" n.defs)
    (mKeyed st rec "definitions" n.definitions)
    (mMany st rec "prefixItems" n.prefixItems)
    (mOne st rec "additionalItems" n.additionalItems)
    (mOne st rec "contains" n.contains)
    (mOne st rec "unevaluatedItems" n.unevaluatedItems)
    (mKeyed st rec "patternProperties" n.patternProperties)
    (mOne st rec "additionalProperties" n.additionalProperties)
    (mOne st rec "propertyNames" n.propertyNames)
    (mOne st rec "unevaluatedProperties" n.unevaluatedProperties)
    (mMany st rec "allOf" n.allOf)
    (mManyNN st rec "anyOf" n.anyOf)
    (mManyNN st rec "oneOf" n.oneOf)
    (mOne st rec "not" n.not)
    (mOne st rec "if" n.if_)
    (mOne st rec "then" n.then_)
    (mOne st rec "else" n.else_)
    (mKeyed st rec "dependentSchemas" n.dependentSchemas)
    (mOne st rec "contentSchema" n.contentSchema)

def IsPieces (st : Store) (rec : MRec) (n : Node) (p : Pieces) : Prop :=
  mPropsField st rec n.properties (n.propertyOrder.getD []) = .ok p.props ∧
  mDeps st rec n.dependencySchemas n.dependencyStrings = .ok p.deps ∧
  mItemsField st rec n.items n.itemsArray = .ok p.items ∧
  mKeyed st rec "$defs" n.defs = .ok p.defs ∧
  mKeyed st rec "definitions" n.definitions = .ok p.definitions ∧
  mMany st rec "prefixItems" n.prefixItems = .ok p.prefixItems ∧
  mOne st rec "additionalItems" n.additionalItems = .ok p.additionalItems ∧
  mOne st rec "contains" n.contains = .ok p.contains ∧
  mOne st rec "unevaluatedItems" n.unevaluatedItems = .ok p.unevaluatedItems ∧
  mKeyed st rec "patternProperties" n.patternProperties = .ok p.patternProperties ∧
  mOne st rec "additionalProperties" n.additionalProperties = .ok p.additionalProperties ∧
  mOne st rec "propertyNames" n.propertyNames = .ok p.propertyNames ∧
  mOne st rec "unevaluatedProperties" n.unevaluatedProperties = .ok p.unevaluatedProperties ∧
  mMany st rec "allOf" n.allOf = .ok p.allOf ∧
  mManyNN st rec "anyOf" n.anyOf = .ok p.anyOf ∧
  mManyNN st rec "oneOf" n.oneOf = .ok p.oneOf ∧
  mOne st rec "not" n.not = .ok p.not_ ∧
  mOne st rec "if" n.if_ = .ok p.if_ ∧
  mOne st rec "then" n.then_ = .ok p.then_ ∧
  mOne st rec "else" n.else_ = .ok p.else_ ∧
  mKeyed st rec "dependentSchemas" n.dependentSchemas = .ok p.dependentSchemas ∧
  mOne st rec "contentSchema" n.contentSchema = .ok p.contentSchema

theorem marshalNode_inv {st : Store} {rec : MRec} {n : Node} {j : Json} (h : marshalNode st rec n = .ok j) :
    ∃ p, IsPieces st rec n p ∧ mFinish (mMembers n p) = .ok j := by
  simp only [marshalNode, marshalParts, Res.bind_eq_ok_iff] at h
  obtain ⟨props, e1, deps, e2, items, e3, defs, e4, definitions, e5, prefixItems, e6, additionalItems, e7, contains, e8,
    unevaluatedItems, e9, patternProperties, e10, additionalProperties, e11, propertyNames, e12, unevaluatedProperties, e13,
    allOf, e14, anyOf, e15, oneOf, e16, not_, e17, if_, e18, then_, e19, else_, e20, dependentSchemas, e21,
    contentSchema, e22, h⟩ := h
  exact ⟨_, ⟨e1, e2, e3, e4, e5, e6, e7, e8, e9, e10, e11, e12, e13, e14, e15, e16, e17, e18, e19, e20, e21, e22⟩, h⟩

theorem mFinish_nil : mFinish [] = .ok (.bool true) := rfl
theorem mFinish_not : mFinish [("not", .bool true)] = .ok (.bool false) := rfl
theorem mFinish_other {M : List (String × Json)} (h1 : M = [] → False)
    (h2 : M = [("not", Json.bool true)] → False) : mFinish M = .ok (.obj M) := by
  unfold mFinish
  split
  · exact (h1 rfl).elim
  · exact (h2 rfl).elim
  · rfl

theorem marshalStep_eq (st : Store) (rec : MRec) (id : NodeId) :
    marshalStep st rec id =
      match st.get? id with
      | none => .ok .null
      | some n =>
        if !marshalChecksOk n then .err else
        if ((n.extra.getD []).any fun e => structNames.contains e.1) then .err else
        marshalNode st rec n := by
  unfold marshalStep
  cases st.get? id with
  | none => rfl
  | some n =>
    dsimp only
    unfold marshalNode marshalParts
    refine ite_congr rfl (fun _ => rfl) (fun _ => ite_congr rfl (fun _ => rfl) fun _ => ?_)
    refine Res.bind_congr fun props => ?_
    refine Res.bind_congr fun deps => ?_
    refine Res.bind_congr fun items => ?_
    refine Res.bind_congr fun defs => ?_
    refine Res.bind_congr fun definitions => ?_
    refine Res.bind_congr fun prefixItems => ?_
    refine Res.bind_congr fun additionalItems => ?_
    refine Res.bind_congr fun contains => ?_
    refine Res.bind_congr fun unevaluatedItems => ?_
    refine Res.bind_congr fun patternProperties => ?_
    refine Res.bind_congr fun additionalProperties => ?_
    refine Res.bind_congr fun propertyNames => ?_
    refine Res.bind_congr fun unevaluatedProperties => ?_
    refine Res.bind_congr fun allOf => ?_
    refine Res.bind_congr fun anyOf => ?_
    refine Res.bind_congr fun oneOf => ?_
    refine Res.bind_congr fun not_ => ?_
    refine Res.bind_congr fun if_ => ?_
    refine Res.bind_congr fun then_ => ?_
    refine Res.bind_congr fun else_ => ?_
    refine Res.bind_congr fun dependentSchemas => ?_
    refine Res.bind_congr fun contentSchema => ?_
    -- the model appends from the left
    simp only [List.append_assoc]
    rfl

theorem marshalStep_ok {st : Store} {rec : MRec} {id : NodeId} {n : Node} {j : Json} (hn : st.get? id = some n) :
    marshalStep st rec id = .ok j ↔
      marshalChecksOk n = true ∧ ((n.extra.getD []).any fun e => structNames.contains e.1) = false ∧
        marshalNode st rec n = .ok j := by
  rw [marshalStep_eq, hn]
  dsimp only
  generalize marshalChecksOk n = a, ((n.extra.getD []).any fun e => structNames.contains e.1) = b
  cases a <;> cases b <;> simp

section
variable {st st' : Store} {rec rec' : MRec} {R : NodeId → NodeId → Prop}

theorem mSchemaList_congr (hm : ∀ x y, R x y → mSchema st rec x = mSchema st' rec' y) :
    ∀ {l l' : List NodeId}, ListRel R l l' → mSchemaList st rec l = mSchemaList st' rec' l'
  | _, _, .nil => rfl
  | _, _, .cons h1 h2 => by
    simp only [mSchemaList, hm _ _ h1, mSchemaList_congr hm h2]

theorem mSchemaEntries_congr (hm : ∀ x y, R x y → mSchema st rec x = mSchema st' rec' y) :
    ∀ {l l' : List (String × NodeId)}, ListRel (KeyRel R) l l' →
      mSchemaEntries st rec l = mSchemaEntries st' rec' l'
  | _, _, .nil => rfl
  | _, _, .cons (a := (k, x)) (b := (k', y)) h1 h2 => by
    have hk : k = k' := h1.1
    subst hk
    simp only [mSchemaEntries, hm _ _ h1.2, mSchemaEntries_congr hm h2]

theorem insertKV_rel {α β : Type} {S : String × α → String × β → Prop} (hk : ∀ a b, S a b → a.1 = b.1)
    {e : String × α} {e' : String × β} (he : S e e') :
    ∀ {l : List (String × α)} {l' : List (String × β)}, ListRel S l l' → ListRel S (insertKV e l) (insertKV e' l')
  | _, _, .nil => .cons he .nil
  | _, _, .cons (a := a) (b := b) h1 h2 => by
    simp only [insertKV]
    rw [← hk _ _ he, ← hk _ _ h1]
    split
    · exact .cons he (.cons h1 h2)
    · exact .cons h1 (insertKV_rel hk he h2)

theorem sortKV_rel {α β : Type} {S : String × α → String × β → Prop} (hk : ∀ a b, S a b → a.1 = b.1) :
    ∀ {l : List (String × α)} {l' : List (String × β)}, ListRel S l l' → ListRel S (sortKV l) (sortKV l')
  | _, _, .nil => .nil
  | _, _, .cons h1 h2 => insertKV_rel hk h1 (sortKV_rel hk h2)

theorem orderedKeys_rel {l l' : List (String × NodeId)} (h : ListRel (KeyRel R) l l') (order : List String) :
    orderedKeys l order = orderedKeys l' order := by
  have hl : (fun k => (Json.lookup k l).isSome) = (fun k => (Json.lookup k l').isSome) := by
    funext k
    exact (RIso.lookup_krel k h).isSome_eq
  unfold orderedKeys
  simp only [hl, h.map_fst]

theorem propEntries_rel {l l' : List (String × NodeId)} (h : ListRel (KeyRel R) l l') (keys : List String) :
    ListRel (KeyRel R) (keys.filterMap fun k => (Json.lookup k l).map fun v => (k, v))
      (keys.filterMap fun k => (Json.lookup k l').map fun v => (k, v)) :=
  Inv.all₂_iff_listRel.1 (Inv.All₂.filterMap (R := Eq) _ _
    (fun k k' e => by subst e; exact OptRel.map (fun _ _ hr => ⟨rfl, hr⟩) (RIso.lookup_krel k h))
    (Inv.All₂.refl_eq keys))

theorem mProperties_congr (hm : ∀ x y, R x y → mSchema st rec x = mSchema st' rec' y)
    {l l' : List (String × NodeId)} (h : ListRel (KeyRel R) l l') (order : List String) :
    mProperties st rec l order = mProperties st' rec' l' order := by
  unfold mProperties
  simp only [orderedKeys_rel h order, mSchemaEntries_congr hm (propEntries_rel h _)]

theorem mOne_congr (hm : ∀ x y, R x y → mSchema st rec x = mSchema st' rec' y) (k : String) :
    ∀ {c c' : Option NodeId}, OptRel R c c' → mOne st rec k c = mOne st' rec' k c'
  | none, none, _ => rfl
  | some _, some _, h => by simp only [mOne, hm _ _ h]
  | none, some _, h => h.elim
  | some _, none, h => h.elim

theorem mMany_congr (hm : ∀ x y, R x y → mSchema st rec x = mSchema st' rec' y) (k : String) :
    ∀ {c c' : Option (List NodeId)}, OptRel (ListRel R) c c' → mMany st rec k c = mMany st' rec' k c'
  | none, none, _ => rfl
  | some _, some _, .nil => rfl
  | some _, some _, .cons h1 h2 => by
    simp only [mMany, mSchemaList_congr hm (.cons h1 h2)]
  | none, some _, h => h.elim
  | some _, none, h => h.elim

theorem mManyNN_congr (hm : ∀ x y, R x y → mSchema st rec x = mSchema st' rec' y) (k : String) :
    ∀ {c c' : Option (List NodeId)}, OptRel (ListRel R) c c' → mManyNN st rec k c = mManyNN st' rec' k c'
  | none, none, _ => rfl
  | some _, some _, h => by
    have h' : ListRel R _ _ := h
    simp only [mManyNN, mSchemaList_congr hm h']
  | none, some _, h => h.elim
  | some _, none, h => h.elim

theorem mKeyed_congr (hm : ∀ x y, R x y → mSchema st rec x = mSchema st' rec' y) (k : String) :
    ∀ {c c' : Option (List (String × NodeId))}, OptRel (ListRel (KeyRel R)) c c' →
      mKeyed st rec k c = mKeyed st' rec' k c'
  | none, none, _ => rfl
  | some _, some _, .nil => rfl
  | some _, some _, .cons h1 h2 => by
    simp only [mKeyed, mSchemaMap, mSchemaEntries_congr hm (sortKV_rel (fun _ _ h => h.1) (.cons h1 h2))]
  | none, some _, h => h.elim
  | some _, none, h => h.elim

theorem mPropsField_congr (hm : ∀ x y, R x y → mSchema st rec x = mSchema st' rec' y) :
    ∀ {c c' : Option (List (String × NodeId))}, OptRel (ListRel (KeyRel R)) c c' → ∀ order : List String,
      mPropsField st rec c order = mPropsField st' rec' c' order
  | none, none, _, _ => rfl
  | some _, some _, h, order => by
    have h' : ListRel (KeyRel R) _ _ := h
    simp only [mPropsField, mProperties_congr hm h' order]
  | none, some _, h, _ => h.elim
  | some _, none, h, _ => h.elim

theorem mDeps_congr (hm : ∀ x y, R x y → mSchema st rec x = mSchema st' rec' y)
    {c c' : Option (List (String × NodeId))} (h : OptRel (ListRel (KeyRel R)) c c')
    (dstrs : Option (List (String × Option (List String)))) :
    mDeps st rec c dstrs = mDeps st' rec' c' dstrs := by
  have h' := getD_rel h
  unfold mDeps
  simp only [h'.length_eq, mSchemaEntries_congr hm h']

theorem mItemsField_congr (hm : ∀ x y, R x y → mSchema st rec x = mSchema st' rec' y) :
    ∀ {c c' : Option NodeId} {a a' : Option (List NodeId)}, OptRel R c c' → OptRel (ListRel R) a a' →
      mItemsField st rec c a = mItemsField st' rec' c' a'
  | some _, some _, _, _, h, _ => by
    simp only [mItemsField]
    exact mOne_congr hm "items" h
  | none, none, some _, some _, _, h => by
    have h' : ListRel R _ _ := h
    simp only [mItemsField, mSchemaList_congr hm h']
  | none, none, none, none, _, _ => rfl
  | none, some _, _, _, h, _ => h.elim
  | some _, none, _, _, h, _ => h.elim
  | none, none, none, some _, _, h => h.elim
  | none, none, some _, none, _, h => h.elim

end

/-- `marshalParts` reads of the node only the fields that hold no schema -/
theorem marshalParts_setChildFields (n : Node) (fs : List ChildField) (pProps : Res (List (String × Json))) (pDeps : Res (Option Json))
    (p_items p_defs p_definitions p_prefixItems p_additionalItems p_contains p_unevaluatedItems p_patternProperties p_additionalProperties p_propertyNames p_unevaluatedProperties p_allOf p_anyOf p_oneOf p_not_ p_if_ p_then_ p_else_ p_dependentSchemas p_contentSchema : Res (List (String × Json))) :
    marshalParts (setChildFields n fs) pProps pDeps p_items p_defs p_definitions p_prefixItems p_additionalItems p_contains p_unevaluatedItems p_patternProperties p_additionalProperties p_propertyNames p_unevaluatedProperties p_allOf p_anyOf p_oneOf p_not_ p_if_ p_then_ p_else_ p_dependentSchemas p_contentSchema =
    marshalParts n pProps pDeps p_items p_defs p_definitions p_prefixItems p_additionalItems p_contains p_unevaluatedItems p_patternProperties p_additionalProperties p_propertyNames p_unevaluatedProperties p_allOf p_anyOf p_oneOf p_not_ p_if_ p_then_ p_else_ p_dependentSchemas p_contentSchema := rfl

theorem marshalNode_congr {st st' : Store} {rec rec' : MRec} {R : NodeId → NodeId → Prop}
    (hm : ∀ x y, R x y → mSchema st rec x = mSchema st' rec' y) {n : Node} {fs' : List ChildField}
    (h : ListRel (FieldRel R) n.childFields fs') :
    marshalNode st rec n = marshalNode st' rec' (setChildFields n fs') := by
  obtain ⟨c0, c1, c2, c3, c4, c5, c6, c7, c8, c9, c10, c11, c12, c13, c14, c15, c16, c17, c18, c19, c20, c21, c22, rfl, r0, r1, r2, r3, r4, r5, r6, r7, r8, r9, r10, r11, r12, r13, r14, r15, r16, r17, r18, r19, r20, r21, r22⟩ := childFields_inv h
  -- `c0 … c22`, `r0 … r22`: the fields in the order of `Node.childFields` (the positions `setChildFields` reads)
  refine Eq.trans ?_ (marshalParts_setChildFields n _ _ _ _ _ _ _ _ _ _ _ _ _ _ _ _ _ _ _ _ _ _ _).symm
  unfold marshalNode
  rw [mPropsField_congr hm r18 (n.propertyOrder.getD []),
    mDeps_congr hm r8 n.dependencyStrings,
    mItemsField_congr hm r12 r13,
    mKeyed_congr hm "$defs" r0,
    mKeyed_congr hm "definitions" r7,
    mMany_congr hm "prefixItems" r17,
    mOne_congr hm "additionalItems" r1,
    mOne_congr hm "contains" r5,
    mOne_congr hm "unevaluatedItems" r21,
    mKeyed_congr hm "patternProperties" r16,
    mOne_congr hm "additionalProperties" r2,
    mOne_congr hm "propertyNames" r19,
    mOne_congr hm "unevaluatedProperties" r22,
    mMany_congr hm "allOf" r3,
    mManyNN_congr hm "anyOf" r4,
    mManyNN_congr hm "oneOf" r15,
    mOne_congr hm "not" r14,
    mOne_congr hm "if" r11,
    mOne_congr hm "then" r20,
    mOne_congr hm "else" r10,
    mKeyed_congr hm "dependentSchemas" r9,
    mOne_congr hm "contentSchema" r6]
  rfl

/-- basicChecks: a key is both in DependencySchemas and in DependencyStrings -/
def depClash (ds : List (String × NodeId)) (dstr : List (String × Option (List String))) : Bool :=
  ds.any fun (k, _) => (dstr.any fun (k', _) => k' == k)

theorem basicChecksOk_eq (n : Node) :
    basicChecksOk n =
      (!(n.type != "" && n.types.isSome) && !(n.defs.isSome && n.definitions.isSome) &&
       !(n.items.isSome && n.itemsArray.isSome) && !hasDup (n.propertyOrder.getD []) &&
       !depClash (n.dependencySchemas.getD []) (n.dependencyStrings.getD [])) := rfl

theorem depClash_rel {R : NodeId → NodeId → Prop} (dstr : List (String × Option (List String))) :
    ∀ {l l' : List (String × NodeId)}, ListRel (KeyRel R) l l' → depClash l dstr = depClash l' dstr
  | _, _, .nil => rfl
  | _, _, .cons (a := (k, x)) (b := (k', y)) h1 h2 => by
    have hk : k = k' := h1.1
    subst hk
    have ih := depClash_rel dstr h2
    unfold depClash at ih ⊢
    simp only [List.any_cons, ih]

theorem marshalChecksOk_congr {R : NodeId → NodeId → Prop} {n : Node} {fs' : List ChildField}
    (h : ListRel (FieldRel R) n.childFields fs') :
    marshalChecksOk (setChildFields n fs') = marshalChecksOk n := by
  obtain ⟨c0, c1, c2, c3, c4, c5, c6, c7, c8, c9, c10, c11, c12, c13, c14, c15, c16, c17, c18, c19, c20, c21, c22, rfl, r0, r1, r2, r3, r4, r5, r6, r7, r8, r9, r10, r11, r12, r13, r14, r15, r16, r17, r18, r19, r20, r21, r22⟩ := childFields_inv h
  unfold marshalChecksOk
  rw [basicChecksOk_eq n, basicChecksOk_eq]
  show (!(n.type != "" && n.types.isSome) && !(c0.isSome && c7.isSome) &&
       !(c12.isSome && c13.isSome) && !hasDup (n.propertyOrder.getD []) &&
       !depClash (c8.getD []) (n.dependencyStrings.getD [])) = _
  rw [← r0.isSome_eq, ← r7.isSome_eq, ← r12.isSome_eq, ← r13.isSome_eq,
    ← depClash_rel (n.dependencyStrings.getD []) (getD_rel r8)]

theorem Sim.cases {B : Nat} {st st' : Store} : ∀ {d : Nat} {a b : NodeId}, Sim B st st' d a b →
    (B ≤ a ∧ b = a) ∨ ∃ d' n n', st.get? a = some n ∧ st'.get? b = some n' ∧ NodeRel (Sim B st st' d') n n'
  | 0, _, _, h => Or.inl h
  | d + 1, _, _, h => by
    rcases h with h | ⟨n, n', ha, hb, hr⟩
    · exact Or.inl h
    · exact Or.inr ⟨d, n, n', ha, hb, hr⟩

theorem Sim.marshal_eq {B : Nat} {st st' : Store} (hs : st.size ≤ B) (hs' : st'.size ≤ B) :
    ∀ (f d : Nat) (a b : NodeId), Sim B st st' d a b → marshalFuel st f a = marshalFuel st' f b := by
  intro f
  induction f with
  | zero => intro d a b _; rfl
  | succ f ih =>
    intro d a b h
    show marshalStep st (marshalFuel st f) a = marshalStep st' (marshalFuel st' f) b
    rw [marshalStep_eq, marshalStep_eq]
    rcases h.cases with ⟨hB, rfl⟩ | ⟨d', n, n', ha, hb, fs', hrel, rfl⟩
    · rw [get?_eq_none_iff.2 (Nat.le_trans hs hB), get?_eq_none_iff.2 (Nat.le_trans hs' hB)]
    · rw [ha, hb]
      dsimp only
      have hm : ∀ x y, Sim B st st' d' x y →
          mSchema st (marshalFuel st f) x = mSchema st' (marshalFuel st' f) y := by
        intro x y hxy
        unfold mSchema
        rcases hxy.cases with ⟨hB, rfl⟩ | ⟨d'', m, m', hx, hy, _⟩
        · rw [get?_eq_none_iff.2 (Nat.le_trans hs hB), get?_eq_none_iff.2 (Nat.le_trans hs' hB)]
        · rw [hx, hy]
          exact ih _ _ _ hxy
      rw [marshalChecksOk_congr hrel, ← marshalNode_congr hm hrel]
      rfl

def goodB (B : Nat) (st : Store) : Nat → NodeId → Bool
  | 0, a => decide (B ≤ a)
  | d + 1, a => decide (B ≤ a) ||
      match st.get? a with
      | some n => n.children.all (goodB B st d)
      | none => false

theorem goodB_sound (B : Nat) (st : Store) : ∀ (d : Nat) (a : NodeId), goodB B st d a = true → Good B st d a
  | 0, a, h => by
    simp only [goodB, decide_eq_true_eq] at h
    exact h
  | d + 1, a, h => by
    simp only [goodB, Bool.or_eq_true, decide_eq_true_eq] at h
    rcases h with h | h
    · exact Or.inl h
    · cases hn : st.get? a with
      | none => rw [hn] at h; cases h
      | some n =>
        rw [hn] at h
        refine Or.inr ⟨n, hn, fun x hx => goodB_sound B st d x ?_⟩
        exact List.all_eq_true.1 h x hx

theorem FieldRel.refl_of {R : NodeId → NodeId → Prop} (f : ChildField) (h : ∀ x, x ∈ f.ids → R x x) :
    FieldRel R f f := by
  cases f with
  | one k c =>
    cases c with
    | none => exact .one trivial
    | some x => exact .one (h x (by simp [ChildField.ids]))
  | many k cs =>
    cases cs with
    | none => exact .many trivial
    | some l => exact .many (ListRel.refl_of l h)
  | keyed k cs =>
    cases cs with
    | none => exact .keyed trivial
    | some l =>
      refine .keyed (ListRel.refl_of l fun a ha => ⟨rfl, h a.2 ?_⟩)
      exact List.mem_map.2 ⟨a, ha, rfl⟩

theorem marshalStep_congr_rec {st : Store} {rec rec' : MRec} {a : NodeId}
    (h : ∀ n, st.get? a = some n → ∀ x, x ∈ n.children → mSchema st rec x = mSchema st rec' x) :
    marshalStep st rec a = marshalStep st rec' a := by
  rw [marshalStep_eq, marshalStep_eq]
  cases hn : st.get? a with
  | none => rfl
  | some n =>
    have hrel : ListRel (FieldRel fun x y => y = x ∧ x ∈ n.children) n.childFields n.childFields :=
      ListRel.refl_of _ fun f hf => FieldRel.refl_of f fun x hx => ⟨rfl, mem_children_iff.2 ⟨f, hf, hx⟩⟩
    have hm : ∀ x y, (y = x ∧ x ∈ n.children) → mSchema st rec x = mSchema st rec' y := by
      rintro x y ⟨rfl, hx⟩
      exact h n hn y hx
    dsimp only
    rw [marshalNode_congr hm hrel]
    rfl

theorem Sim.of_good {B : Nat} {st st' : Store} (he : Ext st st') :
    ∀ (d : Nat) (a : NodeId), Good B st d a → Sim B st st' d a a
  | 0, _, ha => ⟨ha, rfl⟩
  | d + 1, a, ha => by
    rcases ha with ha | ⟨n, hn, hch⟩
    · exact Or.inl ⟨ha, rfl⟩
    · refine Or.inr ⟨n, n, hn, he.get? hn, n.childFields, ?_, rfl⟩
      exact ListRel.refl_of _ fun f hf => FieldRel.refl_of f fun x hx =>
        Sim.of_good he d x (hch x (mem_children_iff.2 ⟨f, hf, hx⟩))

end Go
end JSV
