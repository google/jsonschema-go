/-
  C05, the round trip of one node, member by member: each `sf_*` lemma reads one member of the emitted object back
  with `setFields`, given for each child what the induction hypothesis says (`ChildRT`); values in the form
  encoding/json writes are fixed by `sortJson`.  JSV/Proofs/MshTree.lean puts the members together.

  Every `sf_*` says: `setFields` on (what was written for one field) `++ rest`, from the accumulator `m`, goes on with
  `rest` from `upd m (what comes back)`.  `hset` is the equation of `setField` at the member's key; `upd m none = m`
  says that the field is still unset in `m`, which covers the member that was omitted.
-/
import JSV.Proofs.MshScalar
import JSV.Proofs.MshRound
import JSV.Proofs.MshCloneOk
import JSV.Proofs.TotUnmarshal
namespace JSV
namespace Go

mutual
  theorem sortJson_of_sorted : ∀ (j : Json), jsonSorted j = true → sortJson j = j
    | .arr xs, h => by
      simp only [jsonSorted] at h
      simp only [sortJson, sortJsonList_of_sorted xs h]
    | .obj kvs, h => by
      simp only [jsonSorted, Bool.and_eq_true] at h
      simp only [sortJson, sortJsonObj_of_sorted kvs h.2, sortKV_of_sortedB kvs h.1]
    | .null, _ => rfl
    | .bool _, _ => rfl
    | .num _, _ => rfl
    | .str _, _ => rfl
  theorem sortJsonList_of_sorted : ∀ (xs : List Json), jsonSortedList xs = true → sortJsonList xs = xs
    | [], _ => rfl
    | x :: xs, h => by
      simp only [jsonSortedList, Bool.and_eq_true] at h
      simp only [sortJsonList, sortJson_of_sorted x h.1, sortJsonList_of_sorted xs h.2]
  theorem sortJsonObj_of_sorted : ∀ (kvs : List (String × Json)), jsonSortedObj kvs = true → sortJsonObj kvs = kvs
    | [], _ => rfl
    | (k, v) :: rest, h => by
      simp only [jsonSortedObj, Bool.and_eq_true] at h
      simp only [sortJsonObj, sortJson_of_sorted v h.1, sortJsonObj_of_sorted rest h.2]
end

theorem int32B_sound {o : Option Int} (h : int32B o = true) : InInt32 o := by
  intro i hi
  subst hi
  simp only [int32B, Bool.and_eq_true, decide_eq_true_eq] at h
  exact h

theorem normVocab_none : normVocab none = none := rfl
theorem normVocab_nil : normVocab (some []) = some [] := rfl
/-- representation conditions for "marshals again to the same JSON":
    * "properties" is written in ascending key order (PropertyOrder, which is `json:"-"` and does not come back,
      does not change the order in which the members are emitted);
    * DependencySchemas is enumerated in ascending key order (the list order of a map field is its iteration order,
      which does not influence what is written, only which failing child is reported first) -/
def nodeOrd (n : Node) : Bool :=
  strsSortedB (orderedKeys (n.properties.getD []) (n.propertyOrder.getD [])) &&
  sortedB (n.dependencySchemas.getD [])

theorem treeAll_get {P : Node → Bool} {st : Store} : ∀ {d : Nat} {a : NodeId}, treeAll P st d a = true →
    ∃ n, st.get? a = some n
  | 0, _, h => by cases h
  | _ + 1, _, h => by
    obtain ⟨n, hn, -, -⟩ := treeAll_succ h
    exact ⟨n, hn⟩

theorem treeAll_imp {P P' : Node → Bool} (hP : ∀ n, P n = true → P' n = true) {st : Store} :
    ∀ {d : Nat} {a : NodeId}, treeAll P st d a = true → treeAll P' st d a = true
  | 0, _, h => by cases h
  | d + 1, a, h => by
    obtain ⟨n, hn, hp, hc⟩ := treeAll_succ h
    simp only [treeAll, hn, Bool.and_eq_true, List.all_eq_true]
    exact ⟨hP n hp, fun x hx => treeAll_imp hP (hc x hx)⟩

theorem treeAll_mono {P : Node → Bool} {st : Store} :
    ∀ {d : Nat} {a : NodeId}, treeAll P st d a = true → treeAll P st (d + 1) a = true
  | 0, _, h => by cases h
  | d + 1, a, h => by
    obtain ⟨n, hn, hp, hc⟩ := treeAll_succ h
    simp only [treeAll, hn, Bool.and_eq_true, List.all_eq_true]
    exact ⟨hp, fun x hx => treeAll_mono (hc x hx)⟩

theorem TreeEq.mono_right {st st' st'' : Store} (he : Ext st' st'') :
    ∀ (d : Nat) (a b : NodeId), TreeEq st st' d a b → TreeEq st st'' d a b
  | 0, _, _, h => h
  | d + 1, _, _, ⟨n, n', ha, hb, hr⟩ => ⟨n, n', ha, he.get? hb, NodeRel.imp (TreeEq.mono_right he d) hr⟩

def Full (st : Store) : Nat → NodeId → Prop
  | 0, _ => False
  | d + 1, a => ∃ n, st.get? a = some n ∧ ∀ x, x ∈ n.children → Full st d x

theorem Full.mono {st : Store} : ∀ {d : Nat} {a : NodeId}, Full st d a → Full st (d + 1) a
  | 0, _, h => h.elim
  | _ + 1, _, ⟨n, hn, hc⟩ => ⟨n, hn, fun x hx => Full.mono (hc x hx)⟩

theorem Full.mono_le {st : Store} {d k : Nat} {a : NodeId} (h : Full st d a) (hk : d ≤ k) : Full st k a := by
  induction hk with
  | refl => exact h
  | step _ ih => exact Full.mono ih

theorem Full.ext {st st' : Store} (he : Ext st st') : ∀ {d : Nat} {a : NodeId}, Full st d a → Full st' d a
  | 0, _, h => h.elim
  | _ + 1, _, ⟨n, hn, hc⟩ => ⟨n, he.get? hn, fun x hx => Full.ext he (hc x hx)⟩

theorem Full.lt_size {st : Store} : ∀ {d : Nat} {a : NodeId}, Full st d a → a < st.size
  | 0, _, h => h.elim
  | _ + 1, _, ⟨_, hn, _⟩ => lt_size_of_get? hn

theorem children_of_rel {R : NodeId → NodeId → Prop} {n0 : Node} {fs' : List ChildField}
    (h : ListRel (FieldRel R) n0.childFields fs') {x : NodeId} (hx : x ∈ (setChildFields n0 fs').children) :
    ∃ a, R a x := by
  obtain ⟨f', hf', hxf⟩ := mem_children_iff.1 hx
  rw [childFields_set h] at hf'
  obtain ⟨f, _, hrel⟩ := ListRel.mem_right h hf'
  obtain ⟨a, _, hr⟩ := ListRel.mem_right (FieldRel.ids_rel hrel) hxf
  exact ⟨a, hr⟩

theorem TreeEq.full {st st' : Store} : ∀ {d : Nat} {a b : NodeId}, TreeEq st st' d a b → Full st' d b
  | 0, _, _, h => h.elim
  | d + 1, _, _, ⟨_, n', _, hb, fs', hrel, hn'⟩ => by
    refine ⟨n', hb, fun x hx => ?_⟩
    rw [hn'] at hx
    obtain ⟨a, hr⟩ := children_of_rel hrel hx
    exact TreeEq.full hr

/-- MarshalJSON writes a (non-nil) schema as a boolean or an object -/
def IsSchemaJson : Json → Prop
  | .bool _ => True
  | .obj _ => True
  | _ => False

theorem mFinish_isSchemaJson {M : List (String × Json)} {j : Json} (h : mFinish M = .ok j) : IsSchemaJson j := by
  unfold mFinish at h
  split at h <;> cases h <;> trivial

theorem decSchemaPtr_of {rec : URec} {j : Json} (hj : IsSchemaJson j) (st : Store) :
    decSchemaPtr rec j st = Res.bind (rec j st) fun r => .ok (some r.1, r.2) := by
  cases j <;> first | exact hj.elim | rfl

theorem setField_items_of {rec : URec} {j : Json} (hj : IsSchemaJson j) (m : Node) (st : Store) :
    setField rec m st "items" j =
      Res.bind (rec j st) fun r => .ok ({ m with items := some r.1, itemsArray := none }, r.2) := by
  rw [setField_items]
  cases j <;> first | exact hj.elim | rfl

/-- what the induction hypothesis of the round trip says of a child `x`; the read-back part only when the fuel `G` of
    `urec` covers what was written -/
def ChildRT (st : Store) (mrec : MRec) (urec : URec) (G : Nat) (Q : Store → NodeId → NodeId → Prop) (x : NodeId) : Prop :=
  (∃ n, st.get? x = some n) ∧ ∀ j, mrec x = .ok j → IsSchemaJson j ∧
    (Json.size j ≤ G → ∀ st2, ∃ x' st2', urec j st2 = .ok (x', st2') ∧ Ext st2 st2' ∧ Q st2' x x')

section
variable {st : Store} {mrec : MRec} {urec : URec} {G : Nat} {Q : Store → NodeId → NodeId → Prop}

theorem ChildRT.mSchema {x : NodeId} (h : ChildRT st mrec urec G Q x) : mSchema st mrec x = mrec x := by
  obtain ⟨⟨n, hn⟩, -⟩ := h
  unfold Go.mSchema
  rw [hn]

/- `C` is the set the children are taken from (the children of the node being read): the lemmas below also say that
   the store is untouched when `C` is empty. -/
variable {C : NodeId → Prop} (hC : ∀ x, C x → ChildRT st mrec urec G Q x)
include hC

theorem rt_elems (hQ : ∀ s s' x y, Ext s s' → Q s x y → Q s' x y) :
    ∀ (l : List NodeId) (js : List Json), (∀ x, x ∈ l → C x) →
    mSchemaList st mrec l = .ok js → (∀ j, j ∈ js → Json.size j ≤ G) → ∀ st2,
    ∃ l' st2', decSchemaElems urec js st2 = .ok (l', st2') ∧ Ext st2 st2' ∧ ListRel (Q st2') l l' ∧
      ((∀ x, ¬ C x) → st2' = st2)
  | [], js, _, h, _, st2 => by
    cases h
    exact ⟨[], st2, rfl, Ext.refl _, .nil, fun _ => rfl⟩
  | x :: l, js, hc, h, hs, st2 => by
    simp only [mSchemaList] at h
    obtain ⟨j, h1, h2⟩ := Res.bind_eq_ok h
    obtain ⟨js', h3, h4⟩ := Res.bind_eq_ok h2
    cases h4
    have hx := hC x (hc x List.mem_cons_self)
    rw [hx.mSchema] at h1
    obtain ⟨hsj, hrt⟩ := hx.2 j h1
    obtain ⟨x', s1, hu, he1, hq⟩ := hrt (hs j List.mem_cons_self) st2
    obtain ⟨l', s2, hu2, he2, hr, -⟩ := rt_elems hQ l js' (fun y hy => hc y (List.mem_cons_of_mem _ hy)) h3
      (fun j' hj' => hs j' (List.mem_cons_of_mem _ hj')) s1
    refine ⟨x' :: l', s2, ?_, he1.trans he2, .cons (hQ _ _ _ _ he2 hq) hr,
      fun hn => absurd (hc x List.mem_cons_self) (hn x)⟩
    rw [decSchemaElems_cons urec (fun h0 => by rw [h0] at hsj; exact hsj), hu]
    simp only [Res.bind_ok, hu2]

theorem rt_entries (hQ : ∀ s s' x y, Ext s s' → Q s x y → Q s' x y) :
    ∀ (l : List (String × NodeId)) (es : List (String × Json)), (∀ e, e ∈ l → C e.2) →
    mSchemaEntries st mrec l = .ok es → (∀ e, e ∈ es → Json.size e.2 ≤ G) → ∀ st2,
    ∃ l' st2', decSchemaEntries urec es st2 = .ok (l', st2') ∧ Ext st2 st2' ∧ ListRel (KeyRel (Q st2')) l l' ∧
      ((∀ x, ¬ C x) → st2' = st2)
  | [], es, _, h, _, st2 => by
    cases h
    exact ⟨[], st2, rfl, Ext.refl _, .nil, fun _ => rfl⟩
  | (k, x) :: l, es, hc, h, hs, st2 => by
    simp only [mSchemaEntries] at h
    obtain ⟨j, h1, h2⟩ := Res.bind_eq_ok h
    obtain ⟨es', h3, h4⟩ := Res.bind_eq_ok h2
    cases h4
    have hx := hC x (hc (k, x) List.mem_cons_self)
    rw [hx.mSchema] at h1
    obtain ⟨hsj, hrt⟩ := hx.2 j h1
    obtain ⟨x', s1, hu, he1, hq⟩ := hrt (hs (k, j) List.mem_cons_self) st2
    obtain ⟨l', s2, hu2, he2, hr, -⟩ := rt_entries hQ l es' (fun y hy => hc y (List.mem_cons_of_mem _ hy)) h3
      (fun e' he' => hs e' (List.mem_cons_of_mem _ he')) s1
    refine ⟨(k, x') :: l', s2, ?_, he1.trans he2, .cons ⟨rfl, hQ _ _ _ _ he2 hq⟩ hr,
      fun hn => absurd (hc (k, x) List.mem_cons_self) (hn x)⟩
    rw [decSchemaEntries_cons urec (fun h0 => by rw [h0] at hsj; exact hsj), hu]
    simp only [Res.bind_ok, hu2]

/-- an optional `*Schema` member -/
theorem sf_one {K : String} {upd : Node → Option NodeId → Node}
    (hset : ∀ m s v, setField urec m s K v = Res.bind (decSchemaPtr urec v s) fun r => .ok (upd m r.1, r.2))
    (hK : K ∈ knownKeys) {c : Option NodeId} {piece : List (String × Json)}
    (hc : ∀ x, x ∈ c.toList → C x)
    (hp : mOne st mrec K c = .ok piece) (hG : ∀ e, e ∈ piece → Json.size e.2 ≤ G) (st2 : Store) :
    ∃ c' st2', Ext st2 st2' ∧ OptRel (Q st2') c c' ∧ ((∀ x, ¬ C x) → st2' = st2) ∧
      ∀ (m : Node) (rest : List (String × Json)), upd m none = m →
        setFields urec (piece ++ rest) m st2 = setFields urec rest (upd m c') st2' := by
  cases c with
  | none =>
    cases hp
    exact ⟨none, st2, Ext.refl _, trivial, fun _ => rfl, fun m rest hm => by rw [hm]; rfl⟩
  | some x =>
    simp only [mOne] at hp
    obtain ⟨j, h1, h2⟩ := Res.bind_eq_ok hp
    cases h2
    have hx := hC x (hc x (by simp))
    rw [hx.mSchema] at h1
    obtain ⟨hsj, hrt⟩ := hx.2 j h1
    obtain ⟨x', s1, hu, he1, hq⟩ := hrt (hG (K, j) List.mem_cons_self) st2
    refine ⟨some x', s1, he1, hq, fun hn => absurd (hc x (by simp)) (hn x), fun m rest _ => ?_⟩
    simp only [List.cons_append, List.nil_append, setFields, setMember_eq_setField urec _ _ _ (canonKey_knownKeys _ hK), hset,
      decSchemaPtr_of hsj, hu, Res.bind_ok]

/-- a `[]*Schema` member that is only omitted when nil (anyOf, oneOf: they go through the wrapper struct) -/
theorem sf_manyNN (hQ : ∀ s s' x y, Ext s s' → Q s x y → Q s' x y) {K : String}
    {upd : Node → Option (List NodeId) → Node}
    (hset : ∀ m s v, setField urec m s K v = Res.bind (decSchemaList urec v s) fun r => .ok (upd m r.1, r.2))
    (hK : K ∈ knownKeys) {c : Option (List NodeId)} {piece : List (String × Json)}
    (hc : ∀ x, x ∈ c.getD [] → C x)
    (hp : mManyNN st mrec K c = .ok piece) (hG : ∀ e, e ∈ piece → Json.size e.2 ≤ G) (st2 : Store) :
    ∃ c' st2', Ext st2 st2' ∧ OptRel (ListRel (Q st2')) c c' ∧ ((∀ x, ¬ C x) → st2' = st2) ∧
      ∀ (m : Node) (rest : List (String × Json)), upd m none = m →
        setFields urec (piece ++ rest) m st2 = setFields urec rest (upd m c') st2' := by
  cases c with
  | none =>
    cases hp
    exact ⟨none, st2, Ext.refl _, trivial, fun _ => rfl, fun m rest hm => by rw [hm]; rfl⟩
  | some l =>
    simp only [mManyNN] at hp
    obtain ⟨js, h1, h2⟩ := Res.bind_eq_ok hp
    cases h2
    obtain ⟨l', s1, hu, he, hr, hz⟩ := rt_elems hC hQ l js hc h1
      (fun j hj => C10.size_le_of_mem_arr hj (hG (K, .arr js) List.mem_cons_self)) st2
    refine ⟨some l', s1, he, hr, hz, fun m rest _ => ?_⟩
    simp only [List.cons_append, List.nil_append, setFields, setMember_eq_setField urec _ _ _ (canonKey_knownKeys _ hK),
      hset, decSchemaList, hu, Res.bind_ok]

omit hC in
theorem mMany_eq (k : String) : ∀ (c : Option (List NodeId)), mMany st mrec k c = mManyNN st mrec k (normList c)
  | none => rfl
  | some [] => rfl
  | some (_ :: _) => rfl

/-- a `[]*Schema` member with `omitempty` (prefixItems, allOf): the empty slice is written like nil -/
theorem sf_many (hQ : ∀ s s' x y, Ext s s' → Q s x y → Q s' x y) {K : String}
    {upd : Node → Option (List NodeId) → Node}
    (hset : ∀ m s v, setField urec m s K v = Res.bind (decSchemaList urec v s) fun r => .ok (upd m r.1, r.2))
    (hK : K ∈ knownKeys) {c : Option (List NodeId)} {piece : List (String × Json)}
    (hc : ∀ x, x ∈ c.getD [] → C x)
    (hp : mMany st mrec K c = .ok piece) (hG : ∀ e, e ∈ piece → Json.size e.2 ≤ G) (st2 : Store) :
    ∃ c' st2', Ext st2 st2' ∧ OptRel (ListRel (Q st2')) (normList c) c' ∧ ((∀ x, ¬ C x) → st2' = st2) ∧
      ∀ (m : Node) (rest : List (String × Json)), upd m none = m →
        setFields urec (piece ++ rest) m st2 = setFields urec rest (upd m c') st2' := by
  rw [mMany_eq] at hp
  exact sf_manyNN hC hQ hset hK (fun x hx => hc x (idsSub_normList K c x hx)) hp hG st2

/-- the entries of a `map[string]*Schema` written as an object whenever the map is not nil -/
def mEntries (st : Store) (rec : MRec) (k : String) (c : Option (List (String × NodeId))) : Res (List (String × Json)) :=
  match c with
  | none => .ok []
  | some l => Res.bind (mSchemaEntries st rec l) fun es => .ok [(k, .obj es)]

theorem sf_entries (hQ : ∀ s s' x y, Ext s s' → Q s x y → Q s' x y) {K : String}
    {upd : Node → Option (List (String × NodeId)) → Node}
    (hset : ∀ m s v, setField urec m s K v = Res.bind (decSchemaMap urec v s) fun r => .ok (upd m r.1, r.2))
    (hK : K ∈ knownKeys) {c : Option (List (String × NodeId))} {piece : List (String × Json)}
    (hc : ∀ e, e ∈ c.getD [] → C e.2)
    (hp : mEntries st mrec K c = .ok piece) (hG : ∀ e, e ∈ piece → Json.size e.2 ≤ G) (st2 : Store) :
    ∃ c' st2', Ext st2 st2' ∧ OptRel (ListRel (KeyRel (Q st2'))) c c' ∧ ((∀ x, ¬ C x) → st2' = st2) ∧
      ∀ (m : Node) (rest : List (String × Json)), upd m none = m →
        setFields urec (piece ++ rest) m st2 = setFields urec rest (upd m c') st2' := by
  cases c with
  | none =>
    cases hp
    exact ⟨none, st2, Ext.refl _, trivial, fun _ => rfl, fun m rest hm => by rw [hm]; rfl⟩
  | some l =>
    simp only [mEntries] at hp
    obtain ⟨es, h1, h2⟩ := Res.bind_eq_ok hp
    cases h2
    obtain ⟨l', s1, hu, he, hr, hz⟩ := rt_entries hC hQ l es hc h1
      (fun e he => C10.size_le_of_mem_obj he (hG (K, .obj es) List.mem_cons_self)) st2
    refine ⟨some l', s1, he, hr, hz, fun m rest _ => ?_⟩
    simp only [List.cons_append, List.nil_append, setFields, setMember_eq_setField urec _ _ _ (canonKey_knownKeys _ hK),
      hset, decSchemaMap, hu, Res.bind_ok]

omit hC in
theorem mKeyed_eq (k : String) : ∀ (c : Option (List (String × NodeId))),
    mKeyed st mrec k c = mEntries st mrec k (normMap c)
  | none => rfl
  | some [] => rfl
  | some (e :: es) => by
    simp only [mKeyed, mSchemaMap, normMap, mEntries, Res.bind_assoc, Res.bind_ok]

/-- a `map[string]*Schema` member with `omitempty`, keys ascending -/
theorem sf_keyed (hQ : ∀ s s' x y, Ext s s' → Q s x y → Q s' x y) {K : String}
    {upd : Node → Option (List (String × NodeId)) → Node}
    (hset : ∀ m s v, setField urec m s K v = Res.bind (decSchemaMap urec v s) fun r => .ok (upd m r.1, r.2))
    (hK : K ∈ knownKeys) {c : Option (List (String × NodeId))} {piece : List (String × Json)}
    (hc : ∀ e, e ∈ c.getD [] → C e.2)
    (hp : mKeyed st mrec K c = .ok piece) (hG : ∀ e, e ∈ piece → Json.size e.2 ≤ G) (st2 : Store) :
    ∃ c' st2', Ext st2 st2' ∧ OptRel (ListRel (KeyRel (Q st2'))) (normMap c) c' ∧ ((∀ x, ¬ C x) → st2' = st2) ∧
      ∀ (m : Node) (rest : List (String × Json)), upd m none = m →
        setFields urec (piece ++ rest) m st2 = setFields urec rest (upd m c') st2' := by
  rw [mKeyed_eq] at hp
  exact sf_entries hC hQ hset hK (fun e he => hc e ((getD_normMap_perm _).mem_iff.1 he)) hp hG st2

omit hC in
theorem mPropsField_eq (order : List String) : ∀ (c : Option (List (String × NodeId))),
    mPropsField st mrec c order = mEntries st mrec "properties" (normProps c order)
  | none => rfl
  | some ps => by
    simp only [mPropsField, mProperties, normProps, Option.map_some, mEntries, propEntries, Res.bind_assoc, Res.bind_ok]

/-- "properties", written through orderedProperties -/
theorem sf_props (hQ : ∀ s s' x y, Ext s s' → Q s x y → Q s' x y)
    {c : Option (List (String × NodeId))} {order : List String} {piece : List (String × Json)}
    (hc : ∀ e, e ∈ c.getD [] → C e.2)
    (hp : mPropsField st mrec c order = .ok piece) (hG : ∀ e, e ∈ piece → Json.size e.2 ≤ G) (st2 : Store) :
    ∃ c' st2', Ext st2 st2' ∧ OptRel (ListRel (KeyRel (Q st2'))) (normProps c order) c' ∧
      ((∀ x, ¬ C x) → st2' = st2) ∧
      ∀ (m : Node) (rest : List (String × Json)), ({ m with properties := none } : Node) = m →
        setFields urec (piece ++ rest) m st2 = setFields urec rest { m with properties := c' } st2' := by
  rw [mPropsField_eq] at hp
  refine sf_entries hC (K := "properties") (upd := fun m c => { m with properties := c }) hQ (fun _ _ _ => rfl)
    (by repeat constructor) (fun e he => hc e ?_) hp hG st2
  cases c with
  | none => exact he
  | some ps => exact mem_propEntries he

/-- the "items" union: one schema or an array of schemas -/
theorem sf_items (hQ : ∀ s s' x y, Ext s s' → Q s x y → Q s' x y)
    {it : Option NodeId} {ia : Option (List NodeId)} {piece : List (String × Json)}
    (hI : (it.isSome && ia.isSome) = false)
    (hc1 : ∀ x, x ∈ it.toList → C x) (hc2 : ∀ x, x ∈ ia.getD [] → C x)
    (hp : mItemsField st mrec it ia = .ok piece) (hG : ∀ e, e ∈ piece → Json.size e.2 ≤ G) (st2 : Store) :
    ∃ it' ia' st2', Ext st2 st2' ∧ OptRel (Q st2') it it' ∧ OptRel (ListRel (Q st2')) ia ia' ∧
      ((∀ x, ¬ C x) → st2' = st2) ∧
      ∀ (m : Node) (rest : List (String × Json)), ({ m with items := none, itemsArray := none } : Node) = m →
        setFields urec (piece ++ rest) m st2 = setFields urec rest { m with items := it', itemsArray := ia' } st2' := by
  cases it with
  | some x =>
    have hia : ia = none := by
      cases ia with
      | none => rfl
      | some _ => simp at hI
    subst hia
    simp only [mItemsField, mOne] at hp
    obtain ⟨j, h1, h2⟩ := Res.bind_eq_ok hp
    cases h2
    have hx := hC x (hc1 x (by simp))
    rw [hx.mSchema] at h1
    obtain ⟨hsj, hrt⟩ := hx.2 j h1
    obtain ⟨x', s1, hu, he1, hq⟩ := hrt (hG ("items", j) List.mem_cons_self) st2
    refine ⟨some x', none, s1, he1, hq, trivial, fun hn => absurd (hc1 x (by simp)) (hn x), fun m rest _ => ?_⟩
    simp only [List.cons_append, List.nil_append, setFields, setMember_eq_setField urec _ _ _ (canonKey_knownKeys "items" (by repeat constructor)),
      setField_items_of hsj, hu, Res.bind_ok]
  | none =>
    cases ia with
    | none =>
      cases hp
      exact ⟨none, none, st2, Ext.refl _, trivial, trivial, fun _ => rfl, fun m rest hm => by rw [hm]; rfl⟩
    | some l =>
      simp only [mItemsField] at hp
      obtain ⟨js, h1, h2⟩ := Res.bind_eq_ok hp
      cases h2
      obtain ⟨l', s1, hu, he, hr, hz⟩ := rt_elems hC hQ l js hc2 h1
        (fun j hj => C10.size_le_of_mem_arr hj (hG ("items", .arr js) List.mem_cons_self)) st2
      refine ⟨none, some l', s1, he, trivial, hr, hz, fun m rest _ => ?_⟩
      have e : setField urec m st2 "items" (.arr js) =
          Res.bind (decSchemaElems urec js st2) fun r => .ok ({ m with itemsArray := some r.1, items := none }, r.2) :=
        setField_items urec m st2 _
      simp only [List.cons_append, List.nil_append, setFields, setMember_eq_setField urec _ _ _ (canonKey_knownKeys "items" (by repeat constructor)),
        e, hu, Res.bind_ok]

end

/-- an entry of the merged "dependencies" map before it is written: a schema or a string list -/
abbrev DepSrc := String × (NodeId ⊕ List String)

def selSchema (e : DepSrc) : Option (String × NodeId) :=
  match e.2 with
  | .inl x => some (e.1, x)
  | .inr _ => none

def selStrs (e : DepSrc) : Option (String × Option (List String)) :=
  match e.2 with
  | .inl _ => none
  | .inr l => some (e.1, some l)

theorem selSchema_key (a : DepSrc) (b : String × NodeId) (h : selSchema a = some b) : b.1 = a.1 := by
  obtain ⟨k, v⟩ := a
  cases v with
  | inl x => cases h; rfl
  | inr l => cases h

theorem selStrs_key (a : DepSrc) (b : String × Option (List String)) (h : selStrs a = some b) : b.1 = a.1 := by
  obtain ⟨k, v⟩ := a
  cases v with
  | inl x => cases h
  | inr l => cases h; rfl

def tagSchema (e : String × NodeId) : DepSrc := (e.1, .inl e.2)
def tagStrs (e : String × Option (List String)) : DepSrc := (e.1, .inr (e.2.getD []))

theorem filterMap_selSchema_tagSchema : ∀ (l : List (String × NodeId)), (l.map tagSchema).filterMap selSchema = l
  | [] => rfl
  | (k, x) :: l => by
    simp only [List.map_cons, List.filterMap_cons, tagSchema, selSchema, filterMap_selSchema_tagSchema l]

theorem filterMap_selSchema_tagStrs : ∀ (l : List (String × Option (List String))),
    (l.map tagStrs).filterMap selSchema = []
  | [] => rfl
  | (k, x) :: l => by
    simp only [List.map_cons, List.filterMap_cons, tagStrs, selSchema, filterMap_selSchema_tagStrs l]

theorem filterMap_selStrs_tagSchema : ∀ (l : List (String × NodeId)), (l.map tagSchema).filterMap selStrs = []
  | [] => rfl
  | (k, x) :: l => by
    simp only [List.map_cons, List.filterMap_cons, tagSchema, selStrs, filterMap_selStrs_tagSchema l]

theorem filterMap_selStrs_tagStrs : ∀ (l : List (String × Option (List String))),
    (l.map tagStrs).filterMap selStrs = l.map fun e => (e.1, some (e.2.getD []))
  | [] => rfl
  | (k, x) :: l => by
    simp only [List.map_cons, List.filterMap_cons, tagStrs, selStrs, filterMap_selStrs_tagStrs l]

/-- appending what decDependencies collected to a (possibly nil) map field -/
def optApp {α : Type} (o : Option (List α)) (l : List α) : Option (List α) :=
  match l with
  | [] => o
  | _ :: _ => some (o.getD [] ++ l)

theorem optApp_snoc {α : Type} (o : Option (List α)) (x : α) : ∀ (l : List α),
    optApp (some (o.getD [] ++ [x])) l = optApp o (x :: l)
  | [] => rfl
  | y :: l => by
    simp only [optApp, Option.getD_some, List.append_assoc, List.cons_append, List.nil_append]

theorem decDependencies_cons_strs (rec : URec) (k : String) (l : List String)
    (rest : List (String × Json)) (m : Node) (st : Store) :
    decDependencies rec ((k, strs l) :: rest) m st =
      decDependencies rec rest { m with dependencyStrings := some ((m.dependencyStrings.getD []) ++ [(k, some l)]) } st := by
  have e := decStrList_strs l
  unfold strs at e ⊢
  simp only [decDependencies, e, Res.bind_ok]

section
variable {st : Store} {mrec : MRec} {urec : URec} {G : Nat} {Q : Store → NodeId → NodeId → Prop}
  {C : NodeId → Prop}

def DepRel (st : Store) (mrec : MRec) (a : DepSrc) (b : String × Json) : Prop :=
  a.1 = b.1 ∧
    match a.2 with
    | .inl x => mSchema st mrec x = .ok b.2
    | .inr l => b.2 = strs l

theorem entries_depRel : ∀ (l : List (String × NodeId)) (es : List (String × Json)),
    mSchemaEntries st mrec l = .ok es → ListRel (DepRel st mrec) (l.map tagSchema) es
  | [], es, h => by
    cases h
    exact .nil
  | (k, x) :: l, es, h => by
    simp only [mSchemaEntries] at h
    obtain ⟨j, h1, h2⟩ := Res.bind_eq_ok h
    obtain ⟨es', h3, h4⟩ := Res.bind_eq_ok h2
    cases h4
    exact .cons ⟨rfl, h1⟩ (entries_depRel l es' h3)

theorem rt_deps (hC : ∀ x, C x → ChildRT st mrec urec G Q x) (hQ : ∀ s s' x y, Ext s s' → Q s x y → Q s' x y) :
    ∀ (src : List DepSrc) (L : List (String × Json)), ListRel (DepRel st mrec) src L →
    (∀ e, e ∈ src.filterMap selSchema → C e.2) → (∀ e, e ∈ L → Json.size e.2 ≤ G) →
    ∀ (st2 : Store),
    ∃ S' st2', Ext st2 st2' ∧ ListRel (KeyRel (Q st2')) (src.filterMap selSchema) S' ∧
      ((∀ x, ¬ C x) → st2' = st2) ∧
      ∀ (m : Node), decDependencies urec L m st2 =
        .ok ({ m with dependencySchemas := optApp m.dependencySchemas S',
                      dependencyStrings := optApp m.dependencyStrings (src.filterMap selStrs) }, st2')
  | [], L, h, _, _, st2 => by
    cases h.nil_inv
    exact ⟨[], st2, Ext.refl _, .nil, fun _ => rfl, fun _ => rfl⟩
  | (k, .inl x) :: src, L, h, hc, hs, st2 => by
    obtain ⟨⟨k', j⟩, L', rfl, ⟨hk, hj⟩, hl⟩ := h.cons_inv
    have hk' : k = k' := hk
    subst hk'
    have hj' : mSchema st mrec x = .ok j := hj
    have hcx : C x := hc (k, x) (by simp [selSchema])
    have hx := hC x hcx
    rw [hx.mSchema] at hj'
    obtain ⟨hsj, hrt⟩ := hx.2 j hj'
    obtain ⟨x', s1, hu, he1, hq⟩ := hrt (hs (k, j) List.mem_cons_self) st2
    obtain ⟨S'', s2, he2, hr, -, hd⟩ := rt_deps hC hQ src L' hl
      (fun e he => hc e (by simp only [List.filterMap_cons, selSchema]; exact List.mem_cons_of_mem _ he))
      (fun e he => hs e (List.mem_cons_of_mem _ he)) s1
    refine ⟨(k, x') :: S'', s2, he1.trans he2, ?_, fun hn => absurd hcx (hn x), fun m => ?_⟩
    · simp only [List.filterMap_cons, selSchema]
      exact .cons ⟨rfl, hQ _ _ _ _ he2 hq⟩ hr
    · rw [decDependencies_cons urec (fun xs h0 => by rw [h0] at hsj; exact hsj), hu]
      simp only [Res.bind_ok]
      rw [hd]
      dsimp only
      rw [optApp_snoc]
      rfl
  | (k, .inr l) :: src, L, h, hc, hs, st2 => by
    obtain ⟨⟨k', j⟩, L', rfl, ⟨hk, hj⟩, hl⟩ := h.cons_inv
    have hk' : k = k' := hk
    subst hk'
    have hj' : j = strs l := hj
    subst hj'
    obtain ⟨S'', s2, he2, hr, hz, hd⟩ := rt_deps hC hQ src L' hl
      (fun e he => hc e (by simp only [List.filterMap_cons, selSchema]; exact he))
      (fun e he => hs e (List.mem_cons_of_mem _ he)) st2
    refine ⟨S'', s2, he2, ?_, hz, fun m => ?_⟩
    · simp only [List.filterMap_cons, selSchema]
      exact hr
    · rw [decDependencies_cons_strs, hd]
      dsimp only
      simp only [List.filterMap_cons, selStrs]
      rw [optApp_snoc]

theorem normMap_of_nil {c : Option (List (String × NodeId))} (h : c.getD [] = []) : normMap c = none := by
  cases c with
  | none => rfl
  | some l =>
    cases l with
    | nil => rfl
    | cons _ _ => cases h

theorem normDepStrs_of_nil {c : Option (List (String × Option (List String)))} (h : c.getD [] = []) :
    normDepStrs c = none := by
  cases c with
  | none => rfl
  | some l =>
    cases l with
    | nil => rfl
    | cons _ _ => cases h

theorem optApp_none_sortKV_map (c : Option (List (String × Option (List String)))) :
    optApp none (sortKV ((c.getD []).map fun e => (e.1, some (e.2.getD [])))) = normDepStrs c := by
  cases c with
  | none => rfl
  | some l =>
    cases l with
    | nil => rfl
    | cons a as =>
      show optApp none (sortKV ((a.1, some (a.2.getD [])) :: as.map fun e => (e.1, some (e.2.getD [])))) = _
      cases hT : sortKV ((a.1, some (a.2.getD [])) :: as.map fun e => (e.1, some (e.2.getD []))) with
      | nil => exact absurd hT (sortKV_cons_ne_nil _ _)
      | cons y ys =>
        show some ([] ++ y :: ys) = normDepStrs (some (a :: as))
        rw [List.nil_append, ← hT]
        rfl

theorem optRel_optApp_normMap {R : NodeId → NodeId → Prop} (c : Option (List (String × NodeId)))
    {S' : List (String × NodeId)} (hr : ListRel (KeyRel R) (sortKV (c.getD [])) S') :
    OptRel (ListRel (KeyRel R)) (normMap c) (optApp none S') := by
  cases c with
  | none => cases hr.nil_inv; trivial
  | some l =>
    cases l with
    | nil => cases hr.nil_inv; trivial
    | cons a as =>
      cases S' with
      | nil =>
        have := hr.length_eq
        have h0 : sortKV (a :: as) = [] := List.length_eq_zero_iff.1 this
        exact absurd h0 (sortKV_cons_ne_nil _ _)
      | cons y ys => exact hr

/-- the "dependencies" member: DependencySchemas and DependencyStrings merged into one object.  Both maps are tagged
    into one list of `DepSrc`, which is sorted once; reading back splits it again (`selSchema`, `selStrs`), and the two
    projections commute with the sort (`filterMap_sortKV`) -/
theorem sf_deps (hC : ∀ x, C x → ChildRT st mrec urec G Q x) (hQ : ∀ s s' x y, Ext s s' → Q s x y → Q s' x y)
    {dsch : Option (List (String × NodeId))} {dstrs : Option (List (String × Option (List String)))}
    {deps : Option Json}
    (hcl : depClash (dsch.getD []) (dstrs.getD []) = false)
    (hc : ∀ e, e ∈ dsch.getD [] → C e.2)
    (hp : mDeps st mrec dsch dstrs = .ok deps) (hG : ∀ e, e ∈ mem "dependencies" deps → Json.size e.2 ≤ G)
    (st2 : Store) :
    ∃ c' st2', Ext st2 st2' ∧ OptRel (ListRel (KeyRel (Q st2'))) (normMap dsch) c' ∧
      ((∀ x, ¬ C x) → st2' = st2) ∧
      ∀ (m : Node) (rest : List (String × Json)),
        ({ m with dependencySchemas := none, dependencyStrings := none } : Node) = m →
        setFields urec (mem "dependencies" deps ++ rest) m st2 =
          setFields urec rest { m with dependencySchemas := c', dependencyStrings := normDepStrs dstrs } st2' := by
  unfold mDeps at hp
  dsimp only at hp
  split at hp
  · next h0 =>
    cases hp
    have hl : (dsch.getD []).length + (dstrs.getD []).length = 0 := by simpa using h0
    have h1 : dsch.getD [] = [] := List.length_eq_zero_iff.1 (by omega)
    have h2 : dstrs.getD [] = [] := List.length_eq_zero_iff.1 (by omega)
    rw [normMap_of_nil h1, normDepStrs_of_nil h2]
    exact ⟨none, st2, Ext.refl _, trivial, fun _ => rfl, fun m rest hm => by rw [hm]; rfl⟩
  · obtain ⟨es, h1, h2⟩ := Res.bind_eq_ok hp
    cases h2
    have hkeys := mSchemaEntries_keys h1
    have hfil : es.filter (fun e => !((dstrs.getD []).any fun d => d.1 == e.1)) = es := by
      refine List.filter_eq_self.2 fun e he => ?_
      have hk : e.1 ∈ (dsch.getD []).map (·.1) := hkeys ▸ List.mem_map_of_mem (f := fun p : String × Json => p.1) he
      obtain ⟨a, ha, hae⟩ := List.mem_map.1 hk
      rw [← show a.1 = e.1 from hae, Bool.not_eq_true']
      exact Bool.eq_false_iff.2 (List.any_eq_false.1 hcl a ha)
    rw [hfil] at hG
    have hrel0 : ListRel (DepRel st mrec) ((dsch.getD []).map tagSchema ++ (dstrs.getD []).map tagStrs)
        (es ++ (dstrs.getD []).map fun (k, l) => (k, strs (l.getD []))) :=
      ListRel.append (entries_depRel _ _ h1) (ListRel.refl_map _ _ (fun _ => ⟨rfl, rfl⟩) _)
    have hrel := sortKV_rel (fun _ _ h => h.1) hrel0
    have hS : (sortKV ((dsch.getD []).map tagSchema ++ (dstrs.getD []).map tagStrs)).filterMap selSchema =
        sortKV (dsch.getD []) := by
      rw [filterMap_sortKV selSchema selSchema_key, List.filterMap_append, filterMap_selSchema_tagSchema,
        filterMap_selSchema_tagStrs, List.append_nil]
    have hT : (sortKV ((dsch.getD []).map tagSchema ++ (dstrs.getD []).map tagStrs)).filterMap selStrs =
        sortKV ((dstrs.getD []).map fun e => (e.1, some (e.2.getD []))) := by
      rw [filterMap_sortKV selStrs selStrs_key, List.filterMap_append, filterMap_selStrs_tagSchema,
        filterMap_selStrs_tagStrs, List.nil_append]
    have hsz : Json.size (.obj (sortKV (es ++ (dstrs.getD []).map fun (k, l) => (k, strs (l.getD []))))) ≤ G :=
      hG ("dependencies", _) List.mem_cons_self
    obtain ⟨S', s1, he, hr, hz, hd⟩ := rt_deps hC hQ _ _ hrel
      (fun e he => by
        rw [hS] at he
        exact hc e ((sortKV_perm _).mem_iff.1 he))
      (fun e he => C10.size_le_of_mem_obj he hsz) st2
    rw [hS] at hr
    refine ⟨optApp none S', s1, he, optRel_optApp_normMap dsch hr, hz, fun m rest hm => ?_⟩
    have hm1 : m.dependencySchemas = none := (congrArg Node.dependencySchemas hm).symm
    have hm2 : m.dependencyStrings = none := (congrArg Node.dependencyStrings hm).symm
    have e : setField urec m st2 "dependencies" (.obj (sortKV (es ++ (dstrs.getD []).map fun (k, l) => (k, strs (l.getD []))))) =
        decDependencies urec (sortKV (es ++ (dstrs.getD []).map fun (k, l) => (k, strs (l.getD [])))) m st2 :=
      setField_dependencies urec m st2 _
    rw [hfil]
    simp only [mem, List.cons_append, List.nil_append, setFields,
      setMember_eq_setField urec _ _ _ (canonKey_knownKeys "dependencies" (by repeat constructor)), e, hd, Res.bind_ok,
      hm1, hm2, hT, optApp_none_sortKV_map]

end

theorem sf_enum (urec : URec) (N m : Node) (st : Store) (rest : List (String × Json))
    (hs : jsonSortedList (N.enum.getD []) = true) (hm : ({ m with enum := none } : Node) = m) :
    setFields urec (mem "enum" (N.enum.map fun l => sortJson (.arr l)) ++ rest) m st =
      setFields urec rest { m with enum := N.enum } st := by
  cases h : N.enum with
  | none => exact (congrArg (fun x => setFields urec rest x st) hm).symm
  | some l =>
    rw [h] at hs
    have e1 : sortJson (.arr l) = .arr l := by
      simp only [sortJson, sortJsonList_of_sorted l hs]
    have e2 : setField urec m st "enum" (.arr l) = .ok ({ m with enum := some l }, st) := rfl
    simp only [Option.map_some, e1, mem, List.cons_append, List.nil_append,
      setFields_cons_canon urec _ _ _ _ (canonKey_knownKeys "enum" (by repeat constructor)), e2, Res.bind_ok]

theorem sf_const (urec : URec) (N m : Node) (st : Store) (rest : List (String × Json))
    (hs : optSorted N.const = true) (hm : ({ m with const := none } : Node) = m) :
    setFields urec (mem "const" (N.const.map sortJson) ++ rest) m st =
      setFields urec rest { m with const := N.const } st := by
  cases h : N.const with
  | none => exact (congrArg (fun x => setFields urec rest x st) hm).symm
  | some v =>
    rw [h] at hs
    have e1 : sortJson v = v := sortJson_of_sorted v hs
    have e2 : setField urec m st "const" v = .ok ({ m with const := some v }, st) := rfl
    simp only [Option.map_some, e1, mem, List.cons_append, List.nil_append,
      setFields_cons_canon urec _ _ _ _ (canonKey_knownKeys "const" (by repeat constructor)), e2, Res.bind_ok]

theorem sf_default (urec : URec) (N m : Node) (st : Store) (rest : List (String × Json))
    (hm : ({ m with default := none } : Node) = m) :
    setFields urec (mem "default" N.default ++ rest) m st = setFields urec rest { m with default := N.default } st := by
  cases h : N.default with
  | none => exact (congrArg (fun x => setFields urec rest x st) hm).symm
  | some v =>
    have e2 : setField urec m st "default" v = .ok ({ m with default := some v }, st) := rfl
    simp only [mem, List.cons_append, List.nil_append,
      setFields_cons_canon urec _ _ _ _ (canonKey_knownKeys "default" (by repeat constructor)), e2, Res.bind_ok]

theorem sf_examples (urec : URec) (N m : Node) (st : Store) (rest : List (String × Json))
    (hs : jsonSortedList (N.examples.getD []) = true) (hm : ({ m with examples := none } : Node) = m) :
    setFields urec (mNonEmptyList "examples" N.examples ++ rest) m st =
      setFields urec rest { m with examples := normJL N.examples } st := by
  cases h : N.examples with
  | none => exact (congrArg (fun x => setFields urec rest x st) hm).symm
  | some l =>
    cases l with
    | nil => exact (congrArg (fun x => setFields urec rest x st) hm).symm
    | cons x xs =>
      rw [h] at hs
      have e1 : sortJson (.arr (x :: xs)) = .arr (x :: xs) := by
        simp only [sortJson, sortJsonList_of_sorted (x :: xs) hs]
      have e2 : setField urec m st "examples" (.arr (x :: xs)) = .ok ({ m with examples := some (x :: xs) }, st) := rfl
      simp only [mNonEmptyList, e1, List.cons_append, List.nil_append,
        setFields_cons_canon urec _ _ _ _ (canonKey_knownKeys "examples" (by repeat constructor)), e2, Res.bind_ok, normJL]

theorem decBoolMap_bools (l : List (String × Bool)) :
    decBoolMap (.obj (l.map fun x => (x.1, Json.bool x.2))) = .ok (some l) := by
  unfold decBoolMap
  dsimp only
  rw [foldr_decode (fun x : String × Bool => (x.1, Json.bool x.2)) (fun _ _ => rfl)]
  rfl

theorem sf_vocab (urec : URec) (N m : Node) (st : Store) (rest : List (String × Json))
    (hm : ({ m with vocabulary := none } : Node) = m) :
    setFields urec (mVocab N ++ rest) m st = setFields urec rest { m with vocabulary := normVocab N.vocabulary } st := by
  unfold mVocab
  cases h : N.vocabulary with
  | none => exact (congrArg (fun x => setFields urec rest x st) hm).symm
  | some l =>
    dsimp only
    -- the model writes `fun (k, b) => (k, .bool b)`; it is restated with projections, the form `sortKV_map_val` takes
    rw [sortKV_map_val (fun x : String × Bool => (x.1, Json.bool x.2)) (fun _ => rfl)]
    have e2 : ∀ v', setField urec m st "$vocabulary" v' =
        Res.bind (decBoolMap v') fun r => .ok ({ m with vocabulary := r }, st) := fun _ => rfl
    simp only [List.cons_append, List.nil_append,
      setFields_cons_canon urec _ _ _ _ (canonKey_knownKeys "$vocabulary" (by repeat constructor)), e2,
      decBoolMap_bools, Res.bind_ok, normVocab, Option.map_some]

theorem decStrList_optStrs (l : Option (List String)) : decStrList (optStrs l) = .ok l := by
  cases l with
  | none => rfl
  | some l => exact decStrList_strs l

theorem decStrListMap_optStrs (l : List (String × Option (List String))) :
    decStrListMap (.obj (l.map fun x => (x.1, optStrs x.2))) = .ok (some l) := by
  unfold decStrListMap
  dsimp only
  rw [foldr_decode (fun x : String × Option (List String) => (x.1, optStrs x.2)) fun x acc => by
    dsimp only [Res.bind_ok]
    rw [decStrList_optStrs]
    rfl]
  rfl

theorem sf_depReq (urec : URec) (N m : Node) (st : Store) (rest : List (String × Json))
    (hm : ({ m with dependentRequired := none } : Node) = m) :
    setFields urec (mDepReq N ++ rest) m st =
      setFields urec rest { m with dependentRequired := normKV N.dependentRequired } st := by
  unfold mDepReq
  cases h : N.dependentRequired with
  | none => exact (congrArg (fun x => setFields urec rest x st) hm).symm
  | some l =>
    cases l with
    | nil => exact (congrArg (fun x => setFields urec rest x st) hm).symm
    | cons v vs =>
      dsimp only
      rw [sortKV_map_val (fun x : String × Option (List String) => (x.1, optStrs x.2)) (fun _ => rfl)]
      have e2 : ∀ v', setField urec m st "dependentRequired" v' =
          Res.bind (decStrListMap v') fun r => .ok ({ m with dependentRequired := r }, st) := fun _ => rfl
      simp only [List.cons_append, List.nil_append,
        setFields_cons_canon urec _ _ _ _ (canonKey_knownKeys "dependentRequired" (by repeat constructor)), e2,
        decStrListMap_optStrs, Res.bind_ok, normKV]


/-- the side conditions of the round trip of one node (what `nodeOK` decides), as propositions -/
def NodeOKP (n : Node) : Prop :=
    (n.type != "" && n.types.isSome) = false ∧ (n.items.isSome && n.itemsArray.isSome) = false ∧
    depClash (n.dependencySchemas.getD []) (n.dependencyStrings.getD []) = false ∧
    (∀ e, e ∈ n.extra.getD [] → e.1 ∉ knownKeys) ∧ (∀ e, e ∈ n.extra.getD [] → isFoldedKey e.1 = false) ∧
    (∀ e, e ∈ n.extra.getD [] → sortJson e.2 = e.2) ∧
    InInt32 n.minLength ∧ InInt32 n.maxLength ∧ InInt32 n.minItems ∧ InInt32 n.maxItems ∧
    InInt32 n.minContains ∧ InInt32 n.maxContains ∧ InInt32 n.minProperties ∧ InInt32 n.maxProperties ∧
    jsonSortedList (n.enum.getD []) = true ∧ optSorted n.const = true ∧ jsonSortedList (n.examples.getD []) = true

theorem nodeOK_unpack {n : Node} (h : nodeOK n = true) : NodeOKP n := by
  simp only [nodeOK, Bool.and_eq_true, Bool.not_eq_true', List.all_eq_true] at h
  obtain ⟨⟨⟨⟨⟨⟨⟨⟨⟨⟨⟨⟨⟨hchk, hx⟩, hxe⟩, h1⟩, h2⟩, h3⟩, h4⟩, h5⟩, h6⟩, h7⟩, h8⟩, hEn⟩, hC⟩, hEx⟩ := h
  have hb : basicChecksOk n = true := hchk
  rw [basicChecksOk_eq] at hb
  simp only [Bool.and_eq_true, Bool.not_eq_true'] at hb
  refine ⟨hb.1.1.1.1, hb.1.1.2, hb.2, ?_, fun e he => (hxe e he).1, fun e he => sortJson_of_sorted _ (hxe e he).2,
    int32B_sound h1, int32B_sound h2, int32B_sound h3, int32B_sound h4, int32B_sound h5, int32B_sound h6,
    int32B_sound h7, int32B_sound h8, hEn, hC, hEx⟩
  intro e he hc
  have : ((n.extra.getD []).any fun e => structNames.contains e.1) = true :=
    List.any_eq_true.2 ⟨e, he, List.contains_iff_mem.2 ((structNames_iff_knownKeys _).2 hc)⟩
  rw [hx] at this
  cases this

theorem nodeOK_checks {n : Node} (h : nodeOK n = true) :
    marshalChecksOk n = true ∧ ((n.extra.getD []).any fun e => structNames.contains e.1) = false := by
  simp only [nodeOK, Bool.and_eq_true, Bool.not_eq_true'] at h
  obtain ⟨⟨⟨⟨⟨⟨⟨⟨⟨⟨⟨⟨⟨hchk, hx⟩, -⟩, -⟩, -⟩, -⟩, -⟩, -⟩, -⟩, -⟩, -⟩, -⟩, -⟩, -⟩ := h
  exact ⟨hchk, hx⟩

theorem child_one {n : Node} {k : String} {c : Option NodeId} (hf : ChildField.one k c ∈ n.childFields)
    {x : NodeId} (hx : x ∈ c.toList) : x ∈ n.children :=
  mem_children_iff.2 ⟨_, hf, hx⟩

theorem child_many {n : Node} {k : String} {c : Option (List NodeId)} (hf : ChildField.many k c ∈ n.childFields)
    {x : NodeId} (hx : x ∈ c.getD []) : x ∈ n.children :=
  mem_children_iff.2 ⟨_, hf, hx⟩

theorem child_keyed {n : Node} {k : String} {c : Option (List (String × NodeId))}
    (hf : ChildField.keyed k c ∈ n.childFields) {e : String × NodeId} (he : e ∈ c.getD []) : e.2 ∈ n.children :=
  mem_children_iff.2 ⟨_, hf, List.mem_map.2 ⟨e, he, rfl⟩⟩

section
variable {Q : Store → NodeId → NodeId → Prop}

theorem lift_one (hQ : ∀ s s' x y, Ext s s' → Q s x y → Q s' x y) {s s' : Store} (he : Ext s s')
    {c c' : Option NodeId} (h : OptRel (Q s) c c') : OptRel (Q s') c c' :=
  OptRel.imp (fun a b => hQ s s' a b he) h

theorem lift_many (hQ : ∀ s s' x y, Ext s s' → Q s x y → Q s' x y) {s s' : Store} (he : Ext s s')
    {c c' : Option (List NodeId)} (h : OptRel (ListRel (Q s)) c c') : OptRel (ListRel (Q s')) c c' :=
  OptRel.imp (fun _ _ => ListRel.imp (fun a b => hQ s s' a b he)) h

theorem lift_keyed (hQ : ∀ s s' x y, Ext s s' → Q s x y → Q s' x y) {s s' : Store} (he : Ext s s')
    {c c' : Option (List (String × NodeId))} (h : OptRel (ListRel (KeyRel (Q s))) c c') :
    OptRel (ListRel (KeyRel (Q s'))) c c' :=
  OptRel.imp (fun _ _ => ListRel.imp (KeyRel.imp (fun a b => hQ s s' a b he))) h

end

theorem optRel_none_of {α β : Type} {R : α → β → Prop} {c : Option α} (h : c = none) : OptRel R c none := by
  subst h
  trivial

end Go
end JSV
