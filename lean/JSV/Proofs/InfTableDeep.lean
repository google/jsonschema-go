/-
  C04, entries of the type table that are DEEPER than the schema `forType` would build for the type itself: the fuel the
  Spec needs for the inferred schema then exceeds `depth T`.  `infer_sound_table` is stated with `depth T`; the general
  statement (`k` levels of extra depth) is obtained from it by padding: `.named n u` with an entry is replaced by
  `.named n (.named "" (… u))` (`k` transparent declarations, `padN`), which changes neither `forType` (the underlying
  type of a declared type with an entry is never looked at: `inferFuel_pad`) nor typing nor json.Marshal, and adds `k` to
  the depth.
-/
import JSV.Proofs.InfTableTree
namespace JSV
namespace EncJson
open Go Spec

/-- `k` transparent declarations around `u` -/
def padN : Nat → GoType → GoType
  | 0, u => u
  | k + 1, u => .named "" (padN k u)

theorem depth_padN : ∀ (k : Nat) (u : GoType), depth (padN k u) = depth u + k
  | 0, _ => rfl
  | k + 1, u => by simp only [padN, depth, depth_padN k u]; omega

theorem erase_padN : ∀ (k : Nat) (u : GoType), erase (padN k u) = erase u
  | 0, _ => rfl
  | k + 1, u => by simp only [padN, erase]; exact erase_padN k u

mutual
  /-- every declared type with an entry in the type table gets `k` transparent declarations around its underlying type -/
  def padT (opts : IOpts) (k : Nat) : GoType → GoType
    | .basic b => .basic b
    | .ref n => .ref n
    | .ptr e => .ptr (padT opts k e)
    | .slice e => .slice (padT opts k e)
    | .array n e => .array n (padT opts k e)
    | .map kk e => .map kk (padT opts k e)
    | .struct fs => .struct (padFields opts k fs)
    | .named n u =>
      (match Json.lookup n opts.schemas with
       | some _ => .named n (padN k u)
       | none => .named n (padT opts k u))
  def padFields (opts : IOpts) (k : Nat) : List (String × String × GoType) → List (String × String × GoType)
    | [] => []
    | f :: rest => (f.1, f.2.1, padT opts k f.2.2) :: padFields opts k rest
end

variable (opts : IOpts) (k : Nat)

mutual
  /-- padding is undone by `erase`: typing, json.Marshal and the domain, which only see the erased type, do not change -/
  theorem erase_pad : ∀ (T : GoType), erase (padT opts k T) = erase T
    | .basic _ => rfl
    | .ref _ => rfl
    | .ptr e => by simp only [padT, erase]; rw [erase_pad e]
    | .slice e => by simp only [padT, erase]; rw [erase_pad e]
    | .array _ e => by simp only [padT, erase]; rw [erase_pad e]
    | .map _ e => by simp only [padT, erase]; rw [erase_pad e]
    | .struct fs => by simp only [padT, erase]; rw [eraseFields_pad fs]
    | .named n u => by
      simp only [padT]
      cases Json.lookup n opts.schemas with
      | some sid => simp only [erase]; exact erase_padN k u
      | none => simp only [erase]; exact erase_pad u
  theorem eraseFields_pad : ∀ (fs : List (String × String × GoType)), eraseFields (padFields opts k fs) = eraseFields fs
    | [] => rfl
    | f :: rest => by simp only [padFields, eraseFields]; rw [erase_pad f.2.2, eraseFields_pad rest]
end

theorem inDomainN_pad (T : GoType) : InDomainN (padT opts k T) = InDomainN T := by
  rw [inDomainN_eq_erase, erase_pad, ← inDomainN_eq_erase]

theorem inDomainFieldsN_pad : ∀ (fs : List (String × String × GoType)),
      inDomainFieldsN (padFields opts k fs) = inDomainFieldsN fs := fun fs => by
  rw [inDomainFieldsN_eq_erase, eraseFields_pad, ← inDomainFieldsN_eq_erase]

theorem hasType_pad (T : GoType) (v : GoValue) : HasType (padT opts k T) v ↔ HasType T v := by
  rw [← hasType_erase, erase_pad, hasType_erase]

theorem hasTypeFields_pad : ∀ (fs : List (String × String × GoType)) (vs : List GoValue),
      HasTypeFields (padFields opts k fs) vs ↔ HasTypeFields fs vs := fun fs vs => by
  rw [← hasTypeFields_erase, eraseFields_pad, hasTypeFields_erase]

theorem encode_pad (T : GoType) (v : GoValue) : encode (padT opts k T) v = encode T v := by
  rw [← encode_erase, erase_pad, encode_erase]

theorem encodeFields_pad : ∀ (fs : List (String × String × GoType)) (vs : List GoValue),
      encodeFields (padFields opts k fs) vs = encodeFields fs vs := fun fs vs => by
  rw [← encodeFields_erase, eraseFields_pad, encodeFields_erase]

mutual
  theorem depth_pad_le : ∀ (T : GoType), depth (padT opts k T) ≤ depth T + k
    | .basic _ => Nat.le_add_right _ _
    | .ref _ => Nat.le_add_right _ _
    | .ptr e => by simp only [padT, depth]; exact depth_pad_le e
    | .slice e => by simp only [padT, depth]; have := depth_pad_le e; omega
    | .array _ e => by simp only [padT, depth]; have := depth_pad_le e; omega
    | .map _ e => by simp only [padT, depth]; have := depth_pad_le e; omega
    | .struct fs => by simp only [padT, depth]; have := depthFields_pad_le fs; omega
    | .named n u => by
      simp only [padT]
      cases Json.lookup n opts.schemas with
      | some sid => simp only [depth, depth_padN]; omega
      | none => simp only [depth]; have := depth_pad_le u; omega
  theorem depthFields_pad_le : ∀ (fs : List (String × String × GoType)),
      depthFields (padFields opts k fs) ≤ depthFields fs + k
    | [] => Nat.le_add_left _ _
    | f :: rest => by
      simp only [padFields, depthFields]
      have h1 := depth_pad_le f.2.2
      have h2 := depthFields_pad_le rest
      omega
end

end EncJson

namespace Go
open EncJson Spec

variable (opts : IOpts) (k : Nat)

theorem stripPtrs_pad : ∀ (T : GoType), stripPtrs (padT opts k T) = (padT opts k (stripPtrs T).1, (stripPtrs T).2)
  | .ptr e => by simp only [padT, stripPtrs, stripPtrs_pad e]
  | .basic _ => rfl
  | .ref _ => rfl
  | .slice _ => rfl
  | .array _ _ => rfl
  | .map _ _ => rfl
  | .struct _ => rfl
  | .named n u => by
    show stripPtrs (padT opts k (.named n u)) = (padT opts k (.named n u), false)
    simp only [padT]
    cases Json.lookup n opts.schemas <;> rfl

theorem inferStep_congr {rec : IRec} {T T' : GoType} (h : stripPtrs T = stripPtrs T') (seen : List String) (st : Store) :
    inferStep opts rec T seen st = inferStep opts rec T' seen st := by
  unfold inferStep
  rw [h]

def RecPad (rec : IRec) : Prop := ∀ T seen st, rec (padT opts k T) seen st = rec T seen st

theorem structLoop_pad {rec : IRec} (hrec : RecPad opts k rec) (seen : List String) :
    ∀ (fs : List (String × String × GoType)) (n : Node) (st : Store),
      structLoop rec seen (padFields opts k fs) n st = structLoop rec seen fs n st
  | [], _, _ => rfl
  | (g, tag, ft) :: rest, n, st => by
    simp only [padFields, structLoop, hrec ft seen st, structLoop_pad hrec seen rest]

theorem inferStep_pad_shape {rec : IRec} (hrec : RecPad opts k rec) {T t : GoType} {an : Bool}
    (hs : stripPtrs T = (t, an)) (hsh : namedShape t = true) (seen : List String) (st : Store) :
    inferStep opts rec (padT opts k T) seen st = inferStep opts rec T seen st := by
  have hsp := stripPtrs_pad opts k T
  rw [hs] at hsp
  cases t with
  | ptr e => simp [namedShape] at hsh
  | named nm u => simp [namedShape] at hsh
  | ref nm => simp [namedShape] at hsh
  | basic b => exact inferStep_congr opts (hsp.trans hs.symm) seen st
  | slice e =>
    simp only [padT] at hsp
    rw [inferStep_slice hs, inferStep_slice hsp, hrec e seen st]
  | array len e =>
    simp only [padT] at hsp
    rw [inferStep_array hs, inferStep_array hsp, hrec e seen st]
  | map kk e =>
    simp only [padT] at hsp
    rw [inferStep_map hs, inferStep_map hsp, hrec e seen st]
  | struct fs =>
    simp only [padT] at hsp
    rw [inferStep_struct hs, inferStep_struct hsp, structLoop_pad opts k hrec seen fs]

theorem padT_wrapPtr (an : Bool) (u : GoType) : padT opts k (wrapPtr an u) = wrapPtr an (padT opts k u) := by
  cases an <;> simp [wrapPtr, padT]

theorem namedShape_pad : ∀ (u : GoType), namedShape (padT opts k u) = namedShape u
  | .basic _ => rfl
  | .ref _ => rfl
  | .ptr _ => rfl
  | .slice _ => rfl
  | .array _ _ => rfl
  | .map _ _ => rfl
  | .struct _ => rfl
  | .named n u => by
    simp only [padT]
    cases Json.lookup n opts.schemas <;> rfl

theorem inferStep_pad {rec : IRec} (hrec : RecPad opts k rec) : RecPad opts k (inferStep opts rec) := by
  intro T seen st
  have hsp := stripPtrs_pad opts k T
  have hnp := stripPtrs_not_ptr T
  generalize hs : stripPtrs T = p at hsp hnp
  obtain ⟨t, an⟩ := p
  simp only at hsp hnp
  cases t with
  | ptr e => exact absurd rfl (hnp e)
  | ref nm => exact inferStep_congr opts (hsp.trans hs.symm) seen st
  | basic _ | slice _ | array _ _ | map _ _ | struct _ => exact inferStep_pad_shape opts k hrec hs rfl seen st
  | named nm u =>
    cases hc : seen.contains nm with
    | true =>
      cases hl : Json.lookup nm opts.schemas with
      | some sid =>
        simp only [padT, hl] at hsp
        rw [inferStep_seen hsp rfl hc, inferStep_seen hs rfl hc]
      | none =>
        simp only [padT, hl] at hsp
        rw [inferStep_seen hsp rfl hc, inferStep_seen hs rfl hc]
    | false =>
      cases hl : Json.lookup nm opts.schemas with
      | some sid =>
        simp only [padT, hl] at hsp
        rw [inferStep_table hsp rfl hc hl, inferStep_table hs rfl hc hl]
      | none =>
        simp only [padT, hl] at hsp
        cases hsh : namedShape u with
        | true =>
          have hup : ∀ e, u ≠ .ptr e := by cases u <;> simp_all [namedShape]
          rw [inferStep_named_transparent hsp hc hl (by rw [namedShape_pad]; exact hsh),
            inferStep_named_transparent hs hc hl hsh, ← padT_wrapPtr]
          exact inferStep_pad_shape opts k hrec (stripPtrs_wrapPtr hup an) hsh _ st
        | false =>
          unfold inferStep
          rw [hsp, hs]
          cases u with
          | ptr e => simp [typeName, hl, padT]
          | ref n' => simp [typeName, hl, padT]
          | named n' u' =>
            simp only [padT]
            cases Json.lookup n' opts.schemas <;> simp [typeName, hl]
          | _ => simp [namedShape] at hsh

/-- **`forType` does not look below a declared type that has an entry** -/
theorem inferFuel_pad : ∀ fuel, RecPad opts k (inferFuel opts fuel)
  | 0 => fun _ _ _ => rfl
  | fuel + 1 => inferStep_pad opts k (inferFuel_pad fuel)

end Go

namespace EncJson
open Go Spec

/-- `EntryAcceptsTree` with `k` more fuel: the entry may be up to `k` levels deeper than the schema of `u` itself -/
def EntryAcceptsDeep (st : Store) (sid : NodeId) (u : GoType) (an : Bool) (k : Nat) : Prop :=
  ∃ m d, st.get? sid = some m ∧ treeAll Iso.noRefs st d sid = true ∧
    (∀ re v, HasType u v → Spec.valid (specEnvNoRefs st re) (depth u + 1 + k) sid (encode u v) = some true) ∧
    (an = true → (m.type ≠ "" ∨ m.types.isSome = true) ∧
      ∀ re, Spec.valid (specEnvNoRefs (st.push (tableNull true m)) re) (depth u + 1 + k) st.size .null = some true)

mutual
  /-- `EntryAcceptsDeep` for every declared type of `T` that has an entry in the type table and that `forType` meets -/
  def EntriesAcceptDeep (opts : IOpts) (st : Store) (k : Nat) : Bool → GoType → Prop
    | _, .basic _ => True
    | _, .ptr e => EntriesAcceptDeep opts st k true e
    | _, .slice e => EntriesAcceptDeep opts st k false e
    | _, .array _ e => EntriesAcceptDeep opts st k false e
    | _, .map _ e => EntriesAcceptDeep opts st k false e
    | _, .struct fields => EntriesAcceptDeepFields opts st k fields
    | an, .named n u =>
      (match Json.lookup n opts.schemas with
       | some sid => EntryAcceptsDeep st sid u an k
       | none => EntriesAcceptDeep opts st k false u)
    | _, .ref _ => True
  def EntriesAcceptDeepFields (opts : IOpts) (st : Store) (k : Nat) : List (String × String × GoType) → Prop
    | [] => True
    | f :: rest =>
      ((fieldJSONInfo f.1 f.2.1).omitted = true ∨ EntriesAcceptDeep opts st k false f.2.2) ∧
        EntriesAcceptDeepFields opts st k rest
end

theorem entryAcceptsTree_pad {st : Store} {sid : NodeId} {u : GoType} {an : Bool} {k : Nat}
    (h : EntryAcceptsDeep st sid u an k) : EntryAcceptsTree st sid (padN k u) an := by
  obtain ⟨m, d, hm, ht, hv, hnull⟩ := h
  have hd : depth (padN k u) + 1 = depth u + 1 + k := by rw [depth_padN]; omega
  refine ⟨m, d, hm, ht, fun re v hv' => ?_, fun han => ⟨(hnull han).1, fun re => ?_⟩⟩
  · rw [← hasType_erase, erase_padN, hasType_erase] at hv'
    rw [hd, ← encode_erase, erase_padN, encode_erase]
    exact hv re v hv'
  · rw [hd]
    exact (hnull han).2 re

mutual
  theorem entriesAcceptTree_pad (opts : IOpts) (st : Store) (k : Nat) :
      ∀ (T : GoType) (an : Bool), EntriesAcceptDeep opts st k an T → EntriesAcceptTree opts st an (padT opts k T)
    | .basic _, _, _ => by simp only [padT, EntriesAcceptTree]
    | .ref _, _, _ => by simp only [padT, EntriesAcceptTree]
    | .ptr e, _, h => by
      simp only [EntriesAcceptDeep] at h
      simp only [padT, EntriesAcceptTree]
      exact entriesAcceptTree_pad opts st k e _ h
    | .slice e, _, h => by
      simp only [EntriesAcceptDeep] at h
      simp only [padT, EntriesAcceptTree]
      exact entriesAcceptTree_pad opts st k e _ h
    | .array _ e, _, h => by
      simp only [EntriesAcceptDeep] at h
      simp only [padT, EntriesAcceptTree]
      exact entriesAcceptTree_pad opts st k e _ h
    | .map _ e, _, h => by
      simp only [EntriesAcceptDeep] at h
      simp only [padT, EntriesAcceptTree]
      exact entriesAcceptTree_pad opts st k e _ h
    | .struct fs, _, h => by
      simp only [EntriesAcceptDeep] at h
      simp only [padT, EntriesAcceptTree]
      exact entriesAcceptTreeFields_pad opts st k fs h
    | .named nm u, _, h => by
      simp only [EntriesAcceptDeep] at h
      simp only [padT]
      cases hl : Json.lookup nm opts.schemas with
      | some sid =>
        rw [hl] at h
        simp only [EntriesAcceptTree, hl]
        exact entryAcceptsTree_pad h
      | none =>
        rw [hl] at h
        simp only [EntriesAcceptTree, hl]
        exact entriesAcceptTree_pad opts st k u _ h
  theorem entriesAcceptTreeFields_pad (opts : IOpts) (st : Store) (k : Nat) :
      ∀ fs : List (String × String × GoType), EntriesAcceptDeepFields opts st k fs →
        EntriesAcceptTreeFields opts st (padFields opts k fs)
    | [], _ => by simp only [padFields, EntriesAcceptTreeFields]
    | f :: rest, h => by
      simp only [EntriesAcceptDeepFields] at h
      simp only [padFields, EntriesAcceptTreeFields]
      exact ⟨h.1.imp id (entriesAcceptTree_pad opts st k f.2.2 _), entriesAcceptTreeFields_pad opts st k rest h.2⟩
end

/-- the case `k = 0` -/
theorem entryAcceptsDeep_zero {st : Store} {sid : NodeId} {u : GoType} {an : Bool} :
    EntryAcceptsDeep st sid u an 0 ↔ EntryAcceptsTree st sid u an := Iff.rfl

end EncJson
end JSV
