/-
  For C17: net/url's percent-encoding (`Uri.escape`) is undone by `Uri.unescape`, in every mode
  and for every String.  The UTF-8 half: the bytes of a String are the concatenation of the encodings of its
  characters, and `String.fromUTF8?` of the bytes of a String gives the String back.  Then: url.Parse of an escaped
  fragment, and the fragment (*URL).ResolveReference returns.
-/
import JSV.Model.Uri
namespace JSV
namespace Uri

theorem byteArray_toList_loop (bs : ByteArray) (i : Nat) (r : List UInt8) :
    ByteArray.toList.loop bs i r = r.reverse ++ bs.data.toList.drop i := by
  fun_induction ByteArray.toList.loop bs i r with
  | case1 i r h ih =>
    rw [ih]
    have hi : i < bs.data.toList.length := by rw [Array.length_toList, ByteArray.size_data]; exact h
    rw [List.drop_eq_getElem_cons hi]
    have : bs.get! i = bs.data.toList[i] := by
      obtain ⟨data⟩ := bs
      have h' : i < data.size := h
      show data[i]! = data.toList[i]
      rw [getElem!_pos data i h', Array.getElem_toList]
    rw [this, List.reverse_cons, List.append_assoc]; rfl
  | case2 i r h =>
    have : bs.data.toList.length ≤ i := by rw [Array.length_toList, ByteArray.size_data]; exact Nat.le_of_not_lt h
    rw [List.drop_of_length_le this, List.append_nil]

theorem byteArray_toList (bs : ByteArray) : bs.toList = bs.data.toList := by
  unfold ByteArray.toList
  rw [byteArray_toList_loop]; rfl

theorem utf8_singleton (c : Char) : (String.singleton c).toUTF8.toList = String.utf8EncodeChar c := by
  rw [byteArray_toList, String.toUTF8_eq_toByteArray, String.toByteArray_singleton, List.utf8Encode_singleton,
    List.toList_data_toByteArray]

theorem utf8Decode_encode (s : String) :
    utf8Decode (s.toList.flatMap fun c => (String.singleton c).toUTF8.toList) = some s := by
  have h1 : (s.toList.flatMap fun c => (String.singleton c).toUTF8.toList) = s.toByteArray.data.toList := by
    rw [← String.utf8Encode_toList]
    unfold List.utf8Encode
    rw [List.toList_data_toByteArray]
    congr 1
    funext c
    exact utf8_singleton c
  unfold utf8Decode
  rw [h1, Array.toArray_toList]
  unfold String.fromUTF8?
  rw [dif_pos s.isValidUTF8]
  rfl

theorem hexVal_hexDigit (n : Nat) (h : n < 16) : hexVal (hexDigit n) = some n :=
  (by decide +kernel : ∀ n : Fin 16, hexVal (hexDigit n.val) = some n.val) ⟨n, h⟩

/-- `%XY` for one byte -/
def pct (b : UInt8) : Cs := ['%', hexDigit (b.toNat / 16), hexDigit (b.toNat % 16)]

theorem byte_of_nibbles (b : UInt8) : UInt8.ofNat (b.toNat / 16 * 16 + b.toNat % 16) = b := by
  rw [Nat.div_add_mod', UInt8.ofNat_toNat]

theorem unescapeBytes_pct (bs : List UInt8) (rest : Cs) (r : List UInt8) (h : unescapeBytes rest = some r) :
    unescapeBytes (bs.flatMap pct ++ rest) = some (bs ++ r) := by
  induction bs with
  | nil => exact h
  | cons b bs ih =>
    have hlt : b.toNat < 256 := b.toNat_lt
    show unescapeBytes ('%' :: hexDigit (b.toNat / 16) :: hexDigit (b.toNat % 16) :: (bs.flatMap pct ++ rest)) = _
    rw [unescapeBytes, hexVal_hexDigit _ (by omega), hexVal_hexDigit _ (Nat.mod_lt _ (by decide)), ih]
    simp only [byte_of_nibbles, List.cons_append]

theorem unescapeBytes_plain (c : Char) (hc : c ≠ '%') (rest : Cs) (r : List UInt8) (h : unescapeBytes rest = some r) :
    unescapeBytes (c :: rest) = some ((String.singleton c).toUTF8.toList ++ r) := by
  rw [unescapeBytes, h]
  · intro _ _ _ e _; exact hc e
  · intro e; exact hc e

theorem shouldEscape_percent (m : Mode) : shouldEscape '%' m = true := by
  cases m <;> decide +kernel

/-- the characters `escape` writes for one character -/
def escChar (m : Mode) (c : Char) : Cs :=
  if shouldEscape c m then (String.singleton c).toUTF8.toList.flatMap pct else [c]

theorem escape_toList (s : String) (m : Mode) : (escape s m).toList = s.toList.flatMap (escChar m) := by
  unfold escape
  rw [String.toList_ofList]
  rfl

theorem unescapeBytes_esc (m : Mode) (l : List Char) :
    unescapeBytes (l.flatMap (escChar m)) = some (l.flatMap fun c => (String.singleton c).toUTF8.toList) := by
  induction l with
  | nil => rfl
  | cons c l ih =>
    rw [List.flatMap_cons, List.flatMap_cons]
    unfold escChar
    split
    · exact unescapeBytes_pct _ _ _ ih
    · rename_i hne
      have hc : c ≠ '%' := by
        intro e; rw [e, shouldEscape_percent] at hne; exact hne rfl
      exact unescapeBytes_plain c hc _ _ ih

/-- percent-encoding round-trips, in every mode -/
theorem unescape_escape (s : String) (m : Mode) : unescape (escape s m).toList = some s := by
  unfold unescape
  rw [escape_toList, unescapeBytes_esc]
  exact utf8Decode_encode s

theorem setFragment_escape (u : Url) (s : String) :
    setFragment u (escape s .fragment).toList = some { u with fragment := s, rawFragment := "" } := by
  unfold setFragment
  rw [unescape_escape]
  simp only [String.ofList_toList, beq_self_eq_true, if_true]

theorem setPath_escape (u : Url) (s : String) :
    setPath u (escape s .path).toList = some { u with path := s, rawPath := "" } := by
  unfold setPath
  rw [unescape_escape]
  simp only [String.ofList_toList, beq_self_eq_true, if_true]

theorem parseNoFrag_nil : parseNoFrag [] = .ok {} := by decide +kernel

/-- url.Parse of `#` followed by the escaping of `p`: the URL whose only component is the fragment `p` -/
theorem parse_hash_escape (p : String) : parse ("#" ++ escape p .fragment) = .ok { fragment := p } := by
  unfold parse
  have hl : ("#" ++ escape p .fragment).toList = '#' :: (escape p .fragment).toList := by
    rw [String.toList_append]; rfl
  have hcut : cut '#' ('#' :: (escape p .fragment).toList) = ([], (escape p .fragment).toList, true) := by
    rfl
  rw [hl, hcut]
  simp only [parseNoFrag_nil, Res.bind_ok]
  split
  · rename_i hempty
    have hnil : (escape p .fragment).toList = [] := by simpa using hempty
    have := unescape_escape p .fragment
    rw [hnil] at this
    have hp : p = "" := by
      have h0 : unescape [] = some "" := by decide +kernel
      rw [h0] at this
      simp only [Option.some.injEq] at this
      exact this.symm
    rw [hp]
  · rw [setFragment_escape]

theorem setPath_fragment (u : Url) (p : Cs) :
    (match setPath u p with | some r => r | none => u).fragment = u.fragment := by
  unfold setPath
  cases unescape p <;> rfl

/-- the fragment of the base is inherited only by a reference that has none -/
theorem resolveReference_fragment (u r : Url) (h : r.fragment ≠ "") :
    (resolveReference u r).fragment = r.fragment := by
  have hb : (r.fragment == "") = false := by simpa using h
  unfold resolveReference
  simp only [hb, Bool.false_eq_true, if_false]
  by_cases h1 : (r.scheme != "" || r.host != "") = true
  · rw [if_pos h1]; exact setPath_fragment _ _
  · rw [if_neg h1]
    by_cases h2 : (r.opq != "") = true
    · rw [if_pos h2]
    · rw [if_neg h2]
      -- the two remaining tests choose between record updates that leave `fragment` alone and `setPath`
      by_cases h3 : (r.path == "" && !r.forceQuery && r.rawQuery == "") = true <;>
      by_cases h4 : (r.path == "" && u.opq != "") = true
      · rw [if_pos h3, if_pos h4]
      · rw [if_pos h3, if_neg h4]; exact setPath_fragment _ _
      · rw [if_neg h3, if_pos h4]
      · rw [if_neg h3, if_neg h4]; exact setPath_fragment _ _

end Uri
end JSV
