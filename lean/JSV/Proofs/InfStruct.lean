/-
  The struct-field loop of `forType`, for both type languages: one iteration (`fieldStepG`), what the loop does to the
  store and to `properties`, `propertyOrder` and `required`.
-/
import JSV.Proofs.InfStore
import JSV.Spec.EncJson
import JSV.Model.InferEmb
namespace JSV
namespace Go
open EncJson (jsonNames alwaysNames)

/-- `if s.Properties == nil { s.Properties = make(map[string]*Schema) }` -/
def ensureProps (n : Node) : Node := if n.properties.isNone then { n with properties := some [] } else n

/-- definitionally the model's `addFieldE` -/
def addField (n : Node) (info : JsonInfo) (fid : NodeId) : Node :=
  { n with properties := some ((n.properties.getD []).filter (·.1 != info.name) ++ [(info.name, fid)]),
           propertyOrder := some ((n.propertyOrder.getD []) ++ [info.name]),
           required := if !info.omitempty && !info.omitzero then some ((n.required.getD []) ++ [info.name]) else n.required }

/-- `fs.Description = tag`; definitionally the model's `setDescriptionE` -/
def descSet (st : Store) (fid : NodeId) (d : String) : Store :=
  match st.get? fid with
  | some fn => st.set! fid { fn with description := d }
  | none => st

/-- a field as one iteration sees it: JSON options, `jsonschema` tag, type -/
abbrev Item (τ : Type) := JsonInfo × Option String × τ

/-- one iteration of the struct loop, for a field with the JSON options `info` and the `jsonschema` tag `desc`
    (both type languages: `structLoop_cons_eq`, `structLoopE_cons_eq`) -/
def fieldStepG {τ : Type} (rec : IRecG τ) (seen : List String)
    (info : JsonInfo) (desc : Option String) (ft : τ) (n : Node) (st : Store) : Res (Node × Store) :=
  if info.omitted then .ok (n, st)
  else
    Res.bind (rec ft seen st) fun r =>
      match r.1 with
      | none => .ok (n, r.2)
      | some fid =>
        match desc with
        | some d =>
          if d = "" then .err
          else if badDescription d then .err
          else .ok (addField n info fid, descSet r.2 fid d)
        | none => .ok (addField n info fid, r.2)

theorem structLoop_cons_eq (rec : IRec) (seen : List String) (g tag : String) (ft : GoType)
    (rest : List (String × String × GoType)) (n : Node) (st : Store) :
    structLoop rec seen ((g, tag, ft) :: rest) n st =
      Res.bind (fieldStepG rec seen (fieldJSONInfo g tag) (tagLookup "jsonschema" tag) ft (ensureProps n) st) fun r =>
        structLoop rec seen rest r.1 r.2 := by
  simp only [structLoop, fieldStepG]
  split
  · rfl
  · rw [Res.bind_assoc]
    refine Res.bind_congr fun r => ?_
    obtain ⟨fs, st1⟩ := r
    cases fs with
    | none => rfl
    | some fid =>
      simp only
      generalize tagLookup "jsonschema" tag = o
      cases o with
      | none => rfl
      | some d =>
        by_cases hd : d = ""
        · subst hd
          rfl
        · simp only [hd, if_false]
          -- `badDescription d` is the condition the loop tests
          cases hb : badDescription d
          · have hb' := hb
            unfold badDescription at hb'
            simp only [hb', Bool.false_eq_true, if_false]
            rfl
          · have hb' := hb
            unfold badDescription at hb'
            simp only [hb', if_true]
            rfl

theorem fieldStepG_ok {τ : Type} {rec : IRecG τ} {seen : List String}
    {info : JsonInfo} {desc : Option String} {ft : τ} {n : Node} {st : Store} {n' : Node} {st' : Store}
    (h : fieldStepG rec seen info desc ft n st = .ok (n', st')) :
    (info.omitted = true ∧ n' = n ∧ st' = st) ∨
    (info.omitted = false ∧ ∃ st1, rec ft seen st = .ok (none, st1) ∧ n' = n ∧ st' = st1) ∨
    (info.omitted = false ∧ ∃ fid st1, rec ft seen st = .ok (some fid, st1) ∧
        n' = addField n info fid ∧ (st' = st1 ∨ ∃ d, st' = descSet st1 fid d)) := by
  unfold fieldStepG at h
  split at h
  · rename_i ho
    cases h
    exact Or.inl ⟨ho, rfl, rfl⟩
  · rename_i ho
    have ho : info.omitted = false := by simpa using ho
    obtain ⟨⟨fs, st1⟩, hfs, h⟩ := Res.bind_eq_ok h
    cases fs with
    | none =>
      cases h
      exact Or.inr (Or.inl ⟨ho, _, hfs, rfl, rfl⟩)
    | some fid =>
      refine Or.inr (Or.inr ⟨ho, fid, _, hfs, ?_⟩)
      cases desc with
      | none =>
        cases h
        exact ⟨rfl, Or.inl rfl⟩
      | some d =>
        simp only at h
        split at h
        · cases h
        · split at h
          · cases h
          · cases h
            exact ⟨rfl, Or.inr ⟨_, rfl⟩⟩

/-- the loop over fields given by their JSON options, `jsonschema` tag and type: it is `structLoop` (`structLoop_eq`),
    and `structLoopE` where no embedded type has an override (`structLoopE_eq`).  What the loop does to the node is
    proved of `loopG`. -/
def loopG {τ : Type} (rec : IRecG τ) (seen : List String) :
    List (Item τ) → Node → Store → Res (Node × Store)
  | [], n, st => .ok (n, st)
  | i :: rest, n, st =>
    Res.bind (fieldStepG rec seen i.1 i.2.1 i.2.2 (ensureProps n) st) fun r => loopG rec seen rest r.1 r.2

def itemOf (f : String × String × GoType) : Item GoType :=
  (fieldJSONInfo f.1 f.2.1, tagLookup "jsonschema" f.2.1, f.2.2)

theorem structLoop_eq (rec : IRec) (seen : List String) : ∀ (fields : List (String × String × GoType)) (n : Node) (st : Store),
    structLoop rec seen fields n st = loopG rec seen (fields.map itemOf) n st
  | [], _, _ => rfl
  | (g, tag, ft) :: rest, n, st => by
    rw [structLoop_cons_eq]
    exact Res.bind_congr fun r => structLoop_eq rec seen rest r.1 r.2

/-- the JSON names of the fields the loop enters, in order -/
def namesG {τ : Type} (items : List (Item τ)) : List String :=
  items.filterMap fun i => if i.1.omitted then none else some i.1.name

/-- … those among them that are entered into `required` -/
def alwaysG {τ : Type} (items : List (Item τ)) : List String :=
  items.filterMap fun i => if i.1.omitted || i.1.omitempty || i.1.omitzero then none else some i.1.name

section
variable {τ : Type} (i : Item τ) (rest : List (Item τ))

theorem namesG_cons : namesG (i :: rest) = (if i.1.omitted then [] else [i.1.name]) ++ namesG rest := by
  unfold namesG
  rw [List.filterMap_cons]
  cases i.1.omitted <;> rfl

theorem alwaysG_cons :
    alwaysG (i :: rest) = (if i.1.omitted || i.1.omitempty || i.1.omitzero then [] else [i.1.name]) ++ alwaysG rest := by
  unfold alwaysG
  rw [List.filterMap_cons]
  cases i.1.omitted <;> cases i.1.omitempty <;> cases i.1.omitzero <;> rfl

variable {i rest}

theorem mem_namesG_cons {k : String} : k ∈ namesG (i :: rest) ↔ (i.1.omitted = false ∧ k = i.1.name) ∨ k ∈ namesG rest := by
  rw [namesG_cons]
  cases i.1.omitted <;> simp

theorem nodup_namesG_cons (h : (namesG (i :: rest)).Nodup) :
    (i.1.omitted = false → i.1.name ∉ namesG rest) ∧ (namesG rest).Nodup := by
  rw [namesG_cons] at h
  cases ho : i.1.omitted
  · rw [ho] at h
    exact ⟨fun _ => (List.nodup_cons.1 h).1, (List.nodup_cons.1 h).2⟩
  · rw [ho] at h
    exact ⟨fun h' => (nomatch h'), h⟩

end

theorem jsonNames_eq (fields : List (String × String × GoType)) : jsonNames fields = namesG (fields.map itemOf) := by
  unfold jsonNames namesG
  rw [List.filterMap_map]
  rfl

theorem alwaysNames_eq (fields : List (String × String × GoType)) : alwaysNames fields = alwaysG (fields.map itemOf) := by
  unfold alwaysNames alwaysG
  rw [List.filterMap_map]
  rfl

/-- `if s.Properties == nil { s.Properties = make(…) }` adds no child -/
theorem LoopInv.ensure {n n' : Node} {st st' : Store} (h : LoopInv (ensureProps n) st n' st') : LoopInv n st n' st' := by
  refine ⟨h.1, fun s0 hs => ⟨(h.2 s0 hs).1, fun hc => (h.2 s0 hs).2 fun x hx => ?_⟩⟩
  unfold ensureProps at hx
  split at hx
  · rcases mem_children_setProps (n := n) (p := some []) (po := n.propertyOrder) (rq := n.required) hx with h | ⟨k, hk⟩
    · exact hc x h
    · simp at hk
  · exact hc x hx

theorem fieldStepG_inv {τ : Type} {rec : IRecG τ}
    (hrec : IRecInv rec) {seen : List String} {info : JsonInfo}
    {desc : Option String} {ft : τ} {n : Node} {st : Store} {n' : Node} {st' : Store}
    (h : fieldStepG rec seen info desc ft n st = .ok (n', st')) : LoopInv n st n' st' := by
  rcases fieldStepG_ok h with ⟨_, rfl, rfl⟩ | ⟨_, st1, hr, rfl, rfl⟩ | ⟨_, fid, st1, hr, rfl, hst⟩
  · exact LoopInv.refl _ _
  · obtain ⟨he1, _, hf1⟩ := hrec _ _ _ _ _ hr
    exact ⟨he1, fun s0 hs => ⟨hf1 s0 hs, id⟩⟩
  · obtain ⟨he1, hid1, hf1⟩ := hrec _ _ _ _ _ hr
    obtain ⟨hfid, _⟩ := hid1 fid rfl
    -- the store: the field's schema may have received its description
    have he2 : Ext st st' ∧ ∀ s0, s0 ≤ st.size → FreshAbove s0 st → FreshAbove s0 st' := by
      rcases hst with rfl | ⟨d, rfl⟩
      · exact ⟨he1, hf1⟩
      · unfold descSet
        split
        · rename_i fn hfn
          exact ⟨he1.set! hfid _, fun s0 hs hf => (hf1 s0 hs hf).set! hfn rfl⟩
        · exact ⟨he1, hf1⟩
    refine ⟨he2.1, fun s0 hs => ⟨he2.2 s0 hs, fun hc x hx => ?_⟩⟩
    -- the node: the field's schema is its only new child
    rcases mem_children_setProps hx with h | ⟨k, hk⟩
    · exact hc x h
    · simp only [Option.getD_some, List.mem_append, List.mem_filter, List.mem_singleton, Prod.mk.injEq] at hk
      rcases hk with ⟨hk, _⟩ | ⟨_, rfl⟩
      · exact hc x (mem_children_props hk)
      · exact Nat.le_trans hs hfid

theorem loopG_inv {τ : Type} {rec : IRecG τ}
    (hrec : IRecInv rec) {seen : List String} :
    ∀ (items : List (Item τ)) (n : Node) (st : Store) (n' : Node) (st' : Store),
      loopG rec seen items n st = .ok (n', st') → LoopInv n st n' st'
  | [], n, st, n', st', h => by
    cases h
    exact LoopInv.refl _ _
  | i :: rest, n, st, n', st', h => by
    obtain ⟨⟨n1, st1⟩, h1, h⟩ := Res.bind_eq_ok h
    exact LoopInv.ensure ((fieldStepG_inv hrec h1).trans (loopG_inv hrec rest _ _ _ _ h))

theorem structLoop_inv {rec : IRec} (hrec : IRecInv rec) (seen : List String)
    (fields : List (String × String × GoType)) (n : Node) (st : Store) (n' : Node) (st' : Store)
    (h : structLoop rec seen fields n st = .ok (n', st')) : LoopInv n st n' st' :=
  loopG_inv hrec _ _ _ _ _ (structLoop_eq rec seen fields n st ▸ h)

theorem insertOverrideProps_inv : ∀ (l : List (String × NodeId)) (n : Node) (st : Store) (n' : Node) (st' : Store),
    insertOverrideProps l n st = .ok (n', st') → LoopInv n st n' st'
  | [], n, st, n', st', h => by
    simp only [insertOverrideProps] at h
    cases h
    exact LoopInv.refl _ _
  | (name, pid) :: rest, n, st, n', st', h => by
    simp only [insertOverrideProps] at h
    split at h
    · exact insertOverrideProps_inv rest _ _ _ _ h
    · obtain ⟨⟨cid, st1⟩, hc, h⟩ := Res.bind_eq_ok h
      have h2 := insertOverrideProps_inv rest _ _ _ _ h
      have hext : Ext st st1 := cloneFuel_ext _ hc
      refine LoopInv.trans ⟨hext, fun s0 hs => ?_⟩ h2
      obtain ⟨hcid, hfr⟩ := cloneFuel_fresh s0 _ hs hc
      refine ⟨hfr, fun hch x hx => ?_⟩
      rcases mem_children_setProps (n := n) (p := some ((n.properties.getD []) ++ [(name, cid)]))
          (po := some ((n.propertyOrder.getD []) ++ [name])) (rq := n.required) hx with h | ⟨k, hk⟩
      · exact hch x h
      · simp only [Option.getD_some, List.mem_append, List.mem_singleton, Prod.mk.injEq] at hk
        rcases hk with hk | ⟨_, rfl⟩
        · exact hch x (mem_children_props hk)
        · exact hcid

theorem structLoopE_cons_eq (opts : IOpts) (rec : IRecE) (seen : List String) (f : VField) (rest : List VField)
    (skip : Option (List Nat)) (n : Node) (st : Store) :
    structLoopE opts rec seen (f :: rest) skip n st =
      if f.anonymous then
        match overrideOf opts st f.type with
        | some on =>
          if on.type != "object" then .err
          else if !overrideOnlyTypeProps on then .err
          else Res.bind (insertOverrideProps (sortByKey (on.properties.getD [])) (ensureProps n) st) fun r =>
            structLoopE opts rec seen rest (some f.index) r.1 r.2
        | none => structLoopE opts rec seen rest skip (ensureProps n) st
      else if underSkip skip f.index then structLoopE opts rec seen rest skip (ensureProps n) st
      else Res.bind (fieldStepG rec seen (fieldJSONInfoE f.goName f.tag f.exported) (tagLookup "jsonschema" f.tag) f.type
          (ensureProps n) st) fun r =>
        structLoopE opts rec seen rest none r.1 r.2 := by
  rw [structLoopE]
  rfl

theorem structLoopE_inv (opts : IOpts) {rec : IRecE} (hrec : IRecInv rec) (seen : List String) :
    ∀ (fields : List VField) (skip : Option (List Nat)) (n : Node) (st : Store) (n' : Node) (st' : Store),
      structLoopE opts rec seen fields skip n st = .ok (n', st') → LoopInv n st n' st'
  | [], skip, n, st, n', st', h => by
    simp only [structLoopE] at h
    cases h
    exact LoopInv.refl _ _
  | f :: rest, skip, n, st, n', st', h => by
    rw [structLoopE_cons_eq] at h
    refine LoopInv.ensure ?_
    split at h
    · split at h
      · split at h
        · cases h
        · split at h
          · cases h
          · obtain ⟨⟨n1, st1⟩, h1, h⟩ := Res.bind_eq_ok h
            exact (insertOverrideProps_inv _ _ _ _ _ h1).trans (structLoopE_inv opts hrec seen rest _ _ _ _ _ h)
      · exact structLoopE_inv opts hrec seen rest _ _ _ _ _ h
    · split at h
      · exact structLoopE_inv opts hrec seen rest _ _ _ _ _ h
      · obtain ⟨⟨n1, st1⟩, h1, h⟩ := Res.bind_eq_ok h
        exact (fieldStepG_inv hrec h1).trans (structLoopE_inv opts hrec seen rest _ _ _ _ _ h)

theorem fieldStepG_congr {τ σ : Type} {rec : IRecG τ}
    {rec' : IRecG σ} {seen seen' : List String} {ft : τ} {ft' : σ} {st : Store}
    (h : rec' ft' seen' st = rec ft seen st) (info : JsonInfo) (desc : Option String) (n : Node) :
    fieldStepG rec' seen' info desc ft' n st = fieldStepG rec seen info desc ft n st := by
  simp only [fieldStepG, h]

theorem overrideOf_none {opts : IOpts} {st : Store} {t : GoTypeE}
    (h : ((typeNameE t).bind fun nm => Json.lookup nm opts.schemas) = none) : overrideOf opts st t = none := by
  unfold overrideOf
  rw [h]
  rfl

theorem structLoopE_cons_none {opts : IOpts} {rec : IRecE} {seen : List String} {f : VField} {rest : List VField}
    {n : Node} {st : Store} (hno : f.anonymous = true → ((typeNameE f.type).bind fun nm => Json.lookup nm opts.schemas) = none) :
    structLoopE opts rec seen (f :: rest) none n st =
      if f.anonymous then structLoopE opts rec seen rest none (ensureProps n) st
      else Res.bind (fieldStepG rec seen (fieldJSONInfoE f.goName f.tag f.exported) (tagLookup "jsonschema" f.tag) f.type
          (ensureProps n) st) fun r =>
        structLoopE opts rec seen rest none r.1 r.2 := by
  rw [structLoopE_cons_eq]
  split
  · rename_i ha
    rw [overrideOf_none (hno ha)]
  · rfl

/-- the part of the node the struct loop does not touch -/
def coreOf (n : Node) : Node := { n with properties := none, propertyOrder := none, required := none }

theorem coreOf_ensureProps (n : Node) : coreOf (ensureProps n) = coreOf n := by
  unfold ensureProps
  split <;> rfl

theorem coreOf_addField (n : Node) (info : JsonInfo) (fid : NodeId) : coreOf (addField n info fid) = coreOf n := rfl

/-- the recursive call never drops a type (true of `forType` without IgnoreInvalidTypes, and on the domain) -/
def NeverDrops (rec : IRec) (seen : List String) (fields : List (String × String × GoType)) : Prop :=
  ∀ f, f ∈ fields → (fieldJSONInfo f.1 f.2.1).omitted = false → ∀ st st1, rec f.2.2 seen st = .ok (none, st1) → False

theorem ensureProps_getD (n : Node) : (ensureProps n).properties.getD [] = n.properties.getD [] := by
  unfold ensureProps
  split
  · rename_i h
    cases hp : n.properties with
    | none => rfl
    | some p => rw [hp] at h; cases h
  · rfl

theorem ensureProps_order (n : Node) : (ensureProps n).propertyOrder = n.propertyOrder := by
  unfold ensureProps
  split <;> rfl

theorem ensureProps_required (n : Node) : (ensureProps n).required = n.required := by
  unfold ensureProps
  split <;> rfl

theorem jsonNames_cons (f : String × String × GoType) (rest : List (String × String × GoType)) :
    jsonNames (f :: rest) =
      if (fieldJSONInfo f.1 f.2.1).omitted then jsonNames rest else (fieldJSONInfo f.1 f.2.1).name :: jsonNames rest := by
  unfold jsonNames
  rw [List.filterMap_cons]
  cases (fieldJSONInfo f.1 f.2.1).omitted <;> rfl

theorem alwaysNames_cons (f : String × String × GoType) (rest : List (String × String × GoType)) :
    alwaysNames (f :: rest) =
      if (fieldJSONInfo f.1 f.2.1).omitted || (fieldJSONInfo f.1 f.2.1).omitempty || (fieldJSONInfo f.1 f.2.1).omitzero
      then alwaysNames rest else (fieldJSONInfo f.1 f.2.1).name :: alwaysNames rest := by
  unfold alwaysNames
  rw [List.filterMap_cons]
  cases (fieldJSONInfo f.1 f.2.1).omitted <;> cases (fieldJSONInfo f.1 f.2.1).omitempty <;>
    cases (fieldJSONInfo f.1 f.2.1).omitzero <;> rfl

theorem fieldStepG_lists {τ : Type} {rec : IRecG τ} {seen : List String}
    {info : JsonInfo} {desc : Option String} {ft : τ} {n : Node} {st : Store} {n' : Node} {st' : Store}
    (hnd : info.omitted = false → ∀ st1, rec ft seen st = .ok (none, st1) → False)
    (h : fieldStepG rec seen info desc ft n st = .ok (n', st')) :
    n'.propertyOrder.getD [] = n.propertyOrder.getD [] ++ (if info.omitted then [] else [info.name]) ∧
    n'.required.getD [] = n.required.getD [] ++
      (if info.omitted || info.omitempty || info.omitzero then [] else [info.name]) ∧
    (∀ k, k ∈ (n'.properties.getD []).map (·.1) ↔
      (k ∈ (n.properties.getD []).map (·.1) ∨ (info.omitted = false ∧ k = info.name))) ∧
    coreOf n' = coreOf n := by
  rcases fieldStepG_ok h with ⟨ho, rfl, rfl⟩ | ⟨ho, st1, hr, _⟩ | ⟨ho, fid, st1, _, rfl, _⟩
  · simp [ho]
  · exact (hnd ho st1 hr).elim
  · refine ⟨by simp [addField, ho], ?_, fun k => ?_, coreOf_addField _ _ _⟩
    · cases he : info.omitempty <;> cases hz : info.omitzero <;> simp [addField, ho, he, hz]
    · simp only [addField, Option.getD_some, List.map_append, List.mem_append, List.mem_map, List.mem_filter,
        List.mem_cons, List.map_cons, List.map_nil, List.not_mem_nil, or_false, ho, true_and]
      constructor
      · rintro (⟨p, ⟨hp, _⟩, rfl⟩ | h)
        · exact Or.inl ⟨p, hp, rfl⟩
        · exact Or.inr h
      · rintro (⟨p, hp, rfl⟩ | h)
        · by_cases hk : p.1 = info.name
          · exact Or.inr hk
          · exact Or.inl ⟨p, ⟨hp, by simpa using hk⟩, rfl⟩
        · exact Or.inr h

/-- what the loop does to `propertyOrder`, `required` and the keys of `properties` if, on the stores of the run (`P`), no
    type is dropped -/
theorem loopG_lists {τ : Type} {rec : IRecG τ} {seen : List String}
    {P : Store → Prop}
    (hP : ∀ (i : Item τ) n st n1 st1, P st →
      fieldStepG rec seen i.1 i.2.1 i.2.2 n st = .ok (n1, st1) → P st1) :
    ∀ (items : List (Item τ)) {n : Node} {st : Store} {n' : Node} {st' : Store}, P st →
      (∀ i, i ∈ items → i.1.omitted = false → ∀ st st1, P st → rec i.2.2 seen st = .ok (none, st1) → False) →
      loopG rec seen items n st = .ok (n', st') →
      n'.propertyOrder.getD [] = n.propertyOrder.getD [] ++ namesG items ∧
      n'.required.getD [] = n.required.getD [] ++ alwaysG items ∧
      (∀ k, k ∈ (n'.properties.getD []).map (·.1) ↔ (k ∈ (n.properties.getD []).map (·.1) ∨ k ∈ namesG items)) ∧
      coreOf n' = coreOf n
  | [], n, st, n', st', _, _, h => by
    cases h
    simp [namesG, alwaysG]
  | i :: rest, n, st, n', st', hst, hnd, h => by
    obtain ⟨⟨n1, st1⟩, h1, h⟩ := Res.bind_eq_ok h
    obtain ⟨a1, a2, a3, a4⟩ := fieldStepG_lists (fun ho st1 => hnd i List.mem_cons_self ho st st1 hst) h1
    obtain ⟨b1, b2, b3, b4⟩ :=
      loopG_lists hP rest (hP _ _ _ _ _ hst h1) (fun j hj => hnd j (List.mem_cons_of_mem _ hj)) h
    rw [ensureProps_order] at a1
    rw [ensureProps_required] at a2
    rw [coreOf_ensureProps] at a4
    refine ⟨?_, ?_, fun k => ?_, b4.trans a4⟩
    · rw [b1, a1, namesG_cons, List.append_assoc]
    · rw [b2, a2, alwaysG_cons, List.append_assoc]
    · rw [b3, a3, ensureProps_getD, mem_namesG_cons, or_assoc]

theorem structLoop_lists {rec : IRec} {seen : List String} (fields : List (String × String × GoType)) {n : Node} {st : Store}
    {n' : Node} {st' : Store} (hnd : NeverDrops rec seen fields) (h : structLoop rec seen fields n st = .ok (n', st')) :
    n'.propertyOrder.getD [] = n.propertyOrder.getD [] ++ jsonNames fields ∧
    n'.required.getD [] = n.required.getD [] ++ alwaysNames fields ∧
    (∀ k, k ∈ (n'.properties.getD []).map (·.1) ↔ (k ∈ (n.properties.getD []).map (·.1) ∨ k ∈ jsonNames fields)) ∧
    coreOf n' = coreOf n := by
  rw [structLoop_eq] at h
  rw [jsonNames_eq, alwaysNames_eq]
  refine loopG_lists (P := fun _ => True) (fun _ _ _ _ _ _ _ => trivial) _ trivial (fun i hi ho st st1 _ hr => ?_) h
  obtain ⟨f, hf, rfl⟩ := List.mem_map.1 hi
  exact hnd f hf ho st st1 hr

end Go
end JSV
