/-
  A Bool checker for "the list `V` of schema ids is a Loader universe": inside the store, closed under the
  schema-valued fields, containing every document root of the Loader table, disjoint from what checkStructure
  registers for `root` — the hypotheses on `L` of `C20.clone_validates_same_docs` and
  `C05.roundtrip_tree_meaning_resolved_docs`, with `L := (· ∈ V)`.
-/
import JSV.Proofs.MshClone
import JSV.Proofs.JsonLookup
import JSV.Model.Resolve
namespace JSV
namespace Go

def loaderUniverseB (st : Store) (loader : Option (List (String × LoaderResult))) (root : NodeId)
    (V : List NodeId) : Bool :=
  (V.all fun a => decide (a < st.size)) &&
  (V.all fun a => match st.get? a with
    | some n => n.childFields.all fun f => f.ids.all fun x => V.contains x
    | none => true) &&
  (match loader with
    | some t => t.all fun e => match e.2 with
      | .doc l => V.contains l
      | _ => true
    | none => true) &&
  (match checkStructure st (st.size + 2) [(root, "")] [] with
    | .ok fresh => V.all fun a => !(fresh.map (·.1)).contains a
    | _ => true)

/-- the first conjunct is the hypothesis of the two theorems: an id of the universe is in the store or is a nil
    `*Schema` (`1000000000 = Go.nilId` and above); the checker only admits the former -/
theorem loaderUniverse_of_check (st : Store) (loader : Option (List (String × LoaderResult))) (root : NodeId)
    (V : List NodeId) (h : loaderUniverseB st loader root V = true) :
    (∀ a, a ∈ V → a < st.size ∨ nilId ≤ a) ∧
    (∀ a n, a ∈ V → st.get? a = some n → ∀ f, f ∈ n.childFields → ∀ x, x ∈ f.ids → x ∈ V) ∧
    (∀ t key l, loader = some t → Json.lookup key t = some (.doc l) → l ∈ V) ∧
    (∀ fresh, checkStructure st (st.size + 2) [(root, "")] [] = .ok fresh → ∀ a, a ∈ V → a ∉ fresh.map (·.1)) := by
  simp only [loaderUniverseB, Bool.and_eq_true, List.all_eq_true, decide_eq_true_eq] at h
  obtain ⟨⟨⟨h1, h2⟩, h3⟩, h4⟩ := h
  refine ⟨fun a ha => Or.inl (h1 a ha), ?_, ?_, ?_⟩
  · intro a n ha hn f hf x hx
    have := h2 a ha
    rw [hn] at this
    exact List.contains_iff_mem.mp (List.all_eq_true.mp (List.all_eq_true.mp this f hf) x hx)
  · intro t key l ht hk
    subst ht
    have := List.all_eq_true.mp h3 _ (Json.mem_of_lookup hk)
    exact List.contains_iff_mem.mp this
  · intro fresh hf a ha hm
    rw [hf] at h4
    have := List.all_eq_true.mp h4 a ha
    rw [List.contains_iff_mem.mpr hm] at this
    cases this

end Go
end JSV
