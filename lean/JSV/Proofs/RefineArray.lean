/-
  For the refinement proof: loops over child instances (generic `callLoop`), and the array block
  (items / prefixItems / additionalItems, contains, limits, uniqueItems, unevaluatedItems).
-/
import JSV.Proofs.RefineInPlace
import JSV.Proofs.ListFacts
namespace JSV
namespace Refine
open Go GoVal

/-- a child instance as `encoding/json` hands it over: inside an interface -/
def wrap (x : Json) : GoVal := .iface (ofJson x)

theorem strip_wrap (x : Json) : strip (wrap x) = ofJson x := (strip_iface _).trans (strip_ofJson x)

theorem ofJsonList_eq_wrap (xs : List Json) : ofJsonList xs = xs.map wrap := ofJsonList_eq_map xs

def callLoop (rec : Go.Rec) (stack : List NodeId) : List (NodeId × GoVal) → Res Unit
  | [] => .ok ()
  | c :: rest => Res.bind (mustValidChild rec stack c.2 c.1) fun _ => callLoop rec stack rest

theorem callLoop_append (rec : Go.Rec) (stack : List NodeId) : ∀ (l1 l2 : List (NodeId × GoVal)),
    callLoop rec stack (l1 ++ l2) = Res.bind (callLoop rec stack l1) fun _ => callLoop rec stack l2
  | [], l2 => by simp [callLoop]
  | c :: l1, l2 => by
    simp only [List.cons_append, callLoop, callLoop_append rec stack l1 l2]
    cases mustValidChild rec stack c.2 c.1 <;> simp

theorem indices_contains (n i : Nat) : (Spec.indices n).contains i = decide (i < n) := by
  simp [Spec.indices]

def hitsOf (rs : List Spec.R) (i : Nat) : List Nat :=
  (rs.zip (List.range' i rs.length)).filterMap fun p => if p.1.isSome then some p.2 else none

theorem hitsOf_nil (i : Nat) : hitsOf [] i = [] := rfl
theorem hitsOf_cons_none (rs : List Spec.R) (i : Nat) : hitsOf (none :: rs) i = hitsOf rs (i + 1) := by
  simp [hitsOf, List.range'_succ]
theorem hitsOf_cons_some (e : Spec.Ev) (rs : List Spec.R) (i : Nat) :
    hitsOf (some e :: rs) i = i :: hitsOf rs (i + 1) := by
  simp [hitsOf, List.range'_succ]

theorem bind_ite_err {α β} (c : Bool) (m : Res α) (f : α → Res β) :
    Res.bind (if c = true then .err else m) f = if c = true then .err else Res.bind m f := by
  cases c <;> simp

theorem ite_err_ite {α} (c b : Bool) (x : Res α) :
    (if c = true then Res.err else if b = true then x else .err) = if (!c && b) = true then x else .err := by
  cases c <;> rfl

/-- a block that fails or goes on according to a Boolean the Spec computes in two parts -/
theorem Blk_ite_ok {j : Json} {a a' : Anns} {e : Spec.Ev} {l c b : Bool} (hb : b = (c && l))
    (hx : c = true → Ext j a a' e) :
    Blk j a (if l = true then (if c = true then some e else none) else none)
      (if b = true then .ok a' else .err) := by
  subst hb
  cases c <;> cases l <;> first | rfl | exact ⟨a', rfl, hx rfl⟩

def itemsLimOk (n : Node) (len : Nat) : Bool :=
  (match n.minItems with | some m => decide (m ≤ (len : Int)) | none => true) &&
  (match n.maxItems with | some m => decide ((len : Int) ≤ m) | none => true)

theorem bArrayLimits_eq (n : Node) (gxs : List GoVal) (cnt : Nat) :
    bArrayLimits .d2020 n gxs cnt = okIf
      ((n.contains.isNone || match n.minContains with | some m => decide (m ≤ (cnt : Int)) | none => true) &&
       ((n.contains.isNone || match n.maxContains with | some m => decide ((cnt : Int) ≤ m) | none => true) &&
        itemsLimOk n gxs.length)) := by
  unfold bArrayLimits itemsLimOk
  rw [← okIf_true]
  simp only [beq_d2020_d2020, Bool.true_and, ite_err_okIf, Bool.and_true]
  congr 1
  refine and_eq_and ?_ (and_eq_and ?_ (and_eq_and ?_ ?_))
  · cases n.minContains <;> cases n.contains <;>
      simp only [int_le, Bool.not_false, Option.isNone_none, Option.isNone_some, Bool.true_or, Bool.false_or, Bool.or_true]
  · cases n.maxContains <;> cases n.contains <;>
      simp only [int_le, GT.gt, Bool.not_false, Option.isNone_none, Option.isNone_some, Bool.true_or, Bool.false_or,
        Bool.or_true]
  · cases n.minItems <;> simp only [int_le, Bool.not_false]
  · cases n.maxItems <;> simp only [int_le, GT.gt, Bool.not_false]

theorem arrayLimitsOk_arr (n : Node) (xs : List Json) :
    Spec.arrayLimitsOk n (.arr xs) = (itemsLimOk n xs.length && (!n.uniqueItems || Spec.distinct xs)) := by
  simp only [Spec.arrayLimitsOk, itemsLimOk]
  cases n.minItems <;> cases n.maxItems <;> rfl

theorem bUnique_eq (env : VEnv) (hwf : EnvWF env) (n : Node) (xs : List Json) (hxs : Json.wfList xs = true) :
    bUnique env n (ofJsonList xs) = okIf (!n.uniqueItems || Spec.distinct xs) := by
  unfold bUnique
  cases n.uniqueItems with
  | false => rfl
  | true =>
    simp only [if_true, Bool.not_true, Bool.false_or]
    exact Go.uniqueItems_eq env.hash (ofJsonList xs) xs
      (denoteList_ofJsonList xs (fun x _ => denote_ofJson x)) hxs (fun x y _ _ he => hwf.hash_respects x y he)

theorem filter_unevalItems {anns : Anns} {ev : Spec.Ev} {xs : List Json}
    (hm : ∀ i, i < xs.length → γitem anns i = ev.items.contains i) (hai : anns.allItems = false) :
    ((xs.zip (List.range' 0 xs.length)).filter fun p =>
        !(decide (p.2 < anns.endIndex) || anns.evaluatedIndexes.contains p.2))
      = (xs.zip (List.range' 0 xs.length)).filter fun p => !ev.items.contains p.2 := by
  apply List.filter_congr
  intro p hp
  rw [← hm p.2 (mem_zip_range'_lt hp).2]
  simp [γitem, hai]

theorem filter_unevalItems_nil {anns : Anns} {ev : Spec.Ev} {xs : List Json}
    (hm : ∀ i, i < xs.length → γitem anns i = ev.items.contains i) (hai : anns.allItems = true) :
    ((xs.zip (List.range' 0 xs.length)).filter fun p => !ev.items.contains p.2) = [] := by
  rw [List.filter_eq_nil_iff]
  intro p hp
  rw [← hm p.2 (mem_zip_range'_lt hp).2]
  simp [γitem, hai]

section
variable {sub : NodeId → Json → Spec.Out} {rec : Go.Rec} {stack : List NodeId}
variable (H : SubRel sub rec stack)
include H

theorem callLoop_spec (w : Json → GoVal) (hw : ∀ x, strip (w x) = ofJson x) :
    ∀ (C : List (NodeId × Json)), (∀ c, c ∈ C → Json.WF c.2 = true) →
    (∀ o, o ∈ C.map (fun c => sub c.1 c.2) → ∃ r, o = some r) →
    callLoop rec stack (C.map fun c => (c.1, w c.2)) = okIf ((C.map fun c => sub c.1 c.2).all okOut)
  | [], _, _ => rfl
  | c :: C, hwf, hdef => by
    obtain ⟨r, hr⟩ := hdef (sub c.1 c.2) (by simp)
    have hrel := H c.1 c.2 (w c.2) (hwf c (by simp)) (hw c.2)
    rw [hr] at hrel
    have ih := callLoop_spec w hw C (fun c' h => hwf c' (by simp [h]))
      (fun o h => hdef o (by simp only [List.map_cons, List.mem_cons, h, or_true]))
    simp only [List.map_cons, callLoop, mustValidChild, List.all_cons, hr]
    cases r with
    | none => simp only [Rel] at hrel; rw [hrel]; simp [okOut]
    | some ev => obtain ⟨a, ha, _⟩ := hrel; rw [ha]; simp [okOut, ih]

theorem callLoop_blk (w : Json → GoVal) (hw : ∀ x, strip (w x) = ofJson x) (C : List (NodeId × Json))
    (hwf : ∀ c, c ∈ C → Json.WF c.2 = true) {rs : List Spec.R}
    (hs : Spec.sequence (C.map fun c => sub c.1 c.2) = some rs) {j : Json} {a a' : Anns} {e : Spec.Ev}
    (hx : Ext j a a' e) :
    Blk j a (if Spec.allHold rs then some e else none)
      (Res.bind (callLoop rec stack (C.map fun c => (c.1, w c.2))) fun _ => .ok a') := by
  obtain ⟨hdef, hall⟩ := sequence_allHold hs
  rw [hall, callLoop_spec H w hw C hwf hdef]
  cases (C.map fun c => sub c.1 c.2).all okOut
  · rfl
  · exact ⟨a', rfl, hx⟩

omit H in
theorem eachItem_eq (s : NodeId) : ∀ xs : List Json,
    eachItem rec stack s (xs.map wrap)
      = callLoop rec stack ((xs.map fun x => (s, x)).map fun c => (c.1, wrap c.2))
  | [] => rfl
  | x :: xs => by simp only [List.map_cons, eachItem, callLoop, eachItem_eq s xs]

omit H in
theorem prefixLoop_eq : ∀ (ss : List NodeId) (xs : List Json),
    prefixLoop rec stack ss (xs.map wrap) = callLoop rec stack ((ss.zip xs).map fun c => (c.1, wrap c.2))
  | [], xs => by simp [prefixLoop, callLoop]
  | s :: ss, [] => by simp [prefixLoop, callLoop]
  | s :: ss, x :: xs => by
    simp only [List.map_cons, prefixLoop, List.zip_cons_cons, callLoop, prefixLoop_eq ss xs]

omit H in
theorem unevalItemsLoop_eq (s : NodeId) (anns : Anns) : ∀ (xs : List Json) (i : Nat),
    unevalItemsLoop rec stack s anns (xs.map wrap) i
      = callLoop rec stack ((((xs.zip (List.range' i xs.length)).filter fun p =>
            !(decide (p.2 < anns.endIndex) || anns.evaluatedIndexes.contains p.2)).map
          fun p => (s, p.1)).map fun c => (c.1, wrap c.2))
  | [], i => by simp [unevalItemsLoop, callLoop]
  | x :: xs, i => by
    simp only [List.map_cons, List.length_cons, List.range'_succ, List.zip_cons_cons, unevalItemsLoop]
    by_cases h : (decide (i < anns.endIndex) || anns.evaluatedIndexes.contains i) = true
    · rw [if_pos h, List.filter_cons_of_neg (by
        show ¬ (!(decide (i < anns.endIndex) || anns.evaluatedIndexes.contains i)) = true
        rw [h]; simp), unevalItemsLoop_eq s anns xs (i + 1)]
    · rw [if_neg h, List.filter_cons_of_pos (by
        show (!(decide (i < anns.endIndex) || anns.evaluatedIndexes.contains i)) = true
        rw [(Bool.not_eq_true _).mp h]; rfl), unevalItemsLoop_eq s anns xs (i + 1)]
      simp only [List.map_cons, callLoop]

omit H in
theorem WF_of_mem_zip {xs : List Json} (hxs : ∀ x, x ∈ xs → Json.WF x = true) {α} {ss : List α} :
    ∀ c, c ∈ ss.zip xs → Json.WF c.2 = true := by
  intro c hc
  exact hxs c.2 (List.of_mem_zip (a := c.1) (b := c.2) hc).2

omit H in
theorem Ext_items_all (xs : List Json) (anns : Anns) (e : Nat) :
    Ext (.arr xs) anns { anns.noteEndIndex e with allItems := true } { items := Spec.indices xs.length } := by
  constructor
  · intro k _; rw [γprop_allItems, γprop_noteEndIndex]; simp
  · intro i hi
    rw [γitem_allItems, indices_contains]
    have : i < xs.length := hi
    simp [this]

omit H in
theorem Ext_items_prefix (xs : List Json) (anns : Anns) (e : Nat) :
    Ext (.arr xs) anns (anns.noteEndIndex e) { items := Spec.indices e } := by
  constructor
  · intro k _; rw [γprop_noteEndIndex]; simp
  · intro i _; rw [γitem_noteEndIndex, indices_contains]

theorem items_core_some (pre : List NodeId) (t : NodeId) (xs : List Json)
    (hxs : ∀ x, x ∈ xs → Json.WF x = true) (anns : Anns) {rs : List Spec.R}
    (h : Spec.sequence (((pre.zip xs).map fun c => sub c.1 c.2) ++ ((xs.drop pre.length).map fun x => sub t x))
        = some rs) :
    Blk (.arr xs) anns
      (if Spec.allHold rs then some { items := Spec.indices xs.length } else none)
      (Res.bind (prefixLoop rec stack pre (ofJsonList xs)) fun _ =>
        Res.bind (eachItem rec stack t ((ofJsonList xs).drop pre.length)) fun _ =>
          .ok { anns.noteEndIndex (min pre.length (ofJsonList xs).length) with allItems := true }) := by
  have e2 : (xs.drop pre.length).map (fun x => sub t x)
      = ((xs.drop pre.length).map fun x => (t, x)).map fun c => sub c.1 c.2 := by
    rw [List.map_map]; rfl
  rw [e2, ← List.map_append] at h
  -- the two loops are one `callLoop` over the joined call list
  rw [ofJsonList_eq_wrap, ← List.map_drop, prefixLoop_eq, eachItem_eq, ← Res.bind_assoc, ← callLoop_append,
    ← List.map_append]
  refine callLoop_blk H wrap strip_wrap _ (fun c hc => ?_) h (Ext_items_all xs anns _)
  rcases List.mem_append.1 hc with hc | hc
  · exact WF_of_mem_zip hxs c hc
  · obtain ⟨x, hx, rfl⟩ := List.mem_map.1 hc
    exact hxs x (List.mem_of_mem_drop hx)

theorem items_core_none (pre : List NodeId) (xs : List Json)
    (hxs : ∀ x, x ∈ xs → Json.WF x = true) (anns : Anns) {rs : List Spec.R}
    (h : Spec.sequence (((pre.zip xs).map fun c => sub c.1 c.2) ++ []) = some rs) :
    Blk (.arr xs) anns
      (if Spec.allHold rs then some { items := Spec.indices (min pre.length xs.length) } else none)
      (Res.bind (prefixLoop rec stack pre (ofJsonList xs)) fun _ =>
          .ok (anns.noteEndIndex (min pre.length (ofJsonList xs).length))) := by
  rw [List.append_nil] at h
  rw [ofJsonList_eq_wrap, prefixLoop_eq, List.length_map]
  exact callLoop_blk H wrap strip_wrap (pre.zip xs) (WF_of_mem_zip hxs) h (Ext_items_prefix xs anns _)
theorem bItems_blk (env : VEnv) (n : Node) (xs : List Json) (hxs : ∀ x, x ∈ xs → Json.WF x = true) (anns : Anns)
    {r : Spec.R} (h : Spec.kwItems (specEnvOf env) sub n (.arr xs) = some r) :
    Blk (.arr xs) anns r (bItems env rec stack n (ofJsonList xs) anns) := by
  rw [bItems_eq]
  unfold Spec.kwItems at h
  generalize Spec.arrayShape (specEnvOf env) n = p at h ⊢
  obtain ⟨pre, rest⟩ := p
  cases rest with
  | some t =>
    simp only [Option.map_eq_some_iff, Option.isSome_some, if_true] at h
    obtain ⟨rs, hs, rfl⟩ := h
    exact items_core_some H pre t xs hxs anns hs
  | none =>
    simp only [Option.map_eq_some_iff, Option.isSome_none, Bool.false_eq_true, if_false] at h
    obtain ⟨rs, hs, rfl⟩ := h
    exact items_core_none H pre xs hxs anns hs

theorem containsLoop_spec (s : NodeId) : ∀ (xs : List Json) (rs : List Spec.R) (i : Nat) (anns : Anns) (cnt : Nat),
    (∀ x, x ∈ xs → Json.WF x = true) → Spec.sequence (xs.map fun x => sub s x) = some rs →
    ∃ a', containsLoop rec stack s (xs.map wrap) i anns cnt = .ok (a', cnt + (hitsOf rs i).length) ∧
      (∀ k, γprop a' k = γprop anns k) ∧ (∀ m, γitem a' m = (γitem anns m || (hitsOf rs i).contains m))
  | [], rs, i, anns, cnt, _, h => by
    cases h
    exact ⟨anns, by simp [containsLoop, hitsOf_nil], fun _ => rfl, fun m => by simp [hitsOf_nil]⟩
  | x :: xs, rs, i, anns, cnt, hxs, h => by
    obtain ⟨r, rs', h1, h2, rfl⟩ := sequence_cons_eq_some h
    replace h1 : sub s x = some r := h1
    have hrel := H s x (wrap x) (hxs x (by simp)) (strip_wrap x)
    rw [h1] at hrel
    have hxs' : ∀ y, y ∈ xs → Json.WF y = true := fun y hy => hxs y (by simp [hy])
    simp only [List.map_cons, containsLoop]
    cases r with
    | none =>
      simp only [Rel] at hrel
      rw [hrel, hitsOf_cons_none]
      exact containsLoop_spec s xs rs' (i + 1) anns cnt hxs' h2
    | some e =>
      obtain ⟨a, ha, _⟩ := hrel
      rw [ha, hitsOf_cons_some]
      obtain ⟨a', hl, hp, hi⟩ := containsLoop_spec s xs rs' (i + 1) (anns.noteIndex i) (cnt + 1) hxs' h2
      refine ⟨a', ?_, ?_, ?_⟩
      · rw [hl]; simp only [List.length_cons]; congr 2; omega
      · intro k; rw [hp k, γprop_noteIndex]
      · intro m; rw [hi m, γitem_noteIndex, List.contains_cons, Bool.or_assoc]
        congr 1

/-- `contains` with the limits that read its count, as one block -/
theorem containsLimits_blk (n : Node) (xs : List Json) (hxs : ∀ x, x ∈ xs → Json.WF x = true) (anns : Anns)
    {r9 : Spec.R} (h9 : Spec.kwContains sub n (.arr xs) = some r9) :
    Blk (.arr xs) anns (if itemsLimOk n xs.length then r9 else none)
      (Res.bind (bContains .d2020 rec stack n (ofJsonList xs) anns) fun p =>
        Res.bind (bArrayLimits .d2020 n (ofJsonList xs) p.2) fun _ => .ok p.1) := by
  unfold Spec.kwContains at h9
  unfold bContains
  have hlen : (ofJsonList xs).length = xs.length := by rw [ofJsonList_eq_wrap, List.length_map]
  simp only [bArrayLimits_eq, bind_okIf, hlen, beq_d2020_d7, Bool.false_or]
  cases hc : n.contains with
  | none =>
    simp only [hc, Option.some.injEq] at h9
    subst h9
    simp only [Res.bind_ok, Option.isNone_none, Bool.true_or, Bool.true_and]
    cases itemsLimOk n xs.length
    · rfl
    · exact Blk_ok _ anns
  | some c =>
    simp only [hc, Option.map_eq_some_iff] at h9
    obtain ⟨rs, hs, hr⟩ := h9
    have hlen2 : rs.length = xs.length := by rw [sequence_length hs, List.length_map]
    generalize hH : (List.filterMap _ (rs.zip (Spec.indices xs.length))) = hits at hr
    have hhits : hits = hitsOf rs 0 := by
      rw [← hH, hitsOf, hlen2, Spec.indices, List.range_eq_range']
    obtain ⟨a', hl, hp, hi⟩ := containsLoop_spec H c xs rs 0 anns 0 hxs hs
    rw [← hhits, Nat.zero_add] at hl
    rw [← hhits] at hi
    rw [← ofJsonList_eq_wrap] at hl
    have hx : ∀ e9, r9 = some e9 → Ext (.arr xs) anns a' e9 := by
      intro e9 he
      rw [he] at hr
      simp only [Option.ite_none_right_eq_some, Option.some.injEq] at hr
      obtain ⟨_, rfl⟩ := hr
      constructor
      · intro k _; rw [hp k]; simp
      · intro m _; rw [hi m]
    rw [← hr]
    simp only [hl, bind_ite_err, Res.bind_ok, Option.isNone_some, Bool.false_or, ite_err_ite]
    refine Blk_ite_ok ?_ fun hC => hx _ (by rw [← hr, if_pos hC])
    generalize hits.length = cnt
    -- "at least one match unless minContains = 0" and minContains together are the Spec's lower bound
    rw [← Bool.and_assoc, ← Bool.and_assoc]
    refine and_eq_and (and_eq_and ?_ ?_) rfl
    · cases n.minContains <;> rw [Bool.eq_iff_iff] <;>
        simp only [Bool.and_eq_true, Bool.not_eq_true', Bool.and_eq_false_imp, beq_iff_eq, decide_eq_true_eq,
          decide_eq_false_iff_not, Bool.and_true, GT.gt, beq_eq_false_iff_ne, ne_eq] <;> omega
    · cases n.maxContains <;> rfl

theorem bUnevaluatedItems_blk (n : Node) (xs : List Json) (hxs : ∀ x, x ∈ xs → Json.WF x = true) (anns : Anns)
    (ev : Spec.Ev) (hm : ∀ i, i < xs.length → γitem anns i = ev.items.contains i) {r : Spec.R}
    (h : Spec.kwUnevaluatedItems sub n (.arr xs) ev = some r) :
    Blk (.arr xs) anns r (bUnevaluatedItems .d2020 rec stack n (ofJsonList xs) anns) := by
  unfold Spec.kwUnevaluatedItems at h
  unfold bUnevaluatedItems
  simp only [beq_d2020_d2020, if_true]
  cases hu : n.unevaluatedItems with
  | none => simp only [hu, Option.some.injEq] at h; subst h; exact Blk_ok _ anns
  | some t =>
    simp only [hu, Spec.indices, List.range_eq_range'] at h
    change (Spec.sequence (List.map (fun p => sub t p.1)
      (List.filter (fun p => !ev.items.contains p.2) (xs.zip (List.range' 0 xs.length))))).map _ = some r at h
    simp only [Option.map_eq_some_iff] at h
    obtain ⟨rs, hs, rfl⟩ := h
    simp only
    by_cases hai : anns.allItems = true
    · rw [if_pos hai]
      rw [filter_unevalItems_nil hm hai] at hs
      cases hs
      refine ⟨anns, rfl, ?_, ?_⟩
      · intro k _; simp
      · intro i hi
        have : γitem anns i = true := by simp [γitem, hai]
        rw [this]; rfl
    · rw [if_neg hai, ofJsonList_eq_wrap, unevalItemsLoop_eq, filter_unevalItems hm (Bool.eq_false_iff.2 hai)]
      refine callLoop_blk H wrap strip_wrap _ (fun c hc => ?_) (by rw [List.map_map]; exact hs) ⟨fun k _ => ?_, fun i hi => ?_⟩
      · obtain ⟨p, hp, rfl⟩ := List.mem_map.1 hc
        exact hxs p.1 (mem_zip_range'_lt (List.mem_filter.1 hp).1).1
      · rw [γprop_allItems]; simp
      · rw [γitem_allItems]
        have : i < xs.length := hi
        simp [List.mem_range'_1, this]
theorem bArray_step (env : VEnv) (hwf : EnvWF env) (n : Node) (xs : List Json) (hxs : Json.WF (.arr xs) = true)
    {r8 r9 : Spec.R} (h8 : Spec.kwItems (specEnvOf env) sub n (.arr xs) = some r8)
    (h9 : Spec.kwContains sub (Spec.vocab env.draft n) (.arr xs) = some r9) :
    Step (.arr xs)
      (rConsts [r8, if itemsLimOk n xs.length then r9 else none, okR (!n.uniqueItems || Spec.distinct xs)]
        (Spec.kwUnevaluatedItems sub (Spec.vocab env.draft n) (.arr xs)))
      (bArray env rec stack n (ofJson (.arr xs))) := by
  have hxs' : ∀ x, x ∈ xs → Json.WF x = true := Json.WF_arr hxs
  have hwl : Json.wfList xs = true := by simpa [Json.WF] using hxs
  -- the blocks that dispatch on the draft are the 2020-12 blocks on `Spec.vocab env.draft n` (`bContains_vocab` …),
  -- which is the node the Spec's keywords read
  have hform : bArray env rec stack n (ofJson (.arr xs)) = fun a =>
      Res.bind (bItems env rec stack n (ofJsonList xs) a) fun a =>
      Res.bind (Res.bind (bContains .d2020 rec stack (Spec.vocab env.draft n) (ofJsonList xs) a) fun p =>
        Res.bind (bArrayLimits .d2020 (Spec.vocab env.draft n) (ofJsonList xs) p.2) fun _ => .ok p.1) fun a =>
      Res.bind (Res.bind (bUnique env n (ofJsonList xs)) fun _ => .ok a) fun a =>
      bUnevaluatedItems .d2020 rec stack (Spec.vocab env.draft n) (ofJsonList xs) a := by
    funext a
    simp only [ofJson, bArray, ← bContains_vocab, ← bArrayLimits_vocab, ← bUnevaluatedItems_vocab, Res.bind_assoc,
      Res.bind_ok]
  rw [hform]
  exact (Step.const fun a => bItems_blk H env n xs hxs' a h8).bind <|
    (Step.const fun a => containsLimits_blk H (Spec.vocab env.draft n) xs hxs' a h9).bind <|
    (Step.assert (bUnique_eq env hwf n xs hwl)).bind fun a e hm r hr =>
      bUnevaluatedItems_blk H (Spec.vocab env.draft n) xs hxs' a e (fun i hi => hm.2 i hi) hr

end

end Refine
end JSV
