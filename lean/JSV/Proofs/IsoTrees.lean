/-
  Related trees validate alike: the clone of a tree (C20) and the tree read back from its JSON text (C05), both
  reference-free, through `Iso.evalFuel_sim`.

  `Go.NodeRel` — what `cloneStep` and the round trip produce — gives `NodeSim` (`NodeSim.of_nodeRel`); without `$ref` and
  `$dynamicRef` the resolution tables are never consulted (`EnvSim.of_refFree`, `refFree`).  `CloneR` / `cloneR_envSim`:
  the relation along which a clone simulates its original.  Then the normal forms of the JSON round trip, which
  `evalStep` cannot see (`preNorm`, `midNorm`, `TreeR`, `treeEq_meaning`).
-/
import JSV.Proofs.IsoValid
import JSV.Proofs.MshNorm
import JSV.Proofs.MshCloneOk
namespace JSV
namespace Iso
open Go (ListRel OptRel KeyRel getD_rel)

theorem NodeSim.of_nodeRel {R : NodeId → NodeId → Prop} {n n' : Node} (h : Go.NodeRel R n n') : NodeSim R n n' := by
  obtain ⟨fs', hrel, rfl⟩ := h
  obtain ⟨c0, c1, c2, c3, c4, c5, c6, c7, c8, c9, c10, c11, c12, c13, c14, c15, c16, c17, c18, c19, c20, c21, c22, rfl,
    r0, r1, r2, r3, r4, r5, r6, r7, r8, r9, r10, r11, r12, r13, r14, r15, r16, r17, r18, r19, r20, r21, r22⟩ :=
    Go.childFields_inv hrel
  exact {
    scal := rfl
    allOf := getD_rel r3
    anyOf := r4
    oneOf := r15
    not := r14
    if_ := r11
    then_ := r20
    else_ := r10
    prefixItems := getD_rel r17
    items := r12
    itemsArray := r13
    additionalItems := r1
    contains := r5
    unevaluatedItems := r21
    properties := fun k => Go.RIso.lookup_krel k (getD_rel r18)
    patternProperties := getD_rel r16
    additionalProperties := r2
    propertyNames := r19
    unevaluatedProperties := r22
    dependentSchemas := getD_rel r9
    dependencySchemas := getD_rel r8 }

theorem nodeRel_and_left {S : NodeId → NodeId → Prop} {P : NodeId → Prop} {n n' : Node} (h : Go.NodeRel S n n')
    (hp : ∀ f, f ∈ n.childFields → ∀ x, x ∈ f.ids → P x) : Go.NodeRel (fun x y => P x ∧ S x y) n n' := by
  obtain ⟨fs', hrel, rfl⟩ := h
  exact ⟨fs', Go.ListRel.imp_mem hrel fun f _ hf _ hr => Go.FieldRel.and_left hr (hp f hf), rfl⟩

/-- no `$ref` and no `$dynamicRef` on the left: the resolution tables are never consulted, so they are arbitrary -/
theorem EnvSim.of_refFree {R : NodeId → NodeId → Prop} {e₁ e₂ : Spec.Env} (hd : e₁.draft = e₂.draft)
    (hre : e₁.reMatch = e₂.reMatch) (hn : ∀ a b, R a b → OptRel (NodeSim R) (e₁.st.get? a) (e₂.st.get? b))
    (hfree : ∀ a b n, R a b → e₁.st.get? a = some n → n.ref = "" ∧ n.dynamicRef = "") : EnvSim R e₁ e₂ where
  draft := hd
  reMatch := hre
  node := hn
  ref := fun a b n h hg hr => absurd (hfree a b n h hg).1 hr
  dyn := fun a b n h hg hr => absurd (hfree a b n h hg).2 hr

def noRefs (n : Node) : Bool := n.ref == "" && n.dynamicRef == ""

theorem noRefs_iff {n : Node} : noRefs n = true ↔ n.ref = "" ∧ n.dynamicRef = "" := by
  simp only [noRefs, Bool.and_eq_true, beq_iff_eq]

/-- **reference-free** (decidable): the unfolding of `a` through `Node.children` ends within depth `d` — nil pointers
    inside slices and maps are allowed as leaves — and no schema object of it has a `$ref` or a `$dynamicRef`.
    Nothing is asked of `$id` / `$anchor` / `$dynamicAnchor`: without references they are not observable (the theorems
    below hold for ARBITRARY resolution tables, which is the proof). -/
def refFree (st : Store) : Nat → NodeId → Bool
  | 0, a => (st.get? a).isNone
  | d + 1, a =>
    match st.get? a with
    | none => true
    | some n => noRefs n && n.children.all (refFree st d)

theorem refFree_node {st : Store} : ∀ {d : Nat} {a : NodeId} {n : Node}, refFree st d a = true → st.get? a = some n →
    ∃ d', d = d' + 1 ∧ noRefs n = true ∧ ∀ x, x ∈ n.children → refFree st d' x = true
  | 0, a, n, h, hn => by
    simp only [refFree, hn, Option.isNone_some] at h
    cases h
  | d + 1, a, n, h, hn => by
    simp only [refFree, hn, Bool.and_eq_true, List.all_eq_true] at h
    exact ⟨d, rfl, h.1, h.2⟩

theorem refFree_of_treeAll {st : Store} : ∀ {d : Nat} {a : NodeId}, Go.treeAll noRefs st d a = true →
    refFree st d a = true
  | 0, _, h => by cases h
  | d + 1, a, h => by
    obtain ⟨n, hn, hp, hc⟩ := Go.treeAll_succ h
    simp only [refFree, hn, Bool.and_eq_true, List.all_eq_true]
    exact ⟨hp, fun x hx => refFree_of_treeAll (hc x hx)⟩

def CloneR (B : Nat) (st st' : Store) (a b : NodeId) : Prop :=
  ∃ k, refFree st k a = true ∧ Go.Sim B st st' k a b

theorem cloneR_node {B : Nat} {st st' : Store} (hs : st.size ≤ B) (hs' : st'.size ≤ B) {a b : NodeId}
    (h : CloneR B st st' a b) : OptRel (NodeSim (CloneR B st st')) (st.get? a) (st'.get? b) := by
  obtain ⟨k, hf, hsim⟩ := h
  have hnil : ∀ {a b : NodeId}, B ≤ a ∧ b = a → OptRel (NodeSim (CloneR B st st')) (st.get? a) (st'.get? b) := by
    rintro a b ⟨hB, rfl⟩
    rw [Go.get?_eq_none_iff.2 (Nat.le_trans hs hB), Go.get?_eq_none_iff.2 (Nat.le_trans hs' hB)]
    trivial
  cases k with
  | zero => exact hnil hsim
  | succ k =>
    rcases hsim with hsim | ⟨n, n', ha, hb, hrel⟩
    · exact hnil hsim
    · rw [ha, hb]
      obtain ⟨k', hk', -, hch⟩ := refFree_node hf ha
      cases hk'
      have hrel' := nodeRel_and_left (P := fun x => refFree st k x = true) hrel
        (fun f hf' x hx => hch x (Go.mem_children_iff.2 ⟨f, hf', hx⟩))
      exact NodeSim.of_nodeRel (Go.NodeRel.imp (fun x y hxy => ⟨k, hxy.1, hxy.2⟩) hrel')

theorem cloneR_free {B : Nat} {st st' : Store} {a b : NodeId} {n : Node} (h : CloneR B st st' a b)
    (hn : st.get? a = some n) : n.ref = "" ∧ n.dynamicRef = "" := by
  obtain ⟨k, hf, -⟩ := h
  obtain ⟨_, -, hp, -⟩ := refFree_node hf hn
  exact noRefs_iff.1 hp

theorem cloneR_envSim {B : Nat} {st st' : Store} (hs : st.size ≤ B) (hs' : st'.size ≤ B) (env env' : Spec.Env)
    (hd : env.draft = env'.draft) (hre : env.reMatch = env'.reMatch) :
    EnvSim (CloneR B st st') { env with st := st } { env' with st := st' } :=
  EnvSim.of_refFree hd hre (fun _ _ h => cloneR_node hs hs' h) (fun _ _ _ h hn => cloneR_free h hn)

/-!
  The normal forms of the round trip are invisible to `evalStep`.
  `Go.normNode` = (1) nil-vs-empty normalisations and fields `evalStep` does not read (`preNorm`), then (2) the entry
  lists of seven maps put in ascending key order (`midNorm`), then (3) "properties" in emission order.
  (1) and (3) change no result at all (`NodeSim Eq`: `preNorm_invisible`, `lookup_propEntries`); (2) changes the ORDER in
  which evaluated property names are listed, nothing else (`Inv.evalFuel_sim`: results agree up to `Inv.OutSim`). -/

theorem keyRel_eq_refl (l : List (String × NodeId)) : ListRel (KeyRel Eq) l l :=
  Go.ListRel.refl_of l fun _ _ => ⟨rfl, rfl⟩

theorem optListRel_eq_refl {α} (o : Option (List α)) : OptRel (ListRel Eq) o o := Go.OptRel.refl Go.ListRel.refl_eq o

/-- a map with `omitempty`: empty comes back nil (the entries keep their order) -/
def emptyKV {α : Type} (m : Option (List (String × α))) : Option (List (String × α)) :=
  match m with
  | some (e :: es) => some (e :: es)
  | _ => none

/-- DependencyStrings: the empty map comes back nil, a nil list as the empty list -/
def depNil (m : Option (List (String × Option (List String)))) : Option (List (String × Option (List String))) :=
  match m with
  | some (e :: es) => some ((e :: es).map fun e => (e.1, some (e.2.getD [])))
  | _ => none

/-- step (1): the part of `Go.normNode` that reorders nothing `evalStep` or the resolver walks (`$vocabulary`, of which
    only the presence is ever tested — by checkLocal — is put into its final form here: non-nil stays non-nil, keys
    ascending, `Go.normVocab`) -/
def preNorm (n : Node) : Node :=
  { n with
    required := Go.normReq n.required, extra := Go.normExtra n.extra, propertyOrder := none,
    defs := emptyKV n.defs, definitions := emptyKV n.definitions,
    patternProperties := emptyKV n.patternProperties, dependentSchemas := emptyKV n.dependentSchemas,
    prefixItems := Go.normList n.prefixItems, allOf := Go.normList n.allOf,
    dependencySchemas := emptyKV n.dependencySchemas, dependencyStrings := depNil n.dependencyStrings,
    vocabulary := Go.normVocab n.vocabulary, dependentRequired := emptyKV n.dependentRequired,
    examples := Go.normJL n.examples }

def midNorm (n : Node) : Node :=
  Inv.withMaps (preNorm n) n.properties (Go.normMap n.patternProperties) (Go.normMap n.defs) (Go.normMap n.definitions)
    (Go.normMap n.dependencySchemas) (Go.normDepStrs n.dependencyStrings) (Go.normKV n.dependentRequired)
    (Go.normMap n.dependentSchemas)

theorem normNode_eq (n : Node) :
    Go.normNode n = { midNorm n with properties := Go.normProps n.properties (n.propertyOrder.getD []) } := rfl

theorem normReq_getD (r : Option (List String)) : (Go.normReq r).getD [] = r.getD [] := by
  cases r with
  | none => rfl
  | some l => cases l <;> rfl

theorem normList_getD (r : Option (List NodeId)) : (Go.normList r).getD [] = r.getD [] := by
  cases r with
  | none => rfl
  | some l => cases l <;> rfl

theorem emptyKV_getD {α : Type} (r : Option (List (String × α))) : (emptyKV r).getD [] = r.getD [] := by
  cases r with
  | none => rfl
  | some l => cases l <;> rfl

theorem depView_emptyKV (m : Option (List (String × Option (List String)))) : depView (emptyKV m) = depView m := by
  unfold depView
  rw [emptyKV_getD]

theorem depView_depNil (m : Option (List (String × Option (List String)))) : depView (depNil m) = depView m := by
  cases m with
  | none => rfl
  | some l =>
    cases l with
    | nil => rfl
    | cons e es =>
      unfold depView depNil
      simp only [Option.getD_some, List.map_map]
      rfl

theorem scalarView_preNorm (n : Node) : scalarView (preNorm n) = scalarView n := by
  unfold scalarView preNorm
  dsimp only
  rw [normReq_getD, depView_emptyKV, depView_depNil]

theorem NodeSim.refl_eq (n : Node) : NodeSim Eq n n where
  scal := rfl
  allOf := Go.ListRel.refl_eq _
  anyOf := optListRel_eq_refl _
  oneOf := optListRel_eq_refl _
  not := Go.OptRel.refl_eq _
  if_ := Go.OptRel.refl_eq _
  then_ := Go.OptRel.refl_eq _
  else_ := Go.OptRel.refl_eq _
  prefixItems := Go.ListRel.refl_eq _
  items := Go.OptRel.refl_eq _
  itemsArray := optListRel_eq_refl _
  additionalItems := Go.OptRel.refl_eq _
  contains := Go.OptRel.refl_eq _
  unevaluatedItems := Go.OptRel.refl_eq _
  properties := fun _ => Go.OptRel.refl_eq _
  patternProperties := keyRel_eq_refl _
  additionalProperties := Go.OptRel.refl_eq _
  propertyNames := Go.OptRel.refl_eq _
  unevaluatedProperties := Go.OptRel.refl_eq _
  dependentSchemas := keyRel_eq_refl _
  dependencySchemas := keyRel_eq_refl _

theorem preNorm_invisible (n : Node) : NodeSim Eq n (preNorm n) :=
  { NodeSim.refl_eq n with
    scal := (scalarView_preNorm n).symm
    allOf := (normList_getD n.allOf).symm ▸ Go.ListRel.refl_eq _
    prefixItems := (normList_getD n.prefixItems).symm ▸ Go.ListRel.refl_eq _
    patternProperties := (emptyKV_getD n.patternProperties).symm ▸ keyRel_eq_refl _
    dependentSchemas := (emptyKV_getD n.dependentSchemas).symm ▸ keyRel_eq_refl _
    dependencySchemas := (emptyKV_getD n.dependencySchemas).symm ▸ keyRel_eq_refl _ }

theorem envSim_eq (env : Spec.Env) {st₁ st₂ : Store} (h : ∀ a, OptRel (NodeSim Eq) (st₁.get? a) (st₂.get? a)) :
    EnvSim Eq { env with st := st₁ } { env with st := st₂ } where
  draft := rfl
  reMatch := rfl
  node := fun a _ e => e ▸ h a
  ref := fun a _ _ e _ _ => e ▸ (Inv.tables_eq env a).1
  dyn := fun a _ _ e _ _ => e ▸ ⟨(Inv.tables_eq env a).2.1, rfl,
    fun _ _ hsc => (Inv.tables_eq env a).2.2.2 _ _ (Inv.all₂_iff_listRel.2 hsc)⟩

theorem envSim_map₂ (env : Spec.Env) (st : Store) (f g : Node → Node) (hfg : ∀ n, NodeSim Eq (f n) (g n)) :
    EnvSim Eq { env with st := st.map f } { env with st := st.map g } :=
  envSim_eq env fun a => by
    rw [Go.get?_map, Go.get?_map]
    cases st.get? a with
    | none => trivial
    | some n => exact hfg n

theorem envSim_map (env : Spec.Env) (st : Store) (f : Node → Node) (hf : ∀ n, NodeSim Eq n (f n)) :
    EnvSim Eq { env with st := st } { env with st := st.map f } := by
  have h := envSim_map₂ env st id f hf
  rwa [Array.map_id] at h

theorem evalFuel_map (env : Spec.Env) (st : Store) (f : Node → Node) (hf : ∀ n, NodeSim Eq n (f n)) (fuel : Nat)
    (scope : List NodeId) (s : NodeId) (j : Json) :
    Spec.evalFuel { env with st := st } fuel scope s j = Spec.evalFuel { env with st := st.map f } fuel scope s j :=
  evalFuel_sim (envSim_map env st f hf) fuel (Go.ListRel.refl_eq scope) rfl j

theorem optPerm_emptyKV_normMap (m : Option (List (String × NodeId))) : Inv.optPerm (emptyKV m) (Go.normMap m) := by
  cases m with
  | none => trivial
  | some l =>
    cases l with
    | nil => trivial
    | cons e es => exact (Go.sortKV_perm _).symm

theorem optPerm_emptyKV_normKV {α : Type} (m : Option (List (String × α))) : Inv.optPerm (emptyKV m) (Go.normKV m) := by
  cases m with
  | none => trivial
  | some l =>
    cases l with
    | nil => trivial
    | cons e es => exact (Go.sortKV_perm _).symm

theorem optPerm_depNil (m : Option (List (String × Option (List String)))) :
    Inv.optPerm (depNil m) (Go.normDepStrs m) := by
  cases m with
  | none => trivial
  | some l =>
    cases l with
    | nil => trivial
    | cons e es => exact (Go.sortKV_perm _).symm

theorem permNode_pre_mid (n : Node) : Inv.permNode (preNorm n) (midNorm n) :=
  ⟨n.properties, Go.normMap n.patternProperties, Go.normMap n.defs, Go.normMap n.definitions,
    Go.normMap n.dependencySchemas, Go.normDepStrs n.dependencyStrings, Go.normKV n.dependentRequired,
    Go.normMap n.dependentSchemas, Inv.optPerm.refl _, optPerm_emptyKV_normMap _, optPerm_emptyKV_normMap _,
    optPerm_emptyKV_normMap _, optPerm_emptyKV_normMap _, optPerm_depNil _, optPerm_emptyKV_normKV _,
    optPerm_emptyKV_normMap _, rfl⟩

theorem permStore_pre_mid (st : Store) : Inv.permStore (st.map preNorm) (st.map midNorm) := by
  refine ⟨by rw [Array.size_map, Array.size_map], fun i => ?_⟩
  rw [Go.get?_map, Go.get?_map]
  cases st.get? i with
  | none => trivial
  | some n => exact permNode_pre_mid n

theorem storeWF_preNorm {st : Store} (h : Refine.StoreWF st) : Refine.StoreWF (st.map preNorm) := by
  intro s n hn
  rw [Go.get?_map, Option.map_eq_some_iff] at hn
  obtain ⟨m, hm, rfl⟩ := hn
  exact h s m hm

theorem mem_orderedKeys {ps : List (String × NodeId)} {order : List String} {k : String} (hk : k ∈ ps.map (·.1)) :
    k ∈ Go.orderedKeys ps order := by
  rw [Go.orderedKeys_blocks, List.mem_append]
  by_cases ho : k ∈ order
  · exact Or.inl (Go.mem_listedKeys.2 ⟨ho, hk⟩)
  · exact Or.inr ((Go.sortStrings_perm _).mem_iff.2 (Go.mem_restKeys.2 ⟨hk, ho⟩))

/-- `evalStep` only looks "properties" up by name, and orderedProperties keeps every lookup -/
theorem lookup_propEntries (ps : List (String × NodeId)) (order : List String) (k : String) :
    Json.lookup k (Go.propEntries ps order) = Json.lookup k ps := by
  by_cases hk : k ∈ Go.orderedKeys ps order
  · exact Go.lookup_filterMap_lookup _ (fun _ h => Go.orderedKeys_isSome h) k hk
  · have h1 : Json.lookup k (Go.propEntries ps order) = none :=
      Option.not_isSome_iff_eq_none.1 fun h => hk (Go.keys_propEntries ps order ▸ Json.lookup_isSome_iff.1 h)
    have h2 : Json.lookup k ps = none :=
      Option.not_isSome_iff_eq_none.1 fun h => hk (mem_orderedKeys (Json.lookup_isSome_iff.1 h))
    rw [h1, h2]

theorem lookup_normProps (ps : Option (List (String × NodeId))) (order : List String) (k : String) :
    Json.lookup k ((Go.normProps ps order).getD []) = Json.lookup k (ps.getD []) := by
  cases ps with
  | none => rfl
  | some l => exact lookup_propEntries l order k

theorem NodeSim.of_props {R : NodeId → NodeId → Prop} {m n' : Node} (P : Option (List (String × NodeId)))
    (h : NodeSim R { m with properties := P } n')
    (hl : ∀ k, Json.lookup k (m.properties.getD []) = Json.lookup k (P.getD [])) : NodeSim R m n' :=
  { h with properties := fun k => by rw [hl k]; exact h.properties k }

def TreeR (st st' : Store) (a b : NodeId) : Prop :=
  ∃ k, Go.treeAll noRefs st k a = true ∧ Go.TreeEq st st' k a b

theorem treeR_node {st st' : Store} {a b : NodeId} (h : TreeR st st' a b) :
    OptRel (NodeSim (TreeR st st')) (Store.get? (st.map midNorm) a) (st'.get? b) := by
  obtain ⟨k, hf, hte⟩ := h
  cases k with
  | zero => exact hte.elim
  | succ k =>
    obtain ⟨n, n', ha, hb, hrel⟩ := hte
    obtain ⟨n0, hn0, -, hc⟩ := Go.treeAll_succ hf
    rw [ha] at hn0
    cases hn0
    rw [Go.get?_map, ha, hb]
    have hrel' := nodeRel_and_left (P := fun x => Go.treeAll noRefs st k x = true) hrel
      (fun f hf' x hx => hc x (Go.normNode_ids_sub hf' hx))
    have hsim : NodeSim (TreeR st st') (Go.normNode n) n' :=
      NodeSim.of_nodeRel (Go.NodeRel.imp (fun x y hxy => ⟨k, hxy.1, hxy.2⟩) hrel')
    rw [normNode_eq] at hsim
    exact NodeSim.of_props _ hsim fun k => (lookup_normProps n.properties _ k).symm

theorem treeR_free {st st' : Store} {a b : NodeId} {m : Node} (h : TreeR st st' a b)
    (hm : Store.get? (st.map midNorm) a = some m) : m.ref = "" ∧ m.dynamicRef = "" := by
  obtain ⟨k, hf, -⟩ := h
  cases k with
  | zero => cases hf
  | succ k =>
    obtain ⟨n, hn, hp, -⟩ := Go.treeAll_succ hf
    rw [Go.get?_map, hn] at hm
    cases hm
    exact noRefs_iff.1 hp

theorem treeR_envSim (st st' : Store) (env env' : Spec.Env) (hd : env.draft = env'.draft)
    (hre : env.reMatch = env'.reMatch) :
    EnvSim (TreeR st st') { env with st := st.map midNorm } { env' with st := st' } :=
  EnvSim.of_refFree hd hre (fun _ _ h => treeR_node h) (fun _ _ _ h hn => treeR_free h hn)

/-- `Inv.OutSim`: the results agree up to the order in which the evaluated properties are listed.
    `Refine.StoreWF st`: the "properties" maps of `st` have distinct keys (they are Go maps). -/
theorem treeEq_meaning {st st' : Store} {d : Nat} {a b : NodeId} (hte : Go.TreeEq st st' d a b)
    (hfree : Go.treeAll noRefs st d a = true) (hst : Refine.StoreWF st) (env env' : Spec.Env)
    (hd : env.draft = env'.draft) (hre : env.reMatch = env'.reMatch) (fuel : Nat) (j : Json)
    (hj : Json.WF j = true) :
    Inv.OutSim (Spec.evalFuel { env with st := st } fuel [] a j) (Spec.evalFuel { env' with st := st' } fuel [] b j) := by
  rw [evalFuel_map env st preNorm preNorm_invisible fuel [] a j,
    ← evalFuel_sim (treeR_envSim st st' env env' hd hre) fuel .nil ⟨d, hfree, hte⟩ j]
  exact Inv.evalFuel_sim env (st.map preNorm) (st.map midNorm) (permStore_pre_mid st) (storeWF_preNorm hst) fuel
    [] a j j (Inv.permJson_refl j) hj

theorem midNorm_normNode (n : Node) : NodeSim Eq (midNorm n) (Go.normNode n) :=
  NodeSim.of_props (Go.normProps n.properties (n.propertyOrder.getD [])) (by rw [← normNode_eq]; exact NodeSim.refl_eq _)
    fun k => (lookup_normProps n.properties _ k).symm

end Iso
end JSV
