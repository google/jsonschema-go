/-
  C14: the simulation of `SpecSim` with the ids fixed, the maps of every schema object and the members of every object of
  the instance reordered (`P = List.Perm`, `E = EvEqv`, `J = JRW`, `R = Eq`).
-/
import JSV.Proofs.SpecSim
namespace JSV

namespace Inv
open Go GoVal Refine SpecSim
open Go.RIso (KRel)

theorem optAll₂_eq_refl {α : Type} (o : Option (List α)) : OptRel (All₂ Eq) o o := OptRel.refl All₂.refl_eq o

theorem keyed_of_perm {l1 l2 : List (String × NodeId)} (h : l1.Perm l2) :
    PRg (fun {α} (a b : List α) => a.Perm b) (KRel Eq) l1 l2 := ⟨_, h, All₂.refl fun _ _ => ⟨rfl, rfl⟩⟩

theorem permNode.toRel {n1 n2 : Node} (h : permNode n1 n2) (hnd : (Json.keys (n1.properties.getD [])).Nodup) :
    NodeRel (fun {α} (a b : List α) => a.Perm b) JRW Eq n1 n2 := by
  obtain ⟨p, pp, d, df, ds, dst, dr, dsc, h1, h2, _, _, h5, h6, h7, h8, rfl⟩ := h
  exact {
    ref := rfl, dynamicRef := rfl, minContains := rfl, maxContains := rfl
    asserts := fun env j1 j2 hj => by
      unfold assertsOf
      rw [typeOk_sim n1 hj.1 hj.2, enumOk_sim n1 hj.1 hj.2, constOk_sim n1 hj.1 hj.2, numericOk_sim n1 hj.1 hj.2,
        stringOk_sim env n1 hj.1 hj.2, arrayLimitsOk_sim n1 hj.1 hj.2,
        objectLimitsOk_sim env n1 (withMaps n1 p pp d df ds dst dr dsc) rfl rfl rfl h6.getD h7.getD hj.1 hj.2]
      rfl
    allOf := All₂.refl_eq _, anyOf := optAll₂_eq_refl _, oneOf := optAll₂_eq_refl _
    not := Go.OptRel.refl_eq _, if_ := Go.OptRel.refl_eq _, then_ := Go.OptRel.refl_eq _, else_ := Go.OptRel.refl_eq _
    prefixItems := All₂.refl_eq _, items := Go.OptRel.refl_eq _, itemsArray := optAll₂_eq_refl _
    additionalItems := Go.OptRel.refl_eq _, contains := Go.OptRel.refl_eq _, unevaluatedItems := Go.OptRel.refl_eq _
    properties := fun k => by rw [Json.lookup_eq_of_perm h1.getD hnd]; exact Go.OptRel.refl_eq _
    patternProperties := keyed_of_perm h2.getD
    additionalProperties := Go.OptRel.refl_eq _, propertyNames := Go.OptRel.refl_eq _
    unevaluatedProperties := Go.OptRel.refl_eq _
    dependentSchemas := keyed_of_perm h8.getD, dependencySchemas := keyed_of_perm h5.getD }

/-- the same resolution tables on both sides: the table conditions of `EnvRel` at `R = Eq` -/
theorem tables_eq (env : Spec.Env) (a : NodeId) :
    OptRel Eq (env.refTarget a) (env.refTarget a) ∧ OptRel Eq (env.dynInitial a) (env.dynInitial a) ∧
      env.dynName a = env.dynName a ∧ ∀ sc1 sc2, All₂ Eq sc1 sc2 →
        OptRel Eq (Spec.dynTarget env sc1 (env.dynName a)) (Spec.dynTarget env sc2 (env.dynName a)) :=
  ⟨Go.OptRel.refl_eq _, Go.OptRel.refl_eq _, rfl, fun _ _ hsc => All₂.eq_of_eq hsc ▸ Go.OptRel.refl_eq _⟩

theorem permStore.toRel (env : Spec.Env) {st1 st2 : Store} (hst : permStore st1 st2) (hwf : StoreWF st1) :
    EnvRel (fun {α} (a b : List α) => a.Perm b) JRW Eq { env with st := st1 } { env with st := st2 } where
  draft := rfl
  reMatch := rfl
  node := fun a b e => by
    subst e
    show OptRel _ (Store.get? st1 a) (Store.get? st2 a)
    rcases (hst.optRel a).inv with ⟨h1, h2⟩ | ⟨n1, n2, h1, h2, hp⟩
    · rw [h1, h2]; trivial
    · rw [h1, h2]; exact hp.toRel (Json.nodupKeys_iff.1 (hwf a n1 h1))
  ref := fun a _ _ e _ _ => e ▸ (tables_eq env a).1
  dyn := fun a _ _ e _ _ => e ▸ (tables_eq env a).2

def RecSim (rec1 rec2 : Spec.Rec) : Prop :=
  ∀ scope s j1 j2, permJson j1 j2 → Json.WF j1 = true → OutSim (rec1 scope s j1) (rec2 scope s j2)

/-- **C14, Spec level.**  For a store whose `properties` have distinct keys (`StoreWF`) and an instance without duplicate
    keys, reordering the maps of every schema object and the members of every object of the instance changes no outcome
    but how the evaluated properties are listed (`EvEqv`: the same members, in any order and number). -/
theorem evalFuel_sim (env : Spec.Env) (st1 st2 : Store) (hst : permStore st1 st2) (hwf : StoreWF st1) (fuel : Nat) :
    RecSim (Spec.evalFuel { env with st := st1 } fuel) (Spec.evalFuel { env with st := st2 } fuel) :=
  fun scope _ _ _ hj hw =>
    evalFuel_rel ListCong.ofPerm EvCong.ofPerm InstCong.ofPerm (hst.toRel env hwf) fuel _ _ _ _ _ _
      (All₂.refl_eq scope) rfl ⟨hj, hw⟩

end Inv
end JSV
