/-
  For the refinement proof: the object block (properties / patternProperties / additionalProperties,
  propertyNames, limits, dependencies, unevaluatedProperties).  Each of its loops is first rewritten as a
  `callLoop` over the list of calls it makes.
-/
import JSV.Proofs.RefineArray
import JSV.Proofs.SpecCalls
namespace JSV
namespace Refine
open Go GoVal

theorem lookup_ofJsonObj_wrap (k : String) (kvs : List (String × Json)) :
    Json.lookup k (ofJsonObj kvs) = (Json.lookup k kvs).map wrap := by
  rw [lookup_ofJsonObj]; rfl

section
variable {rec : Go.Rec} {stack : List NodeId}

theorem propertiesLoop_eq (kvs : List (String × Json)) : ∀ (props : List (String × NodeId)) (ev : List String),
    propertiesLoop rec stack (ofJsonObj kvs) props ev
      = Res.bind (callLoop rec stack ((props.filterMap fun p => (Json.lookup p.1 kvs).map fun v => (p.2, v)).map
            fun c => (c.1, wrap c.2)))
          fun _ => .ok (ev ++ (props.filter fun p => (Json.lookup p.1 kvs).isSome).map (·.1))
  | [], ev => by simp [propertiesLoop, callLoop]
  | (k, t) :: props, ev => by
    rw [propertiesLoop, lookup_ofJsonObj_wrap]
    cases hl : Json.lookup k kvs with
    | none => simp [hl, propertiesLoop_eq kvs props ev]
    | some v =>
      simp [hl, callLoop, propertiesLoop_eq kvs props (ev ++ [k]), Res.bind_assoc, List.append_assoc]

theorem patternsLoop_eq (env : VEnv) (prop : String) (v : Json) : ∀ (pats : List (String × NodeId)) (hit : Bool),
    patternsLoop env rec stack prop (wrap v) pats hit
      = Res.bind (callLoop rec stack (((pats.filter fun q => env.reMatch q.1 prop).map fun q => (q.2, v)).map
            fun c => (c.1, wrap c.2)))
          fun _ => .ok (hit || pats.any fun q => env.reMatch q.1 prop)
  | [], hit => by simp [patternsLoop, callLoop]
  | (re, t) :: pats, hit => by
    rw [patternsLoop]
    by_cases hm : env.reMatch re prop = true
    · simp [hm, callLoop, patternsLoop_eq env prop v pats true, Res.bind_assoc]
    · simp [hm, patternsLoop_eq env prop v pats hit]

theorem patternPropsLoop_eq (env : VEnv) (pats : List (String × NodeId)) :
    ∀ (kvs : List (String × Json)) (ev : List String),
    patternPropsLoop env rec stack pats (ofJsonObj kvs) ev
      = Res.bind (callLoop rec stack ((kvs.flatMap fun p =>
              (pats.filter fun q => env.reMatch q.1 p.1).map fun q => (q.2, p.2)).map fun c => (c.1, wrap c.2)))
          fun _ => .ok (ev ++ (kvs.filter fun p => pats.any fun q => env.reMatch q.1 p.1).map (·.1))
  | [], ev => by simp [ofJsonObj, patternPropsLoop, callLoop]
  | (k, v) :: kvs, ev => by
    rw [ofJsonObj, patternPropsLoop]
    show Res.bind (patternsLoop env rec stack k (wrap v) pats false) _ = _
    rw [patternsLoop_eq, Res.bind_assoc]
    simp only [Res.bind_ok, Bool.false_or, List.flatMap_cons, List.map_append, callLoop_append, Res.bind_assoc]
    congr 1
    funext _
    rw [patternPropsLoop_eq env pats kvs]
    by_cases ha : (pats.any fun q => env.reMatch q.1 k) = true
    · simp [ha, List.append_assoc]
    · simp [ha]

theorem additionalLoop_eq (ap : NodeId) : ∀ (kvs : List (String × Json)) (ev : List String),
    (kvs.map (·.1)).Nodup →
    additionalLoop rec stack ap (ofJsonObj kvs) ev
      = Res.bind (callLoop rec stack (((kvs.filter fun p => !ev.contains p.1).map fun p => (ap, p.2)).map
            fun c => (c.1, wrap c.2)))
          fun _ => .ok (ev ++ (kvs.filter fun p => !ev.contains p.1).map (·.1))
  | [], ev, _ => by simp [ofJsonObj, additionalLoop, callLoop]
  | (k, v) :: kvs, ev, hnd => by
    rw [ofJsonObj, additionalLoop]
    have hnd' : (kvs.map (·.1)).Nodup := (List.nodup_cons.1 hnd).2
    have hk : k ∉ kvs.map (·.1) := (List.nodup_cons.1 hnd).1
    by_cases hc : ev.contains k = true
    · rw [if_pos hc, additionalLoop_eq ap kvs ev hnd', List.filter_cons_of_neg (by simpa using hc)]
    · rw [if_neg hc, additionalLoop_eq ap kvs (ev ++ [k]) hnd']
      have hfil : (kvs.filter fun p => !(ev ++ [k]).contains p.1) = kvs.filter fun p => !ev.contains p.1 := by
        apply List.filter_congr
        intro p hp
        have : p.1 ≠ k := fun h => hk (h ▸ List.mem_map.2 ⟨p, hp, rfl⟩)
        simp [this]
      have hc' : ev.contains k = false := by simpa using hc
      rw [hfil, List.filter_cons_of_pos (by simpa using hc')]
      simp only [List.map_cons, callLoop, Res.bind_assoc, List.append_assoc, List.cons_append, List.nil_append]
      rfl

theorem propertyNamesLoop_eq (pn : NodeId) : ∀ (kvs : List (String × Json)),
    propertyNamesLoop rec stack pn (ofJsonObj kvs)
      = callLoop rec stack ((kvs.map fun p => (pn, Json.str p.1)).map fun c => (c.1, ofJson c.2))
  | [] => by simp [ofJsonObj, propertyNamesLoop, callLoop]
  | (k, v) :: kvs => by
    rw [ofJsonObj, propertyNamesLoop, propertyNamesLoop_eq pn kvs]
    simp [callLoop, ofJson]

theorem unevalPropsLoop_eq (u : NodeId) (anns : Anns) : ∀ (kvs : List (String × Json)),
    unevalPropsLoop rec stack u anns (ofJsonObj kvs)
      = callLoop rec stack (((kvs.filter fun p => !anns.evaluatedProperties.contains p.1).map fun p => (u, p.2)).map
          fun c => (c.1, wrap c.2))
  | [] => by simp [ofJsonObj, unevalPropsLoop, callLoop]
  | (k, v) :: kvs => by
    rw [ofJsonObj, unevalPropsLoop, unevalPropsLoop_eq u anns kvs]
    by_cases hc : anns.evaluatedProperties.contains k = true
    · rw [if_pos hc, List.filter_cons_of_neg (by simpa using hc)]
    · have hc' : anns.evaluatedProperties.contains k = false := by simpa using hc
      rw [if_neg hc, List.filter_cons_of_pos (by simpa using hc')]
      simp only [List.map_cons, callLoop]
      rfl

end

/-! What `bProps` calls and notes, as lists (`propsCalls`, `propsKeys`).  Go's `propertiesLoop` walks the SCHEMA's
    `properties` and looks each name up in the instance; the Spec walks the instance's members and looks each up in
    `properties`.  The two call lists therefore agree only as sets (`mem_named_snd`, an iff, used through
    `all_eq_of_mem_iff`), and only when neither side has a duplicate key: `hnd` (the instance: `Json.WF`) and `hpnd`
    (`properties`: `StoreWF`, Go map keys are unique). -/

def callsNamed (props : List (String × NodeId)) (kvs : List (String × Json)) : List (NodeId × Json) :=
  props.filterMap fun p => (Json.lookup p.1 kvs).map fun v => (p.2, v)

def callsPatterned (reMatch : String → String → Bool) (pats : List (String × NodeId)) (kvs : List (String × Json)) :
    List (NodeId × Json) :=
  kvs.flatMap fun p => (pats.filter fun q => reMatch q.1 p.1).map fun q => (q.2, p.2)

def presentKeys (props : List (String × NodeId)) (kvs : List (String × Json)) : List String :=
  (props.filter fun p => (Json.lookup p.1 kvs).isSome).map (·.1)

def patKeys (reMatch : String → String → Bool) (pats : List (String × NodeId)) (kvs : List (String × Json)) :
    List String :=
  (kvs.filter fun p => pats.any fun q => reMatch q.1 p.1).map (·.1)

theorem mem_named_snd {sub : NodeId → Json → Spec.Out} {props : List (String × NodeId)} {kvs : List (String × Json)}
    (hnd : (kvs.map (·.1)).Nodup) (hpnd : (props.map (·.1)).Nodup) (o : Spec.Out) :
    o ∈ (namedL sub props kvs).map (·.2) ↔ o ∈ (callsNamed props kvs).map fun c => sub c.1 c.2 := by
  simp only [namedL, callsNamed, List.mem_map, List.mem_filterMap, Option.map_eq_some_iff]
  constructor
  · rintro ⟨_, ⟨⟨k, v⟩, hp, t, ht, rfl⟩, rfl⟩
    refine ⟨(t, v), ⟨(k, t), Json.mem_of_lookup ht, v, Json.lookup_of_mem_nodup hnd hp, rfl⟩, rfl⟩
  · rintro ⟨_, ⟨⟨k, t⟩, hq, v, hv, rfl⟩, rfl⟩
    refine ⟨(k, sub t v), ⟨(k, v), Json.mem_of_lookup hv, t, Json.lookup_of_mem_nodup hpnd hq, rfl⟩, rfl⟩

theorem patterned_snd (reMatch : String → String → Bool) (sub : NodeId → Json → Spec.Out)
    (pats : List (String × NodeId)) (kvs : List (String × Json)) :
    (patternedL reMatch sub pats kvs).map (·.2) = (callsPatterned reMatch pats kvs).map fun c => sub c.1 c.2 := by
  simp only [patternedL, callsPatterned, List.map_flatMap, List.map_map]
  rfl

theorem mem_named_keys {sub : NodeId → Json → Spec.Out} {props : List (String × NodeId)} {kvs : List (String × Json)}
    (k : String) : k ∈ (namedL sub props kvs).map (·.1) ↔ k ∈ presentKeys props kvs := by
  simp only [namedL, presentKeys, List.mem_map, List.mem_filterMap, Option.map_eq_some_iff, List.mem_filter]
  constructor
  · rintro ⟨_, ⟨⟨k', v⟩, hp, t, ht, rfl⟩, rfl⟩
    exact ⟨(k', t), ⟨Json.mem_of_lookup ht, Json.lookup_isSome_iff.2 (List.mem_map.2 ⟨(k', v), hp, rfl⟩)⟩, rfl⟩
  · rintro ⟨⟨k', t⟩, ⟨hq, hs⟩, rfl⟩
    obtain ⟨v, hv⟩ := Option.isSome_iff_exists.1 hs
    obtain ⟨t', ht'⟩ := Json.lookup_isSome_of_mem_keys (k := k') (kvs := props) (List.mem_map.2 ⟨(k', t), hq, rfl⟩)
    exact ⟨(k', sub t' v), ⟨(k', v), Json.mem_of_lookup hv, t', ht', rfl⟩, rfl⟩

theorem mem_patterned_keys (reMatch : String → String → Bool) (sub : NodeId → Json → Spec.Out)
    (pats : List (String × NodeId)) (kvs : List (String × Json)) (k : String) :
    k ∈ (patternedL reMatch sub pats kvs).map (·.1) ↔ k ∈ patKeys reMatch pats kvs := by
  simp only [patternedL, patKeys, List.mem_map, List.mem_flatMap, List.mem_filter, List.any_eq_true]
  constructor
  · rintro ⟨_, ⟨p, hp, q, ⟨hq, hm⟩, rfl⟩, rfl⟩
    exact ⟨p, ⟨hp, q, hq, hm⟩, rfl⟩
  · rintro ⟨p, ⟨hp, q, hq, hm⟩, rfl⟩
    exact ⟨(p.1, sub q.2 p.2), ⟨p, hp, q, ⟨hq, hm⟩, rfl⟩, rfl⟩

theorem covered_contains (reMatch : String → String → Bool) (sub : NodeId → Json → Spec.Out)
    (props pats : List (String × NodeId)) (kvs : List (String × Json)) (k : String) :
    (coveredL reMatch sub props pats kvs).contains k = (presentKeys props kvs ++ patKeys reMatch pats kvs).contains k := by
  rw [Bool.eq_iff_iff]
  simp only [coveredL, List.contains_eq_mem, List.mem_append, decide_eq_true_eq, mem_named_keys,
    mem_patterned_keys]

theorem additional_eq (sub : NodeId → Json → Spec.Out) (t : NodeId) (c1 c2 : List String) (kvs : List (String × Json))
    (h : ∀ k, c1.contains k = c2.contains k) : additionalL sub t c1 kvs = additionalL sub t c2 kvs := by
  unfold additionalL
  congr 1
  apply List.filter_congr
  intro p _
  rw [h]

/-- the properties left to `additionalProperties` -/
def restOf (covered : List String) (kvs : List (String × Json)) : List (String × Json) :=
  kvs.filter fun p => !covered.contains p.1

def propsL (reMatch : String → String → Bool) (sub : NodeId → Json → Spec.Out) (n : Node) (kvs : List (String × Json)) :
    List (String × Spec.Out) :=
  namedL sub (n.properties.getD []) kvs ++ patternedL reMatch sub (n.patternProperties.getD []) kvs ++
    match n.additionalProperties with
    | some t => additionalL sub t (coveredL reMatch sub (n.properties.getD []) (n.patternProperties.getD []) kvs) kvs
    | none => []

theorem kwProps_obj (senv : Spec.Env) (sub : NodeId → Json → Spec.Out) (n : Node) (kvs : List (String × Json)) :
    Spec.kwProps senv sub n (.obj kvs) =
      (Spec.sequence ((propsL senv.reMatch sub n kvs).map (·.2))).map fun rs =>
        if Spec.allHold rs then some { props := (propsL senv.reMatch sub n kvs).map (·.1) } else none := rfl

def propsCalls (reMatch : String → String → Bool) (n : Node) (kvs : List (String × Json)) : List (NodeId × Json) :=
  callsNamed (n.properties.getD []) kvs ++ callsPatterned reMatch (n.patternProperties.getD []) kvs ++
    match n.additionalProperties with
    | some t => (restOf (presentKeys (n.properties.getD []) kvs ++ patKeys reMatch (n.patternProperties.getD []) kvs)
        kvs).map fun p => (t, p.2)
    | none => []

def propsKeys (reMatch : String → String → Bool) (n : Node) (kvs : List (String × Json)) : List String :=
  presentKeys (n.properties.getD []) kvs ++ patKeys reMatch (n.patternProperties.getD []) kvs ++
    match n.additionalProperties with
    | some _ => (restOf (presentKeys (n.properties.getD []) kvs ++ patKeys reMatch (n.patternProperties.getD []) kvs)
        kvs).map (·.1)
    | none => []

theorem mem_propsL_snd {reMatch : String → String → Bool} {sub : NodeId → Json → Spec.Out} {n : Node}
    {kvs : List (String × Json)} (hnd : (kvs.map (·.1)).Nodup) (hpnd : ((n.properties.getD []).map (·.1)).Nodup)
    (o : Spec.Out) :
    o ∈ (propsL reMatch sub n kvs).map (·.2) ↔ o ∈ (propsCalls reMatch n kvs).map fun c => sub c.1 c.2 := by
  simp only [propsL, propsCalls, List.map_append, List.mem_append, mem_named_snd hnd hpnd, patterned_snd]
  cases n.additionalProperties with
  | none => exact Iff.rfl
  | some t =>
    dsimp only
    rw [additional_eq sub t _ _ kvs (covered_contains reMatch sub _ _ kvs)]
    simp only [additionalL, restOf, List.map_map]
    exact Iff.rfl

theorem propsL_keys (reMatch : String → String → Bool) (sub : NodeId → Json → Spec.Out) (n : Node)
    (kvs : List (String × Json)) (k : String) :
    ((propsL reMatch sub n kvs).map (·.1)).contains k = (propsKeys reMatch n kvs).contains k := by
  have hc := covered_contains reMatch sub (n.properties.getD []) (n.patternProperties.getD []) kvs
  unfold propsL propsKeys
  rw [List.map_append, List.contains_append, List.contains_append]
  congr 1
  · rw [List.map_append]
    exact hc k
  · cases n.additionalProperties with
    | none => rfl
    | some t =>
      dsimp only
      rw [additional_eq sub t _ _ kvs hc]
      simp only [additionalL, restOf, List.map_map]
      rfl

section
variable {sub : NodeId → Json → Spec.Out} {rec : Go.Rec} {stack : List NodeId}
variable (H : SubRel sub rec stack)
include H

omit H in
theorem patternPart_eq (env : VEnv) (pats : List (String × NodeId)) (kvs : List (String × Json)) (ev : List String) :
    (if pats.length > 0 then patternPropsLoop env rec stack pats (ofJsonObj kvs) ev else .ok ev)
    = Res.bind (callLoop rec stack ((callsPatterned env.reMatch pats kvs).map fun c => (c.1, wrap c.2)))
        fun _ => .ok (ev ++ patKeys env.reMatch pats kvs) := by
  by_cases hp : pats.length > 0
  · rw [if_pos hp]
    exact patternPropsLoop_eq env pats kvs ev
  · have : pats = [] := by
      cases pats with
      | nil => rfl
      | cons a b => simp at hp
    subst this
    have h1 : callsPatterned env.reMatch [] kvs = [] := flatMap_nil_fun kvs
    have h2 : patKeys env.reMatch [] kvs = [] := by simp [patKeys]
    rw [h1, h2]
    simp [callLoop]

omit H in
theorem bProps_eq (env : VEnv) (i : Info) (n : Node) (kvs : List (String × Json)) (hnd : (kvs.map (·.1)).Nodup) :
    bProps env rec stack n (some i) (ofJsonObj kvs) =
      Res.bind (callLoop rec stack ((propsCalls env.reMatch n kvs).map fun c => (c.1, wrap c.2))) fun _ =>
        .ok (propsKeys env.reMatch n kvs) := by
  unfold bProps propsCalls propsKeys
  rw [propertiesLoop_eq, Res.bind_assoc]
  simp only [Res.bind_ok, List.nil_append, patternPart_eq, Res.bind_assoc, List.map_append, callLoop_append]
  cases n.additionalProperties with
  | none => simp only [List.map_nil, callLoop, Res.bind_ok, List.append_nil]; rfl
  | some t => dsimp only; rw [additionalLoop_eq t kvs _ hnd]; rfl

theorem bProps_blk (env : VEnv) (i : Info) (n : Node) (kvs : List (String × Json))
    (hnd : (kvs.map (·.1)).Nodup) (hpnd : ((n.properties.getD []).map (·.1)).Nodup)
    (hwf : ∀ p, p ∈ kvs → Json.WF p.2 = true) (a : Anns) {r : Spec.R}
    (h : Spec.kwProps (specEnvOf env) sub n (.obj kvs) = some r) :
    Blk (.obj kvs) a r
      (Res.bind (bProps env rec stack n (some i) (ofJsonObj kvs)) fun ev => .ok (a.noteProperties ev)) := by
  have hwfC : ∀ c, c ∈ propsCalls env.reMatch n kvs → Json.WF c.2 = true := by
    intro c hc
    simp only [propsCalls, callsNamed, callsPatterned, List.mem_append, List.mem_filterMap, Option.map_eq_some_iff,
      List.mem_flatMap, List.mem_map] at hc
    rcases hc with (⟨q, _, v, hv, rfl⟩ | ⟨p, hp, q, _, rfl⟩) | hc
    · exact hwf (q.1, v) (Json.mem_of_lookup hv)
    · exact hwf p hp
    · cases hap : n.additionalProperties with
      | none => rw [hap] at hc; cases hc
      | some t =>
        rw [hap] at hc
        obtain ⟨p, hp, rfl⟩ := List.mem_map.1 hc
        exact hwf p (List.mem_filter.1 hp).1
  rw [kwProps_obj, show (specEnvOf env).reMatch = env.reMatch from rfl] at h
  obtain ⟨rs, hs, rfl⟩ := Option.map_eq_some_iff.1 h
  obtain ⟨hdef, hall⟩ := sequence_allHold hs
  rw [hall, all_eq_of_mem_iff (mem_propsL_snd hnd hpnd), bProps_eq env i n kvs hnd,
    callLoop_spec H wrap strip_wrap _ hwfC fun o ho => hdef o ((mem_propsL_snd hnd hpnd o).2 ho)]
  cases ((propsCalls env.reMatch n kvs).map fun c => sub c.1 c.2).all okOut
  · rfl
  · refine ⟨_, rfl, fun k _ => ?_, fun m _ => ?_⟩
    · rw [γprop_noteProperties, ← propsL_keys env.reMatch sub n kvs k]
    · rw [γitem_noteProperties]; simp

end

def objLim3 (n : Node) (kvs : List (String × Json)) : Bool :=
  (match n.minProperties with | some m => decide (m ≤ (kvs.length : Int)) | none => true) &&
  (match n.maxProperties with | some m => decide ((kvs.length : Int) ≤ m) | none => true) &&
  (match n.required with | some r => r.all (fun k => (Json.lookup k kvs).isSome) | none => true)

def depReqList (draft : Draft) (n : Node) : List (String × Option (List String)) :=
  match draft with
  | .d7 => n.dependencyStrings.getD []
  | .d2020 => n.dependentRequired.getD []

def depReqOk (draft : Draft) (n : Node) (kvs : List (String × Json)) : Bool :=
  (depReqList draft n).all fun p =>
    !(Json.lookup p.1 kvs).isSome || (p.2.getD []).all fun k => (Json.lookup k kvs).isSome

theorem objectLimitsOk_obj (senv : Spec.Env) (n : Node) (kvs : List (String × Json)) :
    Spec.objectLimitsOk senv n (.obj kvs) = (objLim3 n kvs && depReqOk senv.draft n kvs) := by
  simp only [Spec.objectLimitsOk, objLim3, depReqOk, depReqList]
  cases n.minProperties <;> cases n.maxProperties <;> cases n.required <;> cases senv.draft <;> rfl

theorem allPresent_ofJsonObj (kvs : List (String × Json)) (ps : List String) :
    allPresent (ofJsonObj kvs) ps = ps.all fun k => (Json.lookup k kvs).isSome := by
  unfold allPresent
  congr 1
  funext k
  exact hasProperty_ofJsonObj kvs k

theorem bObjectLimits_eq (n : Node) (i : Info) (kvs : List (String × Json)) :
    bObjectLimits n (some i) (ofJsonObj kvs) = okIf (objLim3 n kvs) := by
  unfold bObjectLimits objLim3
  have hlen : (ofJsonObj kvs).length = kvs.length := by rw [ofJsonObj_eq_map, List.length_map]
  rw [hlen, ← okIf_true]
  simp only [Option.isNone_some, Bool.and_false, Bool.false_eq_true, if_false, ite_err_okIf, Bool.and_true,
    ← Bool.and_assoc]
  congr 1
  cases n.minProperties <;> cases n.maxProperties <;> cases n.required <;>
    simp only [int_le, GT.gt, allPresent_ofJsonObj, Bool.not_false, Bool.not_not, Bool.true_and, Bool.and_true]

theorem depRequiredLoop_eq (kvs : List (String × Json)) : ∀ ds : List (String × Option (List String)),
    depRequiredLoop (ofJsonObj kvs) ds = okIf (ds.all fun p =>
      !(Json.lookup p.1 kvs).isSome || (p.2.getD []).all fun k => (Json.lookup k kvs).isSome)
  | [] => rfl
  | (k, reqs) :: ds => by
    rw [depRequiredLoop, hasProperty_ofJsonObj, allPresent_ofJsonObj, depRequiredLoop_eq kvs ds, List.all_cons]
    cases (Json.lookup k kvs).isSome <;> cases ((reqs.getD []).all fun k => (Json.lookup k kvs).isSome) <;> simp

def pnPart (rec : Go.Rec) (stack : List NodeId) (n : Node) (gkvs : List (String × GoVal)) : Res Unit :=
  match n.propertyNames with
  | some pn => propertyNamesLoop rec stack pn gkvs
  | none => .ok ()

theorem filter_unevalProps {anns : Anns} {ev : Spec.Ev} {kvs : List (String × Json)}
    (hm : ∀ k, k ∈ kvs.map (·.1) → γprop anns k = ev.props.contains k) (hai : anns.allProperties = false) :
    (kvs.filter fun p => !anns.evaluatedProperties.contains p.1) = kvs.filter fun p => !ev.props.contains p.1 := by
  apply List.filter_congr
  intro p hp
  rw [← hm p.1 (List.mem_map.2 ⟨p, hp, rfl⟩)]
  simp [γprop, hai]

theorem filter_unevalProps_nil {anns : Anns} {ev : Spec.Ev} {kvs : List (String × Json)}
    (hm : ∀ k, k ∈ kvs.map (·.1) → γprop anns k = ev.props.contains k) (hai : anns.allProperties = true) :
    (kvs.filter fun p => !ev.props.contains p.1) = [] := by
  rw [List.filter_eq_nil_iff]
  intro p hp
  rw [← hm p.1 (List.mem_map.2 ⟨p, hp, rfl⟩)]
  simp [γprop, hai]

section
variable {sub : NodeId → Json → Spec.Out} {rec : Go.Rec} {stack : List NodeId}
variable (H : SubRel sub rec stack)
include H

theorem propertyNames_step (n : Node) (kvs : List (String × Json)) {r : Spec.R}
    (h : Spec.kwPropertyNames sub n (.obj kvs) = some r) :
    Step (.obj kvs) (fun _ => some r) (fun a => Res.bind (pnPart rec stack n (ofJsonObj kvs)) fun _ => .ok a) := by
  unfold Spec.kwPropertyNames at h
  unfold pnPart
  cases hpn : n.propertyNames with
  | none =>
    simp only [hpn, Option.some.injEq] at h
    subst h
    exact Step.assert (b := true) rfl
  | some t =>
    simp only [hpn] at h
    change (Spec.sequence (List.map (fun p : String × Json => sub t (Json.str p.1)) kvs)).map _ = some r at h
    simp only [Option.map_eq_some_iff] at h
    obtain ⟨rs, hs, rfl⟩ := h
    obtain ⟨hdef, hall⟩ := sequence_allHold hs
    rw [hall]
    refine Step.assert ?_
    simp only
    have e2 : List.map (fun p : String × Json => sub t (Json.str p.1)) kvs
        = (kvs.map fun p => (t, Json.str p.1)).map fun c : NodeId × Json => sub c.1 c.2 := by
      rw [List.map_map]; rfl
    rw [e2] at hdef ⊢
    rw [propertyNamesLoop_eq]
    exact callLoop_spec H ofJson strip_ofJson _ (by
      intro c hc
      obtain ⟨p, _, rfl⟩ := List.mem_map.1 hc
      rfl) hdef

theorem bDependencies_blk (env : VEnv) (n : Node) (kvs : List (String × Json)) (hj : Json.WF (.obj kvs) = true)
    (anns : Anns) {r : Spec.R} (h : Spec.kwDependentSchemas (specEnvOf env) sub n (.obj kvs) = some r) :
    Blk (.obj kvs) anns (if depReqOk env.draft n kvs then r else none)
      (bDependencies env rec stack n (ofJson (.obj kvs)) (ofJsonObj kvs) anns) := by
  unfold Spec.kwDependentSchemas at h
  unfold bDependencies depReqOk depReqList
  have hd : (specEnvOf env).draft = env.draft := rfl
  rw [hd] at h
  cases hdr : env.draft with
  | d7 =>
    simp only [hdr] at h
    simp only [Option.map_eq_some_iff] at h
    obtain ⟨rs, hs, rfl⟩ := h
    simp only [depRequiredLoop_eq]
    exact Blk_okIf (depSchemasLoop_blk H hj kvs _ rs anns hs)
  | d2020 =>
    simp only [hdr] at h
    simp only [Option.map_eq_some_iff] at h
    obtain ⟨rs, hs, rfl⟩ := h
    simp only [depRequiredLoop_eq]
    exact Blk_okIf (depSchemasLoop_blk H hj kvs _ rs anns hs)

theorem bUnevaluatedProps_blk (n : Node) (kvs : List (String × Json)) (hwf : ∀ p, p ∈ kvs → Json.WF p.2 = true)
    (anns : Anns) (ev : Spec.Ev) (hm : ∀ k, k ∈ kvs.map (·.1) → γprop anns k = ev.props.contains k) {r : Spec.R}
    (h : Spec.kwUnevaluatedProps sub n (.obj kvs) ev = some r) :
    Blk (.obj kvs) anns r (bUnevaluatedProps .d2020 rec stack n (ofJsonObj kvs) anns) := by
  unfold Spec.kwUnevaluatedProps at h
  unfold bUnevaluatedProps
  simp only [beq_d2020_d2020, if_true]
  cases hu : n.unevaluatedProperties with
  | none => simp only [hu, Option.some.injEq] at h; subst h; exact Blk_ok _ anns
  | some t =>
    simp only [hu] at h
    change (Spec.sequence (List.map (fun p : String × Json => sub t p.2)
      (List.filter (fun p => !ev.props.contains p.1) kvs))).map _ = some r at h
    simp only [Option.map_eq_some_iff] at h
    obtain ⟨rs, hs, rfl⟩ := h
    simp only
    by_cases hai : anns.allProperties = true
    · rw [if_pos hai]
      rw [filter_unevalProps_nil hm hai] at hs
      cases hs
      refine ⟨anns, rfl, ?_, ?_⟩
      · intro k _
        have : γprop anns k = true := by simp [γprop, hai]
        rw [this]; rfl
      · intro i _; simp
    · rw [if_neg hai, unevalPropsLoop_eq, filter_unevalProps hm (Bool.eq_false_iff.2 hai)]
      refine callLoop_blk H wrap strip_wrap _ (fun c hc => ?_) (by rw [List.map_map]; exact hs) ⟨fun k hk => ?_, fun i _ => ?_⟩
      · obtain ⟨p, hp, rfl⟩ := List.mem_map.1 hc
        exact hwf p (List.mem_filter.1 hp).1
      · rw [γprop_allProperties]
        have : k ∈ kvs.map (·.1) := hk
        simp [this]
      · rw [γitem_allProperties]; simp

theorem bObject_step (env : VEnv) (i : Info) (n : Node) (kvs : List (String × Json)) (hj : Json.WF (.obj kvs) = true)
    (hpnd : ((n.properties.getD []).map (·.1)).Nodup) {r10 r11 r12 : Spec.R}
    (h10 : Spec.kwProps (specEnvOf env) sub n (.obj kvs) = some r10)
    (h11 : Spec.kwPropertyNames sub n (.obj kvs) = some r11)
    (h12 : Spec.kwDependentSchemas (specEnvOf env) sub n (.obj kvs) = some r12) :
    Step (.obj kvs)
      (rConsts [r10, r11, okR (objLim3 n kvs), if depReqOk env.draft n kvs then r12 else none]
        (Spec.kwUnevaluatedProps sub (Spec.vocab env.draft n) (.obj kvs)))
      (bObject env rec stack n (some i) (ofJson (.obj kvs))) := by
  obtain ⟨hnd, hwfv⟩ := Json.WF_obj hj
  have hwf : ∀ p, p ∈ kvs → Json.WF p.2 = true := fun p hp => hwfv p.1 p.2 hp
  -- as in `bArray_step`: the draft-dispatching block is the 2020-12 block on `Spec.vocab env.draft n`
  have hform : bObject env rec stack n (some i) (ofJson (.obj kvs)) = fun a =>
      Res.bind (Res.bind (bProps env rec stack n (some i) (ofJsonObj kvs)) fun ev => .ok (a.noteProperties ev)) fun a =>
      Res.bind (Res.bind (pnPart rec stack n (ofJsonObj kvs)) fun _ => .ok a) fun a =>
      Res.bind (Res.bind (bObjectLimits n (some i) (ofJsonObj kvs)) fun _ => .ok a) fun a =>
      Res.bind (bDependencies env rec stack n (ofJson (.obj kvs)) (ofJsonObj kvs) a) fun a =>
      bUnevaluatedProps .d2020 rec stack (Spec.vocab env.draft n) (ofJsonObj kvs) a := by
    funext a
    simp only [ofJson, bObject, ← bUnevaluatedProps_vocab, Res.bind_assoc, Res.bind_ok]
    rfl
  rw [hform]
  exact (Step.const fun a => bProps_blk H env i n kvs hnd hpnd hwf a h10).bind <|
    (propertyNames_step H n kvs h11).bind <| (Step.assert (bObjectLimits_eq n i kvs)).bind <|
    (Step.const fun a => bDependencies_blk H env n kvs hj a h12).bind fun a e hm r hr =>
      bUnevaluatedProps_blk H (Spec.vocab env.draft n) kvs hwf a e (fun k hk => hm.1 k hk) hr

end

end Refine
end JSV
