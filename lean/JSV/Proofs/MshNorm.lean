/-
  C05: the normal form of a node that MarshalJSON/UnmarshalJSON reproduce (`normNode`), `treeAll`, `nodeOK`, `TreeEq`,
  and the lemmas about them that need nothing of the round trip itself.
-/
import JSV.Proofs.MshClone
import JSV.Model.Unmarshal
namespace JSV
namespace Go

mutual
  /-- the form encoding/json writes a decoded `any` in: object keys ascending at every depth -/
  def jsonSorted : Json → Bool
    | .arr xs => jsonSortedList xs
    | .obj kvs => sortedB kvs && jsonSortedObj kvs
    | _ => true
  def jsonSortedList : List Json → Bool
    | [] => true
    | x :: xs => jsonSorted x && jsonSortedList xs
  def jsonSortedObj : List (String × Json) → Bool
    | [] => true
    | (_, v) :: rest => jsonSorted v && jsonSortedObj rest
end

/-- only the string, bool and number fields, `Type`/`Types`, `Required` and `Extra` may be non-zero -/
def ScalarOnly (n : Node) : Prop :=
  { n with defs := none, definitions := none, dependencySchemas := none, dependencyStrings := none, vocabulary := none, default := none, examples := none, enum := none, const := none, prefixItems := none, items := none, itemsArray := none, additionalItems := none, contains := none, unevaluatedItems := none, dependentRequired := none, properties := none, patternProperties := none, additionalProperties := none, propertyNames := none, unevaluatedProperties := none, allOf := none, anyOf := none, oneOf := none, not := none, if_ := none, then_ := none, else_ := none, dependentSchemas := none, contentSchema := none, propertyOrder := none } = n

/-- `required: []` is omitted by MarshalJSON (omitempty), so an empty non-nil slice comes back nil -/
def normReq (r : Option (List String)) : Option (List String) :=
  match r with
  | some (x :: xs) => some (x :: xs)
  | _ => none

/-- Extra comes back in ascending key order (a Go map has no order), and an empty non-nil map as nil -/
def normExtra (ex : Option (List (String × Json))) : Option (List (String × Json)) :=
  match ex with
  | some (e :: es) => some (sortKV (e :: es))
  | _ => none

/-- the `integer` helper accepts the value -/
def InInt32 (o : Option Int) : Prop := ∀ i, o = some i → (-2147483648 : Int) ≤ i ∧ i ≤ 2147483647

def int32B (o : Option Int) : Bool :=
  match o with
  | none => true
  | some i => decide ((-2147483648 : Int) ≤ i) && decide (i ≤ 2147483647)

/-- a `map[string]*Schema` with `omitempty`: empty comes back nil, otherwise in ascending key order -/
def normMap (m : Option (List (String × NodeId))) : Option (List (String × NodeId)) :=
  match m with
  | some (e :: es) => some (sortKV (e :: es))
  | _ => none

/-- a non-schema map with `omitempty` (dependentRequired): empty comes back nil, otherwise in ascending key order -/
def normKV {α : Type} (m : Option (List (String × α))) : Option (List (String × α)) :=
  match m with
  | some (e :: es) => some (sortKV (e :: es))
  | _ => none

/-- `$vocabulary` is written through the wrapper struct of MarshalJSON (`Vocabulary any`): only nil is omitted, so
    there is no nil-vs-empty normal form for it — a non-nil map comes back non-nil, in ascending key order (the empty
    map as the empty map) -/
def normVocab (m : Option (List (String × Bool))) : Option (List (String × Bool)) := m.map sortKV

theorem normVocab_isSome (m : Option (List (String × Bool))) : (normVocab m).isSome = m.isSome := by
  cases m <;> rfl

/-- `examples` (omitempty): empty comes back nil -/
def normJL (l : Option (List Json)) : Option (List Json) :=
  match l with
  | some (x :: xs) => some (x :: xs)
  | _ => none

/-- DependencyStrings as it comes back: ascending keys, nil lists as empty lists, the empty map as nil -/
def normDepStrs (m : Option (List (String × Option (List String)))) : Option (List (String × Option (List String))) :=
  match m with
  | some (e :: es) => some (sortKV ((e :: es).map fun e => (e.1, some (e.2.getD []))))
  | _ => none

def optSorted (o : Option Json) : Bool :=
  match o with
  | some v => jsonSorted v
  | none => true

/-- the local side conditions of the round trip (decidable):
    * MarshalJSON's own checks pass (`basicChecks`: not both `type` and `types`, not both `$defs` and
      `definitions`, not both `items` and `itemsArray`, no duplicate in PropertyOrder, the two dependency maps
      disjoint) and no Extra key is a struct name (marshalStructWithMap);
    * no Extra key is a case variant of a keyword (H_D4), Extra values are in the form encoding/json writes;
    * the eight integer keywords are inside the int32 window of the `integer` helper;
    * the values of `enum`, `const`, `examples` are in the form encoding/json writes (they were decoded into Go maps:
      object keys ascending at every depth). -/
def nodeOK (n : Node) : Bool :=
  marshalChecksOk n &&
  !((n.extra.getD []).any fun e => structNames.contains e.1) &&
  ((n.extra.getD []).all fun e => !isFoldedKey e.1 && jsonSorted e.2) &&
  int32B n.minLength && int32B n.maxLength && int32B n.minItems && int32B n.maxItems &&
  int32B n.minContains && int32B n.maxContains && int32B n.minProperties && int32B n.maxProperties &&
  jsonSortedList (n.enum.getD []) && optSorted n.const && jsonSortedList (n.examples.getD [])

/-- every node of the tree below `a` (through `Node.children`) exists — no nil child — and satisfies `P`;
    the tree is at most `d` deep, hence finite and acyclic -/
def treeAll (P : Node → Bool) (st : Store) : Nat → NodeId → Bool
  | 0, _ => false
  | d + 1, a =>
    match st.get? a with
    | some n => P n && n.children.all (treeAll P st d)
    | none => false

theorem treeAll_succ {P : Node → Bool} {st : Store} {d : Nat} {a : NodeId} (h : treeAll P st (d + 1) a = true) :
    ∃ n, st.get? a = some n ∧ P n = true ∧ ∀ x, x ∈ n.children → treeAll P st d x = true := by
  simp only [treeAll] at h
  cases hn : st.get? a with
  | none => rw [hn] at h; cases h
  | some n =>
    rw [hn] at h
    simp only [Bool.and_eq_true, List.all_eq_true] at h
    exact ⟨n, rfl, h.1, h.2⟩

/-- a `[]*Schema` with `omitempty`: empty comes back nil -/
def normList (l : Option (List NodeId)) : Option (List NodeId) :=
  match l with
  | some (x :: xs) => some (x :: xs)
  | _ => none

/-- the entries of "properties" in the order orderedProperties writes them -/
def propEntries (ps : List (String × NodeId)) (order : List String) : List (String × NodeId) :=
  (orderedKeys ps order).filterMap fun k => (Json.lookup k ps).map fun v => (k, v)

def normProps (ps : Option (List (String × NodeId))) (order : List String) : Option (List (String × NodeId)) :=
  ps.map fun l => propEntries l order

/-- what UnmarshalJSON ∘ MarshalJSON makes of one node (children aside).  `anyOf`, `oneOf`, `enum` and the "items"
    union are written through the wrapper struct of MarshalJSON, which omits only nil: they come back as they are. -/
def normNode (n : Node) : Node :=
  { n with
    required := normReq n.required, extra := normExtra n.extra, propertyOrder := none,
    properties := normProps n.properties (n.propertyOrder.getD []),
    defs := normMap n.defs, definitions := normMap n.definitions,
    patternProperties := normMap n.patternProperties, dependentSchemas := normMap n.dependentSchemas,
    prefixItems := normList n.prefixItems, allOf := normList n.allOf,
    dependencySchemas := normMap n.dependencySchemas, dependencyStrings := normDepStrs n.dependencyStrings,
    vocabulary := normVocab n.vocabulary, dependentRequired := normKV n.dependentRequired,
    examples := normJL n.examples }

/-- `TreeEq st st' d a b`: the tree below `b` in `st'` is the tree below `a` in `st` up to `normNode` at every node;
    `d` bounds the depth, so both trees are finite -/
def TreeEq (st st' : Store) : Nat → NodeId → NodeId → Prop
  | 0, _, _ => False
  | d + 1, a, b => ∃ n n', st.get? a = some n ∧ st'.get? b = some n' ∧ NodeRel (TreeEq st st' d) (normNode n) n'

theorem mem_propEntries {ps : List (String × NodeId)} {order : List String} {e : String × NodeId}
    (he : e ∈ propEntries ps order) : e ∈ ps := by
  unfold propEntries at he
  obtain ⟨k, _, hk⟩ := List.mem_filterMap.1 he
  cases hv : Json.lookup k ps with
  | none => rw [hv] at hk; cases hk
  | some v =>
    rw [hv] at hk
    cases hk
    exact Json.mem_of_lookup hv

theorem keys_propEntries (ps : List (String × NodeId)) (order : List String) :
    (propEntries ps order).map (·.1) = orderedKeys ps order :=
  filterMap_lookup_keys _ fun _ hk => orderedKeys_isSome hk

theorem lookup_filterMap_lookup {α} {ps : List (String × α)} : ∀ (ks : List String),
    (∀ k, k ∈ ks → (Json.lookup k ps).isSome = true) → ∀ k, k ∈ ks →
    Json.lookup k (ks.filterMap fun k => (Json.lookup k ps).map fun v => (k, v)) = Json.lookup k ps
  | [], _, _, hk => by cases hk
  | k0 :: ks, h, k, hk => by
    have h0 := h k0 List.mem_cons_self
    cases hv : Json.lookup k0 ps with
    | none => rw [hv] at h0; cases h0
    | some v =>
      simp only [List.filterMap_cons, hv, Option.map_some, Json.lookup_cons]
      by_cases hkk : k0 = k
      · rw [if_pos hkk, ← hkk, hv]
      · rw [if_neg hkk]
        rcases List.mem_cons.1 hk with rfl | hk'
        · exact absurd rfl hkk
        · exact lookup_filterMap_lookup ks (fun k' hk' => h k' (List.mem_cons_of_mem _ hk')) k hk'

def IdsSub (f' f : ChildField) : Prop := ∀ x, x ∈ f'.ids → x ∈ f.ids

theorem idsSub_refl (f : ChildField) : IdsSub f f := fun _ h => h

theorem getD_normMap_perm (dsch : Option (List (String × NodeId))) : ((normMap dsch).getD []).Perm (dsch.getD []) := by
  cases dsch with
  | none => exact List.Perm.refl _
  | some l =>
    cases l with
    | nil => exact List.Perm.refl _
    | cons _ _ => exact sortKV_perm _

theorem idsSub_normMap (k : String) (c : Option (List (String × NodeId))) :
    IdsSub (.keyed k (normMap c)) (.keyed k c) :=
  fun _ hx => ((getD_normMap_perm c).map _).mem_iff.1 hx

theorem idsSub_normList (k : String) (c : Option (List NodeId)) : IdsSub (.many k (normList c)) (.many k c) := by
  intro x hx
  cases c with
  | none => exact hx
  | some l =>
    cases l with
    | nil => exact hx
    | cons a as => exact hx

theorem idsSub_normProps (k : String) (c : Option (List (String × NodeId))) (order : List String) :
    IdsSub (.keyed k (normProps c order)) (.keyed k c) := by
  intro x hx
  cases c with
  | none => exact hx
  | some l =>
    obtain ⟨e, he, rfl⟩ := List.mem_map.1 hx
    exact List.mem_map.2 ⟨e, mem_propEntries he, rfl⟩

theorem normNode_childFields_sub (n : Node) : ListRel IdsSub (normNode n).childFields n.childFields := by
  unfold Node.childFields
  exact .cons (idsSub_normMap _ _) (.cons (idsSub_refl _) (.cons (idsSub_refl _) (.cons (idsSub_normList _ _)
    (.cons (idsSub_refl _) (.cons (idsSub_refl _) (.cons (idsSub_refl _) (.cons (idsSub_normMap _ _)
    (.cons (idsSub_normMap _ _) (.cons (idsSub_normMap _ _) (.cons (idsSub_refl _) (.cons (idsSub_refl _)
    (.cons (idsSub_refl _) (.cons (idsSub_refl _) (.cons (idsSub_refl _) (.cons (idsSub_refl _)
    (.cons (idsSub_normMap _ _) (.cons (idsSub_normList _ _) (.cons (idsSub_normProps _ _ _)
    (.cons (idsSub_refl _) (.cons (idsSub_refl _) (.cons (idsSub_refl _) (.cons (idsSub_refl _) .nil))))))))))))))))))))))

theorem normNode_ids_sub {n : Node} {f' : ChildField} (hf' : f' ∈ (normNode n).childFields) {x : NodeId}
    (hx : x ∈ f'.ids) : x ∈ n.children := by
  obtain ⟨f, hf, hs⟩ := ListRel.mem_left (normNode_childFields_sub n) hf'
  exact mem_children_iff.2 ⟨f, hf, hs x hx⟩

theorem FieldRel.and_left {R : NodeId → NodeId → Prop} {P : NodeId → Prop} : ∀ {f f'}, FieldRel R f f' →
    (∀ x, x ∈ f.ids → P x) → FieldRel (fun x y => P x ∧ R x y) f f'
  | _, _, .one (c := none) (c' := none) _, _ => .one trivial
  | _, _, .one (c := some x) (c' := some _) h, hp => .one ⟨hp x (by simp [ChildField.ids]), h⟩
  | _, _, .one (c := none) (c' := some _) h, _ => h.elim
  | _, _, .one (c := some _) (c' := none) h, _ => h.elim
  | _, _, .many (cs := none) (cs' := none) _, _ => .many trivial
  | _, _, .many (cs := some _) (cs' := some _) h, hp =>
    .many (ListRel.imp_mem (R := R) h fun a _ ha _ hr => ⟨hp a ha, hr⟩)
  | _, _, .many (cs := none) (cs' := some _) h, _ => h.elim
  | _, _, .many (cs := some _) (cs' := none) h, _ => h.elim
  | _, _, .keyed (cs := none) (cs' := none) _, _ => .keyed trivial
  | _, _, .keyed (cs := some l) (cs' := some _) h, hp =>
    .keyed (ListRel.imp_mem (R := KeyRel R) h fun a _ ha _ hr =>
      ⟨hr.1, hp a.2 (List.mem_map.2 ⟨a, ha, rfl⟩), hr.2⟩)
  | _, _, .keyed (cs := none) (cs' := some _) h, _ => h.elim
  | _, _, .keyed (cs := some _) (cs' := none) h, _ => h.elim

theorem mBool_true (k : String) : mBool k true = [(k, .bool true)] := rfl

theorem mNum_some (k : String) (q : Rat) : mNum k (some q) = [(k, .num q)] := rfl

theorem mInt_some (k : String) (i : Int) : mInt k (some i) = [(k, .num i)] := rfl

theorem map_sortJson_id : ∀ l : List (String × Json), (∀ e, e ∈ l → sortJson e.2 = e.2) →
    (l.map fun (k, v) => (k, sortJson v)) = l
  | [], _ => rfl
  | (k, v) :: l, h => by
    have h1 : sortJson v = v := h (k, v) List.mem_cons_self
    simp only [List.map_cons, h1, map_sortJson_id l (fun e he => h e (List.mem_cons_of_mem _ he))]

/-- what `setField` does with a member whose key is no keyword -/
def addExtra (m : Node) (e : String × Json) : Node := { m with extra := some ((m.extra.getD []) ++ [e]) }

theorem foldl_addExtra : ∀ (l : List (String × Json)) (m : Node), l ≠ [] →
    l.foldl addExtra m = { m with extra := some ((m.extra.getD []) ++ l) }
  | [], _, h => absurd rfl h
  | [e], _, _ => rfl
  | e :: e' :: l, m, _ => by
    rw [List.foldl_cons, foldl_addExtra (e' :: l) (addExtra m e) (by simp)]
    simp [addExtra]

end Go
end JSV
