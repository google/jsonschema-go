/-
  C14 helpers: key-permutation of JSON values (`permJson`); well-formedness and `eqv` are invariant under it.
-/
import JSV.Proofs.RelatorsInv
import JSV.Proofs.Equal
namespace JSV
namespace Inv
open Go GoVal

mutual
  /-- the same JSON value up to the order of object members, at every depth: arrays element-wise, objects as
      an entry-wise related list (`permEntries`) followed by a permutation -/
  def permJson : Json → Json → Prop
    | .null, .null => True
    | .bool a, .bool b => a = b
    | .num a, .num b => a = b
    | .str a, .str b => a = b
    | .arr xs, .arr ys => permList xs ys
    | .obj k1, .obj k2 => ∃ k', permEntries k1 k' ∧ k'.Perm k2
    | _, _ => False
  def permList : List Json → List Json → Prop
    | [], [] => True
    | x :: xs, y :: ys => permJson x y ∧ permList xs ys
    | _, _ => False
  def permEntries : List (String × Json) → List (String × Json) → Prop
    | [], [] => True
    | (k, v) :: r1, (k', w) :: r2 => k = k' ∧ permJson v w ∧ permEntries r1 r2
    | _, _ => False
end

def EntryRel (p q : String × Json) : Prop := p.1 = q.1 ∧ permJson p.2 q.2

theorem permList_iff : ∀ {xs ys : List Json}, permList xs ys ↔ All₂ permJson xs ys
  | [], [] => by simp [permList, All₂]
  | x :: xs, y :: ys => by simp only [permList, All₂, permList_iff (xs := xs) (ys := ys)]
  | [], _ :: _ => by simp [permList, All₂]
  | _ :: _, [] => by simp [permList, All₂]

theorem permEntries_iff : ∀ {k1 k2 : List (String × Json)}, permEntries k1 k2 ↔ All₂ EntryRel k1 k2
  | [], [] => by simp [permEntries, All₂]
  | (k, v) :: r1, (k', w) :: r2 => by
    simp only [permEntries, All₂, EntryRel, permEntries_iff (k1 := r1) (k2 := r2), and_assoc]
  | [], _ :: _ => by simp [permEntries, All₂]
  | _ :: _, [] => by simp [permEntries, All₂]

theorem permJson_arr {xs ys : List Json} : permJson (.arr xs) (.arr ys) ↔ All₂ permJson xs ys := by
  simp only [permJson, permList_iff]

theorem permJson_obj {k1 k2 : List (String × Json)} :
    permJson (.obj k1) (.obj k2) ↔ ∃ k', All₂ EntryRel k1 k' ∧ k'.Perm k2 := by
  simp only [permJson, permEntries_iff]

theorem keys_of_entryRel {k1 k2 : List (String × Json)} (h : All₂ EntryRel k1 k2) : Json.keys k1 = Json.keys k2 :=
  All₂.eq_of_eq (All₂.map (·.1) (·.1) (fun _ _ hr => hr.1) h)

theorem permJson_refl : ∀ j : Json, permJson j j := by
  intro j
  induction j using Json.induct with
  | null => simp [permJson]
  | bool b => simp [permJson]
  | num q => simp [permJson]
  | str s => simp [permJson]
  | arr xs ih => exact permJson_arr.2 (All₂.refl ih)
  | obj kvs ih =>
    exact permJson_obj.2 ⟨kvs, All₂.refl (fun p hp => ⟨rfl, ih p.1 p.2 hp⟩), List.Perm.refl _⟩

theorem permJson_of_perm {k1 k2 : List (String × Json)} (h : k1.Perm k2) : permJson (.obj k1) (.obj k2) :=
  permJson_obj.2 ⟨k1, All₂.refl (fun p _ => ⟨rfl, permJson_refl p.2⟩), h⟩

theorem permJson_WF : ∀ (a b : Json), permJson a b → Json.WF a = true → Json.WF b = true := by
  intro a
  induction a using Json.induct with
  | null => intro b h _; cases b <;> simp_all [permJson, Json.WF]
  | bool _ => intro b h _; cases b <;> simp_all [permJson, Json.WF]
  | num _ => intro b h _; cases b <;> simp_all [permJson, Json.WF]
  | str _ => intro b h _; cases b <;> simp_all [permJson, Json.WF]
  | arr xs ih =>
    intro b h hw
    cases b with
    | arr ys =>
      rw [permJson_arr] at h
      rw [Json.WF_arr_iff] at hw ⊢
      intro y hy
      obtain ⟨x, hx, hr⟩ := h.mem_right y hy
      exact ih x hx y hr (hw x hx)
    | _ => simp [permJson] at h
  | obj k1 ih =>
    intro b h hw
    cases b with
    | obj k2 =>
      obtain ⟨k', h1, h2⟩ := permJson_obj.1 h
      rw [Json.WF_obj_iff] at hw ⊢
      constructor
      · have : (Json.keys k').Perm (Json.keys k2) := h2.map _
        rw [← keys_of_entryRel h1] at this
        exact this.nodup_iff.1 hw.1
      · intro q hq
        have hq' : q ∈ k' := h2.mem_iff.2 hq
        obtain ⟨p, hp, hr⟩ := h1.mem_right q hq'
        exact ih p.1 p.2 hp q.2 hr.2 (hw.2 p hp)
    | _ => simp [permJson] at h

theorem eqvList_of_all₂ : ∀ {xs ys : List Json}, All₂ (fun x y => Json.eqv x y = true) xs ys → Json.eqvList xs ys = true
  | [], [], _ => rfl
  | _ :: _, _ :: _, h => by simp only [Json.eqvList, Bool.and_eq_true]; exact ⟨h.1, eqvList_of_all₂ h.2⟩
  | [], _ :: _, h => h.elim
  | _ :: _, [], h => h.elim

theorem eqv_perm : ∀ (a b : Json), permJson a b → Json.WF a = true → Json.WF b = true → Json.eqv a b = true := by
  intro a
  induction a using Json.induct with
  | null => intro b h _ _; cases b <;> simp_all [permJson, Json.eqv]
  | bool _ => intro b h _ _; cases b <;> simp_all [permJson, Json.eqv]
  | num _ => intro b h _ _; cases b <;> simp_all [permJson, Json.eqv]
  | str _ => intro b h _ _; cases b <;> simp_all [permJson, Json.eqv]
  | arr xs ih =>
    intro b h ha hb
    cases b with
    | arr ys =>
      rw [permJson_arr] at h
      rw [Json.WF_arr_iff] at ha hb
      simp only [Json.eqv]
      apply eqvList_of_all₂
      exact All₂.imp (fun x y hx hy hr => ih x hx y hr (ha x hx) (hb y hy)) h
    | _ => simp [permJson] at h
  | obj k1 ih =>
    intro b h ha hb
    cases b with
    | obj k2 =>
      obtain ⟨k', h1, h2⟩ := permJson_obj.1 h
      rw [Json.WF_obj_iff] at ha hb
      simp only [Json.eqv, Bool.and_eq_true, beq_iff_eq]
      constructor
      · rw [h1.length, h2.length_eq]
      · rw [Json.eqvObj_iff]
        intro k v hm
        obtain ⟨q, hq, hr⟩ := h1.mem_left (k, v) hm
        have hq2 : q ∈ k2 := h2.mem_iff.1 hq
        have hk : q.1 = k := hr.1.symm
        refine ⟨q.2, ?_, ih k v hm q.2 hr.2 (ha.2 (k, v) hm) (hb.2 q hq2)⟩
        apply Json.lookup_of_mem_nodup hb.1
        rw [← hk]; exact hq2
    | _ => simp [permJson] at h

end Inv
end JSV
