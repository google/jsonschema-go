/-
  For the refinement proof: the induction hypothesis at a fixed stack; what a block of the evaluator owes to its
  keyword(s) (`Step`) and how blocks compose (`Step.bind`, `rThen`, `rConsts_eq`); `$ref`, `$dynamicRef`, and the
  in-place applicators allOf / anyOf / oneOf / not / if-then-else / dependentSchemas.
-/
import JSV.Proofs.RefineBase
namespace JSV
namespace Refine
open Go GoVal

def StackOK (env : VEnv) (stack : List NodeId) : Prop := ∀ x, x ∈ stack → (env.info? x).isSome = true

/-- `validate` pushes a schema of the store: it has a resolution record -/
theorem StackOK.snoc {env : VEnv} (hwf : EnvWF env) {stack : List NodeId} (h : StackOK env stack) {s : NodeId} {n : Node}
    (hn : env.st.get? s = some n) : StackOK env (stack ++ [s]) := by
  intro x hx
  rcases List.mem_append.1 hx with hx | hx
  · exact h x hx
  · rw [List.mem_singleton.1 hx]; exact hwf.info_total s n hn

/-- the induction hypothesis, at a fixed stack -/
def SubRel (sub : NodeId → Json → Spec.Out) (rec : Go.Rec) (stack : List NodeId) : Prop :=
  ∀ s j g, Json.WF j = true → strip g = ofJson j → Rel j (sub s j) (rec stack g s)

/-! ### what a block of the evaluator owes

A block is run on annotations that denote `e`, the union of what the keywords before it evaluated; its keyword(s) are a
function `r` of `e` (`unevaluated*` read it, the others do not), undefined where the Spec is.  Blocks compose
(`Step.bind`): the Spec of the composite is `rThen`, whatever the outcome of the first. -/

def Step (j : Json) (r : Spec.Ev → Option Spec.R) (B : Anns → Res Anns) : Prop :=
  ∀ a e, AnnsMatch j a e → ∀ x, r e = some x → Blk j a x (B a)

/-- the keywords of two consecutive blocks: the second sees what the first evaluated -/
def rThen (r1 r2 : Spec.Ev → Option Spec.R) (e : Spec.Ev) : Option Spec.R :=
  match r1 e with
  | none => none
  | some none => some none
  | some (some e1) => (r2 (e.union e1)).map (conj2 (some e1))

/-- an assertion as a keyword result -/
def okR (b : Bool) : Spec.R := if b then some {} else none

theorem Step.bind {j : Json} {r1 r2 : Spec.Ev → Option Spec.R} {B1 B2 : Anns → Res Anns} (h1 : Step j r1 B1)
    (h2 : Step j r2 B2) : Step j (rThen r1 r2) (fun a => Res.bind (B1 a) B2) := by
  intro a e hm x hx
  unfold rThen at hx
  cases h : r1 e with
  | none => rw [h] at hx; cases hx
  | some r =>
    have b1 := h1 a e hm r h
    rw [h] at hx
    cases r with
    | none => cases hx; simp only [Blk] at b1 ⊢; rw [b1]; rfl
    | some e1 =>
      obtain ⟨y, hy, rfl⟩ := Option.map_eq_some_iff.1 hx
      obtain ⟨a1, ha1, hx1⟩ := b1
      simp only [ha1, Res.bind_ok]
      exact Blk_of_Ext hx1 (h2 a1 _ (AnnsMatch_of_Ext hm hx1) y hy)

theorem Step.const {j : Json} {r : Spec.R} {B : Anns → Res Anns} (h : ∀ a, Blk j a r (B a)) :
    Step j (fun _ => some r) B :=
  fun a _ _ _ hx => Option.some.inj hx ▸ h a

theorem Step.assert {j : Json} {m : Res Unit} {b : Bool} (h : m = okIf b) :
    Step j (fun _ => some (okR b)) (fun a => Res.bind m fun _ => .ok a) := by
  refine Step.const fun a => ?_
  subst h
  cases b
  · rfl
  · exact Blk_ok j a

theorem union_empty_left (e : Spec.Ev) : Spec.Ev.union {} e = e := by
  simp [Spec.Ev.union]

theorem union_assoc (a b c : Spec.Ev) : (a.union b).union c = a.union (b.union c) := by
  simp [Spec.Ev.union, List.append_assoc]

theorem conj2_assoc (a b c : Spec.R) : conj2 (conj2 a b) c = conj2 a (conj2 b c) := by
  cases a <;> cases b <;> cases c <;> simp [conj2, union_assoc]

theorem union_empty_right (e : Spec.Ev) : e.union {} = e := by simp [Spec.Ev.union]

@[simp] theorem conj2_empty_left (r : Spec.R) : conj2 (some {}) r = r := by
  cases r <;> simp [conj2, union_empty_left]

@[simp] theorem conj2_empty_right (r : Spec.R) : conj2 r (some {}) = r := by
  cases r <;> simp [conj2, union_empty_right]

theorem Blk_okIf {j : Json} {a : Anns} {b : Bool} {r : Spec.R} {M : Res Anns} (h : Blk j a r M) :
    Blk j a (if b then r else none) (Res.bind (okIf b) fun _ => M) := by
  cases b
  · rfl
  · exact h

/-- a run of blocks whose keywords do not read what was evaluated before, then `f` -/
def rConsts (cs : List Spec.R) (f : Spec.Ev → Option Spec.R) : Spec.Ev → Option Spec.R :=
  cs.foldr (fun c k => rThen (fun _ => some c) k) f

theorem rConsts_eq (f : Spec.Ev → Option Spec.R) : ∀ (cs : List Spec.R) (e : Spec.Ev),
    rConsts cs f e = match Spec.conj cs with
      | none => some none
      | some E => (f (e.union E)).map (conj2 (some E))
  | [], e => by
    show f e = (f (e.union {})).map (conj2 (some {}))
    rw [union_empty_right, funext conj2_empty_left]
    exact Option.map_id'.symm
  | c :: cs, e => by
    show rThen (fun _ => some c) (rConsts cs f) e = _
    rw [conj_cons]
    unfold rThen
    cases c with
    | none => rfl
    | some e1 =>
      simp only [rConsts_eq f cs]
      cases Spec.conj cs with
      | none => simp only [Option.map_some, conj2_none_right]
      | some E =>
        simp only [conj2_some, union_assoc, Option.map_map]
        congr 1
        funext y
        exact (conj2_assoc (some e1) (some E) y).symm

theorem validUnion_cons (r : Spec.R) (rs : List Spec.R) :
    Spec.validUnion (r :: rs) = (r.getD {}).union (Spec.validUnion rs) := by
  cases r with
  | none => rw [validUnion_cons_none]; exact (union_empty_left _).symm
  | some e => exact validUnion_cons_some e rs

def invalidCount (rs : List Spec.R) : Nat := (rs.filter Option.isNone).length

theorem invalidCount_cons (r : Spec.R) (rs : List Spec.R) :
    invalidCount (r :: rs) = (if r.isSome then 0 else 1) + invalidCount rs := by
  cases r <;> simp [invalidCount] <;> omega

theorem valid_add_invalid (rs : List Spec.R) : Spec.validCount rs + invalidCount rs = rs.length := by
  induction rs with
  | nil => rfl
  | cons r rs ih => rw [validCount_cons, invalidCount_cons]; cases r <;> simp <;> omega

theorem sequence_length {α} {l : List (Option α)} {rs : List α} (h : Spec.sequence l = some rs) :
    rs.length = l.length := by
  rw [sequence_eq_some.1 h, List.length_map]

section
variable {sub : NodeId → Json → Spec.Out} {rec : Go.Rec} {stack : List NodeId}
variable (H : SubRel sub rec stack) {j : Json} (hj : Json.WF j = true)
include H hj

theorem rec_invalid {s : NodeId} (h : sub s j = some none) : rec stack (ofJson j) s = .err := by
  have := H s j (ofJson j) hj (strip_ofJson j)
  rw [h] at this
  exact this

theorem rec_valid {s : NodeId} {ev : Spec.Ev} (h : sub s j = some (some ev)) :
    ∃ a, rec stack (ofJson j) s = .ok a ∧ AnnsMatch j a ev := by
  have := H s j (ofJson j) hj (strip_ofJson j)
  rw [h] at this
  exact this

theorem mustValid_blk {s : NodeId} {r : Spec.R} (anns : Anns) (h : sub s j = some r) :
    Blk j anns r (mustValid rec stack (ofJson j) s anns) := by
  unfold mustValid
  cases r with
  | none => rw [rec_invalid H hj h]; rfl
  | some ev =>
    obtain ⟨a, ha, hm⟩ := rec_valid H hj h
    rw [ha]
    exact ⟨anns.merge a, rfl, Ext_merge anns hm⟩

theorem tryValid_invalid {s : NodeId} (anns : Anns) (c : Bool) (h : sub s j = some none) :
    tryValid rec stack (ofJson j) s anns c = .ok (false, anns) := by
  unfold tryValid; rw [rec_invalid H hj h]

theorem tryValid_valid {s : NodeId} {ev : Spec.Ev} (anns : Anns) (h : sub s j = some (some ev)) :
    ∃ a', tryValid rec stack (ofJson j) s anns true = .ok (true, a') ∧ Ext j anns a' ev := by
  obtain ⟨a, ha, hm⟩ := rec_valid H hj h
  unfold tryValid; rw [ha]
  exact ⟨anns.merge a, rfl, Ext_merge anns hm⟩

theorem tryValid_valid_nocollect {s : NodeId} {ev : Spec.Ev} (anns : Anns) (h : sub s j = some (some ev)) :
    tryValid rec stack (ofJson j) s anns false = .ok (true, anns) := by
  obtain ⟨a, ha, _⟩ := rec_valid H hj h
  unfold tryValid; rw [ha]; rfl

/-- a collecting `tryValid`: the verdict, and the annotations extended by what a valid branch evaluated -/
theorem tryValid_spec {s : NodeId} {r : Spec.R} (anns : Anns) (h : sub s j = some r) :
    ∃ a', tryValid rec stack (ofJson j) s anns true = .ok (r.isSome, a') ∧ Ext j anns a' (r.getD {}) := by
  cases r with
  | none => exact ⟨anns, tryValid_invalid H hj anns true h, Ext_refl j anns⟩
  | some e => exact tryValid_valid H hj anns h

theorem allOfLoop_blk : ∀ (ss : List NodeId) (rs : List Spec.R) (anns : Anns),
    Spec.sequence (ss.map fun t => sub t j) = some rs →
    Blk j anns (Spec.conj rs) (allOfLoop rec stack (ofJson j) ss anns)
  | [], rs, anns, h => by
    cases h
    exact Blk_ok j anns
  | s :: ss, rs, anns, h => by
    obtain ⟨r, rs', h1, h2, rfl⟩ := sequence_cons_eq_some h
    rw [conj_cons, allOfLoop]
    exact Blk_bind (mustValid_blk H hj anns h1) (fun a1 => allOfLoop_blk ss rs' a1 h2)

theorem bAllOf_blk (n : Node) (anns : Anns) {r : Spec.R} (h : Spec.kwAllOf sub n j = some r) :
    Blk j anns r (bAllOf rec stack n (ofJson j) anns) := by
  unfold Spec.kwAllOf at h
  unfold bAllOf
  generalize n.allOf = o at h ⊢
  cases o with
  | none => cases h; exact Blk_ok j anns
  | some ss =>
    obtain ⟨rs, h1, rfl⟩ := Option.map_eq_some_iff.1 h
    exact allOfLoop_blk H hj ss rs anns h1

theorem anyOfLoop_spec : ∀ (ss : List NodeId) (rs : List Spec.R) (anns : Anns) (nerr : Nat),
    Spec.sequence (ss.map fun t => sub t j) = some rs →
    ∃ a', anyOfLoop rec stack (ofJson j) ss anns nerr = .ok (a', nerr + invalidCount rs) ∧
      Ext j anns a' (Spec.validUnion rs)
  | [], rs, anns, nerr, h => by
    cases h
    exact ⟨anns, rfl, Ext_refl j anns⟩
  | s :: ss, rs, anns, nerr, h => by
    obtain ⟨r, rs', h1, h2, rfl⟩ := sequence_cons_eq_some h
    obtain ⟨a1, ht, hx1⟩ := tryValid_spec H hj anns h1
    rw [anyOfLoop, ht]
    simp only [Res.bind_ok]
    obtain ⟨a', ha, hx⟩ := anyOfLoop_spec ss rs' a1 _ h2
    refine ⟨a', ?_, validUnion_cons r rs' ▸ Ext_trans hx1 hx⟩
    rw [ha, invalidCount_cons]
    cases r <;> simp only [Option.isSome_none, Option.isSome_some, Bool.false_eq_true, if_false, if_true] <;>
      congr 2 <;> omega

theorem bAnyOf_blk (n : Node) (anns : Anns) {r : Spec.R} (h : Spec.kwAnyOf sub n j = some r) :
    Blk j anns r (bAnyOf rec stack n (ofJson j) anns) := by
  unfold Spec.kwAnyOf at h
  unfold bAnyOf
  generalize n.anyOf = o at h ⊢
  cases o with
  | none => cases h; exact Blk_ok j anns
  | some ss =>
    obtain ⟨rs, h1, rfl⟩ := Option.map_eq_some_iff.1 h
    obtain ⟨a', ha, hx⟩ := anyOfLoop_spec H hj ss rs anns 0 h1
    simp only
    rw [ha]
    simp only [Res.bind_ok, Nat.zero_add]
    have hl : rs.length = ss.length := by rw [sequence_length h1, List.length_map]
    have hv := valid_add_invalid rs
    by_cases hc : Spec.validCount rs > 0
    · have : (invalidCount rs == ss.length) = false := by
        rw [beq_eq_false_iff_ne]; omega
      simp only [this, hc, if_true, Bool.false_eq_true, if_false]
      exact ⟨a', rfl, hx⟩
    · have : (invalidCount rs == ss.length) = true := by
        rw [beq_iff_eq]; omega
      simp only [this, hc, if_true, if_false]
      rfl

theorem oneOfLoop_spec : ∀ (ss : List NodeId) (rs : List Spec.R) (anns : Anns) (found : Bool),
    Spec.sequence (ss.map fun t => sub t j) = some rs →
    (2 ≤ (if found then 1 else 0) + Spec.validCount rs → oneOfLoop rec stack (ofJson j) ss anns found = .err) ∧
    ((if found then 1 else 0) + Spec.validCount rs ≤ 1 →
      ∃ a', oneOfLoop rec stack (ofJson j) ss anns found
          = .ok (a', decide ((if found then 1 else 0) + Spec.validCount rs = 1)) ∧
        Ext j anns a' (Spec.validUnion rs))
  | [], rs, anns, found, h => by
    cases h
    constructor
    · intro h2; cases found <;> simp [Spec.validCount] at h2
    · intro _; refine ⟨anns, ?_, Ext_refl j anns⟩
      cases found <;> simp [oneOfLoop, Spec.validCount]
  | s :: ss, rs, anns, found, h => by
    obtain ⟨r, rs', h1, h2, rfl⟩ := sequence_cons_eq_some h
    rw [oneOfLoop, validCount_cons]
    cases r with
    | none =>
      rw [tryValid_invalid H hj anns true h1, validUnion_cons_none]
      simp only [Res.bind_ok, Bool.false_eq_true, if_false, Option.isSome_none, Nat.zero_add]
      exact oneOfLoop_spec ss rs' anns found h2
    | some e =>
      obtain ⟨a1, ht, hx1⟩ := tryValid_valid H hj anns h1
      rw [ht]
      simp only [Res.bind_ok, if_true, Option.isSome_some]
      cases found with
      | true =>
        simp only [if_true]
        exact ⟨fun _ => trivial, fun h3 => by omega⟩
      | false =>
        simp only [Bool.false_eq_true, if_false, Nat.zero_add]
        have ih := oneOfLoop_spec ss rs' a1 true h2
        simp only [if_true] at ih
        refine ⟨ih.1, fun h3 => ?_⟩
        obtain ⟨a', ha, hx⟩ := ih.2 h3
        exact ⟨a', ha, validUnion_cons_some e rs' ▸ Ext_trans hx1 hx⟩

theorem bOneOf_blk (n : Node) (anns : Anns) {r : Spec.R} (h : Spec.kwOneOf sub n j = some r) :
    Blk j anns r (bOneOf rec stack n (ofJson j) anns) := by
  unfold Spec.kwOneOf at h
  unfold bOneOf
  generalize n.oneOf = o at h ⊢
  cases o with
  | none => cases h; exact Blk_ok j anns
  | some ss =>
    obtain ⟨rs, h1, rfl⟩ := Option.map_eq_some_iff.1 h
    have hs := oneOfLoop_spec H hj ss rs anns false h1
    simp only [Bool.false_eq_true, if_false, Nat.zero_add] at hs
    simp only
    by_cases hc : 2 ≤ Spec.validCount rs
    · rw [hs.1 hc]
      have : (Spec.validCount rs == 1) = false := by rw [beq_eq_false_iff_ne]; omega
      simp only [this, Bool.false_eq_true, if_false]
      rfl
    · obtain ⟨a', ha, hx⟩ := hs.2 (by omega)
      rw [ha]
      simp only [Res.bind_ok]
      by_cases h1 : Spec.validCount rs = 1
      · simp only [h1, decide_true, if_true, beq_self_eq_true]
        exact ⟨a', rfl, hx⟩
      · have : (Spec.validCount rs == 1) = false := by rw [beq_eq_false_iff_ne]; exact h1
        simp only [h1, decide_false, this, Bool.false_eq_true, if_false]
        rfl

theorem bNot_blk (n : Node) (anns : Anns) {r : Spec.R} (h : Spec.kwNot sub n j = some r) :
    Blk j anns r (bNot rec stack n (ofJson j) anns) := by
  unfold Spec.kwNot at h
  unfold bNot
  generalize n.not = o at h ⊢
  cases o with
  | none => cases h; exact Blk_ok j anns
  | some t =>
    obtain ⟨r', h1, rfl⟩ := Option.map_eq_some_iff.1 h
    simp only
    cases r' with
    | none =>
      rw [tryValid_invalid H hj anns false h1]
      simp only [Res.bind_ok, Option.isSome_none, Bool.false_eq_true, if_false]
      exact Blk_ok j anns
    | some e =>
      rw [tryValid_valid_nocollect H hj anns h1]
      simp only [Res.bind_ok, Option.isSome_some, if_true]
      rfl

theorem bIf_blk (n : Node) (anns : Anns) {r : Spec.R} (h : Spec.kwIf sub n j = some r) :
    Blk j anns r (bIf rec stack n (ofJson j) anns) := by
  unfold Spec.kwIf at h
  unfold bIf
  cases hn : n.if_ with
  | none => rw [hn] at h; cases h; exact Blk_ok j anns
  | some c =>
    rw [hn] at h
    simp only at h ⊢
    cases hc : sub c j with
    | none => rw [hc] at h; cases h
    | some rc =>
      rw [hc] at h
      obtain ⟨a1, ht, hx1⟩ := tryValid_spec H hj anns hc
      simp only [ht, Res.bind_ok] at h ⊢
      -- the branch taken, if there is one, is an ordinary in-place application
      cases hb : (if rc.isSome = true then n.then_ else n.else_) with
      | none =>
        rw [hb] at h; cases h
        exact ⟨a1, rfl, hx1⟩
      | some b =>
        rw [hb] at h
        obtain ⟨rb, hrb, rfl⟩ := Option.map_eq_some_iff.1 h
        have hB := Blk_of_Ext hx1 (mustValid_blk H hj a1 hrb)
        cases rb <;> exact hB

omit H hj in
theorem bRef_noref (env : VEnv) (n : Node) (info : Option Info) (hr : n.ref = "") :
    bRef env rec stack n info (ofJson j) = .ok ({}, false) := by
  unfold bRef; simp [hr]

theorem bRef_spec (env : VEnv) {s : NodeId} {i : Info} (hinfo : env.info? s = some i) (n : Node) (hr : n.ref ≠ "")
    {r : Spec.R} (h : Spec.kwRef (specEnvOf env) sub s n j = some r) :
    ∃ m : Res Anns, Blk j {} r m ∧ bRef env rec stack n (some i) (ofJson j) =
      Res.bind m (fun anns => if env.draft == .d7 then .ok ({}, true) else .ok (anns, false)) := by
  unfold Spec.kwRef Spec.inPlace at h
  simp only [specEnvOf, hinfo, Option.bind_some] at h
  have hr' : (n.ref != "") = true := by simp [hr]
  rw [hr'] at h
  simp only [if_true] at h
  cases ht : i.resolvedRef with
  | none => rw [ht] at h; simp at h
  | some t =>
    rw [ht] at h
    simp only at h
    refine ⟨mustValid rec stack (ofJson j) t {}, mustValid_blk H hj {} h, ?_⟩
    unfold bRef
    simp only [hr', if_true, ht]

omit H hj in
/-- under 2020-12 the `$dynamicRef` block is one in-place application, to the Spec's target -/
theorem bDynamicRef_eq (env : VEnv) (hd20 : env.draft = .d2020)
    (hlookup : ∀ name, dynLookup env name stack = .ok (Spec.dynTarget (specEnvOf env) stack name))
    (n : Node) (i : Info) (initial : NodeId) (hdr : n.dynamicRef ≠ "") (hres : i.resolvedDynamicRef = some initial)
    (inst : GoVal) (anns : Anns) :
    bDynamicRef env rec stack n (some i) inst anns =
      mustValid rec stack inst
        (if i.dynamicRefAnchor = "" then initial
         else (Spec.dynTarget (specEnvOf env) stack i.dynamicRefAnchor).getD initial) anns := by
  unfold bDynamicRef
  have h1 : (n.dynamicRef != "") = true := by simp [hdr]
  simp only [h1, hd20, beq_d2020_d2020, Bool.and_self, if_true, hres]
  by_cases ha : i.dynamicRefAnchor = ""
  · simp [ha]
  · have h2 : (i.dynamicRefAnchor == "") = false := by simp [ha]
    simp only [h2, Bool.false_eq_true, if_false, ha, hlookup, Res.bind_ok]

theorem bDynamicRef_blk2020 (env : VEnv) (hd20 : env.draft = .d2020) {s : NodeId} {i : Info}
    (hinfo : env.info? s = some i) (n : Node) (anns : Anns)
    (hlookup : ∀ name, dynLookup env name stack = .ok (Spec.dynTarget (specEnvOf env) stack name))
    {r : Spec.R} (h : Spec.kwDynamicRef (specEnvOf env) sub stack s n j = some r) :
    Blk j anns r (bDynamicRef env rec stack n (some i) (ofJson j) anns) := by
  unfold Spec.kwDynamicRef at h
  by_cases hd : n.dynamicRef = ""
  · have hd' : (n.dynamicRef != "") = false := by simp [hd]
    unfold bDynamicRef
    rw [hd'] at h ⊢
    simp only [Bool.false_and, Bool.false_eq_true, if_false, Option.some.injEq] at h ⊢
    subst h
    exact Blk_ok j anns
  · have e1 : (specEnvOf env).dynInitial s = i.resolvedDynamicRef := by simp [specEnvOf, hinfo]
    have e2 : (specEnvOf env).dynName s = i.dynamicRefAnchor := by simp [specEnvOf, hinfo]
    rw [if_pos (by simp [hd]), e1, e2] at h
    cases hi : i.resolvedDynamicRef with
    | none => rw [hi] at h; cases h
    | some initial =>
      rw [hi] at h
      rw [bDynamicRef_eq env hd20 hlookup n i initial hd hi]
      refine mustValid_blk H hj anns ?_
      by_cases ha : i.dynamicRefAnchor = "" <;> simpa [ha] using h

/-- the block under either draft: the Spec reads the node through the vocabulary of the draft -/
theorem bDynamicRef_blk (env : VEnv) {s : NodeId} {i : Info}
    (hinfo : env.info? s = some i) (n : Node) (anns : Anns)
    (hlookup : ∀ name, dynLookup env name stack = .ok (Spec.dynTarget (specEnvOf env) stack name))
    {r : Spec.R} (h : Spec.kwDynamicRef (specEnvOf env) sub stack s (Spec.vocab env.draft n) j = some r) :
    Blk j anns r (bDynamicRef env rec stack n (some i) (ofJson j) anns) := by
  cases hd : env.draft with
  | d7 =>
    rw [hd, kwDynamicRef_d7] at h
    rw [bDynamicRef_d7 env hd]
    simp only [Option.some.injEq] at h
    subst h
    exact Blk_ok j anns
  | d2020 =>
    rw [hd, vocab_d2020] at h
    exact bDynamicRef_blk2020 H hj env hd hinfo n anns hlookup h

omit H hj in
theorem hasProperty_ofJsonObj (kvs : List (String × Json)) (k : String) :
    hasProperty (ofJsonObj kvs) k = (Json.lookup k kvs).isSome := by
  unfold hasProperty; rw [lookup_ofJsonObj]; simp

theorem depSchemasLoop_blk (kvs : List (String × Json)) :
    ∀ (ds : List (String × NodeId)) (rs : List Spec.R) (anns : Anns),
    Spec.sequence ((ds.filter fun p => (Json.lookup p.1 kvs).isSome).map fun p => sub p.2 j) = some rs →
    Blk j anns (Spec.conj rs) (depSchemasLoop rec stack (ofJson j) (ofJsonObj kvs) ds anns)
  | [], rs, anns, h => by
    cases h
    exact Blk_ok j anns
  | (k, t) :: ds, rs, anns, h => by
    rw [depSchemasLoop, hasProperty_ofJsonObj]
    by_cases hk : (Json.lookup k kvs).isSome = true
    · rw [List.filter_cons_of_pos (by simpa using hk), List.map_cons] at h
      obtain ⟨r, rs', h1, h2, rfl⟩ := sequence_cons_eq_some h
      rw [conj_cons, if_pos hk]
      exact Blk_bind (mustValid_blk H hj anns h1) (fun a1 => depSchemasLoop_blk kvs ds rs' a1 h2)
    · rw [List.filter_cons_of_neg (by simpa using hk)] at h
      rw [if_neg hk]
      exact depSchemasLoop_blk kvs ds rs anns h

end

theorem dynLookup_eq (env : VEnv) (hwf : EnvWF env) (name : String) : ∀ stack, StackOK env stack →
    dynLookup env name stack = .ok (Spec.dynTarget (specEnvOf env) stack name)
  | [], _ => by simp [dynLookup, Spec.dynTarget]
  | s :: rest, h => by
    have hs : (env.info? s).isSome = true := h s (by simp)
    obtain ⟨si, hsi⟩ := Option.isSome_iff_exists.1 hs
    obtain ⟨b, bi, hb, hbi⟩ := hwf.base_total s si hsi
    have ih := dynLookup_eq env hwf name rest (fun x hx => h x (by simp [hx]))
    unfold Spec.dynTarget at ih ⊢
    have e1 : (specEnvOf env).resource s = some b := by simp [specEnvOf, hsi, hb]
    have e2 : (specEnvOf env).dynDecl b name = (match Json.lookup name bi.anchors with
        | some a => if a.dynamic then some a.schema else none
        | none => none) := by
      simp only [specEnvOf, hbi, Option.bind_some]
      cases Json.lookup name bi.anchors <;> rfl
    rw [dynLookup, List.findSome?_cons]
    simp only [hsi, hb, hbi, e1, e2]
    cases hl : Json.lookup name bi.anchors with
    | none => simpa using ih
    | some a => cases hd : a.dynamic <;> simp [hd, ih]

end Refine
end JSV
