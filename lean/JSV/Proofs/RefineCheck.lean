/-
  Decidable checkers that establish the hypotheses `EnvWF` / `StoreWF` of the refinement theorem
  for a concrete environment.
-/
import JSV.Proofs.Refine
import JSV.Proofs.ResShape
namespace JSV
namespace Refine
open Go

def infoTotalB (env : VEnv) : Bool := (List.range env.st.size).all fun s => (env.info? s).isSome

def baseTotalB (env : VEnv) : Bool :=
  env.infos.all fun p =>
    match p.2.base with
    | some b => (env.info? b).isSome
    | none => false

def storeWFB (st : Store) : Bool :=
  st.toList.all fun n => Json.nodupKeys ((n.properties.getD []).map (·.1))

theorem EnvWF_of_checks (env : VEnv) (h1 : infoTotalB env = true) (h2 : baseTotalB env = true)
    (h3 : ∀ x y, equalValue x y = .ok true → env.hash x = env.hash y) : EnvWF env where
  info_total := by
    intro s n hn
    exact List.all_eq_true.1 h1 s (List.mem_range.2 (lt_size_of_get? hn))
  base_total := by
    intro s i hi
    have hmem := lookupNat_mem _ _ _ hi
    have := List.all_eq_true.1 h2 (s, i) hmem
    simp only at this
    cases hb : i.base with
    | none => rw [hb] at this; simp at this
    | some b =>
      rw [hb] at this
      obtain ⟨bi, hbi⟩ := Option.isSome_iff_exists.1 this
      exact ⟨b, bi, rfl, hbi⟩
  hash_respects := h3

theorem StoreWF_of_check (st : Store) (h : storeWFB st = true) : StoreWF st := by
  intro s n hn
  have hmem : n ∈ st.toList := Array.mem_toList_iff.2 (Array.mem_of_getElem? hn)
  exact List.all_eq_true.1 h n hmem

end Refine
end JSV
