/-
  C16 (embedded fields): reflect's `visibleFieldsWalker` (`visibleFieldsWalk`: `byName`, cleared names) computes the
  declarative `visibleFields` ("the shallowest field of a name, if it is alone at its depth"), on every struct tree.
  This file holds the two halves, `foldl_walkStep_visible` and `allFields_index_pairwise`; the statement itself is
  assembled in `C16.visibleFieldsWalk_eq`.

  The proof: over a walk `l` whose entries have pairwise distinct indices the walker's state `acc` after `l` is
  described by `specStep` — every entry that the new field `f` "hits" (same name, not shallower than `f`) is cleared,
  and `f` is appended iff it is strictly shallower than every earlier field of its name (`freshIn`).  `walkStep` only
  looks at the *last* entry of the name; it coincides with `specStep` because the entries of one name are strictly
  decreasing in depth and all but the last are already cleared (`WalkInv`).  The uncleared entries of `specStep` are
  the visible fields of the prefix (`specStep_visible`).  The indices of `allFields` are pairwise distinct
  (`allFields_index_pairwise`).
-/
import JSV.Proofs.InfEmbDom
import JSV.Proofs.ListFacts
namespace JSV
namespace Go

theorem lastMatch_spec {α} (q : α → Bool) : ∀ (acc : List α) (n : Nat),
    (((acc.zipIdx n).filter fun e => q e.1).getLast? = none ∧ ∀ x, x ∈ acc → q x = false) ∨
    ∃ a e b, acc = a ++ e :: b ∧ q e = true ∧ (∀ x, x ∈ b → q x = false) ∧
      ((acc.zipIdx n).filter fun e => q e.1).getLast? = some (e, n + a.length)
  | [], _ => Or.inl ⟨rfl, fun _ h => nomatch h⟩
  | x :: xs, n => by
    rw [List.zipIdx_cons, List.filter_cons]
    rcases lastMatch_spec q xs (n + 1) with ⟨hnone, hall⟩ | ⟨a, e, b, rfl, hqe, hb, hlast⟩
    · cases hqx : q x with
      | false =>
        refine Or.inl ⟨?_, fun y hy => ?_⟩
        · simp only [Bool.false_eq_true, if_false]
          exact hnone
        · rcases List.mem_cons.1 hy with rfl | hy
          · exact hqx
          · exact hall y hy
      | true =>
        refine Or.inr ⟨[], x, xs, rfl, hqx, hall, ?_⟩
        simp only [if_true]
        rw [List.getLast?_eq_none_iff.1 hnone]
        rfl
    · refine Or.inr ⟨x :: a, e, b, rfl, hqe, hb, ?_⟩
      have hidx : n + 1 + a.length = n + (x :: a).length := by simp only [List.length_cons]; omega
      rw [hidx] at hlast
      split
      · rw [List.getLast?_cons, hlast]
        rfl
      · exact hlast

def hits (f o : VField) : Bool := o.goName == f.goName && decide (f.index.length ≤ o.index.length)

def freshIn (l : List VField) (f : VField) : Bool :=
  l.all fun o => o.goName != f.goName || decide (f.index.length < o.index.length)

def mark (f : VField) (e : VField × Bool) : VField × Bool := (e.1, e.2 || hits f e.1)

/-- the state after the walk `l ++ [f]`, from the state `acc` after `l` -/
def specStep (l : List VField) (acc : List (VField × Bool)) (f : VField) : List (VField × Bool) :=
  acc.map (mark f) ++ (if freshIn l f then [(f, false)] else [])

/-- the state `acc` after the walk `l`: its entries are fields of `l`; every field of `l` has an entry of its name
    that is not deeper; of two entries of one name the earlier is cleared and deeper -/
structure WalkInv (l : List VField) (acc : List (VField × Bool)) : Prop where
  sub : ∀ x, x ∈ acc → x.1 ∈ l
  cover : ∀ o, o ∈ l → ∃ x, x ∈ acc ∧ x.1.goName = o.goName ∧ x.1.index.length ≤ o.index.length
  sorted : acc.Pairwise fun x y => x.1.goName = y.1.goName → x.2 = true ∧ y.1.index.length < x.1.index.length

theorem mark_of_ne {f : VField} {x : VField × Bool} (h : (x.1.goName == f.goName) = false) : mark f x = x := by
  unfold mark hits
  rw [h]
  simp only [Bool.false_and, Bool.or_false]

theorem mark_of_cleared {f : VField} {x : VField × Bool} (h : x.2 = true) : mark f x = x := by
  obtain ⟨a, c⟩ := x
  simp only at h
  subst h
  simp only [mark, Bool.true_or]

theorem map_mark_self {f : VField} {l : List (VField × Bool)} (h : ∀ x, x ∈ l → mark f x = x) : l.map (mark f) = l :=
  (List.map_congr_left h).trans (List.map_id' l)

theorem freshIn_iff {l : List VField} {f : VField} :
    freshIn l f = true ↔ ∀ o, o ∈ l → o.goName = f.goName → f.index.length < o.index.length := by
  unfold freshIn
  simp only [List.all_eq_true, Bool.or_eq_true, bne_iff_ne, ne_eq, decide_eq_true_eq]
  constructor
  · intro h o ho hg
    rcases h o ho with h | h
    · exact absurd hg h
    · exact h
  · intro h o ho
    by_cases hg : o.goName = f.goName
    · exact Or.inr (h o ho hg)
    · exact Or.inl hg

theorem walkStep_eq {l : List VField} {acc : List (VField × Bool)} (K : WalkInv l acc) (f : VField) :
    walkStep acc f = specStep l acc f := by
  unfold walkStep specStep
  rcases lastMatch_spec (fun x : VField × Bool => x.1.goName == f.goName) acc 0 with ⟨hnone, hall⟩ | ⟨a, e, b, rfl, hqe, hb, hlast⟩
  · have hl : (List.filter (fun e : (VField × Bool) × Nat => e.1.1.goName == f.goName) acc.zipIdx).getLast? = none := hnone
    rw [hl]
    simp only
    rw [map_mark_self fun x hx => mark_of_ne (hall x hx)]
    have hfresh : freshIn l f = true := by
      rw [freshIn_iff]
      intro o ho hg
      obtain ⟨x, hx, hxg, _⟩ := K.cover o ho
      have := hall x hx
      simp only [beq_eq_false_iff_ne, ne_eq] at this
      exact absurd (hxg.trans hg) this
    rw [hfresh]
    rfl
  · obtain ⟨eo, ec⟩ := e
    have hl : (List.filter (fun e : (VField × Bool) × Nat => e.1.1.goName == f.goName) (a ++ (eo, ec) :: b).zipIdx).getLast? =
        some ((eo, ec), 0 + a.length) := hlast
    rw [hl]
    simp only [Nat.zero_add]
    have hg : eo.goName = f.goName := by simpa using hqe
    obtain ⟨_, _, hcross⟩ := List.pairwise_append.1 K.sorted
    have hmapa : a.map (mark f) = a := map_mark_self fun x hx => by
      cases hx' : (x.1.goName == f.goName) with
      | false => exact mark_of_ne hx'
      | true =>
        have hxg : x.1.goName = eo.goName := by rw [hg]; simpa using hx'
        exact mark_of_cleared (hcross x hx (eo, ec) List.mem_cons_self hxg).1
    have hmapb : b.map (mark f) = b := map_mark_self fun x hx => mark_of_ne (hb x hx)
    have hfresh : freshIn l f = decide (f.index.length < eo.index.length) := by
      rw [Bool.eq_iff_iff, freshIn_iff, decide_eq_true_iff]
      constructor
      · intro h
        exact h eo (K.sub _ (List.mem_append_right _ List.mem_cons_self)) hg
      · intro h o ho hog
        obtain ⟨x, hx, hxg, hxd⟩ := K.cover o ho
        rcases List.mem_append.1 hx with hxa | hxb
        · have := (hcross x hxa (eo, ec) List.mem_cons_self (by rw [hxg, hog, hg])).2
          simp only at this
          omega
        · rcases List.mem_cons.1 hxb with rfl | hxb
          · simp only at hxd
            omega
          · have := hb x hxb
            simp only [beq_eq_false_iff_ne, ne_eq] at this
            exact absurd (hxg.trans hog) this
    rw [List.map_append, List.map_cons, hmapa, hmapb, hfresh, set_append_length]
    by_cases h1 : f.index.length = eo.index.length
    · have hm : mark f (eo, ec) = (eo, true) := by
        unfold mark hits
        simp [hg, h1]
      simp only [h1, beq_self_eq_true, if_true, hm, Nat.lt_irrefl, decide_false, Bool.false_eq_true, if_false,
        List.append_nil]
    · by_cases h2 : f.index.length < eo.index.length
      · have hm : mark f (eo, ec) = (eo, true) := by
          unfold mark hits
          simp [hg, Nat.le_of_lt h2]
        have hbeq : (f.index.length == eo.index.length) = false := by simpa using h1
        simp only [hbeq, Bool.false_eq_true, if_false, h2, if_true, hm, decide_true]
      · have hm : mark f (eo, ec) = (eo, ec) := by
          unfold mark hits
          have : ¬ f.index.length ≤ eo.index.length := by omega
          simp [this]
        have hbeq : (f.index.length == eo.index.length) = false := by simpa using h1
        simp only [hbeq, Bool.false_eq_true, if_false, h2, hm, decide_false, List.append_nil]

theorem WalkInv.step {l : List VField} {acc : List (VField × Bool)} (K : WalkInv l acc) (f : VField) :
    WalkInv (l ++ [f]) (specStep l acc f) := by
  unfold specStep
  refine ⟨fun x hx => ?_, fun o ho => ?_, ?_⟩
  · rcases List.mem_append.1 hx with hx | hx
    · obtain ⟨y, hy, rfl⟩ := List.mem_map.1 hx
      exact List.mem_append_left _ (K.sub y hy)
    · split at hx
      · rw [List.mem_singleton.1 hx]
        exact List.mem_append_right _ List.mem_cons_self
      · cases hx
  · rcases List.mem_append.1 ho with ho | ho
    · obtain ⟨x, hx, hxg, hxd⟩ := K.cover o ho
      exact ⟨mark f x, List.mem_append_left _ (List.mem_map.2 ⟨x, hx, rfl⟩), hxg, hxd⟩
    · rw [List.mem_singleton.1 ho]
      cases hfr : freshIn l f with
      | true => exact ⟨(f, false), List.mem_append_right _ (by simp), rfl, Nat.le_refl _⟩
      | false =>
        -- `f` is not fresh: an entry seen before has its Go name and is no deeper
        obtain ⟨o', ho', hog, hod⟩ : ∃ o', o' ∈ l ∧ o'.goName = f.goName ∧ o'.index.length ≤ f.index.length := by
          obtain ⟨o', ho', hn⟩ := List.all_eq_false.1 hfr
          simp only [Bool.or_eq_true, bne_iff_ne, ne_eq, decide_eq_true_eq, not_or, Decidable.not_not, Nat.not_lt] at hn
          exact ⟨o', ho', hn.1, hn.2⟩
        obtain ⟨x, hx, hxg, hxd⟩ := K.cover o' ho'
        exact ⟨mark f x, List.mem_append_left _ (List.mem_map.2 ⟨x, hx, rfl⟩), hxg.trans hog, Nat.le_trans hxd hod⟩
  · rw [List.pairwise_append]
    refine ⟨?_, ?_, fun x hx y hy => ?_⟩
    · rw [List.pairwise_map]
      refine K.sorted.imp fun {x y} h hg => ?_
      obtain ⟨h1, h2⟩ := h hg
      exact ⟨by simp only [mark, h1, Bool.true_or], h2⟩
    · split
      · exact List.pairwise_singleton _ _
      · exact List.Pairwise.nil
    · split at hy
      · rename_i hfr
        rw [List.mem_singleton.1 hy]
        obtain ⟨z, hz, rfl⟩ := List.mem_map.1 hx
        intro hg
        have hlt := freshIn_iff.1 hfr z.1 (K.sub z hz) hg
        refine ⟨?_, hlt⟩
        have hg' : z.1.goName = f.goName := hg
        simp only [mark, hits, hg', beq_self_eq_true, Bool.true_and, Bool.or_eq_true, decide_eq_true_eq]
        exact Or.inr (Nat.le_of_lt hlt)
      · cases hy

theorem isVisible_append_old {l : List VField} {f o : VField} (hne : f.index ≠ o.index) :
    isVisible (l ++ [f]) o = (!hits f o && isVisible l o) := by
  unfold isVisible hits
  rw [List.all_append, Bool.and_comm]
  congr 1
  have hi : (f.index == o.index) = false := by simpa using hne
  simp only [List.all_cons, List.all_nil, Bool.and_true, hi, Bool.false_or]
  by_cases hg : o.goName = f.goName
  · by_cases hd : o.index.length < f.index.length
    · have : ¬ f.index.length ≤ o.index.length := by omega
      simp [hg, hd, this]
    · have : f.index.length ≤ o.index.length := by omega
      simp [hg, hd, this]
  · have b1 : (f.goName != o.goName) = true := by simpa using fun e : f.goName = o.goName => hg e.symm
    have b2 : (o.goName == f.goName) = false := by simpa using hg
    simp only [b1, b2, Bool.true_or, Bool.false_and, Bool.not_false]

theorem isVisible_append_new {l : List VField} {f : VField} (hne : ∀ o, o ∈ l → o.index ≠ f.index) :
    isVisible (l ++ [f]) f = freshIn l f := by
  unfold isVisible freshIn
  rw [List.all_append]
  simp only [List.all_cons, List.all_nil, beq_self_eq_true, Bool.true_or, Bool.and_true]
  rw [Bool.eq_iff_iff, List.all_eq_true, List.all_eq_true]
  refine forall_congr' fun o => forall_congr' fun ho => ?_
  have hi : (o.index == f.index) = false := by simpa using hne o ho
  rw [hi, Bool.false_or]

def shown (acc : List (VField × Bool)) : List VField := (acc.filter fun e => !e.2).map (·.1)

theorem shown_map_mark (f : VField) (acc : List (VField × Bool)) :
    shown (acc.map (mark f)) = (shown acc).filter fun o => !hits f o := by
  unfold shown
  -- both sides are `map (·.1)` of a filter of `acc` (`mark` keeps the field: `(mark f e).1 = e.1`); compare the two filters
  rw [List.filter_map, List.map_map, List.filter_map, List.filter_filter]
  refine congrArg (List.map _) (List.filter_congr fun e _ => ?_)
  simp only [Function.comp, mark, Bool.not_or, Bool.and_comm]

theorem specStep_visible {l : List VField} {acc : List (VField × Bool)} (S : shown acc = l.filter (isVisible l)) {f : VField}
    (hne : ∀ o, o ∈ l → o.index ≠ f.index) :
    shown (specStep l acc f) = (l ++ [f]).filter (isVisible (l ++ [f])) := by
  have happ : ∀ a b : List (VField × Bool), shown (a ++ b) = shown a ++ shown b := fun a b => by
    unfold shown
    rw [List.filter_append, List.map_append]
  unfold specStep
  rw [happ, shown_map_mark, S, List.filter_append, List.filter_filter]
  congr 1
  · refine List.filter_congr fun o ho => ?_
    rw [isVisible_append_old fun e => hne o ho e.symm]
  · rw [List.filter_cons, isVisible_append_new hne]
    cases freshIn l f <;> rfl

theorem foldl_walkStep_visible : ∀ (rest l : List VField) (acc : List (VField × Bool)), WalkInv l acc →
    shown acc = l.filter (isVisible l) → (l ++ rest).Pairwise (fun a b => a.index ≠ b.index) →
    shown (rest.foldl walkStep acc) = (l ++ rest).filter (isVisible (l ++ rest))
  | [], l, acc, _, S, _ => by
    rw [List.append_nil]
    exact S
  | f :: rest, l, acc, K, S, hp => by
    rw [List.foldl_cons, walkStep_eq K f]
    have hne : ∀ o, o ∈ l → o.index ≠ f.index := fun o ho => (List.pairwise_append.1 hp).2.2 o ho f List.mem_cons_self
    have hp' : (l ++ [f] ++ rest).Pairwise (fun a b => a.index ≠ b.index) := by
      rw [List.append_assoc]
      exact hp
    have := foldl_walkStep_visible rest (l ++ [f]) _ (K.step f) (specStep_visible S hne) hp'
    rw [List.append_assoc] at this
    exact this

theorem allFields_index_pairwise : ∀ (fs : List (FieldE GoTypeE)) (pre : List Nat) (i : Nat),
    (∀ x, x ∈ allFields pre i fs → ∃ k t, i ≤ k ∧ x.index = pre ++ k :: t) ∧
    (allFields pre i fs).Pairwise (fun a b => a.index ≠ b.index) := by
  refine GoTypeE.ind_fields (fun _ _ => ⟨(fun _ h => nomatch h), List.Pairwise.nil⟩) fun g rest ihE ihR pre i => ?_
  obtain ⟨hrm, hrp⟩ := ihR pre (i + 1)
  obtain ⟨hem, hep⟩ : (∀ x, x ∈ (if g.embedded = true then embFields (pre ++ [i]) g.type else []) →
        ∃ k t, x.index = pre ++ i :: k :: t) ∧
      (if g.embedded = true then embFields (pre ++ [i]) g.type else []).Pairwise (fun a b => a.index ≠ b.index) := by
    cases he : g.embedded with
    | false => exact ⟨(fun _ h => nomatch h), List.Pairwise.nil⟩
    | true =>
      simp only [if_true]
      rcases embIs_or_not g.type with ⟨fs', hg⟩ | hg
      · rw [hg.fields]
        obtain ⟨hm, hp⟩ := ihE fs' hg (pre ++ [i]) 0
        refine ⟨fun x hx => ?_, hp⟩
        obtain ⟨k, t, _, hk⟩ := hm x hx
        exact ⟨k, t, by rw [hk, List.append_assoc]; rfl⟩
      · rw [hg.fields]
        exact ⟨(fun _ h => nomatch h), List.Pairwise.nil⟩
  simp only [allFields]
  refine ⟨fun x hx => ?_, ?_⟩
  · rcases List.mem_cons.1 hx with rfl | hx
    · exact ⟨i, [], Nat.le_refl _, rfl⟩
    · rcases List.mem_append.1 hx with hx | hx
      · obtain ⟨k, t, hk⟩ := hem x hx
        exact ⟨i, k :: t, Nat.le_refl _, hk⟩
      · obtain ⟨k, t, hik, hk⟩ := hrm x hx
        exact ⟨k, t, by omega, hk⟩
  · rw [List.pairwise_cons, List.pairwise_append]
    refine ⟨fun x hx => ?_, hep, hrp, fun x hx y hy => ?_⟩
    · simp only
      rcases List.mem_append.1 hx with hx | hx
      · obtain ⟨k, t, hk⟩ := hem x hx
        rw [hk]
        intro e
        have := List.append_cancel_left e
        cases this
      · obtain ⟨k, t, hik, hk⟩ := hrm x hx
        rw [hk]
        intro e
        have := List.append_cancel_left e
        simp only [List.cons.injEq] at this
        omega
    · obtain ⟨k, t, hk⟩ := hem x hx
      obtain ⟨k', t', hik, hk'⟩ := hrm y hy
      rw [hk, hk']
      intro e
      have := List.append_cancel_left e
      simp only [List.cons.injEq] at this
      omega

end Go
end JSV
