/-
  For C17: decimal array indices.  for `i < len`, `arrayIndex strict (toString i) len = some i` and,
  for the strict rule, the converse: only the canonical decimal numeral of `i` selects element `i`.
-/
import JSV.Model.Pointer
namespace JSV
namespace Pointer

/-- the digit test used by `allDigits` -/
def isDig (c : Char) : Bool := '0' ≤ c && c ≤ '9'

theorem isDig_iff (c : Char) : isDig c = true ↔ 48 ≤ c.toNat ∧ c.toNat ≤ 57 := by
  simp [isDig, Char.le_def, UInt32.le_iff_toNat_le, Char.toNat_val]

theorem allDigits_iff (s : Cs) : allDigits s = true ↔ s ≠ [] ∧ ∀ c ∈ s, isDig c = true := by
  simp [allDigits, isDig, List.all_eq_true]

/-- the value computed by `atoi` on the digits -/
def digitsVal (s : Cs) : Nat := s.foldl (fun a c => a * 10 + (c.toNat - '0'.toNat)) 0

theorem digitsVal_eq (s : Cs) : digitsVal s = Nat.ofDigitChars 10 s 0 := by
  unfold digitsVal Nat.ofDigitChars
  congr 1
  funext a c
  rw [Nat.mul_comm]

theorem digitChar_sub (c : Char) (h : isDig c = true) : Nat.digitChar (c.toNat - 48) = c := by
  rw [isDig_iff] at h
  apply Char.toNat_inj.mp
  rw [Nat.toNat_digitChar_of_lt_ten (by omega)]
  omega

theorem isDig_of_mem_toDigits (n : Nat) (c : Char) (h : c ∈ Nat.toDigits 10 n) : isDig c = true := by
  have := Nat.isDigit_of_mem_toDigits (by decide) (by decide) h
  rw [Char.isDigit_iff_toNat] at this
  rw [isDig_iff]
  exact this

theorem allDigits_toDigits (n : Nat) : allDigits (Nat.toDigits 10 n) = true := by
  rw [allDigits_iff]
  exact ⟨Nat.toDigits_ne_nil, fun c h => isDig_of_mem_toDigits n c h⟩

theorem digitsVal_toDigits (n : Nat) : digitsVal (Nat.toDigits 10 n) = n := by
  rw [digitsVal_eq, Nat.ofDigitChars_ten_toDigits]

theorem head_toDigits_ne_zero (n : Nat) (hn : 0 < n) : (Nat.toDigits 10 n).head? ≠ some '0' := by
  induction n using Nat.base_induction 10 (by decide) with
  | single m hm =>
    rw [Nat.toDigits_of_lt_base hm]
    simp only [List.head?_cons, ne_eq, Option.some.injEq]
    intro h
    have := congrArg Char.toNat h
    rw [Nat.toNat_digitChar_of_lt_ten hm] at this
    simp at this
    omega
  | digit m k hk hm ih =>
    rw [← Nat.toDigits_append_toDigits (by decide) hm hk]
    have ih' := ih hm
    obtain ⟨x, xs, hx⟩ := List.exists_cons_of_ne_nil (Nat.toDigits_ne_nil (n := m) (b := 10))
    rw [hx] at ih' ⊢
    simpa using ih'

theorem toDigits_length_one_of_head_zero (n : Nat) (h : (Nat.toDigits 10 n).head? = some '0') :
    (Nat.toDigits 10 n).length = 1 := by
  cases n with
  | zero => simp
  | succ k => exact absurd h (head_toDigits_ne_zero _ (Nat.succ_pos _))

theorem atoi_of_allDigits (s : Cs) (h : allDigits s = true) : atoi s = some (digitsVal s : Int) := by
  obtain ⟨hne, hd⟩ := (allDigits_iff s).mp h
  cases s with
  | nil => exact absurd rfl hne
  | cons c r =>
    have hc := (isDig_iff c).mp (hd c (by simp))
    have h1 : c ≠ '+' := by rintro rfl; simp at hc
    have h2 : c ≠ '-' := by rintro rfl; simp at hc
    unfold atoi
    split
    · rename_i heq; simp at heq; exact absurd heq.1 h1
    · rename_i heq; simp at heq; exact absurd heq.1 h2
    · simp only [h, if_true]; rfl

theorem toString_ne_dash (i : Nat) : (toString i == "-") = false := by
  rw [beq_eq_false_iff_ne]
  intro h
  have := congrArg String.toList h
  rw [Nat.toString_eq_repr, Nat.toList_repr] at this
  have hd := isDig_of_mem_toDigits i '-' (by rw [this]; simp)
  simp [isDig_iff] at hd

theorem arrayIndex_toString (strict : Bool) (i len : Nat) (h : i < len) :
    arrayIndex strict (toString i) len = some i := by
  unfold arrayIndex
  simp only [toString_ne_dash, Bool.false_eq_true, if_false]
  rw [Nat.toString_eq_repr, Nat.toList_repr]
  have hz : ((Nat.toDigits 10 i).length > 1 && (Nat.toDigits 10 i).head? == some '0') = false := by
    rw [Bool.and_eq_false_iff]
    by_cases hh : (Nat.toDigits 10 i).head? = some '0'
    · left; rw [toDigits_length_one_of_head_zero i hh]; decide
    · right; simpa using hh
  rw [hz]
  simp only [Bool.false_eq_true, if_false, allDigits_toDigits, Bool.not_true, Bool.and_false]
  rw [atoi_of_allDigits _ (allDigits_toDigits i), digitsVal_toDigits]
  simp [h]

/-- uniqueness of the canonical numeral, stated on the reversed digit list: the induction peels the last digit of the
    numeral (`digitsVal (ds ++ [d]) = 10 * digitsVal ds + d`), which is the head of the reversed list -/
theorem toDigits_digitsVal_rev (r : Cs) (hne : r ≠ []) (hd : ∀ c ∈ r, isDig c = true)
    (hz : r.length > 1 → r.getLast? ≠ some '0') :
    Nat.toDigits 10 (digitsVal r.reverse) = r.reverse := by
  induction r with
  | nil => exact absurd rfl hne
  | cons d r' ih =>
    have hdd := hd d (by simp)
    have hdd' := (isDig_iff d).mp hdd
    cases r' with
    | nil =>
      simp only [List.reverse_cons, List.reverse_nil, List.nil_append]
      have : digitsVal [d] = d.toNat - 48 := by simp [digitsVal]
      rw [this, Nat.toDigits_of_lt_base (by omega), digitChar_sub d hdd]
    | cons e r'' =>
      have hlast : (e :: r'').getLast? ≠ some '0' := by
        have := hz (by simp)
        rwa [List.getLast?_cons_cons] at this
      have ih' := ih (List.cons_ne_nil _ _) (fun c hc => hd c (List.mem_cons_of_mem _ hc)) (fun _ => hlast)
      rw [List.reverse_cons]
      have hv : digitsVal ((e :: r'').reverse ++ [d]) = 10 * digitsVal (e :: r'').reverse + (d.toNat - 48) := by
        simp [digitsVal, List.foldl_append, Nat.mul_comm]
      have hpos : 0 < digitsVal (e :: r'').reverse := by
        rcases Nat.eq_zero_or_pos (digitsVal (e :: r'').reverse) with h0 | h0
        · exfalso
          rw [h0, Nat.toDigits_zero] at ih'
          have : e :: r'' = ['0'] := by
            have := congrArg List.reverse ih'
            simpa using this.symm
          rw [this] at hlast
          exact hlast rfl
        · exact h0
      rw [hv, ← Nat.toDigits_append_toDigits (by decide) hpos (by omega), ih',
        Nat.toDigits_of_lt_base (by omega), digitChar_sub d hdd]

theorem toDigits_digitsVal (s : Cs) (h : allDigits s = true)
    (hz : ¬ (s.length > 1 ∧ s.head? = some '0')) : Nat.toDigits 10 (digitsVal s) = s := by
  obtain ⟨hne, hd⟩ := (allDigits_iff s).mp h
  have := toDigits_digitsVal_rev s.reverse (by simpa using hne) (by simpa using hd)
    (by
      intro hl
      rw [List.getLast?_reverse]
      intro hh
      exact hz ⟨by simpa using hl, hh⟩)
  simpa using this

/-- under the strict (RFC 6901) rule only the canonical numeral of `i` addresses element `i` -/
theorem arrayIndex_strict_digits (seg : String) (len i : Nat)
    (h : arrayIndex true seg len = some i) : seg = toString i ∧ i < len := by
  unfold arrayIndex at h
  simp only [Bool.true_and] at h
  split at h
  · exact absurd h (by simp)
  · split at h
    · exact absurd h (by simp)
    · split at h
      · exact absurd h (by simp)
      · rename_i hz hd
        have hd' : allDigits seg.toList = true := by simpa using hd
        have hz' : ¬ (seg.toList.length > 1 ∧ seg.toList.head? = some '0') := by
          simpa using hz
        rw [atoi_of_allDigits _ hd'] at h
        simp only at h
        split at h
        · rename_i hlt
          simp only [Int.toNat_natCast, Option.some.injEq] at h
          subst h
          constructor
          · rw [Nat.toString_eq_repr, Nat.repr_eq_ofList_toDigits, toDigits_digitsVal _ hd' hz',
              String.ofList_toList]
          · have := hlt.2; omega
        · exact absurd h (by simp)

end Pointer
end JSV
