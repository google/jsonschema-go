/-
  For C03, the converse of soundness, up to one document.
  * Without a Loader a successful Schema.Resolve has called nothing (`log = []`), reads the document under
    `topDraft`, and every `$ref` / `$dynamicRef` of `root.all()` designates a subschema — so a reference that
    designates nothing makes Resolve fail.
  * resolveURIs: every URI recorded in an info object is a key of the document's `resolvedURIs` (`KeysIn`).  (No error
    exactly on well-formed `$id`s: the err / ok outcomes of `resolveURIs_sp`, ResUris.lean.)
  * What checkStructure / checkLocal accepted (`structureOk`, `localOk`, `has_store`), and that a successful
    Schema.Resolve was given a document that meets W1–W5 of `DocWF` (`resolve_wf_of_ok`; not W6, `UniqueIds`).
-/
import JSV.Spec.WellFormed
import JSV.Proofs.ResDraft
namespace JSV
namespace Go
namespace RComp
open RInv Uri Spec RDraft

theorem resolveRef_noloader (env : Env) (recDoc : ResolveDoc) (hl : env.loader = none) (root : NodeId)
    (s : RState) (id : NodeId) (ref : String) (o : RefOut) (s' : RState)
    (h : resolveRef env recDoc root s id ref = .ok (o, s')) : s'.log = s.log := by
  obtain ⟨d, _, hc⟩ := resolveRef_cases env recDoc root s id ref o s' h
  rcases hc with rfl | ⟨r, rfl⟩ | ⟨u, tbl, r, a2, _, htbl, _⟩
  · rfl
  · exact (mergeKnown_same _ _ _).1
  · rw [hl] at htbl; simp at htbl

theorem resolveRefsLoop_noloader (env : Env) (recDoc : ResolveDoc) (hl : env.loader = none) (root : NodeId)
    (ids : List NodeId) (s s' : RState) (h : resolveRefsLoop env recDoc root ids s = .ok s') :
    s'.log = s.log :=
  resolveRefsLoop_pres env recDoc root (fun a => a.log = s.log)
    (fun a id f ha => by rw [(updInfo_same a id f).1]; exact ha)
    (fun a id ref o b ha hr => by rw [resolveRef_noloader env recDoc hl root a id ref o b hr]; exact ha)
    ids s s' h rfl

theorem resolveDocStep_noloader (env : Env) (recDoc : ResolveDoc) (hl : env.loader = none) (root : NodeId)
    (baseURI : Url) (inherit : Draft) (s s' : RState)
    (h : resolveDocStep env recDoc root baseURI inherit s = .ok s') : s'.log = s.log := by
  obtain ⟨rn, fresh, sB, _, _, hB, hC⟩ := resolveDocStep_unfold env recDoc root baseURI inherit s s' h
  have h1 := (resolveURIsLoop_spec _ _ _ _ _ _ _ hB).1
  have h2 := beforeURIs_same root baseURI (docDraft env rn inherit) fresh s
  rw [resolveRefsLoop_noloader env recDoc hl root _ _ _ hC]
  show sB.log = s.log
  rw [h1.1, h2.1]

/-- without a Loader a successful Schema.Resolve has an empty call log -/
theorem resolve_log_noloader (env : Env) (hl : env.loader = none) (fuel : Nat) (root : NodeId) (base : String)
    (rs : Resolved) (h : resolve env fuel root base = .ok rs) : rs.log = [] := by
  obtain ⟨s, b, d, _, hs, _, _, _, hlog, _⟩ := resolve_eq_ok env fuel root base rs h
  rw [hlog]
  cases fuel with
  | zero => simp [resolveDoc] at hs
  | succ fuel => exact resolveDocStep_noloader env _ hl root b .d2020 {} s hs

theorem topDraft_eq (env : Env) (root : NodeId) (rn : Node) (h : env.st.get? root = some rn) :
    topDraft env root = docDraft env rn .d2020 := by
  unfold topDraft docDraft
  rw [h]

/-- without a Loader, Schema.Resolve reads the document under `topDraft` -/
theorem resolve_draft_noloader (env : Env) (hl : env.loader = none) (fuel : Nat) (root : NodeId) (base : String)
    (rs : Resolved) (h : resolve env fuel root base = .ok rs) : rs.draft = topDraft env root := by
  obtain ⟨s, b, d, _, hs, hd, _, hdr, _, _⟩ := resolve_eq_ok env fuel root base rs h
  have hall := resolveDoc_all env (topDraft env root)
    (by intro tbl k r htbl; rw [hl] at htbl; simp at htbl) fuel root b .d2020 {} s hs
    (by intro rn hrn; exact (topDraft_eq env root rn hrn).symm) (allDraft_init _)
  rw [hdr]
  exact hall d (doc?_mem s root d hd)

/-- when the Loader serves no document the only resolved document is the top one, so designation across documents
    (`GDesig`) is designation inside it -/
theorem gDesig_noloader (env : Env) (hl : ∀ tbl k r, env.loader = some tbl → Json.lookup k tbl ≠ some (.doc r))
    (top : NodeId) (rets : NodeId → Url) (s : RState)
    (hg : GInv env top rets s) (d : DocRes) (hd : s.doc? top = some d) (id : NodeId) (ref : String) (t : NodeId)
    (h : GDesig env rets s ⟨env.st, d.draft, top⟩ id ref t) :
    (⟨env.st, d.draft, top⟩ : Doc).Designates (rets top) id ref t := by
  obtain ⟨bu, refURI, hb, hp, ⟨r, hI, hF⟩ | ⟨r, d', hd', hI, hF⟩⟩ := h
  · exact ⟨bu, refURI, r, hb, hp, hI, hF⟩
  · rcases hg.reg r (by unfold Registered; rw [hd']; rfl) with rfl | ⟨tbl, k, h, hk, _⟩
    · rw [hd] at hd'; cases hd'
      exact ⟨bu, refURI, r, hb, hp, hI, hF⟩
    · exact absurd hk (hl tbl k r h)

/-- without a Loader: after a successful Schema.Resolve every `$ref` and (2020-12) every `$dynamicRef` of `root.all()`
    designates a subschema of the document, read under `topDraft`, with the parsed BaseURI option as retrieval URI -/
theorem resolve_designates_noloader (env : Env) (hl : env.loader = none) (fuel : Nat) (root : NodeId)
    (base : String) (rs : Resolved) (h : resolve env fuel root base = .ok rs) :
    ∃ b, retrievalOf base = .ok b ∧
      (topDoc env root).RefsDesignate b (allNodes env.st (env.st.size + 2) [root]) := by
  obtain ⟨s, b, d, rets, hb, hret, hd, hdr, hg, hok⟩ :=
    resolve_G env fuel root base rs (fun tbl h => by rw [hl] at h; cases h) h
  have hno : ∀ tbl k r, env.loader = some tbl → Json.lookup k tbl ≠ some (.doc r) :=
    fun tbl _ _ h => by rw [hl] at h; cases h
  have hD : (⟨env.st, rs.draft, root⟩ : Doc) = topDoc env root := by
    rw [resolve_draft_noloader env hl fuel root base rs h]; rfl
  refine ⟨b, hb, fun id hid n hn => ?_⟩
  obtain ⟨h1, h2⟩ := hok id hid n hn
  rw [hdr] at h1 h2
  rw [← hD, hdr, ← hret]
  exact ⟨fun hne => let ⟨_, t, _, _, ht⟩ := h1 hne; ⟨t, gDesig_noloader env hno root rets s hg d hd id _ t ht⟩,
    fun h20 hne => let ⟨_, t, _, _, ht⟩ := h2 h20 hne; ⟨t, gDesig_noloader env hno root rets s hg d hd id _ t ht⟩⟩

theorem bind_ne_err {α β} {x : Res α} {f : α → Res β} (hx : x ≠ .err) (hf : ∀ a, x = .ok a → f a ≠ .err) :
    Res.bind x f ≠ .err := by
  cases x with
  | ok a => simp only [Res.bind_ok]; exact hf a rfl
  | err => exact absurd rfl hx
  | panic => simp
  | fuel => simp

theorem lookup_register_isSome {α} (k k' : String) (v : α) (l : List (String × α))
    (h : (Json.lookup k l).isSome = true ∨ k = k') :
    (Json.lookup k (l.filter (fun e => e.1 != k') ++ [(k', v)])).isSome = true := by
  rw [Json.lookup_append_isSome]
  by_cases hk : k = k'
  · subst hk; simp
  · have hl := h.resolve_right hk
    have := Json.lookup_filter_key k (fun x => x != k') l (by simpa using hk)
    rw [this, hl]; rfl

def KeysIn (P : NodeId → Prop) (root : NodeId) (k0 : String) (s : RState) : Prop :=
  ∃ d, s.doc? root = some d ∧ (Json.lookup k0 d.uris).isSome = true ∧
    ∀ id i u, P id → lookupNat id s.infos = some i → i.uri = some u →
      (Json.lookup (Uri.toString u) d.uris).isSome = true

theorem keysIn_updInfo {P : NodeId → Prop} {root : NodeId} {k0 : String} (s : RState) (k : NodeId)
    (f : Info → Info) (hf : ∀ i, (f i).uri = i.uri) (h : KeysIn P root k0 s) : KeysIn P root k0 (s.updInfo k f) := by
  obtain ⟨d, hd, h0, hall⟩ := h
  refine ⟨d, by rw [doc?_of_docs_eq (updInfo_docs _ _ _)]; exact hd, h0, ?_⟩
  intro id i u hP hi hu
  rcases updInfo_lookup_some hi with ⟨_, i0, h0', rfl⟩ | ⟨_, hi⟩
  · rw [hf] at hu
    exact hall id i0 u hP h0' hu
  · exact hall id i u hP hi hu

theorem keysIn_setAnchor {P : NodeId → Prop} {root : NodeId} {k0 : String} (s : RState) (b t : NodeId)
    (a : String) (dyn : Bool) (h : KeysIn P root k0 s) : KeysIn P root k0 (setAnchor s b t a dyn) := by
  rw [setAnchor_eq]; split
  · exact h
  · exact keysIn_updInfo s b _ (fun i => addAnchor_uri a t dyn i) h

theorem keysIn_newUriState {P : NodeId → Prop} {root : NodeId} {k0 : String} (s : RState) (id : NodeId) (u : Url)
    (h : KeysIn P root k0 s) : KeysIn P root k0 (newUriState root s id u) := by
  obtain ⟨d, hd, h0, hall⟩ := h
  have hd1 : (s.updInfo id fun i => { i with uri := some u }).doc? root = some d := by
    rw [doc?_of_docs_eq (updInfo_docs _ _ _)]; exact hd
  have hroot : d.root = root := doc?_root _ _ _ hd
  unfold newUriState
  simp only [hd1]
  refine ⟨{ d with uris := (d.uris.filter (·.1 != Uri.toString u)) ++ [(Uri.toString u, id)] },
    by rw [doc?_setDoc]; simp only [hroot, if_true], ?_, ?_⟩
  · exact lookup_register_isSome k0 _ id d.uris (Or.inl h0)
  · intro id' i u' hP hi hu
    rw [setDoc_infos] at hi
    apply lookup_register_isSome
    rcases updInfo_lookup_some hi with ⟨_, i0, _, rfl⟩ | ⟨_, hi⟩
    · cases hu
      exact Or.inr rfl
    · exact Or.inl (hall id' i u' hP hi hu)

theorem keysIn_postStep {P : NodeId → Prop} {root : NodeId} {k0 : String} (draft : Draft) (s : RState)
    (id base : NodeId) (n : Node) (h : KeysIn P root k0 s) : KeysIn P root k0 (postStep draft s id base n) :=
  postStep_ind draft s id base n (keysIn_updInfo s id _ (fun _ => rfl) h) fun _ _ _ => keysIn_setAnchor _ _ _ _ _

theorem resolveURIsLoop_keysIn (env : Env) (draft : Draft) (root : NodeId) (P : NodeId → Prop) (k0 : String) :
    ∀ fuel work s s', resolveURIsLoop env draft root fuel work s = .ok s' → KeysIn P root k0 s →
      KeysIn P root k0 s' := by
  refine resolveURIsLoop_winv env draft root (fun _ => KeysIn P root k0) ?_
  intro id base work s n bi s1 base1 _ _ _ hstep hs
  apply keysIn_postStep
  rcases uriStep_shapes draft root s id base n bi s1 base1 hstep with ⟨_, rfl | ⟨a, rfl⟩⟩ | ⟨_, u, rfl⟩
  · exact hs
  · exact keysIn_setAnchor _ _ _ _ _ hs
  · exact keysIn_newUriState _ _ _ hs

theorem keysIn_beforeURIs (env : Env) (P : NodeId → Prop) (root : NodeId) (baseURI : Url) (draft : Draft)
    (fresh : List (NodeId × Info)) (s : RState) (fuel : Nat)
    (hfresh : checkStructure env.st fuel [(root, "")] [] = .ok fresh)
    (hP : ∀ id, P id → lookupNat id s.infos = none) :
    KeysIn P root (Uri.toString baseURI) (beforeURIs root baseURI draft fresh s) := by
  have hnone : ∀ e ∈ fresh, e.2.uri = none :=
    checkStructure_forall env.st (fun i => i.uri = none) (fun _ => rfl) _ _ _ _ hfresh
      (fun _ he => absurd he (by simp))
  refine ⟨_, by rw [beforeURIs_doc?, if_pos rfl], by simp, ?_⟩
  intro id i u hPid hi hu
  show (Json.lookup (Uri.toString u) [(Uri.toString baseURI, root)]).isSome = true
  rcases updInfo_lookup_some hi with ⟨_, i0, _, rfl⟩ | ⟨_, hi⟩
  · cases hu
    simp
  · rw [setDoc_infos, lookupNat_append_none _ _ _ (hP id hPid)] at hi
    have := hnone _ (lookupNat_mem _ _ _ hi)
    simp only at this
    rw [this] at hu; cases hu

theorem dereference_empty_ok (st : Store) (strict nie : Bool) (r : NodeId) (h : (st.get? r).isSome = true) :
    Pointer.dereference st strict nie r "" = .ok r := by
  obtain ⟨n, hn⟩ := Option.isSome_iff_exists.mp h
  rw [Pointer.dereference_root]
  simp [Pointer.finish, hn]

theorem baseUri_unique (D : Doc) (ret : Url) (huniq : UniqueLineage D) (s : NodeId) (u u' : Url)
    (h : D.BaseUri ret s u) (h' : D.BaseUri ret s u') : u = u' := by
  obtain ⟨l, hl, hu⟩ := h
  obtain ⟨l', hl', hu'⟩ := h'
  rw [← hu, ← hu', huniq l l' s hl hl']

theorem docNodes_of_ok (st : Store) (root : NodeId) (fresh : List (NodeId × Info))
    (h : checkStructure st (st.size + 2) [(root, "")] [] = .ok fresh) : docNodes st root = fresh.map (·.1) := by
  unfold docNodes; rw [h]

theorem localOk_eq (env : Env) (root : NodeId) (fresh : List (NodeId × Info))
    (h : checkStructure env.st (env.st.size + 2) [(root, "")] [] = .ok fresh) :
    localOk env root = localOkAll env fresh := by
  unfold localOk localOkAll
  rw [docNodes_of_ok env.st root fresh h]
  rfl

theorem structureOk_ok (st : Store) (root : NodeId) (h : structureOk st root = true) :
    ∃ fresh, checkStructure st (st.size + 2) [(root, "")] [] = .ok fresh :=
  Res.isOk_iff.mp h

theorem has_store (st : Store) (draft : Draft) (root : NodeId) (fresh : List (NodeId × Info))
    (h : checkStructure st (st.size + 2) [(root, "")] [] = .ok fresh) :
    ∀ x, (⟨st, draft, root⟩ : Doc).Has x → (st.get? x).isSome = true := by
  intro x ⟨l, hl⟩
  have T := checkStructure_tree st _ root fresh h
  have hx : x ∈ ids fresh := T.has_mem l x hl
  exact (C10.checkStructure_accOK_nil h).2 x hx

theorem resolveDocStep_wf (env : Env) (recDoc : ResolveDoc) (root : NodeId) (baseURI : Url) (inherit : Draft)
    (s s' : RState) (h : resolveDocStep env recDoc root baseURI inherit s = .ok s') :
    baseURI.fragment = "" ∧ structureOk env.st root = true ∧ localOk env root = true := by
  rw [resolveDocStep_eq] at h
  split at h
  · cases h
  rename_i hfr
  split at h
  · cases h
  obtain ⟨fresh, hcs, h⟩ := Res.bind_eq_ok_iff.mp h
  split at h
  · cases h
  rename_i hloc
  exact ⟨by simpa using hfr, by unfold structureOk; rw [hcs]; rfl,
    by rw [localOk_eq env root fresh hcs]; simpa using hloc⟩

/-- whatever the Loader, unlike the `_noloader` results above -/
theorem resolve_wf_of_ok (env : Env) (fuel : Nat) (root : NodeId) (base : String) (rs : Resolved)
    (h : resolve env fuel root base = .ok rs) :
    ∃ b, retrievalOf base = .ok b ∧ b.fragment = "" ∧ structureOk env.st root = true ∧
      localOk env root = true ∧ (topDoc env root).IdsOk b := by
  obtain ⟨s, b, d, hb, hs, _, _, _, _, _⟩ := resolve_eq_ok env fuel root base rs h
  cases fuel with
  | zero => simp [resolveDoc] at hs
  | succ fuel =>
    have hs' : resolveDocStep env (resolveDoc env fuel) root b .d2020 {} = .ok s := hs
    obtain ⟨h1, h2, h3⟩ := resolveDocStep_wf env _ root b .d2020 {} s hs'
    obtain ⟨rn, fresh, sB, hrn, hfresh, hB, _⟩ := resolveDocStep_unfold env _ root b .d2020 {} s hs'
    refine ⟨b, hb, h1, h2, h3, ?_⟩
    have hdr : docDraft env rn .d2020 = topDraft env root := (topDraft_eq env root rn hrn).symm
    rw [hdr] at hB
    exact (resolveURIs_ok env (topDoc env root) rfl b _ fresh hfresh _ _ sB
      (beforeURIs_root_uri env.st _ root b _ fresh {} hfresh) hB).1

end RComp
end Go
end JSV
