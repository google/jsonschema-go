/-
  `NoPF` (neither panic nor out of fuel) and `NoP` (no panic): the predicates and their bind rules; the bind rule of
  "not out of fuel".
-/
import JSV.Basic.Res
namespace JSV
namespace C10

def NoPF {α : Type} (r : Res α) : Prop := r ≠ .panic ∧ r ≠ .fuel

theorem NoPF_ok {α} (a : α) : NoPF (.ok a : Res α) := ⟨by simp, by simp⟩
theorem NoPF_err {α} : NoPF (.err : Res α) := ⟨by simp, by simp⟩

theorem NoPF_bind {α β} {x : Res α} {f : α → Res β} (hx : NoPF x) (hf : ∀ a, x = .ok a → NoPF (f a)) :
    NoPF (Res.bind x f) := by
  cases x with
  | ok a => simpa using hf a rfl
  | err => exact NoPF_err
  | panic => exact absurd rfl hx.1
  | fuel => exact absurd rfl hx.2

theorem NoPF_iff {α} (r : Res α) : NoPF r ↔ (r = .err ∨ ∃ a, r = .ok a) := by
  cases r <;> simp [NoPF]

def NoP {α : Type} (r : Res α) : Prop := r ≠ .panic

theorem NoP_bind {α β} {x : Res α} {f : α → Res β} (hx : NoP x) (hf : ∀ a, x = .ok a → NoP (f a)) :
    NoP (Res.bind x f) := by
  cases x with
  | ok a => simpa using hf a rfl
  | err => simp [NoP]
  | panic => exact absurd rfl hx
  | fuel => simp [NoP]

theorem NoF_bind {α β} {x : Res α} {f : α → Res β} (hx : x ≠ .fuel) (hf : ∀ a, x = .ok a → f a ≠ .fuel) :
    Res.bind x f ≠ .fuel := by
  cases x with
  | ok a => simpa using hf a rfl
  | err => simp
  | panic => simp
  | fuel => exact absurd rfl hx

end C10
end JSV
