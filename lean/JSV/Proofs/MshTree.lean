/-
  C05: the Marshal / Unmarshal round trip of whole schema trees, by induction over the marshal fuel (`rt_main`); at
  each node the members of the emitted object are read back group by group in emission order (`node_chain`; the single
  members: JSV/Proofs/MshTreeFields.lean).  Trees equal up to the normal forms marshal identically
  (`TreeEq.marshal_eq`).  `roundtrip_tree_eq_core` is the first half of `roundtrip_tree` (JSV/Props/C05.lean).
-/
import JSV.Proofs.MshTreeFields
import JSV.Proofs.ListFacts
namespace JSV
namespace Go

/-- the members of one emitted object read back into `emptyNode`, member group by member group in emission order.
    `G`: the fuel of `urec`, which must cover every member (`hG`); `Q s x x'`: what is known of the rebuilt child `x'`
    of `x` in store `s` (`ChildRT`), kept when the store grows (`hQ`).  The accumulator after the `k`-th group is
    `emptyNode` with the first `k` fields set, so each side condition `upd m none = m` is `rfl`. -/
theorem node_chain {st : Store} {mrec : MRec} {urec : URec} {G : Nat} {Q : Store → NodeId → NodeId → Prop}
    (hQ : ∀ s s' x y, Ext s s' → Q s x y → Q s' x y) (n : Node) (hok : NodeOKP n)
    (hch : ∀ x, x ∈ n.children → ChildRT st mrec urec G Q x) {p : Pieces} (hp : IsPieces st mrec n p)
    (hG : ∀ e, e ∈ mMembers n p → Json.size e.2 ≤ G) (st2 : Store) :
    ∃ N s, setFields urec (mMembers n p) emptyNode st2 = .ok (N, s) ∧ Ext st2 s ∧
      NodeRel (Q s) (normNode n) N ∧ (n.children = [] → s = st2) := by
  obtain ⟨e_props, e_deps, e_items, e_defs, e_definitions, e_prefixItems, e_additionalItems, e_contains, e_unevaluatedItems, e_patternProperties, e_additionalProperties, e_propertyNames, e_unevaluatedProperties, e_allOf, e_anyOf, e_oneOf, e_not_, e_if_, e_then_, e_else_, e_dependentSchemas, e_contentSchema⟩ := hp
  obtain ⟨hT, hI, hcl, hk, hf, hsj, hw_minLength, hw_maxLength, hw_minItems, hw_maxItems, hw_minContains, hw_maxContains, hw_minProperties, hw_maxProperties, hsEnum, hsConst, hsEx⟩ := hok
  -- a tautology over the members of `childFields`, split into one membership fact per field
  have hkids : ∀ f, f ∈ n.childFields → f ∈ n.childFields := fun _ hf => hf
  simp only [Node.childFields, List.forall_mem_cons] at hkids
  obtain ⟨k_defs, k_additionalItems, k_additionalProperties, k_allOf, k_anyOf, k_contains, k_contentSchema,
    k_definitions, k_deps, k_dependentSchemas, k_else_, k_if_, k_items, k_itemsArray, k_not_, k_oneOf,
    k_patternProperties, k_prefixItems, k_props, k_propertyNames, k_then_, k_unevaluatedItems,
    k_unevaluatedProperties, -⟩ := hkids
  simp only [mMembers, List.forall_mem_append] at hG
  obtain ⟨-, g_props, g_deps, g_items, -, g_anyOf, g_oneOf, -, -, -, -, -, g_defs, g_definitions, -, -, -, -, -, -, -,
    -, -, -, -, -, -, -, -, -, -, -, -, g_prefixItems, -, -, g_additionalItems, -, g_contains, -, -,
    g_unevaluatedItems, -, -, -, -, g_patternProperties, g_additionalProperties, g_propertyNames,
    g_unevaluatedProperties, g_allOf, g_not_, g_if_, g_then_, g_else_, g_dependentSchemas, -, -, g_contentSchema, -,
    -⟩ := hG
  obtain ⟨c_props, s1, x1, r_props, z1, h_props⟩ := sf_props hch hQ (c := n.properties)
    (fun _ => child_keyed k_props) e_props
    g_props st2
  obtain ⟨c_deps, s2, x2, r_deps, z2, h_deps⟩ := sf_deps hch hQ (dsch := n.dependencySchemas) (dstrs := n.dependencyStrings) hcl
    (fun _ => child_keyed k_deps) e_deps
    g_deps s1
  obtain ⟨c_items, c_itemsArray, s3, x3, r_items, r_itemsArray, z3, h_items⟩ := sf_items hch hQ (it := n.items) (ia := n.itemsArray) hI
    (fun _ => child_one k_items)
    (fun _ => child_many k_itemsArray) e_items
    g_items s2
  obtain ⟨c_anyOf, s4, x4, r_anyOf, z4, h_anyOf⟩ := sf_manyNN hch hQ (K := "anyOf") (upd := fun m c => { m with anyOf := c })
    (fun _ _ _ => rfl) (by repeat constructor) (c := n.anyOf)
    (fun _ => child_many k_anyOf) e_anyOf
    g_anyOf s3
  obtain ⟨c_oneOf, s5, x5, r_oneOf, z5, h_oneOf⟩ := sf_manyNN hch hQ (K := "oneOf") (upd := fun m c => { m with oneOf := c })
    (fun _ _ _ => rfl) (by repeat constructor) (c := n.oneOf)
    (fun _ => child_many k_oneOf) e_oneOf
    g_oneOf s4
  obtain ⟨c_defs, s6, x6, r_defs, z6, h_defs⟩ := sf_keyed hch hQ (K := "$defs") (upd := fun m c => { m with defs := c })
    (fun _ _ _ => rfl) (by repeat constructor) (c := n.defs)
    (fun _ => child_keyed k_defs) e_defs
    g_defs s5
  obtain ⟨c_definitions, s7, x7, r_definitions, z7, h_definitions⟩ := sf_keyed hch hQ (K := "definitions") (upd := fun m c => { m with definitions := c })
    (fun _ _ _ => rfl) (by repeat constructor) (c := n.definitions)
    (fun _ => child_keyed k_definitions) e_definitions
    g_definitions s6
  obtain ⟨c_prefixItems, s8, x8, r_prefixItems, z8, h_prefixItems⟩ := sf_many hch hQ (K := "prefixItems") (upd := fun m c => { m with prefixItems := c })
    (fun _ _ _ => rfl) (by repeat constructor) (c := n.prefixItems)
    (fun _ => child_many k_prefixItems) e_prefixItems
    g_prefixItems s7
  obtain ⟨c_additionalItems, s9, x9, r_additionalItems, z9, h_additionalItems⟩ := sf_one hch (K := "additionalItems") (upd := fun m c => { m with additionalItems := c })
    (fun _ _ _ => rfl) (by repeat constructor) (c := n.additionalItems)
    (fun _ => child_one k_additionalItems) e_additionalItems
    g_additionalItems s8
  obtain ⟨c_contains, s10, x10, r_contains, z10, h_contains⟩ := sf_one hch (K := "contains") (upd := fun m c => { m with contains := c })
    (fun _ _ _ => rfl) (by repeat constructor) (c := n.contains)
    (fun _ => child_one k_contains) e_contains
    g_contains s9
  obtain ⟨c_unevaluatedItems, s11, x11, r_unevaluatedItems, z11, h_unevaluatedItems⟩ := sf_one hch (K := "unevaluatedItems") (upd := fun m c => { m with unevaluatedItems := c })
    (fun _ _ _ => rfl) (by repeat constructor) (c := n.unevaluatedItems)
    (fun _ => child_one k_unevaluatedItems) e_unevaluatedItems
    g_unevaluatedItems s10
  obtain ⟨c_patternProperties, s12, x12, r_patternProperties, z12, h_patternProperties⟩ := sf_keyed hch hQ (K := "patternProperties") (upd := fun m c => { m with patternProperties := c })
    (fun _ _ _ => rfl) (by repeat constructor) (c := n.patternProperties)
    (fun _ => child_keyed k_patternProperties) e_patternProperties
    g_patternProperties s11
  obtain ⟨c_additionalProperties, s13, x13, r_additionalProperties, z13, h_additionalProperties⟩ := sf_one hch (K := "additionalProperties") (upd := fun m c => { m with additionalProperties := c })
    (fun _ _ _ => rfl) (by repeat constructor) (c := n.additionalProperties)
    (fun _ => child_one k_additionalProperties) e_additionalProperties
    g_additionalProperties s12
  obtain ⟨c_propertyNames, s14, x14, r_propertyNames, z14, h_propertyNames⟩ := sf_one hch (K := "propertyNames") (upd := fun m c => { m with propertyNames := c })
    (fun _ _ _ => rfl) (by repeat constructor) (c := n.propertyNames)
    (fun _ => child_one k_propertyNames) e_propertyNames
    g_propertyNames s13
  obtain ⟨c_unevaluatedProperties, s15, x15, r_unevaluatedProperties, z15, h_unevaluatedProperties⟩ := sf_one hch (K := "unevaluatedProperties") (upd := fun m c => { m with unevaluatedProperties := c })
    (fun _ _ _ => rfl) (by repeat constructor) (c := n.unevaluatedProperties)
    (fun _ => child_one k_unevaluatedProperties) e_unevaluatedProperties
    g_unevaluatedProperties s14
  obtain ⟨c_allOf, s16, x16, r_allOf, z16, h_allOf⟩ := sf_many hch hQ (K := "allOf") (upd := fun m c => { m with allOf := c })
    (fun _ _ _ => rfl) (by repeat constructor) (c := n.allOf)
    (fun _ => child_many k_allOf) e_allOf
    g_allOf s15
  obtain ⟨c_not_, s17, x17, r_not_, z17, h_not_⟩ := sf_one hch (K := "not") (upd := fun m c => { m with not := c })
    (fun _ _ _ => rfl) (by repeat constructor) (c := n.not)
    (fun _ => child_one k_not_) e_not_
    g_not_ s16
  obtain ⟨c_if_, s18, x18, r_if_, z18, h_if_⟩ := sf_one hch (K := "if") (upd := fun m c => { m with if_ := c })
    (fun _ _ _ => rfl) (by repeat constructor) (c := n.if_)
    (fun _ => child_one k_if_) e_if_
    g_if_ s17
  obtain ⟨c_then_, s19, x19, r_then_, z19, h_then_⟩ := sf_one hch (K := "then") (upd := fun m c => { m with then_ := c })
    (fun _ _ _ => rfl) (by repeat constructor) (c := n.then_)
    (fun _ => child_one k_then_) e_then_
    g_then_ s18
  obtain ⟨c_else_, s20, x20, r_else_, z20, h_else_⟩ := sf_one hch (K := "else") (upd := fun m c => { m with else_ := c })
    (fun _ _ _ => rfl) (by repeat constructor) (c := n.else_)
    (fun _ => child_one k_else_) e_else_
    g_else_ s19
  obtain ⟨c_dependentSchemas, s21, x21, r_dependentSchemas, z21, h_dependentSchemas⟩ := sf_keyed hch hQ (K := "dependentSchemas") (upd := fun m c => { m with dependentSchemas := c })
    (fun _ _ _ => rfl) (by repeat constructor) (c := n.dependentSchemas)
    (fun _ => child_keyed k_dependentSchemas) e_dependentSchemas
    g_dependentSchemas s20
  obtain ⟨c_contentSchema, s22, x22, r_contentSchema, z22, h_contentSchema⟩ := sf_one hch (K := "contentSchema") (upd := fun m c => { m with contentSchema := c })
    (fun _ _ _ => rfl) (by repeat constructor) (c := n.contentSchema)
    (fun _ => child_one k_contentSchema) e_contentSchema
    g_contentSchema s21
  have X22 : Ext s22 s22 := Ext.refl _
  have X21 : Ext s21 s22 := x22.trans X22
  have X20 : Ext s20 s22 := x21.trans X21
  have X19 : Ext s19 s22 := x20.trans X20
  have X18 : Ext s18 s22 := x19.trans X19
  have X17 : Ext s17 s22 := x18.trans X18
  have X16 : Ext s16 s22 := x17.trans X17
  have X15 : Ext s15 s22 := x16.trans X16
  have X14 : Ext s14 s22 := x15.trans X15
  have X13 : Ext s13 s22 := x14.trans X14
  have X12 : Ext s12 s22 := x13.trans X13
  have X11 : Ext s11 s22 := x12.trans X12
  have X10 : Ext s10 s22 := x11.trans X11
  have X9 : Ext s9 s22 := x10.trans X10
  have X8 : Ext s8 s22 := x9.trans X9
  have X7 : Ext s7 s22 := x8.trans X8
  have X6 : Ext s6 s22 := x7.trans X7
  have X5 : Ext s5 s22 := x6.trans X6
  have X4 : Ext s4 s22 := x5.trans X5
  have X3 : Ext s3 s22 := x4.trans X4
  have X2 : Ext s2 s22 := x3.trans X3
  have X1 : Ext s1 s22 := x2.trans X2
  have X0 : Ext st2 s22 := x1.trans X1
  refine ⟨?N, s22, ?eq, X0, ?rel, fun hz => ?exact⟩
  case eq =>
    unfold mMembers
    refine (sf_typ urec n emptyNode st2 _ hT rfl rfl).trans ?_
    dsimp only [emptyNode]
    refine (h_props _ _ rfl).trans ?_
    dsimp only
    refine (h_deps _ _ rfl).trans ?_
    dsimp only
    refine (h_items _ _ rfl).trans ?_
    dsimp only
    refine (sf_enum urec n _ s3 _ hsEnum rfl).trans ?_
    dsimp only
    refine (h_anyOf _ _ rfl).trans ?_
    dsimp only
    refine (h_oneOf _ _ rfl).trans ?_
    dsimp only
    refine (sf_vocab urec n _ s5 _ rfl).trans ?_
    dsimp only
    refine (sf_str_gen (K := "$id") (upd := fun m s => { m with id := s }) (fun _ _ _ => rfl) (by repeat constructor) _ s5 n.id _ rfl).trans ?_
    dsimp only
    refine (sf_str_gen (K := "$schema") (upd := fun m s => { m with schema := s }) (fun _ _ _ => rfl) (by repeat constructor) _ s5 n.schema _ rfl).trans ?_
    dsimp only
    refine (sf_str_gen (K := "$ref") (upd := fun m s => { m with ref := s }) (fun _ _ _ => rfl) (by repeat constructor) _ s5 n.ref _ rfl).trans ?_
    dsimp only
    refine (sf_str_gen (K := "$comment") (upd := fun m s => { m with comment := s }) (fun _ _ _ => rfl) (by repeat constructor) _ s5 n.comment _ rfl).trans ?_
    dsimp only
    refine (h_defs _ _ rfl).trans ?_
    dsimp only
    refine (h_definitions _ _ rfl).trans ?_
    dsimp only
    refine (sf_str_gen (K := "$anchor") (upd := fun m s => { m with anchor := s }) (fun _ _ _ => rfl) (by repeat constructor) _ s7 n.anchor _ rfl).trans ?_
    dsimp only
    refine (sf_str_gen (K := "$dynamicAnchor") (upd := fun m s => { m with dynamicAnchor := s }) (fun _ _ _ => rfl) (by repeat constructor) _ s7 n.dynamicAnchor _ rfl).trans ?_
    dsimp only
    refine (sf_str_gen (K := "$dynamicRef") (upd := fun m s => { m with dynamicRef := s }) (fun _ _ _ => rfl) (by repeat constructor) _ s7 n.dynamicRef _ rfl).trans ?_
    dsimp only
    refine (sf_str_gen (K := "title") (upd := fun m s => { m with title := s }) (fun _ _ _ => rfl) (by repeat constructor) _ s7 n.title _ rfl).trans ?_
    dsimp only
    refine (sf_str_gen (K := "description") (upd := fun m s => { m with description := s }) (fun _ _ _ => rfl) (by repeat constructor) _ s7 n.description _ rfl).trans ?_
    dsimp only
    refine (sf_default urec n _ s7 _ rfl).trans ?_
    dsimp only
    refine (sf_bool_gen (K := "deprecated") (upd := fun m s => { m with deprecated := s }) (fun _ _ => rfl) (by repeat constructor) _ s7 n.deprecated _ rfl).trans ?_
    dsimp only
    refine (sf_bool_gen (K := "readOnly") (upd := fun m s => { m with readOnly := s }) (fun _ _ => rfl) (by repeat constructor) _ s7 n.readOnly _ rfl).trans ?_
    dsimp only
    refine (sf_bool_gen (K := "writeOnly") (upd := fun m s => { m with writeOnly := s }) (fun _ _ => rfl) (by repeat constructor) _ s7 n.writeOnly _ rfl).trans ?_
    dsimp only
    refine (sf_examples urec n _ s7 _ hsEx rfl).trans ?_
    dsimp only
    refine (sf_const urec n _ s7 _ hsConst rfl).trans ?_
    dsimp only
    refine (sf_num_gen (K := "multipleOf") (upd := fun m s => { m with multipleOf := s }) (fun _ _ _ => rfl) (by repeat constructor) _ s7 n.multipleOf _ rfl).trans ?_
    dsimp only
    refine (sf_num_gen (K := "minimum") (upd := fun m s => { m with minimum := s }) (fun _ _ _ => rfl) (by repeat constructor) _ s7 n.minimum _ rfl).trans ?_
    dsimp only
    refine (sf_num_gen (K := "maximum") (upd := fun m s => { m with maximum := s }) (fun _ _ _ => rfl) (by repeat constructor) _ s7 n.maximum _ rfl).trans ?_
    dsimp only
    refine (sf_num_gen (K := "exclusiveMinimum") (upd := fun m s => { m with exclusiveMinimum := s }) (fun _ _ _ => rfl) (by repeat constructor) _ s7 n.exclusiveMinimum _ rfl).trans ?_
    dsimp only
    refine (sf_num_gen (K := "exclusiveMaximum") (upd := fun m s => { m with exclusiveMaximum := s }) (fun _ _ _ => rfl) (by repeat constructor) _ s7 n.exclusiveMaximum _ rfl).trans ?_
    dsimp only
    refine (sf_int_gen (K := "minLength") (upd := fun m s => { m with minLength := s }) (fun _ _ _ => rfl) (by repeat constructor) _ s7 n.minLength _ hw_minLength rfl).trans ?_
    dsimp only
    refine (sf_int_gen (K := "maxLength") (upd := fun m s => { m with maxLength := s }) (fun _ _ _ => rfl) (by repeat constructor) _ s7 n.maxLength _ hw_maxLength rfl).trans ?_
    dsimp only
    refine (sf_str_gen (K := "pattern") (upd := fun m s => { m with pattern := s }) (fun _ _ _ => rfl) (by repeat constructor) _ s7 n.pattern _ rfl).trans ?_
    dsimp only
    refine (h_prefixItems _ _ rfl).trans ?_
    dsimp only
    refine (sf_int_gen (K := "minItems") (upd := fun m s => { m with minItems := s }) (fun _ _ _ => rfl) (by repeat constructor) _ s8 n.minItems _ hw_minItems rfl).trans ?_
    dsimp only
    refine (sf_int_gen (K := "maxItems") (upd := fun m s => { m with maxItems := s }) (fun _ _ _ => rfl) (by repeat constructor) _ s8 n.maxItems _ hw_maxItems rfl).trans ?_
    dsimp only
    refine (h_additionalItems _ _ rfl).trans ?_
    dsimp only
    refine (sf_bool_gen (K := "uniqueItems") (upd := fun m s => { m with uniqueItems := s }) (fun _ _ => rfl) (by repeat constructor) _ s9 n.uniqueItems _ rfl).trans ?_
    dsimp only
    refine (h_contains _ _ rfl).trans ?_
    dsimp only
    refine (sf_int_gen (K := "minContains") (upd := fun m s => { m with minContains := s }) (fun _ _ _ => rfl) (by repeat constructor) _ s10 n.minContains _ hw_minContains rfl).trans ?_
    dsimp only
    refine (sf_int_gen (K := "maxContains") (upd := fun m s => { m with maxContains := s }) (fun _ _ _ => rfl) (by repeat constructor) _ s10 n.maxContains _ hw_maxContains rfl).trans ?_
    dsimp only
    refine (h_unevaluatedItems _ _ rfl).trans ?_
    dsimp only
    refine (sf_int_gen (K := "minProperties") (upd := fun m s => { m with minProperties := s }) (fun _ _ _ => rfl) (by repeat constructor) _ s11 n.minProperties _ hw_minProperties rfl).trans ?_
    dsimp only
    refine (sf_int_gen (K := "maxProperties") (upd := fun m s => { m with maxProperties := s }) (fun _ _ _ => rfl) (by repeat constructor) _ s11 n.maxProperties _ hw_maxProperties rfl).trans ?_
    dsimp only
    refine (sf_required urec n _ s11 _ rfl).trans ?_
    dsimp only
    refine (sf_depReq urec n _ s11 _ rfl).trans ?_
    dsimp only
    refine (h_patternProperties _ _ rfl).trans ?_
    dsimp only
    refine (h_additionalProperties _ _ rfl).trans ?_
    dsimp only
    refine (h_propertyNames _ _ rfl).trans ?_
    dsimp only
    refine (h_unevaluatedProperties _ _ rfl).trans ?_
    dsimp only
    refine (h_allOf _ _ rfl).trans ?_
    dsimp only
    refine (h_not_ _ _ rfl).trans ?_
    dsimp only
    refine (h_if_ _ _ rfl).trans ?_
    dsimp only
    refine (h_then_ _ _ rfl).trans ?_
    dsimp only
    refine (h_else_ _ _ rfl).trans ?_
    dsimp only
    refine (h_dependentSchemas _ _ rfl).trans ?_
    dsimp only
    refine (sf_str_gen (K := "contentEncoding") (upd := fun m s => { m with contentEncoding := s }) (fun _ _ _ => rfl) (by repeat constructor) _ s21 n.contentEncoding _ rfl).trans ?_
    dsimp only
    refine (sf_str_gen (K := "contentMediaType") (upd := fun m s => { m with contentMediaType := s }) (fun _ _ _ => rfl) (by repeat constructor) _ s21 n.contentMediaType _ rfl).trans ?_
    dsimp only
    refine (h_contentSchema _ _ rfl).trans ?_
    dsimp only
    refine (sf_str_gen (K := "format") (upd := fun m s => { m with format := s }) (fun _ _ _ => rfl) (by repeat constructor) _ s22 n.format _ rfl).trans ?_
    dsimp only
    rw [mExtra_eq n hsj, setFields_unknown urec _ _ _ (fun e he => hk e ((sortKV_perm _).mem_iff.1 he))
      (fun e he => hf e ((sortKV_perm _).mem_iff.1 he)), foldl_addExtra_norm _ rfl]
  case rel =>
    refine ⟨[.keyed "$defs" c_defs, .one "additionalItems" c_additionalItems, .one "additionalProperties" c_additionalProperties, .many "allOf" c_allOf, .many "anyOf" c_anyOf, .one "contains" c_contains, .one "contentSchema" c_contentSchema, .keyed "definitions" c_definitions, .keyed "dependencies" c_deps, .keyed "dependentSchemas" c_dependentSchemas, .one "else" c_else_, .one "if" c_if_, .one "items" c_items, .many "items" c_itemsArray, .one "not" c_not_, .many "oneOf" c_oneOf, .keyed "patternProperties" c_patternProperties, .many "prefixItems" c_prefixItems, .keyed "properties" c_props, .one "propertyNames" c_propertyNames, .one "then" c_then_, .one "unevaluatedItems" c_unevaluatedItems, .one "unevaluatedProperties" c_unevaluatedProperties], ?_, rfl⟩
    unfold Node.childFields
    exact .cons (.keyed (lift_keyed hQ X6 r_defs))
      (.cons (.one (lift_one hQ X9 r_additionalItems))
      (.cons (.one (lift_one hQ X13 r_additionalProperties))
      (.cons (.many (lift_many hQ X16 r_allOf))
      (.cons (.many (lift_many hQ X4 r_anyOf))
      (.cons (.one (lift_one hQ X10 r_contains))
      (.cons (.one (lift_one hQ X22 r_contentSchema))
      (.cons (.keyed (lift_keyed hQ X7 r_definitions))
      (.cons (.keyed (lift_keyed hQ X2 r_deps))
      (.cons (.keyed (lift_keyed hQ X21 r_dependentSchemas))
      (.cons (.one (lift_one hQ X20 r_else_))
      (.cons (.one (lift_one hQ X18 r_if_))
      (.cons (.one (lift_one hQ X3 r_items))
      (.cons (.many (lift_many hQ X3 r_itemsArray))
      (.cons (.one (lift_one hQ X17 r_not_))
      (.cons (.many (lift_many hQ X5 r_oneOf))
      (.cons (.keyed (lift_keyed hQ X12 r_patternProperties))
      (.cons (.many (lift_many hQ X8 r_prefixItems))
      (.cons (.keyed (lift_keyed hQ X1 r_props))
      (.cons (.one (lift_one hQ X14 r_propertyNames))
      (.cons (.one (lift_one hQ X19 r_then_))
      (.cons (.one (lift_one hQ X11 r_unevaluatedItems))
      (.cons (.one (lift_one hQ X15 r_unevaluatedProperties))
      (.nil)))))))))))))))))))))))
  case exact =>
    have hn : ∀ x, ¬ x ∈ n.children := fun x hx => by rw [hz] at hx; cases hx
    rw [z22 hn, z21 hn, z20 hn, z19 hn, z18 hn, z17 hn, z16 hn, z15 hn, z14 hn, z13 hn, z12 hn, z11 hn, z10 hn, z9 hn,
      z8 hn, z7 hn, z6 hn, z5 hn, z4 hn, z3 hn, z2 hn, z1 hn]

theorem FieldRel.eq_of_false {f f' : ChildField} (h : FieldRel (fun _ _ => False) f f') : f' = f := by
  cases h with
  | one hr => rw [OptRel.eq_of (fun _ _ h => h.elim) hr]
  | many hr => rw [OptRel.eq_of (fun _ _ h => ListRel.eq_of (fun _ _ h => h.elim) h) hr]
  | keyed hr => rw [OptRel.eq_of (fun _ _ h => ListRel.eq_of (fun _ _ h => h.2.elim) h) hr]

/-- the round trip of one node whose schema-valued fields are all nil: `node_chain` with no child to read, so neither
    recursion is called and the store is only extended by the node itself -/
theorem scalarOnly_roundtrip (st : Store) (mrec : MRec) (urec : URec) (id : NodeId) (st2 : Store) (j : Json)
    (n : Node) (hs : ScalarOnly n) (hT : (n.type != "" && n.types.isSome) = false)
    (hw_minLength : InInt32 n.minLength) (hw_maxLength : InInt32 n.maxLength) (hw_minItems : InInt32 n.minItems) (hw_maxItems : InInt32 n.maxItems) (hw_minContains : InInt32 n.minContains) (hw_maxContains : InInt32 n.maxContains) (hw_minProperties : InInt32 n.minProperties) (hw_maxProperties : InInt32 n.maxProperties)
    (hk : ∀ e, e ∈ n.extra.getD [] → e.1 ∉ knownKeys)
    (hf : ∀ e, e ∈ n.extra.getD [] → isFoldedKey e.1 = false)
    (hsj : ∀ e, e ∈ n.extra.getD [] → sortJson e.2 = e.2)
    (hn : st.get? id = some n) (hj : marshalStep st mrec id = .ok j) :
    unmarshalStep urec j st2 =
      .ok (st2.alloc { n with required := normReq n.required, extra := normExtra n.extra }) := by
  have hc0 : n.children = [] := by rw [← hs]; rfl
  have hnorm : normNode n = { n with required := normReq n.required, extra := normExtra n.extra } := by
    rw [← hs]; rfl
  have hok : NodeOKP n :=
    ⟨hT, by rw [← hs]; rfl, by rw [← hs]; rfl, hk, hf, hsj, hw_minLength, hw_maxLength, hw_minItems, hw_maxItems,
      hw_minContains, hw_maxContains, hw_minProperties, hw_maxProperties, by rw [← hs]; rfl, by rw [← hs]; rfl,
      by rw [← hs]; rfl⟩
  obtain ⟨-, -, hj⟩ := (marshalStep_ok hn).1 hj
  obtain ⟨p, hp, hfin⟩ := marshalNode_inv hj
  have chain : ∀ urec : URec, setFields urec (mMembers n p) emptyNode st2 =
      .ok ({ n with required := normReq n.required, extra := normExtra n.extra }, st2) := by
    intro urec
    obtain ⟨N, s, h1, -, ⟨fs', hl, rfl⟩, hz⟩ := node_chain (urec := urec) (G := Json.size (.obj (mMembers n p)))
      (Q := fun _ _ _ => False) (fun _ _ _ _ _ h => h) n hok (fun x hx => by rw [hc0] at hx; cases hx) hp
      (fun e he => C10.size_le_of_mem_obj he (Nat.le_refl _)) st2
    rw [h1, hz hc0, ListRel.eq_of (fun _ _ h => FieldRel.eq_of_false h) hl, ← hnorm]
    rfl
  generalize mMembers n p = M at hfin chain
  unfold mFinish at hfin
  split at hfin
  · cases hfin
    have h0 := chain urec
    simp only [setFields] at h0
    rw [← (Prod.mk.inj (Res.ok.inj h0)).1]
    rfl
  · -- `{"not": true}` cannot be the member list: reading it calls the recursion
    exact absurd (chain fun _ _ => .err) (by intro h; cases h)
  · cases hfin
    simp only [unmarshalStep, chain urec, Res.bind_ok]

/-- what the round trip says of the rebuilt schema `x'` in store `s`: its tree equals the tree of `x` up to the normal
    forms, and it was allocated after all of its descendants (so its depth is at most `x' + 1`) -/
def RTQ (st : Store) (f : Nat) (s : Store) (x x' : NodeId) : Prop := TreeEq st s f x x' ∧ Full s (x' + 1) x'

theorem RTQ.mono (st : Store) (f : Nat) : ∀ s s' x y, Ext s s' → RTQ st f s x y → RTQ st f s' x y :=
  fun _ _ _ _ he h => ⟨TreeEq.mono_right he _ _ _ h.1, Full.ext he h.2⟩

theorem rt_finish {st : Store} {f : Nat} {id : NodeId} {n : Node} (hn : st.get? id = some n) {st2 s : Store} {N : Node}
    (hext : Ext st2 s) (hrel : NodeRel (RTQ st f s) (normNode n) N) :
    Ext st2 (s.push N) ∧ RTQ st (f + 1) (s.push N) id s.size := by
  refine ⟨hext.trans (Ext.push s N), ⟨n, N, hn, get?_push_size _ _, ?_⟩, ⟨N, get?_push_size _ _, ?_⟩⟩
  · exact NodeRel.imp (fun a b h => TreeEq.mono_right (Ext.push _ _) _ _ _ h.1) hrel
  · intro x hx
    obtain ⟨fs', hl, rfl⟩ := hrel
    obtain ⟨a, hq⟩ := children_of_rel hl hx
    have hlt : x < s.size := hq.2.lt_size
    exact Full.ext (Ext.push _ _) (hq.2.mono_le hlt)

theorem setFields_not_true (g : Nat) (st2 : Store) :
    setFields (unmarshalFuel (g + 1)) [("not", Json.bool true)] emptyNode st2 =
      .ok ({ emptyNode with not := some st2.size }, st2.push emptyNode) := by
  rw [setFields_cons_canon _ _ _ _ _ (canonKey_knownKeys "not" (by repeat constructor))]
  rfl

/-- by induction over the marshal fuel `f`; the unmarshal fuel `g` is arbitrary above the size of the JSON, so the
    hypothesis applies to every child -/
theorem rt_main (st : Store) : ∀ (f d : Nat) (id : NodeId) (j : Json),
    treeAll nodeOK st d id = true → marshalFuel st f id = .ok j →
    IsSchemaJson j ∧ ∀ (g : Nat) (st2 : Store), Json.size j ≤ g →
      ∃ id' st2', unmarshalFuel g j st2 = .ok (id', st2') ∧ Ext st2 st2' ∧ RTQ st f st2' id id' := by
  intro f
  induction f with
  | zero => intro d id j _ h; cases h
  | succ f ih =>
    intro d id j hd hj
    cases d with
    | zero => cases hd
    | succ d =>
      obtain ⟨n, hn, hok, hcd⟩ := treeAll_succ hd
      obtain ⟨-, -, hj⟩ := (marshalStep_ok hn).1 hj
      obtain ⟨p, hp, hfin⟩ := marshalNode_inv hj
      refine ⟨mFinish_isSchemaJson hfin, fun g st2 hg => ?_⟩
      have hch : ∀ (g' : Nat) x, x ∈ n.children →
          ChildRT st (marshalFuel st f) (unmarshalFuel g') g' (RTQ st f) x := by
        intro g' x hx
        have hxd := hcd x hx
        refine ⟨treeAll_get hxd, fun jx hjx => ?_⟩
        obtain ⟨h1, h2⟩ := ih d x jx hxd hjx
        exact ⟨h1, fun hs st2 => h2 g' st2 hs⟩
      have chain := fun (g' : Nat) (st2 : Store) hG =>
        node_chain (G := g') (RTQ.mono st f) n (nodeOK_unpack hok) (hch g') hp hG st2
      obtain ⟨g', rfl⟩ : ∃ g', g = g' + 1 := ⟨g - 1, by have := C10.size_pos j; omega⟩
      generalize mMembers n p = M at hfin chain
      unfold mFinish at hfin
      split at hfin
      · cases hfin
        obtain ⟨N, s, hset, hext, hrel, -⟩ := chain g' st2 (fun e he => by cases he)
        simp only [setFields] at hset
        cases hset
        obtain ⟨h1, h2⟩ := rt_finish hn hext hrel
        exact ⟨_, _, rfl, h1, h2⟩
      · cases hfin
        obtain ⟨N, s, hset, hext, hrel, -⟩ := chain (g' + 1) st2 (fun e he => by
          simp only [List.mem_singleton] at he
          subst he
          simp only [Json.size]
          omega)
        rw [setFields_not_true] at hset
        cases hset
        obtain ⟨h1, h2⟩ := rt_finish hn hext hrel
        exact ⟨_, _, rfl, h1, h2⟩
      · cases hfin
        obtain ⟨N, s, hset, hext, hrel, -⟩ := chain g' st2 (fun e he => by
          have := C10.size_lt_of_mem_obj he
          omega)
        obtain ⟨h1, h2⟩ := rt_finish hn hext hrel
        refine ⟨_, _, ?_, h1, h2⟩
        show unmarshalStep (unmarshalFuel g') (.obj _) st2 = _
        simp only [unmarshalStep, hset, Res.bind_ok]
        rfl

section
variable {st : Store} {rec : MRec}

theorem mMany_norm (k : String) : ∀ (c : Option (List NodeId)), mMany st rec k (normList c) = mMany st rec k c
  | none => rfl
  | some [] => rfl
  | some (_ :: _) => rfl

theorem mKeyed_norm (k : String) : ∀ (c : Option (List (String × NodeId))),
    mKeyed st rec k (normMap c) = mKeyed st rec k c
  | none => rfl
  | some [] => rfl
  | some (e :: es) => by
    show mKeyed st rec k (some (sortKV (e :: es))) = _
    cases h : sortKV (e :: es) with
    | nil => exact absurd h (sortKV_cons_ne_nil e es)
    | cons x xs =>
      simp only [mKeyed, mSchemaMap]
      rw [← h, sortKV_idem]

theorem orderedKeys_nil {α} (ps : List (String × α)) : orderedKeys ps [] = sortStrings (ps.map (·.1)) := by
  unfold orderedKeys
  simp only [List.filter_nil, List.nil_append]
  congr 1
  exact List.filter_eq_self.2 fun _ _ => rfl

theorem propEntries_norm (ps : List (String × NodeId)) (order : List String)
    (hord : strsSortedB (orderedKeys ps order) = true) :
    propEntries (propEntries ps order) [] = propEntries ps order := by
  have hk : orderedKeys (propEntries ps order) [] = orderedKeys ps order := by
    rw [orderedKeys_nil, keys_propEntries, sortStrings_of_sortedB _ hord]
  show (orderedKeys (propEntries ps order) []).filterMap _ = _
  rw [hk]
  show _ = (orderedKeys ps order).filterMap _
  refine filterMap_congr_mem _ fun k hk' => ?_
  have : Json.lookup k (propEntries ps order) = Json.lookup k ps :=
    lookup_filterMap_lookup _ (fun _ h => orderedKeys_isSome h) k hk'
  rw [this]

theorem mPropsField_norm (order : List String) : ∀ (c : Option (List (String × NodeId))),
    strsSortedB (orderedKeys (c.getD []) order) = true →
    mPropsField st rec (normProps c order) [] = mPropsField st rec c order
  | none, _ => rfl
  | some ps, hord => by
    show mPropsField st rec (some (propEntries ps order)) [] = _
    simp only [mPropsField]
    have e : ∀ l o, mProperties st rec l o =
        Res.bind (mSchemaEntries st rec (propEntries l o)) fun es => .ok (.obj es) := fun _ _ => rfl
    rw [e, e, propEntries_norm ps order hord]

end

theorem mRequired_norm (n : Node) : mRequired (normNode n) = mRequired n := by
  unfold mRequired
  show (match normReq n.required with | some (x :: xs) => [("required", strs (x :: xs))] | _ => []) = _
  cases n.required with
  | none => rfl
  | some l =>
    cases l with
    | nil => rfl
    | cons x xs => rfl

theorem mem_normExtra {ex : Option (List (String × Json))} {e : String × Json}
    (he : e ∈ (normExtra ex).getD []) : e ∈ ex.getD [] := by
  cases ex with
  | none => exact he
  | some l =>
    cases l with
    | nil => exact he
    | cons a as => exact (sortKV_perm _).mem_iff.1 he

theorem mExtra_norm (n : Node) (hsj : ∀ e, e ∈ n.extra.getD [] → sortJson e.2 = e.2) :
    mExtra (normNode n) = mExtra n := by
  unfold mExtra
  show sortKV (((normExtra n.extra).getD []).map fun (k, v) => (k, sortJson v)) = _
  rw [map_sortJson_id _ (fun e he => hsj e (mem_normExtra he)), map_sortJson_id _ hsj]
  cases n.extra with
  | none => rfl
  | some l =>
    cases l with
    | nil => rfl
    | cons a as => exact sortKV_idem _

theorem mExamples_norm (n : Node) : mNonEmptyList "examples" (normNode n).examples = mNonEmptyList "examples" n.examples := by
  show mNonEmptyList "examples" (normJL n.examples) = _
  cases n.examples with
  | none => rfl
  | some l =>
    cases l with
    | nil => rfl
    | cons x xs => rfl

theorem mVocab_norm (n : Node) : mVocab (normNode n) = mVocab n := by
  unfold mVocab
  show (match normVocab n.vocabulary with
    | some vs => [("$vocabulary", Json.obj (sortKV (vs.map fun (k, b) => (k, Json.bool b))))]
    | none => []) = _
  cases n.vocabulary with
  | none => rfl
  | some l =>
    show [("$vocabulary", Json.obj (sortKV ((sortKV l).map fun (k, b) => (k, Json.bool b))))] = _
    rw [← sortKV_map_val (fun x : String × Bool => (x.1, Json.bool x.2)) (fun _ => rfl), sortKV_idem]

theorem mDepReq_norm (n : Node) : mDepReq (normNode n) = mDepReq n := by
  unfold mDepReq
  show (match normKV n.dependentRequired with
    | some (v :: vs) => [("dependentRequired", Json.obj (sortKV ((v :: vs).map fun (k, l) => (k, optStrs l))))]
    | _ => []) = _
  cases n.dependentRequired with
  | none => rfl
  | some l =>
    cases l with
    | nil => rfl
    | cons v vs =>
      show (match some (sortKV (v :: vs)) with
        | some (v :: vs) => [("dependentRequired", Json.obj (sortKV ((v :: vs).map fun (k, l) => (k, optStrs l))))]
        | _ => []) = _
      cases hs : sortKV (v :: vs) with
      | nil => exact absurd hs (sortKV_cons_ne_nil _ _)
      | cons y ys =>
        dsimp only
        rw [← hs, ← sortKV_map_val (fun x : String × Option (List String) => (x.1, optStrs x.2)) (fun _ => rfl), sortKV_idem]

theorem any_key_iff {α : Type} {l : List (String × α)} {k : String} :
    (l.any fun d => d.1 == k) = true ↔ k ∈ l.map (·.1) := by
  rw [List.any_eq_true, List.mem_map]
  constructor
  · rintro ⟨d, hd, hk⟩
    exact ⟨d, hd, by simpa using hk⟩
  · rintro ⟨d, hd, hk⟩
    exact ⟨d, hd, by simpa using hk⟩

theorem any_key_perm {α β : Type} {l : List (String × α)} {l' : List (String × β)}
    (h : (l.map (·.1)).Perm (l'.map (·.1))) (k : String) :
    (l.any fun d => d.1 == k) = (l'.any fun d => d.1 == k) := by
  rw [Bool.eq_iff_iff, any_key_iff, any_key_iff]
  exact h.mem_iff

theorem keys_normDepStrs_perm (D : List (String × Option (List String))) :
    ((sortKV (D.map fun e => (e.1, some (e.2.getD [])))).map (·.1)).Perm (D.map (·.1)) := by
  refine ((sortKV_perm _).map _).trans ?_
  rw [List.map_map]
  exact List.Perm.refl _

theorem getD_normDepStrs (dstrs : Option (List (String × Option (List String)))) :
    (normDepStrs dstrs).getD [] = sortKV ((dstrs.getD []).map fun e => (e.1, some (e.2.getD []))) := by
  cases dstrs with
  | none => rfl
  | some l =>
    cases l with
    | nil => rfl
    | cons _ _ => rfl

theorem getD_normMap_sorted (dsch : Option (List (String × NodeId))) (hs : sortedB (dsch.getD []) = true) :
    (normMap dsch).getD [] = dsch.getD [] := by
  cases dsch with
  | none => rfl
  | some l =>
    cases l with
    | nil => rfl
    | cons a as => exact sortKV_of_sortedB _ hs

section
variable {st : Store} {rec : MRec}

theorem mDeps_norm (dsch : Option (List (String × NodeId))) (dstrs : Option (List (String × Option (List String))))
    (hs : sortedB (dsch.getD []) = true) :
    mDeps st rec (normMap dsch) (normDepStrs dstrs) = mDeps st rec dsch dstrs := by
  unfold mDeps
  dsimp only
  rw [getD_normMap_sorted dsch hs, getD_normDepStrs]
  have hlen : (sortKV ((dstrs.getD []).map fun e => (e.1, some (e.2.getD [])))).length = (dstrs.getD []).length := by
    rw [(sortKV_perm _).length_eq, List.length_map]
  rw [hlen]
  have hP : ∀ k : String, ((sortKV ((dstrs.getD []).map fun e => (e.1, some (e.2.getD [])))).any fun d => d.1 == k) =
      ((dstrs.getD []).any fun d => d.1 == k) := fun k => any_key_perm (keys_normDepStrs_perm _) k
  have hF : (sortKV ((dstrs.getD []).map fun e => (e.1, some (e.2.getD [])))).map
        (fun x : String × Option (List String) => (x.1, strs (x.2.getD []))) =
      sortKV ((dstrs.getD []).map fun x : String × Option (List String) => (x.1, strs (x.2.getD []))) := by
    rw [← sortKV_map_val (fun x : String × Option (List String) => (x.1, strs (x.2.getD []))) (fun _ => rfl),
      List.map_map]
    rfl
  simp only [hP, hF, sortKV_append_sortKV]

end

theorem mMembers_norm (n : Node) (hsj : ∀ e, e ∈ n.extra.getD [] → sortJson e.2 = e.2) (p : Pieces) :
    mMembers (normNode n) p = mMembers n p := by
  unfold mMembers
  rw [mRequired_norm, mExtra_norm n hsj, mVocab_norm, mDepReq_norm, mExamples_norm]
  rfl

theorem marshalNode_norm (st : Store) (rec : MRec) (n : Node) (hok : nodeOK n = true) (hord : nodeOrd n = true) :
    marshalNode st rec (normNode n) = marshalNode st rec n := by
  obtain ⟨-, -, -, -, -, hsj, -⟩ := nodeOK_unpack hok
  simp only [nodeOrd, Bool.and_eq_true] at hord
  unfold marshalNode
  show marshalParts (normNode n)
    (mPropsField st rec (normProps n.properties (n.propertyOrder.getD [])) [])
    (mDeps st rec (normMap n.dependencySchemas) (normDepStrs n.dependencyStrings))
    (mItemsField st rec n.items n.itemsArray)
    (mKeyed st rec "$defs" (normMap n.defs))
    (mKeyed st rec "definitions" (normMap n.definitions))
    (mMany st rec "prefixItems" (normList n.prefixItems))
    (mOne st rec "additionalItems" n.additionalItems)
    (mOne st rec "contains" n.contains)
    (mOne st rec "unevaluatedItems" n.unevaluatedItems)
    (mKeyed st rec "patternProperties" (normMap n.patternProperties))
    (mOne st rec "additionalProperties" n.additionalProperties)
    (mOne st rec "propertyNames" n.propertyNames)
    (mOne st rec "unevaluatedProperties" n.unevaluatedProperties)
    (mMany st rec "allOf" (normList n.allOf))
    (mManyNN st rec "anyOf" n.anyOf)
    (mManyNN st rec "oneOf" n.oneOf)
    (mOne st rec "not" n.not)
    (mOne st rec "if" n.if_)
    (mOne st rec "then" n.then_)
    (mOne st rec "else" n.else_)
    (mKeyed st rec "dependentSchemas" (normMap n.dependentSchemas))
    (mOne st rec "contentSchema" n.contentSchema) = _
  rw [mPropsField_norm _ _ hord.1, mDeps_norm _ _ hord.2, mKeyed_norm, mKeyed_norm, mKeyed_norm, mKeyed_norm, mMany_norm, mMany_norm]
  unfold marshalParts
  simp only [mMembers_norm n hsj]

theorem normMap_isSome {c : Option (List (String × NodeId))} (h : (normMap c).isSome = true) : c.isSome = true := by
  cases c with
  | none => exact h
  | some _ => rfl

theorem depClash_norm {dsch : Option (List (String × NodeId))} {dstrs : Option (List (String × Option (List String)))}
    (h : depClash (dsch.getD []) (dstrs.getD []) = false) :
    depClash ((normMap dsch).getD []) ((normDepStrs dstrs).getD []) = false := by
  cases hb : depClash ((normMap dsch).getD []) ((normDepStrs dstrs).getD []) with
  | false => rfl
  | true =>
    unfold depClash at hb
    obtain ⟨⟨k, x⟩, ha, hany⟩ := List.any_eq_true.1 hb
    have hany' : (((normDepStrs dstrs).getD []).any fun d => d.1 == k) = true := hany
    rw [getD_normDepStrs, any_key_perm (keys_normDepStrs_perm _) k] at hany'
    have : depClash (dsch.getD []) (dstrs.getD []) = true := by
      unfold depClash
      exact List.any_eq_true.2 ⟨(k, x), (getD_normMap_perm dsch).mem_iff.1 ha, hany'⟩
    rw [h] at this
    cases this

theorem marshalChecksOk_norm {n : Node} (h : marshalChecksOk n = true) : marshalChecksOk (normNode n) = true := by
  unfold marshalChecksOk at h ⊢
  rw [basicChecksOk_eq] at h ⊢
  simp only [Bool.and_eq_true, Bool.not_eq_true'] at h ⊢
  obtain ⟨⟨⟨⟨h1, h2⟩, h3⟩, _⟩, h5⟩ := h
  refine ⟨⟨⟨⟨h1, ?_⟩, h3⟩, rfl⟩, depClash_norm h5⟩
  show ((normMap n.defs).isSome && (normMap n.definitions).isSome) = false
  cases hb : ((normMap n.defs).isSome && (normMap n.definitions).isSome) with
  | false => rfl
  | true =>
    rw [Bool.and_eq_true] at hb
    rw [normMap_isSome hb.1, normMap_isSome hb.2] at h2
    cases h2

theorem extraAny_norm {n : Node} (h : ((n.extra.getD []).any fun e => structNames.contains e.1) = false) :
    (((normNode n).extra.getD []).any fun e => structNames.contains e.1) = false := by
  cases hb : (((normNode n).extra.getD []).any fun e => structNames.contains e.1) with
  | false => rfl
  | true =>
    obtain ⟨e, he, hc⟩ := List.any_eq_true.1 hb
    have : ((n.extra.getD []).any fun e => structNames.contains e.1) = true :=
      List.any_eq_true.2 ⟨e, mem_normExtra he, hc⟩
    rw [h] at this
    cases this

/-- what the second MarshalJSON (of the tree read back) needs of a node -/
def nodeWF (n : Node) : Bool := nodeOK n && nodeOrd n

theorem TreeEq.get_right {st st' : Store} : ∀ {d : Nat} {a b : NodeId}, TreeEq st st' d a b → ∃ n', st'.get? b = some n'
  | 0, _, _, h => h.elim
  | _ + 1, _, _, ⟨_, n', _, hb, _⟩ => ⟨n', hb⟩

theorem TreeEq.marshal_eq {st st' : Store} : ∀ (f d d' : Nat) (a b : NodeId),
    treeAll nodeWF st d a = true → TreeEq st st' d' a b → marshalFuel st f a = marshalFuel st' f b := by
  intro f
  induction f with
  | zero => intro _ _ _ _ _ _; rfl
  | succ f ih =>
    intro d d' a b hd he
    cases d with
    | zero => cases hd
    | succ d =>
    cases d' with
    | zero => exact he.elim
    | succ d' =>
      obtain ⟨n, hn, hwf, hcd⟩ := treeAll_succ hd
      obtain ⟨n0, n', ha, hb, fs', hrel, rfl⟩ := he
      have hnn : n0 = n := by
        rw [hn] at ha
        cases ha
        rfl
      subst hnn
      simp only [nodeWF, Bool.and_eq_true] at hwf
      obtain ⟨hok, hord⟩ := hwf
      obtain ⟨hchk, hany⟩ := nodeOK_checks hok
      show marshalStep st (marshalFuel st f) a = marshalStep st' (marshalFuel st' f) b
      rw [marshalStep_eq, marshalStep_eq, hn, hb]
      dsimp only
      have hchk' : marshalChecksOk (setChildFields (normNode n0) fs') = true := by
        rw [marshalChecksOk_congr hrel]
        exact marshalChecksOk_norm hchk
      have hany' : (((setChildFields (normNode n0) fs').extra.getD []).any fun e => structNames.contains e.1) = false :=
        extraAny_norm hany
      rw [if_neg (by rw [hchk]; decide), if_neg (by rw [hany]; decide), if_neg (by rw [hchk']; decide),
        if_neg (by rw [hany']; decide)]
      have hrel' : ListRel (FieldRel fun x y => treeAll nodeWF st d x = true ∧ TreeEq st st' d' x y)
          (normNode n0).childFields fs' :=
        ListRel.imp_mem hrel fun f f' hf _ hr => FieldRel.and_left hr fun x hx => hcd x (normNode_ids_sub hf hx)
      have hm : ∀ x y, (treeAll nodeWF st d x = true ∧ TreeEq st st' d' x y) →
          mSchema st (marshalFuel st f) x = mSchema st' (marshalFuel st' f) y := by
        rintro x y ⟨hx, hxy⟩
        obtain ⟨m, hm⟩ := treeAll_get hx
        obtain ⟨m', hm'⟩ := hxy.get_right
        unfold mSchema
        rw [hm, hm']
        exact ih d d' x y hx hxy
      rw [← marshalNode_congr hm hrel', marshalNode_norm st _ n0 hok hord]

theorem marshalFuel_stable_full {st : Store} :
    ∀ (d : Nat) (a : NodeId), Full st d a → ∀ f f', d ≤ f → d ≤ f' → marshalFuel st f a = marshalFuel st f' a := by
  intro d
  induction d with
  | zero => intro a hg; exact hg.elim
  | succ d ih =>
    intro a hg f f' hf hf'
    obtain ⟨f0, rfl⟩ : ∃ f0, f = f0 + 1 := ⟨f - 1, by omega⟩
    obtain ⟨f0', rfl⟩ : ∃ f0, f' = f0 + 1 := ⟨f' - 1, by omega⟩
    obtain ⟨n, hn, hch⟩ := hg
    refine marshalStep_congr_rec fun n' hn' x hx => ?_
    rw [hn] at hn'
    cases hn'
    unfold mSchema
    cases st.get? x with
    | none => rfl
    | some _ => exact ih x (hch x hx) f0 f0' (by omega) (by omega)

/-- stated over `Nat`: `omega` does not use a hypothesis whose terms are typed `NodeId` -/
theorem fuel_arith (a b c : Nat) (hlt : c < b) (hle : ¬ a + 2 ≤ b + 2) : c + 1 ≤ b + 2 ∧ c + 1 ≤ a + 2 := by
  omega

/-- `roundtrip_tree` for a tree of depth at most `d` all of whose nodes are `nodeOK`: what MarshalJSON writes for the tree below `id`, UnmarshalJSON
    reads back (into any store `st₂`) as a tree equal up to the normal forms.  `st.size + 2` is the fuel of
    `Go.marshal`, `Json.size j + 1` the fuel of `Go.unmarshal`. -/
theorem roundtrip_tree_eq_core (st : Store) (d : Nat) (id : NodeId) (j : Json) (st₂ : Store)
    (hwf : treeAll nodeOK st d id = true) (hj : marshal st id = .ok j) :
    ∃ id' st₂', unmarshal j st₂ = .ok (id', st₂') ∧ Ext st₂ st₂' ∧ TreeEq st st₂' (st.size + 2) id id' ∧
      Full st₂' (id' + 1) id' := by
  obtain ⟨_, H⟩ := rt_main st (st.size + 2) d id j hwf hj
  obtain ⟨id', st₂', hu, hext, hte, hfull⟩ := H (Json.size j + 1) st₂ (Nat.le_succ _)
  exact ⟨id', st₂', hu, hext, hte, hfull⟩

end Go
end JSV
