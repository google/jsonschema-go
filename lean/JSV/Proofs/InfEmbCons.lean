/-
  `forTypeE` is conservative over `forType`: on a type without embedded fields (`GoType.toE`) whose structs have
  pairwise distinct Go field names (which the Go compiler and reflect.StructOf enforce) the two models return the
  same result and the same store.
-/
import JSV.Model.InferEmb
import JSV.Proofs.InfEqns
import JSV.Proofs.ListFacts
namespace JSV
namespace Go

mutual
  /-- the Go field names of every struct type in `T` are pairwise distinct -/
  def DistinctNames : GoType → Bool
    | .basic _ => true
    | .named _ u => DistinctNames u
    | .ref _ => true
    | .ptr e => DistinctNames e
    | .slice e => DistinctNames e
    | .array _ e => DistinctNames e
    | .map _ e => DistinctNames e
    | .struct fs => EncJson.nodup (goNamesOf fs) && distinctNamesFields fs
  def distinctNamesFields : List (String × String × GoType) → Bool
    | [] => true
    | f :: rest => DistinctNames f.2.2 && distinctNamesFields rest
  def goNamesOf : List (String × String × GoType) → List String
    | [] => []
    | f :: rest => f.1 :: goNamesOf rest
end

/-- the declared fields as `reflect.StructField`s -/
def plainV (pre : List Nat) : Nat → List (String × String × GoType) → List VField
  | _, [] => []
  | i, f :: rest =>
    { index := pre ++ [i], goName := f.1, tag := f.2.1, exported := true, anonymous := false, type := f.2.2.toE } ::
      plainV pre (i + 1) rest

theorem allFields_toE (pre : List Nat) : ∀ (i : Nat) (fs : List (String × String × GoType)),
    allFields pre i (fieldsToE fs) = plainV pre i fs
  | _, [] => by simp only [fieldsToE, allFields, plainV]
  | i, f :: rest => by
    simp only [fieldsToE, allFields, plainV, Bool.false_eq_true, if_false, List.nil_append]
    rw [allFields_toE pre (i + 1) rest]

theorem plainV_goNames (pre : List Nat) : ∀ (i : Nat) (fs : List (String × String × GoType)),
    (plainV pre i fs).map (·.goName) = goNamesOf fs
  | _, [] => by simp only [plainV, goNamesOf, List.map_nil]
  | i, f :: rest => by
    simp only [plainV, goNamesOf, List.map_cons]
    rw [plainV_goNames pre (i + 1) rest]

theorem visibleFields_toE (fs : List (String × String × GoType)) (h : EncJson.nodup (goNamesOf fs) = true) :
    visibleFields (fieldsToE fs) = plainV [] 0 fs := by
  unfold visibleFields
  rw [allFields_toE]
  refine List.filter_eq_self.2 fun f hf => ?_
  unfold isVisible
  rw [List.all_eq_true]
  intro o ho
  have hnd : ((plainV [] 0 fs).map (·.goName)).Nodup := by
    rw [plainV_goNames]
    exact (nodup_iff _).1 h
  by_cases hn : o.goName = f.goName
  · have : o = f := eq_of_nodup_map (·.goName) hnd ho hf hn
    subst this
    simp
  · simp [hn]

theorem structLoopE_plain (opts : IOpts) {recE : IRecE} {rec : IRec} (seen : List String) (pre : List Nat) :
    ∀ (fs : List (String × String × GoType)) (i : Nat) (n : Node) (st : Store),
      (∀ f, f ∈ fs → ∀ s, recE f.2.2.toE seen s = rec f.2.2 seen s) →
      structLoopE opts recE seen (plainV pre i fs) none n st = structLoop rec seen fs n st
  | [], _, _, _, _ => by simp only [plainV, structLoopE, structLoop]
  | (g, tag, ft) :: rest, i, n, st, hrec => by
    rw [structLoop_cons_eq, plainV, structLoopE_cons_none (by intro h; cases h)]
    simp only [Bool.false_eq_true, if_false, fieldJSONInfoE, if_true]
    rw [fieldStepG_congr (hrec _ List.mem_cons_self st)]
    exact Res.bind_congr fun r =>
      structLoopE_plain opts seen pre rest (i + 1) r.1 r.2 fun f hf => hrec f (List.mem_cons_of_mem _ hf)

theorem stripPtrsE_toE : ∀ T : GoType, stripPtrsE T.toE = ((stripPtrs T).1.toE, (stripPtrs T).2)
  | .ptr e => by
    simp only [GoType.toE, stripPtrsE, stripPtrs]
    rw [stripPtrsE_toE e]
  | .basic _ => rfl
  | .named _ _ => rfl
  | .ref _ => rfl
  | .slice _ => rfl
  | .array _ _ => rfl
  | .map _ _ => rfl
  | .struct _ => rfl

theorem distinctNames_stripPtrs (T : GoType) : DistinctNames (stripPtrs T).1 = DistinctNames T := by
  induction T using GoType.ptr_ind with
  | ptr e ih => simp only [stripPtrs, DistinctNames]; exact ih
  | base t h => rw [stripPtrs_nonptr h]

theorem typeNameE_toE : ∀ t : GoType, typeNameE t.toE = typeName t
  | .ptr _ => rfl
  | .basic _ => rfl
  | .named _ _ => rfl
  | .ref _ => rfl
  | .slice _ => rfl
  | .array _ _ => rfl
  | .map _ _ => rfl
  | .struct _ => rfl

theorem distinctNamesFields_mem {fs : List (String × String × GoType)} : distinctNamesFields fs = true →
    ∀ f, f ∈ fs → DistinctNames f.2.2 = true :=
  forall_mem_of_cons (F := fun fs => distinctNamesFields fs = true) (P := fun f => DistinctNames f.2.2 = true)
    fun _ _ h => by simpa only [distinctNamesFields, Bool.and_eq_true] using h

theorem structCase_toE (opts : IOpts) {recE : IRecE} {rec : IRec}
    (hrec : ∀ T seen st, DistinctNames T = true → recE T.toE seen st = rec T seen st)
    (fs : List (String × String × GoType)) (hd : DistinctNames (.struct fs) = true) (seen : List String) (n : Node) (st : Store) :
    structLoopE opts recE seen (visibleFields (fieldsToE fs)) none n st = structLoop rec seen fs n st := by
  simp only [DistinctNames, Bool.and_eq_true] at hd
  rw [visibleFields_toE fs hd.1]
  exact structLoopE_plain opts seen [] fs 0 _ _ fun f hf s => hrec _ _ _ (distinctNamesFields_mem hd.2 f hf)

theorem inferStepE_toE (opts : IOpts) {recE : IRecE} {rec : IRec}
    (hrec : ∀ T seen st, DistinctNames T = true → recE T.toE seen st = rec T seen st) :
    ∀ T seen st, DistinctNames T = true → inferStepE opts recE T.toE seen st = inferStep opts rec T seen st := by
  intro T seen st hd
  rw [inferStepE_eq, inferStep_eq, stripPtrsE_toE, typeNameE_toE]
  rw [← distinctNames_stripPtrs] at hd
  generalize (stripPtrs T).1 = t at hd
  have hu : underE t.toE = (under t).toE ∧ DistinctNames (under t) = true := by
    cases t with
    | named nm u => exact ⟨rfl, by simpa only [DistinctNames, under] using hd⟩
    | _ => exact ⟨rfl, hd⟩
  rw [hu.1]
  generalize under t = u at hu
  have hd := hu.2
  cases u with
  | basic k => simp only [GoType.toE, shapeOfE, shapeOf]; cases kindEntry k <;> rfl
  | map kk e =>
    simp only [GoType.toE, shapeOfE, shapeOf]
    split
    · rfl
    · exact stepG_elem_congr (fun seen st => hrec e seen st (by simpa only [DistinctNames] using hd)) _ _ _ _ _
  | slice e => exact stepG_elem_congr (fun seen st => hrec e seen st (by simpa only [DistinctNames] using hd)) _ _ _ _ _
  | array len e => exact stepG_elem_congr (fun seen st => hrec e seen st (by simpa only [DistinctNames] using hd)) _ _ _ _ _
  | struct fs => exact stepG_struct_congr (fun seen n st => structCase_toE opts hrec fs hd seen n st) _ _ _ _
  | _ => rfl

theorem inferFuelE_toE (opts : IOpts) : ∀ (fuel : Nat) (T : GoType) (seen : List String) (st : Store),
    DistinctNames T = true → inferFuelE opts fuel T.toE seen st = inferFuel opts fuel T seen st
  | 0, _, _, _, _ => rfl
  | fuel + 1, T, seen, st, hd =>
    inferStepE_toE opts (fun T seen st hd => inferFuelE_toE opts fuel T seen st hd) T seen st hd

end Go
end JSV
