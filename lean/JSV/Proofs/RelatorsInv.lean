/-
  The relators of the developments about the evaluator and the Spec: `Inv.All₂` (by recursion on the lists, so that a
  hypothesis is taken apart with `.1`, `.2`) and `Inv.OptRel`, a second copy of `Go.OptRel` (fixed statements speak of
  both; the two unfold to the same cases, so a proof of one is a proof of the other).  `all₂_iff_listRel` joins the list
  relators: what Relators.lean proves is handed over in a line.
  A module of its own: in one file Lean compiles two definitions by the same cases to ONE shared auxiliary matcher,
  which would change the elaborated value of `Inv.OptRel`.
-/
import JSV.Proofs.Relators
namespace JSV

namespace Inv
open Go (ListRel)

def All₂ {α β : Type} (R : α → β → Prop) : List α → List β → Prop
  | [], [] => True
  | a :: as, b :: bs => R a b ∧ All₂ R as bs
  | _, _ => False

def OptRel {α β : Type} (R : α → β → Prop) : Option α → Option β → Prop
  | none, none => True
  | some a, some b => R a b
  | _, _ => False

theorem all₂_iff_listRel {α β : Type} {S : α → β → Prop} : ∀ {l₁ : List α} {l₂ : List β}, All₂ S l₁ l₂ ↔ ListRel S l₁ l₂
  | [], [] => ⟨fun _ => .nil, fun _ => trivial⟩
  | _ :: _, _ :: _ => ⟨fun h => .cons h.1 (all₂_iff_listRel.1 h.2), fun | .cons h1 h2 => ⟨h1, all₂_iff_listRel.2 h2⟩⟩
  | [], _ :: _ => ⟨fun h => h.elim, nofun⟩
  | _ :: _, [] => ⟨fun h => h.elim, nofun⟩

theorem All₂.length {α β : Type} {R : α → β → Prop} : ∀ {xs : List α} {ys : List β}, All₂ R xs ys → xs.length = ys.length :=
  fun h => (all₂_iff_listRel.1 h).length_eq

theorem All₂.mem_left {α β : Type} {R : α → β → Prop} {xs : List α} {ys : List β} (h : All₂ R xs ys) (a : α)
    (ha : a ∈ xs) : ∃ b, b ∈ ys ∧ R a b := (all₂_iff_listRel.1 h).mem_left ha

theorem All₂.mem_right {α β : Type} {R : α → β → Prop} {xs : List α} {ys : List β} (h : All₂ R xs ys) (b : β)
    (hb : b ∈ ys) : ∃ a, a ∈ xs ∧ R a b := (all₂_iff_listRel.1 h).mem_right hb

theorem All₂.imp {α β : Type} {R S : α → β → Prop} {xs : List α} {ys : List β}
    (hi : ∀ a b, a ∈ xs → b ∈ ys → R a b → S a b) (h : All₂ R xs ys) : All₂ S xs ys :=
  all₂_iff_listRel.2 ((all₂_iff_listRel.1 h).imp_mem hi)

theorem All₂.flip {α β : Type} {R : α → β → Prop} : ∀ {xs : List α} {ys : List β}, All₂ R xs ys →
    All₂ (fun b a => R a b) ys xs :=
  fun h => all₂_iff_listRel.2 (all₂_iff_listRel.1 h).flip

theorem All₂.refl {α : Type} {R : α → α → Prop} {xs : List α} (h : ∀ a, a ∈ xs → R a a) : All₂ R xs xs :=
  all₂_iff_listRel.2 (Go.ListRel.refl_of xs h)

theorem All₂.refl_eq {α : Type} (l : List α) : All₂ Eq l l := All₂.refl fun _ _ => rfl

theorem All₂.map {α β γ δ : Type} {R : α → β → Prop} {S : γ → δ → Prop} (f : α → γ) (g : β → δ) {xs : List α}
    {ys : List β} (hi : ∀ a b, R a b → S (f a) (g b)) (h : All₂ R xs ys) : All₂ S (xs.map f) (ys.map g) :=
  all₂_iff_listRel.2 ((all₂_iff_listRel.1 h).map_map f g hi)

theorem All₂.append {α β : Type} {R : α → β → Prop} : ∀ {xs : List α} {ys : List β} {xs' : List α} {ys' : List β},
    All₂ R xs ys → All₂ R xs' ys' → All₂ R (xs ++ xs') (ys ++ ys') :=
  fun h h' => all₂_iff_listRel.2 ((all₂_iff_listRel.1 h).append (all₂_iff_listRel.1 h'))

theorem All₂.eq_of_eq {α : Type} {xs ys : List α} (h : All₂ (· = ·) xs ys) : xs = ys := (all₂_iff_listRel.1 h).eq

theorem All₂.filter {α β : Type} {R : α → β → Prop} (p : α → Bool) (q : β → Bool) :
    ∀ {l1 : List α} {l2 : List β}, (∀ a b, R a b → p a = q b) → All₂ R l1 l2 → All₂ R (l1.filter p) (l2.filter q) :=
  fun hi h => all₂_iff_listRel.2 ((all₂_iff_listRel.1 h).filter hi)

theorem All₂.drop {α β : Type} {R : α → β → Prop} : ∀ (k : Nat) {xs : List α} {ys : List β}, All₂ R xs ys →
    All₂ R (xs.drop k) (ys.drop k)
  | 0, _, _, h => h
  | _ + 1, [], [], _ => trivial
  | k + 1, _ :: xs, _ :: ys, h => by simpa using All₂.drop k (xs := xs) (ys := ys) h.2
  | _ + 1, [], _ :: _, h => h.elim
  | _ + 1, _ :: _, [], h => h.elim

theorem All₂.zip {α β γ δ : Type} {R : α → β → Prop} {S : γ → δ → Prop} : ∀ {l1 : List α} {l2 : List β} {xs : List γ}
    {ys : List δ}, All₂ R l1 l2 → All₂ S xs ys → All₂ (fun p q => R p.1 q.1 ∧ S p.2 q.2) (l1.zip xs) (l2.zip ys)
  | [], [], _, _, _, _ => trivial
  | _ :: _, _ :: _, [], [], _, _ => trivial
  | _ :: _, _ :: _, _ :: _, _ :: _, h1, h => ⟨⟨h1.1, h.1⟩, All₂.zip h1.2 h.2⟩
  | _ :: _, _ :: _, [], _ :: _, _, h => h.elim
  | _ :: _, _ :: _, _ :: _, [], _, h => h.elim
  | [], _ :: _, _, _, h, _ => h.elim
  | _ :: _, [], _, _, h, _ => h.elim

theorem All₂.filterMap {α β γ δ : Type} {R : α → β → Prop} {S : γ → δ → Prop} (f : α → Option γ) (g : β → Option δ) :
    ∀ {l1 : List α} {l2 : List β}, (∀ a b, R a b → OptRel S (f a) (g b)) → All₂ R l1 l2 →
      All₂ S (l1.filterMap f) (l2.filterMap g)
  | [], [], _, _ => trivial
  | a :: l1, b :: l2, hi, h => by
    have := hi a b h.1
    simp only [List.filterMap_cons]
    cases hf : f a <;> cases hg : g b <;> rw [hf, hg] at this
    · exact All₂.filterMap f g hi h.2
    · exact this.elim
    · exact this.elim
    · exact ⟨this, All₂.filterMap f g hi h.2⟩
  | [], _ :: _, _, h => h.elim
  | _ :: _, [], _, h => h.elim

theorem All₂.perm_right {α β : Type} {R : α → β → Prop} {l2 l3 : List β} (hp : l2.Perm l3) :
    ∀ {l : List α}, All₂ R l l2 → ∃ l', l.Perm l' ∧ All₂ R l' l3 := by
  induction hp with
  | nil => intro l h; exact ⟨l, List.Perm.refl _, h⟩
  | cons x _ ih =>
    intro l h
    cases l with
    | nil => exact h.elim
    | cons a t =>
      obtain ⟨t', h1, h2⟩ := ih h.2
      exact ⟨a :: t', h1.cons a, h.1, h2⟩
  | swap x y t =>
    intro l h
    cases l with
    | nil => exact h.elim
    | cons a l =>
      cases l with
      | nil => exact h.2.elim
      | cons b s => exact ⟨b :: a :: s, List.Perm.swap b a s, h.2.1, h.1, h.2.2⟩
  | trans _ _ ih1 ih2 =>
    intro l h
    obtain ⟨l', h1, h2⟩ := ih1 h
    obtain ⟨l'', h3, h4⟩ := ih2 h2
    exact ⟨l'', h1.trans h3, h4⟩

theorem OptRel.map {α β γ δ : Type} {R : α → β → Prop} {S : γ → δ → Prop} {f : α → γ} {g : β → δ}
    {a : Option α} {b : Option β} (h : OptRel R a b) (hi : ∀ x y, R x y → S (f x) (g y)) :
    OptRel S (a.map f) (b.map g) := Go.OptRel.map hi h

theorem OptRel.isSome_eq {α β : Type} {R : α → β → Prop} {a : Option α} {b : Option β} (h : OptRel R a b) :
    a.isSome = b.isSome := Go.OptRel.isSome_eq h

theorem OptRel.inv {α β : Type} {R : α → β → Prop} {a : Option α} {b : Option β} (h : OptRel R a b) :
    (a = none ∧ b = none) ∨ ∃ x y, a = some x ∧ b = some y ∧ R x y := Go.OptRel.inv h

theorem OptRel.refl {α : Type} {R : α → α → Prop} (h : ∀ x, R x x) (a : Option α) : OptRel R a a := Go.OptRel.refl h a

theorem OptRel.trans {α : Type} {R : α → α → Prop} (hR : ∀ x y z, R x y → R y z → R x z) {a b c : Option α}
    (h1 : OptRel R a b) (h2 : OptRel R b c) : OptRel R a c := by
  cases a <;> cases b <;> try exact h1.elim
  · exact h2
  · cases c
    · exact h2.elim
    · exact hR _ _ _ h1 h2

end Inv
end JSV
