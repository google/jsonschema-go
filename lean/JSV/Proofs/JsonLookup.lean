/-
  Association lists with string keys (`Json.lookup`, `Json.keys`), induction over `Json`, and what `Json.WF` says.
-/
import JSV.Basic.Json
import JSV.Proofs.ListFacts
namespace JSV

theorem Json.induct {P : Json → Prop}
    (null : P .null) (bool : ∀ b, P (.bool b)) (num : ∀ q, P (.num q)) (str : ∀ s, P (.str s))
    (arr : ∀ xs, (∀ x, x ∈ xs → P x) → P (.arr xs))
    (obj : ∀ kvs, (∀ k v, (k, v) ∈ kvs → P v) → P (.obj kvs)) : ∀ j, P j :=
  Json.rec (motive_1 := P)
    (motive_2 := fun xs => ∀ x, x ∈ xs → P x)
    (motive_3 := fun kvs => ∀ k v, (k, v) ∈ kvs → P v)
    (motive_4 := fun p => P p.2)
    null bool num str arr obj
    (fun x h => nomatch h)
    (fun hd tl ih1 ih2 x hx => by
      rcases List.mem_cons.1 hx with rfl | h
      · exact ih1
      · exact ih2 x h)
    (fun k v h => nomatch h)
    (fun hd tl ih1 ih2 k v hx => by
      rcases List.mem_cons.1 hx with rfl | h
      · exact ih1
      · exact ih2 k v h)
    (fun _ _ ih => ih)

theorem Json.obj_induct {P : Json → Prop} (leaf : ∀ a, a.isObj = false → P a)
    (obj : ∀ kvs, (∀ k v, (k, v) ∈ kvs → P v) → P (.obj kvs)) : ∀ j, P j := by
  intro j
  induction j using Json.induct with
  | obj kvs ih => exact obj kvs ih
  | _ => exact leaf _ rfl

namespace Json

theorem mem_of_lookup {α} {k : String} {v : α} : ∀ {kvs : List (String × α)},
    lookup k kvs = some v → (k, v) ∈ kvs
  | [], h => by simp at h
  | (k', v') :: rest, h => by
    rw [lookup_cons] at h
    split at h
    · next hk => cases h; subst hk; exact List.mem_cons_self
    · exact List.mem_cons_of_mem _ (mem_of_lookup h)

theorem lookup_isSome_of_mem_keys {α} {k : String} : ∀ {kvs : List (String × α)},
    k ∈ keys kvs → ∃ v, lookup k kvs = some v
  | [], h => by simp [keys] at h
  | (k', v') :: rest, h => by
    rw [lookup_cons]
    by_cases hk : k' = k
    · exact ⟨v', by simp [hk]⟩
    · simp only [hk, if_false]
      apply lookup_isSome_of_mem_keys
      simp only [keys, List.map_cons, List.mem_cons] at h
      rcases h with h | h
      · exact absurd h.symm hk
      · exact h

theorem mem_keys_of_mem {α} {k : String} {v : α} {kvs : List (String × α)}
    (h : (k, v) ∈ kvs) : k ∈ keys kvs :=
  List.mem_map.2 ⟨(k, v), h, rfl⟩

theorem lookup_of_mem_nodup {α} {k : String} {v : α} : ∀ {kvs : List (String × α)},
    (keys kvs).Nodup → (k, v) ∈ kvs → lookup k kvs = some v
  | [], _, h => by simp at h
  | (k', v') :: rest, hn, h => by
    rw [lookup_cons]
    simp only [keys, List.map_cons, List.nodup_cons] at hn
    rcases List.mem_cons.1 h with h | h
    · cases h; simp
    · have : k' ≠ k := by
        rintro rfl
        exact hn.1 (mem_keys_of_mem h)
      simp only [this, if_false]
      exact lookup_of_mem_nodup hn.2 h

theorem lookup_isSome_iff {α} {k : String} {kvs : List (String × α)} :
    (lookup k kvs).isSome = true ↔ k ∈ kvs.map (·.1) := by
  constructor
  · intro h
    obtain ⟨v, hv⟩ := Option.isSome_iff_exists.1 h
    exact mem_keys_of_mem (mem_of_lookup hv)
  · intro h
    obtain ⟨v, hv⟩ := lookup_isSome_of_mem_keys h
    rw [hv]; rfl

theorem lookup_eq_of_perm {α} {l₁ l₂ : List (String × α)} (hp : l₁.Perm l₂)
    (hn : (keys l₁).Nodup) (k : String) : lookup k l₁ = lookup k l₂ := by
  have hn₂ : (keys l₂).Nodup := (hp.map _).nodup_iff.1 hn
  cases h₁ : lookup k l₁ with
  | some v =>
    exact (lookup_of_mem_nodup hn₂ (hp.mem_iff.1 (mem_of_lookup h₁))).symm
  | none =>
    cases h₂ : lookup k l₂ with
    | none => rfl
    | some v =>
      have := lookup_of_mem_nodup hn (hp.mem_iff.2 (mem_of_lookup h₂))
      rw [h₁] at this
      cases this

theorem lookup_append {α} (k : String) (x y : List (String × α)) :
    lookup k (x ++ y) = (lookup k x).or (lookup k y) := by
  induction x with
  | nil => rfl
  | cons e r ih =>
    obtain ⟨k', v⟩ := e
    rw [List.cons_append, lookup_cons, lookup_cons]
    split
    · rfl
    · exact ih

theorem lookup_append_isSome {α} (k : String) (x y : List (String × α)) :
    (lookup k (x ++ y)).isSome = ((lookup k x).isSome || (lookup k y).isSome) := by
  rw [lookup_append, Option.isSome_or]

theorem lookup_filter_key {α} (k : String) (p : String → Bool) (l : List (String × α)) (hp : p k = true) :
    lookup k (l.filter fun e => p e.1) = lookup k l := by
  induction l with
  | nil => rfl
  | cons e r ih =>
    obtain ⟨k', v⟩ := e
    rw [List.filter_cons]
    by_cases hk : k' = k
    · subst hk; simp [hp]
    · split
      · simp [hk, ih]
      · simp [hk, ih]

theorem lookup_map_snd {α β} (f : α → β) (k : String) : ∀ (kvs : List (String × α)),
    lookup k (kvs.map (fun p => (p.1, f p.2))) = (lookup k kvs).map f
  | [] => by simp
  | (k', v) :: rest => by
    simp only [List.map_cons, lookup_cons]
    by_cases h : k' = k
    · simp [h]
    · simp [h, lookup_map_snd f k rest]

theorem nodupKeys_iff : ∀ {ks : List String}, nodupKeys ks = true ↔ ks.Nodup
  | [] => by simp [nodupKeys]
  | k :: ks => by
    simp only [nodupKeys, Bool.and_eq_true, Bool.not_eq_true', List.nodup_cons, nodupKeys_iff]
    simp

theorem wfList_iff {xs : List Json} : wfList xs = true ↔ ∀ x, x ∈ xs → WF x = true := by
  induction xs with
  | nil => simp [wfList]
  | cons x xs ih => simp [wfList, ih]

theorem wfObj_iff {kvs : List (String × Json)} : wfObj kvs = true ↔ ∀ p, p ∈ kvs → WF p.2 = true := by
  induction kvs with
  | nil => simp [wfObj]
  | cons p kvs ih =>
    obtain ⟨k, v⟩ := p
    simp [wfObj, ih]

theorem WF_obj_iff {kvs : List (String × Json)} :
    WF (.obj kvs) = true ↔ (keys kvs).Nodup ∧ ∀ p, p ∈ kvs → WF p.2 = true := by
  simp only [WF, Bool.and_eq_true, nodupKeys_iff, wfObj_iff]

theorem WF_arr_iff {xs : List Json} : WF (.arr xs) = true ↔ ∀ x, x ∈ xs → WF x = true := by
  simp only [WF, wfList_iff]

theorem WF_obj {kvs : List (String × Json)} (h : WF (.obj kvs) = true) :
    (keys kvs).Nodup ∧ ∀ k v, (k, v) ∈ kvs → WF v = true :=
  ⟨(WF_obj_iff.1 h).1, fun k v hm => (WF_obj_iff.1 h).2 (k, v) hm⟩

theorem WF_arr {xs : List Json} (h : WF (.arr xs) = true) : ∀ x, x ∈ xs → WF x = true := WF_arr_iff.1 h

theorem wfList_snoc : ∀ {js : List Json} {j : Json}, wfList js = true → WF j = true → wfList (js ++ [j]) = true
  | [], j, _, hj => by simp [wfList, hj]
  | a :: js, j, h, hj => by
    simp only [wfList, Bool.and_eq_true, List.cons_append] at h ⊢
    exact ⟨h.1, wfList_snoc h.2 hj⟩

end Json

namespace Go

theorem entry_eq_of_key_le {α} {l : List (String × α)} (hn : (Json.keys l).Nodup)
    (a b : String × α) (ha : a ∈ l) (hb : b ∈ l) (hab : a.1 ≤ b.1) (hba : b.1 ≤ a.1) : a = b :=
  eq_of_nodup_map (fun p : String × α => p.1) hn ha hb (String.le_antisymm hab hba)

theorem nodup_of_nodup_keys {α} {l : List (String × α)} (hn : (Json.keys l).Nodup) : l.Nodup :=
  List.Pairwise.of_map (fun p : String × α => p.1) (fun a b h hab => h (by rw [hab])) hn

end Go

end JSV
