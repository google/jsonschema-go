/-
  For C03: `DocInv`, what resolveURIs established for one document, stated against JSV/Spec/Designate.lean.  It reads
  only what resolveRefs leaves alone (`Frozen`), so it holds while the references are resolved; with it one call of
  resolveRef that loads nothing returns the designated schema (`resolveRef_local`).
-/
import JSV.Proofs.ResUris
import JSV.Proofs.ListFacts
namespace JSV
namespace Go
namespace RInv
open Uri Spec

theorem dereference_empty (st : Store) (strict nie : Bool) (r t : NodeId)
    (h : Pointer.dereference st strict nie r "" = .ok t) : t = r := by
  rw [Pointer.dereference_root] at h
  simp only [Pointer.finish] at h
  split at h
  · cases h
  · cases h; rfl

theorem tableFrag_desig (env : Env) (D : Doc) (hst : D.st = env.st) (s' : RState) (root r : NodeId)
    (frag : String) (o : RefOut) (hs : Sound D s'.infos) (hr : D.Has r)
    (h : TableFrag env s' root r frag o) : D.FragTarget r frag o.target := by
  unfold TableFrag at h
  unfold Doc.FragTarget
  split at h
  · rename_i hc
    simp only [Bool.and_eq_true, bne_iff_ne, ne_eq] at hc
    rw [if_neg hc.1, if_neg hc.2]
    obtain ⟨rInfo, a, hri, ha, ht, _⟩ := h
    have := hs r rInfo (info?_lookup _ _ _ _ hri) hr _ (Json.mem_of_lookup ha)
    rw [ht]
    exact ⟨this.1, _, this.2⟩
  · rename_i hc
    by_cases hf : frag = ""
    · rw [if_pos hf]
      subst hf
      exact dereference_empty _ _ _ _ _ h.1
    · rw [if_neg hf]
      have : frag.toList.head? = some '/' := by
        simp only [Bool.and_eq_true, bne_iff_ne, ne_eq, not_and, Decidable.not_not] at hc
        exact hc hf
      rw [if_pos this, hst]
      exact h.1

/-- the part of an info object resolveURIs computes -/
def fixedOf (i : Info) : Option NodeId × Option Url × List (String × AnchorInfo) := (i.base, i.uri, i.anchors)

/-- what resolveRefs leaves alone: base / uri / anchors of every info object, uris / draft of every document, and
    `loaded` -/
def Frozen (s s' : RState) : Prop :=
  (∀ k, (lookupNat k s'.infos).map fixedOf = (lookupNat k s.infos).map fixedOf) ∧
  (∀ r, (s'.doc? r).map (fun d => (d.uris, d.draft)) = (s.doc? r).map (fun d => (d.uris, d.draft))) ∧
  s'.loaded = s.loaded

theorem Frozen.refl (s : RState) : Frozen s s := ⟨fun _ => rfl, fun _ => rfl, rfl⟩

theorem Frozen.doc {s s' : RState} (h : Frozen s s') (r : NodeId) (d : DocRes)
    (hd : s.doc? r = some d) : ∃ d', s'.doc? r = some d' ∧ d'.uris = d.uris ∧ d'.draft = d.draft := by
  obtain ⟨d', hd', e⟩ := map_eq_map_some (h.2.1 r) hd
  simp only [Prod.mk.injEq] at e
  exact ⟨d', hd', e⟩

theorem Frozen.doc_rev {s s' : RState} (h : Frozen s s') (r : NodeId) (d' : DocRes)
    (hd : s'.doc? r = some d') : ∃ d, s.doc? r = some d ∧ d'.uris = d.uris ∧ d'.draft = d.draft := by
  obtain ⟨d, hd', e⟩ := map_eq_map_some (h.2.1 r).symm hd
  simp only [Prod.mk.injEq] at e
  exact ⟨d, hd', e.1.symm, e.2.symm⟩

theorem frozen_updInfo (s : RState) (k : NodeId) (f : Info → Info) (hf : ∀ i, fixedOf (f i) = fixedOf i) :
    Frozen s (s.updInfo k f) := by
  refine ⟨?_, ?_, (updInfo_same s k f).2⟩
  · intro x
    rw [updInfo_infos_lookup]
    split
    · rw [Option.map_map]
      congr 1
      funext i
      exact hf i
    · rfl
  · intro r
    rw [doc?_of_docs_eq (updInfo_docs s k f)]

theorem frozen_mergeKnown (s : RState) (a b : NodeId) : Frozen s (mergeKnown s a b) := by
  refine ⟨fun k => by rw [mergeKnown_infos], ?_, (mergeKnown_same s a b).2⟩
  intro r
  unfold mergeKnown
  split
  · rename_i d l hd hl
    rw [doc?_setDoc]
    simp only
    split
    · rename_i hr
      have : d.root = a := doc?_root _ _ _ hd
      rw [← hr, this, hd]
      rfl
    · rfl
  · rfl

/-- what resolveURIs established for the document `D` (`ret` = its retrieval URI) -/
structure DocInv (D : Doc) (ret : Url) (s : RState) : Prop where
  uniq : UniqueLineage D
  done : ∀ p, D.Has p → Done D s.infos p ∧ ∃ r, HasBase s.infos p r ∧ UriDone D ret s.infos r
  sound : Sound D s.infos
  uris : UrisId D ret s

/-- `DocInv D` reads of the state only base / uri / anchors of the schemas of `D` and the `resolvedURIs` of its
    Resolved -/
theorem docInv_congr (D : Doc) (ret : Url) {s s' : RState}
    (hi : ∀ k, D.Has k → (lookupNat k s'.infos).map fixedOf = (lookupNat k s.infos).map fixedOf)
    (hd : (s'.doc? D.root).map (·.uris) = (s.doc? D.root).map (·.uris)) (hs : DocInv D ret s) :
    DocInv D ret s' := by
  have fwd : ∀ k i, D.Has k → lookupNat k s.infos = some i →
      ∃ i', lookupNat k s'.infos = some i' ∧ i'.base = i.base ∧ i'.uri = i.uri ∧ i'.anchors = i.anchors := by
    intro k i hk h
    obtain ⟨i', hi', e⟩ := map_eq_map_some (hi k hk) h
    simp only [fixedOf, Prod.mk.injEq] at e
    exact ⟨i', hi', e⟩
  refine ⟨hs.uniq, fun p hp => ?_, ?_, ?_⟩
  · obtain ⟨⟨i, r, hi0, hb, hr, hreg⟩, r', ⟨j, hj, hjb⟩, ir, lr, hir, hlr, hur⟩ := hs.done p hp
    cases hi0.symm.trans hj
    -- the base is a schema of the document: it carries the resource-root lineage
    have hrH : D.Has r := by
      obtain ⟨l, hl, hn⟩ := hr
      obtain ⟨l', hl', _⟩ := baseUriAlong_nearest D ret l p hl
      rw [hn] at hl'
      exact ⟨l', hl'⟩
    obtain ⟨i', hi', eb, _, _⟩ := fwd p i hp hi0
    obtain ⟨ir', hir', _, eu, _⟩ := fwd r' ir ⟨lr, hlr⟩ hir
    refine ⟨⟨i', r, hi', by rw [eb, hb], hr, fun n hn e he => ?_⟩, r', ⟨i', hi', by rw [eb, hjb]⟩,
      ir', lr, hir', hlr, by rw [eu, hur]⟩
    obtain ⟨ri, hri, hl⟩ := hreg n hn e he
    obtain ⟨ri', hri', _, _, ea⟩ := fwd r ri hrH hri
    exact ⟨ri', hri', by rw [ea]; exact hl⟩
  · intro b i' hi' hb e he
    obtain ⟨i, hi0, e'⟩ := map_eq_map_some (hi b hb).symm hi'
    simp only [fixedOf, Prod.mk.injEq] at e'
    exact hs.sound b i hi0 hb e (by rw [e'.2.2]; exact he)
  · intro d' hd' e he
    obtain ⟨d, hd0, eu⟩ := map_eq_map_some hd.symm hd'
    exact hs.uris d hd0 e (by rw [show d.uris = d'.uris from eu]; exact he)

theorem docInv_frozen (D : Doc) (ret : Url) {s s' : RState} (h : Frozen s s') (hs : DocInv D ret s) :
    DocInv D ret s' :=
  docInv_congr D ret (fun k _ => h.1 k)
    (by have := congrArg (Option.map Prod.fst) (h.2.1 D.root); rw [Option.map_map, Option.map_map] at this; exact this) hs

/-- what resolveURIs established for the document (`ret` = its retrieval URI), plus: every cached
    URI identifies a resource of this document -/
structure StaticInv (D : Doc) (ret : Url) (s : RState) : Prop where
  uniq : UniqueLineage D
  done : ∀ p, D.Has p → Done D s.infos p ∧ ∃ r, HasBase s.infos p r ∧ UriDone D ret s.infos r
  sound : Sound D s.infos
  uris : UrisId D ret s
  loaded : ∀ e ∈ s.loaded, D.Identifies ret e.1 e.2

theorem StaticInv.docInv {D : Doc} {ret : Url} {s : RState} (h : StaticInv D ret s) : DocInv D ret s :=
  ⟨h.uniq, h.done, h.sound, h.uris⟩

theorem identifies_has (D : Doc) (ret : Url) (k : String) (r : NodeId) (h : D.Identifies ret k r) : D.Has r := by
  rcases h with ⟨h, _⟩ | ⟨h, _⟩
  · rw [h]; exact ResourceRoot.has (resourceRoot_root D)
  · exact ResourceRoot.has h

theorem lookup_append_some {α} (k : String) (x y : List (String × α)) (v : α)
    (h : Json.lookup k x = some v) : Json.lookup k (x ++ y) = some v := by
  rw [Json.lookup_append, h, Option.some_or]

theorem lookup_append_none {α} (k : String) (x y : List (String × α))
    (h : Json.lookup k x = none) : Json.lookup k (x ++ y) = Json.lookup k y := by
  rw [Json.lookup_append, h, Option.none_or]

theorem done_baseUri (D : Doc) (ret : Url) (infos : List (NodeId × Info)) (huniq : UniqueLineage D) (id : NodeId)
    (hdone : Done D infos id ∧ ∃ r, HasBase infos id r ∧ UriDone D ret infos r)
    (info bInfo : Info) (base : NodeId) (bu : Url)
    (hinfo : lookupNat id infos = some info) (hbase : info.base = some base)
    (hbInfo : lookupNat base infos = some bInfo) (hbu : bInfo.uri = some bu) :
    D.ResourceRoot id base ∧ D.BaseUri ret id bu := by
  obtain ⟨⟨i, b, hi, hb, ⟨lid, hlid, hnear⟩, _⟩, r', ⟨i', hi', hb'⟩, ib, lb, hib, hlb, hub⟩ := hdone
  cases hinfo.symm.trans hi
  cases hinfo.symm.trans hi'
  cases hbase.symm.trans hb
  cases hbase.symm.trans hb'
  cases hbInfo.symm.trans hib
  rw [hbu] at hub
  simp only [Option.some.injEq] at hub
  obtain ⟨l', hl', heq⟩ := baseUriAlong_nearest D ret lid id hlid
  rw [hnear] at hl'
  have : l' = lb := huniq l' lb _ hl' hlb
  subst this
  exact ⟨⟨lid, hlid, hnear⟩, lid, hlid, by rw [← heq, hub]⟩

theorem resolveRef_local (env : Env) (recDoc : ResolveDoc) (hrec : RecSpec env recDoc) (D : Doc)
    (hst : D.st = env.st) (ret : Url) (s : RState) (id : NodeId) (ref : String) (o : RefOut) (s' : RState)
    (hinv : StaticInv D ret s) (hid : D.Has id)
    (h : resolveRef env recDoc D.root s id ref = .ok (o, s')) (hlog : s'.log = s.log) :
    s'.infos = s.infos ∧ Frozen s s' ∧ D.Designates ret id ref o.target := by
  obtain ⟨refURI0, info, base, bInfo, bu, d, r, hp, hinfo, hbase, hbInfo, hbu, hd, hloc, hfrag⟩ :=
    resolveRef_unfold env recDoc D.root s id ref o s' h
  have hBU := (done_baseUri D ret s.infos hinv.uniq id (hinv.done id hid) info bInfo base bu
    (info?_lookup _ _ _ _ hinfo) hbase (info?_lookup _ _ _ _ hbInfo) hbu).2
  unfold Located at hloc
  simp only at hloc
  rcases hloc with ⟨hl, rfl⟩ | ⟨hl1, hl2, rfl⟩ | ⟨_, _, tbl, s2, _, _, hdoc, rfl⟩
  · have hI := hinv.uris d hd _ (Json.mem_of_lookup hl)
    exact ⟨rfl, Frozen.refl _, bu, refURI0, r, hBU, hp, hI,
      tableFrag_desig env D hst _ _ _ _ _ hinv.sound (identifies_has D ret _ _ hI) hfrag⟩
  · have hI := hinv.loaded _ (Json.mem_of_lookup hl2)
    have hs : Sound D (mergeKnown s D.root r).infos := by rw [mergeKnown_infos]; exact hinv.sound
    exact ⟨mergeKnown_infos _ _ _, frozen_mergeKnown _ _ _, bu, refURI0, r, hBU, hp, hI,
      tableFrag_desig env D hst _ _ _ _ _ hs (identifies_has D ret _ _ hI) hfrag⟩
  · exfalso
    obtain ⟨⟨l, hl⟩, _⟩ := (hrec _ _ _ _ _ hdoc).1
    rw [(mergeKnown_same _ _ _).1, hl] at hlog
    have := congrArg List.length hlog
    simp only [List.length_append, List.length_cons, List.length_nil] at this
    omega

theorem checkStructure_forall (st : Store) (P : Info → Prop) (hP : ∀ p, P { path := p }) :
    ∀ fuel work acc res, checkStructure st fuel work acc = .ok res →
      (∀ e ∈ acc, P e.2) → ∀ e ∈ res, P e.2 :=
  RPerm.checkStructure_inv st (fun _ acc => ∀ e ∈ acc, P e.2) fun _ _ _ _ _ _ _ hacc e he => by
    rcases List.mem_append.mp he with he | he
    · exact hacc e he
    · cases List.mem_singleton.mp he; exact hP _

theorem sound_append_fresh (D : Doc) (a fresh : List (NodeId × Info)) (ha : Sound D a)
    (hf : ∀ e ∈ fresh, e.2.anchors = []) : Sound D (a ++ fresh) := by
  intro b i hi hb e he
  cases h0 : lookupNat b a with
  | some i0 =>
    rw [lookupNat_append_of_isSome _ _ _ (by rw [h0]; rfl), h0] at hi
    simp only [Option.some.injEq] at hi
    subst hi
    exact ha b i0 h0 hb e he
  | none =>
    rw [lookupNat_append_none _ _ _ h0] at hi
    have := hf _ (lookupNat_mem _ _ _ hi)
    simp only at this
    rw [this] at he
    simp at he

theorem docInv_afterURIs (env : Env) (root : NodeId) (baseURI : Url) (draft : Draft)
    (fresh : List (NodeId × Info)) (s sB : RState)
    (hcs : checkStructure env.st (env.st.size + 2) [(root, "")] [] = .ok fresh)
    (hB : resolveURIsLoop env draft root (env.st.size + 2) [(root, root)]
      (RDraft.beforeURIs root baseURI draft fresh s) = .ok sB)
    (hsound : Sound ⟨env.st, draft, root⟩ s.infos) :
    DocInv ⟨env.st, draft, root⟩ baseURI sB ∧ (∃ dB, sB.doc? root = some dB ∧ dB.draft = draft) ∧
    (sB.log = s.log ∧ sB.loaded = s.loaded) ∧
    Doc.Identifies ⟨env.st, draft, root⟩ baseURI (rootUriOf sB root) root := by
  let D : Doc := ⟨env.st, draft, root⟩
  have huniq : UniqueLineage D := tree_uniqueLineage D _ (checkStructure_tree env.st _ root fresh hcs)
  have hB' : resolveURIsLoop env D.draft D.root (env.st.size + 2) [(D.root, D.root)] _ = .ok sB := hB
  obtain ⟨_, hdone, _, _, hrd, hsnd, huris⟩ := resolveURIs_ok env D rfl baseURI _ fresh hcs _ _ _
    (beforeURIs_root_uri env.st _ root baseURI draft fresh s hcs) hB'
  have hnil : ∀ e ∈ fresh, e.2.anchors = [] :=
    checkStructure_forall env.st (fun i => i.anchors = []) (fun _ => rfl) _ _ _ _ hcs
      (fun _ he => absurd he (by simp))
  have hsB : Sound D sB.infos := by
    apply hsnd
    refine sound_updInfo D _ root _ (fun _ _ he => Or.inl he) ?_
    rw [setDoc_infos]
    exact sound_append_fresh D _ _ hsound hnil
  have huB : UrisId D baseURI sB := by
    apply huris
    intro d hd e he
    rw [beforeURIs_doc?, if_pos (rfl : root = D.root)] at hd
    cases hd
    cases List.mem_singleton.mp he
    exact Or.inl ⟨rfl, rfl⟩
  have hdB : ∃ dB, sB.doc? root = some dB ∧ dB.draft = draft := by
    obtain ⟨dB, h1, h2, _⟩ := hrd _ (beforeURIs_doc? root baseURI draft fresh s root ▸ if_pos rfl)
    exact ⟨dB, h1, h2⟩
  have sameB : sB.log = s.log ∧ sB.loaded = s.loaded :=
    (beforeURIs_same root baseURI draft fresh s).trans (resolveURIsLoop_spec _ _ _ _ _ _ _ hB).1
  refine ⟨⟨huniq, hdone, hsB, huB⟩, hdB, sameB, ?_⟩
  -- the base of the root is the root (its lineage is empty), whose info holds the base URI along a lineage
  obtain ⟨⟨i, r0, hi, hb0, ⟨l0, hl0, hn0⟩, _⟩, r, ⟨i', hi', hb'⟩, ir, lr, hir, hlr, hur⟩ :=
    hdone root (ResourceRoot.has (resourceRoot_root D))
  cases hi.symm.trans hi'
  cases hb0.symm.trans hb'
  cases huniq l0 [] root hl0 (by show isLineage env.st root [] root = true; simp [isLineage])
  obtain rfl : r0 = root := hn0.symm
  refine Or.inr ⟨resourceRoot_root D, baseUriAlong D baseURI lr, ⟨lr, hlr, rfl⟩, ?_⟩
  unfold rootUriOf
  rw [hir]
  simp only [hur, Option.map_some, Option.getD_some]

/-- `hloaded`: the cache names only resources of this document, i.e. the resolution has loaded no other -/
theorem staticInv_afterURIs (env : Env) (root : NodeId) (baseURI : Url) (draft : Draft)
    (fresh : List (NodeId × Info)) (s sB : RState)
    (hcs : checkStructure env.st (env.st.size + 2) [(root, "")] [] = .ok fresh)
    (hB : resolveURIsLoop env draft root (env.st.size + 2) [(root, root)]
      (RDraft.beforeURIs root baseURI draft fresh s) = .ok sB)
    (hsound : Sound ⟨env.st, draft, root⟩ s.infos)
    (hloaded : ∀ e ∈ s.loaded, Doc.Identifies ⟨env.st, draft, root⟩ baseURI e.1 e.2) :
    StaticInv ⟨env.st, draft, root⟩ baseURI (RDraft.afterURIs root baseURI sB) := by
  obtain ⟨hDB, _, sameB, hrootId⟩ := docInv_afterURIs env root baseURI draft fresh s sB hcs hB hsound
  refine ⟨hDB.uniq, hDB.done, hDB.sound, UrisId.of_docs_eq rfl hDB.uris, fun e he => ?_⟩
  rcases List.mem_append.mp (he : e ∈ (sB.loaded.filter _) ++ [(_, root), (_, root)]) with h1 | h1
  · exact hloaded e (sameB.2 ▸ (List.mem_filter.mp h1).1)
  · simp only [List.mem_cons, List.mem_nil_iff, or_false] at h1
    rcases h1 with rfl | rfl
    · exact Or.inl ⟨rfl, rfl⟩
    · exact hrootId

theorem resourceRoot_unique (D : Doc) (huniq : UniqueLineage D) (s r r' : NodeId)
    (h : D.ResourceRoot s r) (h' : D.ResourceRoot s r') : r = r' := by
  obtain ⟨l, hl, hr⟩ := h
  obtain ⟨l', hl', hr'⟩ := h'
  rw [← hr, ← hr', huniq l l' s hl hl']

theorem resolveURIs_props (env : Env) (D : Doc) (hst : D.st = env.st) (ret : Url) (cf : Nat)
    (fresh : List (NodeId × Info)) (hcs : checkStructure env.st cf [(D.root, "")] [] = .ok fresh)
    (fuel : Nat) (s s' : RState)
    (hroot : ∃ i, lookupNat D.root s.infos = some i ∧ i.uri = some ret)
    (h : resolveURIsLoop env D.draft D.root fuel [(D.root, D.root)] s = .ok s') :
    (∀ p r, D.ResourceRoot p r → ∃ i, lookupNat p s'.infos = some i ∧ i.base = some r) ∧
    (∀ p r u, D.ResourceRoot p r → D.BaseUri ret p u →
      ∃ i, lookupNat r s'.infos = some i ∧ i.uri = some u) ∧
    (∀ t r a dyn, D.ResourceRoot t r → D.Declares t a dyn →
      ∃ i, lookupNat r s'.infos = some i ∧ (Json.lookup a i.anchors).isSome = true) ∧
    (Sound D s.infos → Sound D s'.infos) := by
  have huniq : UniqueLineage D :=
    tree_uniqueLineage D _ (by rw [hst]; exact checkStructure_tree env.st cf D.root fresh hcs)
  obtain ⟨_, hdone, _, _, _, hsound, _⟩ := resolveURIs_ok env D hst ret cf fresh hcs fuel s s' hroot h
  have hbase : ∀ p r, D.ResourceRoot p r → ∃ i, lookupNat p s'.infos = some i ∧ i.base = some r := by
    intro p r hr
    obtain ⟨⟨i, r0, hi, hb, hr0, _⟩, _⟩ := hdone p (ResourceRoot.has hr)
    exact ⟨i, hi, by rw [hb, resourceRoot_unique D huniq p r0 r hr0 hr]⟩
  refine ⟨hbase, ?_, ?_, hsound⟩
  · intro p r u hr ⟨lp, hlp, hu⟩
    obtain ⟨i, hi, hb⟩ := hbase p r hr
    obtain ⟨_, r', ⟨i', hi', hb'⟩, ib, lb, hib, hlb, hub⟩ := hdone p (ResourceRoot.has hr)
    cases hi.symm.trans hi'
    cases hb.symm.trans hb'
    have hb2 := done_baseUri D ret s'.infos huniq p (hdone p (ResourceRoot.has hr)) i ib r _ hi hb hib hub
    obtain ⟨l2, hl2, hu2⟩ := hb2.2
    refine ⟨ib, hib, ?_⟩
    rw [hub, ← hu2, ← hu, huniq l2 lp p hl2 hlp]
  · intro t r a dyn hr ⟨n, hn, hmem⟩
    obtain ⟨⟨i, r0, hi, hb, hr0, hreg⟩, _⟩ := hdone t (ResourceRoot.has hr)
    have := resourceRoot_unique D huniq t r0 r hr0 hr
    subst this
    exact hreg n hn (a, dyn) hmem

end RInv
end Go
end JSV
