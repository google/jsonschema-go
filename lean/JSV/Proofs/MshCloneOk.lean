/-
  C20: the clone traversal does not run out of fuel on an acyclic subtree (`Good B`) when the copy fits below `B`, and allocates exactly one node per visited
  node; marshalFuel is stable above the depth; a tree accepted by checkStructure is acyclic (`Good`).
-/
import JSV.Proofs.MshNode
import JSV.Proofs.Tot
namespace JSV
namespace Go

theorem Good.mono {B : Nat} {st : Store} : ∀ {d : Nat} {a : NodeId}, Good B st d a → Good B st (d + 1) a
  | 0, _, h => Or.inl h
  | d + 1, _, h => by
    rcases h with h | ⟨n, hn, hch⟩
    · exact Or.inl h
    · exact Or.inr ⟨n, hn, fun x hx => Good.mono (hch x hx)⟩

theorem Good.mono_le {B : Nat} {st : Store} {d k : Nat} {a : NodeId} (h : Good B st d a) (hk : d ≤ k) :
    Good B st k a := by
  induction hk with
  | refl => exact h
  | step _ ih => exact Good.mono ih

def sumNat : List Nat → Nat
  | [] => 0
  | x :: xs => x + sumNat xs

theorem sumNat_append : ∀ (l₁ l₂ : List Nat), sumNat (l₁ ++ l₂) = sumNat l₁ + sumNat l₂
  | [], _ => by simp [sumNat]
  | x :: xs, l₂ => by simp [sumNat, sumNat_append xs l₂, Nat.add_assoc]

/-- visited nodes (with repetitions) of the unfolding of `a` to depth `d` -/
def cloneCount (st : Store) : Nat → NodeId → Nat
  | 0, _ => 0
  | d + 1, a =>
    match st.get? a with
    | none => 0
    | some n => 1 + sumNat ((n.childFields.flatMap ChildField.ids).map (cloneCount st d))

structure CloneOk (rec : CRec) (Pre : Store → Prop) (P : NodeId → Prop) (cnt : NodeId → Nat) (B : Nat) : Prop where
  call : ∀ x s, Pre s → P x → s.size + cnt x ≤ B →
    ∃ x' s', rec x s = .ok (x', s') ∧ Pre s' ∧ s'.size = s.size + cnt x

section
variable {rec : CRec} {Pre : Store → Prop} {P : NodeId → Prop} {cnt : NodeId → Nat} {B : Nat}

theorem cloneIds_ok (I : CloneOk rec Pre P cnt B) : ∀ (l : List NodeId) (s : Store),
    Pre s → (∀ x, x ∈ l → P x) → s.size + sumNat (l.map cnt) ≤ B →
    ∃ l' s', cloneIds rec l s = .ok (l', s') ∧ Pre s' ∧ s'.size = s.size + sumNat (l.map cnt)
  | [], s, hp, _, _ => ⟨[], s, rfl, hp, rfl⟩
  | x :: xs, s, hp, hP, hb => by
    simp only [List.map_cons, sumNat] at hb ⊢
    obtain ⟨x', s1, h1, hp1, hs1⟩ := I.call x s hp (hP x (by simp)) (by omega)
    obtain ⟨xs', s2, h2, hp2, hs2⟩ := cloneIds_ok I xs s1 hp1 (fun y hy => hP y (by simp [hy])) (by omega)
    refine ⟨x' :: xs', s2, ?_, hp2, by omega⟩
    simp only [cloneIds, h1, h2, Res.bind_ok]

theorem cloneField_ok (I : CloneOk rec Pre P cnt B) (f : ChildField) (s : Store)
    (hp : Pre s) (hP : ∀ x, x ∈ f.ids → P x) (hb : s.size + sumNat (f.ids.map cnt) ≤ B) :
    ∃ f' s', cloneField rec f s = .ok (f', s') ∧ Pre s' ∧ s'.size = s.size + sumNat (f.ids.map cnt) := by
  obtain ⟨l', s1, h1, hp1, hs1⟩ := cloneIds_ok I f.ids s hp hP hb
  exact ⟨f.withIds l', s1, by rw [cloneField_eq, h1]; rfl, hp1, hs1⟩

theorem cloneFields_ok (I : CloneOk rec Pre P cnt B) : ∀ (fs : List ChildField) (s : Store),
    Pre s → (∀ f, f ∈ fs → ∀ x, x ∈ f.ids → P x) →
    s.size + sumNat ((fs.flatMap ChildField.ids).map cnt) ≤ B →
    ∃ fs' s', cloneFields rec fs s = .ok (fs', s') ∧ Pre s' ∧
      s'.size = s.size + sumNat ((fs.flatMap ChildField.ids).map cnt)
  | [], s, hp, _, _ => ⟨[], s, rfl, hp, rfl⟩
  | f :: fs, s, hp, hP, hb => by
    simp only [List.flatMap_cons, List.map_append, sumNat_append] at hb ⊢
    obtain ⟨f', s1, h1, hp1, hs1⟩ := cloneField_ok I f s hp (hP f (by simp)) (by omega)
    obtain ⟨fs', s2, h2, hp2, hs2⟩ := cloneFields_ok I fs s1 hp1 (fun g hg => hP g (by simp [hg])) (by omega)
    refine ⟨f' :: fs', s2, ?_, hp2, by omega⟩
    simp only [cloneFields, h1, h2, Res.bind_ok]

end

theorem cloneFuel_ok (B : Nat) (st0 : Store) : ∀ (d : Nat) (a : NodeId) (s : Store),
    Ext st0 s → Good B st0 d a → s.size + cloneCount st0 d a ≤ B →
    ∃ a' s', cloneFuel (d + 1) a s = .ok (a', s') ∧ Ext st0 s' ∧ s'.size = s.size + cloneCount st0 d a := by
  intro d
  induction d with
  | zero =>
    intro a s he hg hb
    have hnone : s.get? a = none := get?_eq_none_iff.2 (Nat.le_trans (by simpa [cloneCount] using hb) hg)
    exact ⟨a, s, cloneStep_none hnone, he, rfl⟩
  | succ d ih =>
    intro a s he hg hb
    show ∃ a' s', cloneStep (cloneFuel (d + 1)) a s = .ok (a', s') ∧ _
    rcases hg with hg | ⟨n, hn, hch⟩
    · have hs : s.size ≤ B := Nat.le_trans (Nat.le_add_right _ _) hb
      have hnone : s.get? a = none := get?_eq_none_iff.2 (Nat.le_trans hs hg)
      have h0 : st0.get? a = none := get?_eq_none_iff.2 (Nat.le_trans he.1 (Nat.le_trans hs hg))
      refine ⟨a, s, cloneStep_none hnone, he, ?_⟩
      simp only [cloneCount, h0, Nat.add_zero]
    · have hcnt : cloneCount st0 (d + 1) a =
          1 + sumNat ((n.childFields.flatMap ChildField.ids).map (cloneCount st0 d)) := by
        simp only [cloneCount, hn]
      rw [hcnt] at hb ⊢
      have I : CloneOk (cloneFuel (d + 1)) (fun s => Ext st0 s) (fun x => Good B st0 d x) (cloneCount st0 d) B :=
        ⟨fun x s hp hP hb => ih x s hp hP hb⟩
      obtain ⟨fs', s1, h1, hp1, hs1⟩ := cloneFields_ok I n.childFields s he
        (fun f hf x hx => hch x (mem_children_iff.2 ⟨f, hf, hx⟩)) (by omega)
      refine ⟨s1.size, s1.push (setChildFields n fs'), ?_, hp1.trans (Ext.push _ _), ?_⟩
      · rw [cloneStep_eq, he.get? hn]
        simp only [h1, Res.bind_ok]
        rfl
      · rw [Array.size_push]; omega

theorem marshalFuel_stable {B : Nat} {st : Store} (hs : st.size ≤ B) :
    ∀ (d : Nat) (a : NodeId), Good B st d a → ∀ f f', d < f → d < f' → marshalFuel st f a = marshalFuel st f' a := by
  intro d
  induction d with
  | zero =>
    intro a hg f f' hf hf'
    obtain ⟨f0, rfl⟩ : ∃ f0, f = f0 + 1 := ⟨f - 1, by omega⟩
    obtain ⟨f0', rfl⟩ : ∃ f0, f' = f0 + 1 := ⟨f' - 1, by omega⟩
    refine marshalStep_congr_rec fun n hn => ?_
    rw [get?_eq_none_iff.2 (Nat.le_trans hs hg)] at hn
    cases hn
  | succ d ih =>
    intro a hg f f' hf hf'
    obtain ⟨f0, rfl⟩ : ∃ f0, f = f0 + 1 := ⟨f - 1, by omega⟩
    obtain ⟨f0', rfl⟩ : ∃ f0, f' = f0 + 1 := ⟨f' - 1, by omega⟩
    refine marshalStep_congr_rec fun n hn x hx => ?_
    rcases hg with hg | ⟨n', hn', hch⟩
    · rw [get?_eq_none_iff.2 (Nat.le_trans hs hg)] at hn
      cases hn
    · rw [hn] at hn'
      cases hn'
      unfold mSchema
      cases st.get? x with
      | none => rfl
      | some _ => exact ih x (hch x hx) f0 f0' (by omega) (by omega)

/-- every entry of the worklist is acyclic, within a depth bounded by the number of nodes checkStructure has visited -/
theorem checkStructure_good' (B : Nat) (st : Store) : ∀ (fuel : Nat) (work : List (NodeId × String))
    (acc acc' : List (NodeId × Info)), checkStructure st fuel work acc = .ok acc' →
    ∃ k, k ≤ fuel ∧ acc'.length = acc.length + k ∧ ∀ x p, (x, p) ∈ work → Good B st k x := by
  intro fuel
  induction fuel with
  | zero => intro work acc acc' h; cases h
  | succ fuel ih =>
    intro work acc acc' h
    cases work with
    | nil =>
      simp only [checkStructure] at h
      cases h
      exact ⟨0, Nat.zero_le _, rfl, fun x p hx => by cases hx⟩
    | cons w work =>
      obtain ⟨id, path⟩ := w
      obtain ⟨n, hn, -, h⟩ := (RPerm.cs_cons_ok st fuel id path work acc acc').mp h
      obtain ⟨k, hkf, hk, ih'⟩ := ih _ _ _ h
      refine ⟨k + 1, Nat.succ_le_succ hkf, ?_, fun x p hx => ?_⟩
      · rw [hk, List.length_append]; simp; omega
      · rcases List.mem_cons.1 hx with hx | hx
        · cases hx
          refine Or.inr ⟨n, hn, fun y hy => ?_⟩
          obtain ⟨q, hq⟩ := mem_children_iff_entries (path := path).1 hy
          exact ih' y q (List.mem_append_left _ hq)
        · exact Good.mono (ih' x p (List.mem_append_right _ hx))

theorem checkStructure_good (B : Nat) (st : Store) : ∀ (fuel : Nat) (work : List (NodeId × String))
    (acc acc' : List (NodeId × Info)), checkStructure st fuel work acc = .ok acc' →
    ∀ x p, (x, p) ∈ work → Good B st fuel x := by
  intro fuel work acc acc' h x p hx
  obtain ⟨k, hk, -, hg⟩ := checkStructure_good' B st fuel work acc acc' h
  exact (hg x p hx).mono_le hk

theorem good_of_checkStructure (B : Nat) (st : Store) (fuel : Nat) (root : NodeId) (infos : List (NodeId × Info))
    (h : checkStructure st fuel [(root, "")] [] = .ok infos) : Good B st st.size root := by
  obtain ⟨k, -, hk, hg⟩ := checkStructure_good' B st fuel _ _ _ h
  have hlen := C10.AccOK_length st infos (C10.checkStructure_accOK_nil h)
  have hk' : k ≤ st.size := by
    simp only [List.length_nil, Nat.zero_add] at hk
    omega
  exact Good.mono_le (hg root "" (List.mem_singleton.2 rfl)) hk'

end Go
end JSV
