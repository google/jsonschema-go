/-
  Schema.Resolve commutes with a node-wise rewriting `e` of the store that keeps everything Resolve reads
  of a schema object when every document of the resolution is read under the draft `D` (`SameForResolve D e`).  Two
  instances under draft-07: erasing `$dynamicRef` (finding D28), erasing `$anchor` / `$dynamicAnchor` — keywords that
  only the later draft defines, whence `RLater`.
-/
import JSV.Proofs.ResPermResolve
import JSV.Proofs.ResDraft
import JSV.Proofs.InvLater
import JSV.Proofs.ResBase
namespace JSV
namespace Go
namespace RLater
open RInv RDraft RPerm

/-- `e n` is `n` as far as Resolve can tell in a document read under `D`: `$anchor`, `$dynamicAnchor` and `$dynamicRef`
    are read under 2020-12 only -/
structure SameForResolve (D : Draft) (e : Node → Node) : Prop where
  id : ∀ n, (e n).id = n.id
  ref : ∀ n, (e n).ref = n.ref
  schema : ∀ n, (e n).schema = n.schema
  childFields : ∀ n, (e n).childFields = n.childFields
  field : ∀ n k, Pointer.lookupField (e n) k = Pointer.lookupField n k
  localOk : ∀ env n, checkLocalOk env (e n) = checkLocalOk env n
  only2020 : D = .d2020 → ∀ n, (e n).anchor = n.anchor ∧ (e n).dynamicAnchor = n.dynamicAnchor ∧
    (e n).dynamicRef = n.dynamicRef

def mapEnv (e : Node → Node) (env : Env) : Env := { env with st := env.st.map e }

theorem mapEnv_get? (e : Node → Node) (env : Env) (i : NodeId) :
    (mapEnv e env).st.get? i = (env.st.get? i).map e := Go.get?_map env.st e i

theorem mapEnv_size (e : Node → Node) (env : Env) : (mapEnv e env).st.size = env.st.size := Array.size_map ..

section
variable {D : Draft} {e : Node → Node} (he : SameForResolve D e)
include he

theorem checkStructure_map (st : Store) : ∀ fuel work acc,
    checkStructure (st.map e) fuel work acc = checkStructure st fuel work acc := by
  intro fuel
  induction fuel with
  | zero => intro work acc; rfl
  | succ fuel ih =>
    intro work acc
    cases work with
    | nil => rfl
    | cons w work =>
      obtain ⟨id, path⟩ := w
      rw [cs_cons, cs_cons, Go.get?_map]
      cases Store.get? st id with
      | none => rfl
      | some n =>
        simp only [Option.map_some]
        rw [ih, childEntries, he.childFields n]
        rfl

theorem allNodes_map (st : Store) : ∀ fuel work, allNodes (st.map e) fuel work = allNodes st fuel work := by
  intro fuel
  induction fuel with
  | zero => intro work; rfl
  | succ fuel ih =>
    intro work
    cases work with
    | nil => rfl
    | cons id work =>
      rw [allNodes, allNodes, Go.get?_map]
      cases Store.get? st id with
      | none => exact ih _
      | some n =>
        simp only [Option.map_some]
        rw [ih, Node.children, he.childFields n]
        rfl

theorem step_map (st : Store) (strict : Bool) (cur : Pointer.Cursor) (seg : String) :
    Pointer.step (st.map e) strict cur seg = Pointer.step st strict cur seg := by
  cases cur with
  | node id =>
    unfold Pointer.step
    simp only [Go.get?_map]
    cases Store.get? st id with
    | none => rfl
    | some n => simp only [Option.map_some, he.field n seg]
  | nodes ids => rfl
  | nodeMap kvs => rfl
  | dead => rfl

theorem walk_map (st : Store) (strict : Bool) : ∀ segs cur,
    Pointer.walk (st.map e) strict cur segs = Pointer.walk st strict cur segs := by
  intro segs
  induction segs with
  | nil => intro cur; rfl
  | cons seg rest ih =>
    intro cur
    rw [Pointer.walk, Pointer.walk, step_map he]
    exact Res.bind_congr_ok fun c _ => ih c

theorem dereference_map (st : Store) (strict nie : Bool) (root : NodeId) (ptr : String) :
    Pointer.dereference (st.map e) strict nie root ptr = Pointer.dereference st strict nie root ptr := by
  unfold Pointer.dereference
  refine Res.bind_congr_ok fun segs _ => ?_
  rw [walk_map he]
  refine Res.bind_congr_ok fun cur _ => ?_
  cases cur with
  | node id => simp only [Go.get?_map, Option.isNone_map]
  | nodes _ => rfl
  | nodeMap _ => rfl
  | dead => rfl

theorem localOkAll_map (env : Env) (fresh : List (NodeId × Info)) :
    localOkAll (mapEnv e env) fresh = localOkAll env fresh := by
  unfold localOkAll
  congr 1
  funext id
  rw [mapEnv_get?]
  cases env.st.get? id with
  | none => rfl
  | some n => exact he.localOk env n

theorem docDraft_map (env : Env) (rn : Node) (inh : Draft) :
    docDraft (mapEnv e env) (e rn) inh = docDraft env rn inh := by
  unfold docDraft
  rw [he.schema rn]
  rfl

theorem postStep_map (s : RState) (id base : NodeId) (n : Node) :
    postStep D s id base (e n) = postStep D s id base n := by
  cases D with
  | d7 => rfl
  | d2020 =>
    obtain ⟨h1, h2, _⟩ := he.only2020 rfl n
    unfold postStep
    rw [h1, h2]

theorem resolveURIsLoop_map (env : Env) (root : NodeId) : ∀ fuel work s,
    resolveURIsLoop (mapEnv e env) D root fuel work s = resolveURIsLoop env D root fuel work s := by
  intro fuel
  induction fuel with
  | zero => intro work s; rfl
  | succ fuel ih =>
    intro work s
    cases work with
    | nil => rw [resolveURIsLoop, resolveURIsLoop]
    | cons w work =>
      obtain ⟨id, base⟩ := w
      rw [resolveURIsLoop_cons, resolveURIsLoop_cons, mapEnv_get?]
      cases env.st.get? id with
      | none => rfl
      | some n =>
        cases lookupNat id s.infos with
        | none => rfl
        | some i0 =>
          cases lookupNat base s.infos with
          | none => rfl
          | some bi =>
            simp only [Option.map_some]
            rw [uriStep_node_eq D root s id base n (e n) bi (he.id n) (he.ref n)]
            refine Res.bind_congr_ok fun p _ => ?_
            rw [postStep_map he, Node.children, he.childFields n]
            exact ih _ _

end

/-- what is known of the state while the references of the document at `root` are resolved: every Resolved is read
    under `D`, and the one at `root` is registered (so `draftOf root = D`, not the default) -/
def Good (D : Draft) (root : NodeId) (s : RState) : Prop := AllDraft D s ∧ (s.doc? root).isSome = true

theorem Good.draftOf {D : Draft} {root : NodeId} {s : RState} (h : Good D root s) : s.draftOf root = D :=
  h.1.draftOf root h.2

theorem Good.updInfo {D : Draft} {root : NodeId} {s : RState} (h : Good D root s) (i : NodeId) (f : Info → Info) :
    Good D root (s.updInfo i f) :=
  ⟨AllDraft.of_docs_eq (updInfo_docs s i f) h.1, by rw [RInv.doc?_of_docs_eq (updInfo_docs s i f)]; exact h.2⟩

/-- the open-recursion callbacks: on states and Loader documents of draft `D` the one over the rewritten store agrees
    with the other, which keeps every Resolved and the all-`D` invariant -/
structure RecE (D : Draft) (env : Env) (recDoc' recDoc : ResolveDoc) : Prop where
  eq : ∀ tbl key lroot base s, env.loader = some tbl → Json.lookup key tbl = some (.doc lroot) → AllDraft D s →
    recDoc' lroot base D s = recDoc lroot base D s
  all : RecAll env D recDoc
  keep : ∀ lroot base inh s s', recDoc lroot base inh s = .ok s' → RTot.DocsKeep s s'

theorem findDoc_map {D : Draft} (e : Node → Node) (env : Env) (recDoc' recDoc : ResolveDoc)
    (hrec : RecE D env recDoc' recDoc) (root : NodeId) (s : RState) (hs : AllDraft D s) (d : DocRes)
    (hd : d.draft = D) (u : Uri.Url) :
    findDoc (mapEnv e env) recDoc' root s d u = findDoc env recDoc root s d u := by
  unfold findDoc
  split
  · rfl
  split
  · rfl
  -- the Loader is the same; its document is read under `D` like the referring one
  refine Res.bind_congr_ok (x := loaderDoc env _) fun lroot hl => ?_
  obtain ⟨tbl, htbl, hk⟩ := loaderDoc_eq_ok_iff.mp hl
  rw [hd]
  exact congrArg (Res.bind · _) (hrec.eq tbl _ lroot _ _ htbl hk fun d hd => hs d hd)

theorem fragOut_map {D : Draft} {e : Node → Node} (he : SameForResolve D e) (env : Env) (s : RState)
    (root r : NodeId) (frag : String) : fragOut (mapEnv e env) s root r frag = fragOut env s root r frag := by
  unfold fragOut
  rw [show (mapEnv e env).st = env.st.map e from rfl, dereference_map he]

theorem resolveRef_map {D : Draft} {e : Node → Node} (he : SameForResolve D e) (env : Env)
    (recDoc' recDoc : ResolveDoc) (hrec : RecE D env recDoc' recDoc) (root : NodeId)
    (s : RState) (hs : AllDraft D s) (id : NodeId) (ref : String) :
    resolveRef (mapEnv e env) recDoc' root s id ref = resolveRef env recDoc root s id ref := by
  rw [resolveRef_eq, resolveRef_eq]
  refine Res.bind_congr_ok fun refURI0 _ => ?_
  cases refBase s root id with
  | none => rfl
  | some bu =>
  cases hd : s.doc? root with
  | none => rfl
  | some d =>
    dsimp only
    rw [findDoc_map e env recDoc' recDoc hrec root s hs d (hs d (doc?_mem s root d hd))]
    exact Res.bind_congr_ok fun p _ => by rw [fragOut_map he]

theorem resolveRef_keep (env : Env) (recDoc : ResolveDoc)
    (hkeep : ∀ lroot base inh s s', recDoc lroot base inh s = .ok s' → RTot.DocsKeep s s') (root : NodeId) (a : RState)
    (id : NodeId) (ref : String) (o : RefOut) (b : RState) (h : resolveRef env recDoc root a id ref = .ok (o, b)) :
    RTot.DocsKeep a b := by
  obtain ⟨d, hd, hc⟩ := resolveRef_cases env recDoc root a id ref o b h
  rcases hc with rfl | ⟨r, rfl⟩ | ⟨u, tbl, r, a2, _, _, _, hcall, rfl⟩
  · exact RTot.DocsKeep.refl _
  · intro x hx; rw [mergeKnown_isSome]; exact hx
  · intro x hx; rw [mergeKnown_isSome]; exact hkeep _ _ _ _ _ hcall x hx

theorem resolveRef_good {D : Draft} (env : Env) (recDoc : ResolveDoc) (hall : RecAll env D recDoc)
    (hkeep : ∀ lroot base inh s s', recDoc lroot base inh s = .ok s' → RTot.DocsKeep s s')
    (hload : LoaderDeclares env D) (root : NodeId) (a : RState) (id : NodeId) (ref : String) (o : RefOut) (b : RState)
    (ha : Good D root a) (h : resolveRef env recDoc root a id ref = .ok (o, b)) : Good D root b :=
  ⟨resolveRef_all env D recDoc hall hload root a id ref o b ha.1 h,
    resolveRef_keep env recDoc hkeep root a id ref o b h root ha.2⟩

theorem refStep_good {D : Draft} (env : Env) (recDoc : ResolveDoc) (hall : RecAll env D recDoc)
    (hkeep : ∀ lroot base inh s s', recDoc lroot base inh s = .ok s' → RTot.DocsKeep s s')
    (hload : LoaderDeclares env D) (root id : NodeId) (on : Bool) (ref : String) (upd : RefOut → Info → Info)
    (a b : RState) (ha : Good D root a) (h : refStep env recDoc root id on ref upd a = .ok b) : Good D root b := by
  unfold refStep at h
  split at h
  · rw [Res.bind_eq_ok_iff] at h
    obtain ⟨⟨o, sa⟩, hr, h⟩ := h
    cases h
    exact (resolveRef_good env recDoc hall hkeep hload root a id ref o sa ha hr).updInfo _ _
  · cases h; exact ha

theorem resolveRefsLoop_map {D : Draft} {e : Node → Node} (he : SameForResolve D e) (env : Env)
    (recDoc' recDoc : ResolveDoc) (hrec : RecE D env recDoc' recDoc) (hload : LoaderDeclares env D) (root : NodeId) :
    ∀ ids s, Good D root s →
      resolveRefsLoop (mapEnv e env) recDoc' root ids s = resolveRefsLoop env recDoc root ids s := by
  intro ids
  induction ids with
  | nil => intro s _; rw [resolveRefsLoop, resolveRefsLoop]
  | cons id rest ih =>
    intro s hs
    have hstep : ∀ on ref upd a, Good D root a →
        refStep (mapEnv e env) recDoc' root id on ref upd a = refStep env recDoc root id on ref upd a := by
      intro on ref upd a ha
      unfold refStep
      rw [resolveRef_map he env recDoc' recDoc hrec root a ha.1]
    rw [resolveRefsLoop_cons, resolveRefsLoop_cons, mapEnv_get?]
    cases env.st.get? id with
    | none => rfl
    | some n =>
      simp only [Option.map_some]
      rw [he.ref n, hstep _ _ _ s hs]
      refine Res.bind_congr_ok fun s1 h1 => ?_
      have hs1 := refStep_good env recDoc hrec.all hrec.keep hload root id _ _ _ s s1 hs h1
      rw [hs1.draftOf]
      -- `$dynamicRef` is read under 2020-12 only, and there `e` keeps it
      have hdyn : refStep (mapEnv e env) recDoc' root id ((e n).dynamicRef != "" && D == .d2020) (e n).dynamicRef
            (fun o i => { i with resolvedDynamicRef := some o.target, dynamicRefAnchor := o.dynFrag }) s1 =
          refStep env recDoc root id (n.dynamicRef != "" && D == .d2020) n.dynamicRef
            (fun o i => { i with resolvedDynamicRef := some o.target, dynamicRefAnchor := o.dynFrag }) s1 := by
        cases D with
        | d7 => rw [show (Draft.d7 == Draft.d2020) = false from rfl, Bool.and_false, Bool.and_false, refStep_false, refStep_false]
        | d2020 => rw [(he.only2020 rfl n).2.2, hstep _ _ _ s1 hs1]
      rw [hdyn]
      refine Res.bind_congr_ok fun s2 h2 => ?_
      exact ih s2 (refStep_good env recDoc hrec.all hrec.keep hload root id _ _ _ s1 s2 hs1 h2)

theorem docsKeep_updInfo (a : RState) (i : NodeId) (f : Info → Info) : RTot.DocsKeep a (a.updInfo i f) :=
  RTot.DocsKeep.of_docs_eq (updInfo_docs a i f)

theorem resolveDocStep_keep (env : Env) (recDoc : ResolveDoc)
    (hkeep : ∀ lroot base inh s s', recDoc lroot base inh s = .ok s' → RTot.DocsKeep s s') :
    ∀ lroot base inh s s', resolveDocStep env recDoc lroot base inh s = .ok s' → RTot.DocsKeep s s' := by
  intro root baseURI inh s s' h
  obtain ⟨rn, fresh, sB, _, _, hB, hC⟩ := resolveDocStep_unfold env recDoc root baseURI inh s s' h
  have hA : RTot.DocsKeep s (beforeURIs root baseURI (docDraft env rn inh) fresh s) := by
    unfold beforeURIs
    exact RTot.DocsKeep.trans (RTot.DocsKeep.trans
      (RTot.DocsKeep.of_docs_eq (s' := ({ s with infos := s.infos ++ fresh } : RState)) rfl)
      (RTot.docsKeep_setDoc _ _)) (docsKeep_updInfo _ _ _)
  have hsB : RTot.DocsKeep s sB :=
    resolveURIsLoop_pres env _ root (RTot.DocsKeep s)
      (fun a i f ha => ha.trans (docsKeep_updInfo a i f))
      (fun a d u ha _ => ha.trans (RTot.docsKeep_setDoc a _)) _ _ _ _ hB hA
  exact resolveRefsLoop_pres env recDoc root (RTot.DocsKeep s)
    (fun a i f ha => ha.trans (docsKeep_updInfo a i f))
    (fun a i ref o b ha hr => ha.trans (resolveRef_keep env recDoc hkeep root a i ref o b hr)) _ _ _ hC
    (hsB.trans (RTot.DocsKeep.of_docs_eq rfl))

theorem resolveDoc_keep (env : Env) : ∀ fuel lroot base inh s s',
    resolveDoc env fuel lroot base inh s = .ok s' → RTot.DocsKeep s s' := by
  intro fuel
  induction fuel with
  | zero => intro lroot base inh s s' h; simp [resolveDoc] at h
  | succ fuel ih => exact resolveDocStep_keep env _ ih

theorem resolveDocStep_map {D : Draft} {e : Node → Node} (he : SameForResolve D e) (env : Env)
    (recDoc' recDoc : ResolveDoc) (hrec : RecE D env recDoc' recDoc)
    (hload : LoaderDeclares env D) (root : NodeId) (baseURI : Uri.Url) (inh : Draft)
    (hroot : ReadsAs env D root inh) (s : RState) (hs : AllDraft D s) :
    resolveDocStep (mapEnv e env) recDoc' root baseURI inh s = resolveDocStep env recDoc root baseURI inh s := by
  rw [resolveDocStep_eq, resolveDocStep_eq, mapEnv_get?]
  refine ite_congr rfl (fun _ => rfl) (fun _ => ?_)
  cases hrn : env.st.get? root with
  | none => rfl
  | some rn =>
    simp only [Option.map_some]
    rw [docDraft_map he, hroot rn hrn, mapEnv_size]
    show Res.bind (checkStructure (env.st.map e) _ _ _) _ = _
    rw [checkStructure_map he]
    refine Res.bind_congr_ok fun fresh _ => ?_
    rw [localOkAll_map he]
    refine ite_congr rfl (fun _ => rfl) (fun _ => ?_)
    rw [resolveURIsLoop_map he]
    refine Res.bind_congr_ok fun sB hB => ?_
    show resolveRefsLoop (mapEnv e env) recDoc' root (allNodes (env.st.map e) _ _) _ = _
    rw [allNodes_map he]
    -- the state after resolveURIs is a state of `D` documents that registers `root`
    have hsB : AllDraft D sB := allDraft_resolveURIs env D root baseURI fresh s hs hB
    have hreg : (sB.doc? root).isSome = true := by
      have hq := (resolveURIsLoop_qu env D root _ _ _ _ hB).2
      obtain ⟨d', hd', _, _⟩ := hq _ (by rw [beforeURIs_doc?, if_pos rfl])
      rw [hd']; rfl
    exact resolveRefsLoop_map he env recDoc' recDoc hrec hload root _ _ ⟨AllDraft.of_docs_eq rfl hsB, hreg⟩

theorem recE_resolveDoc {D : Draft} {e : Node → Node} (he : SameForResolve D e) (env : Env)
    (hload : LoaderDeclares env D) : ∀ fuel, RecE D env (resolveDoc (mapEnv e env) fuel) (resolveDoc env fuel)
  | 0 => ⟨fun _ _ _ _ _ _ _ _ => rfl, resolveDoc_all env D hload 0, resolveDoc_keep env 0⟩
  | fuel + 1 =>
    ⟨fun tbl key lroot base s hl hk hs =>
      resolveDocStep_map he env _ _ (recE_resolveDoc he env hload fuel) hload lroot base D (hload tbl key lroot hl hk) s hs,
     resolveDoc_all env D hload (fuel + 1), resolveDoc_keep env (fuel + 1)⟩

/-- **Resolve commutes with a rewriting of the store that Resolve under `D` cannot tell from the identity**, when the
    top document and every Loader document are read under `D`: the same outcome (ok / error / panic / fuel), the same
    tables, the same Loader calls -/
theorem resolve_map_of {D : Draft} {e : Node → Node} (he : SameForResolve D e) (env : Env)
    (hload : LoaderDeclares env D) (fuel : Nat) (root : NodeId) (base : String) (htop : Spec.topDraft env root = D) :
    resolve { env with st := env.st.map e } fuel root base = resolve env fuel root base := by
  have hroot : ReadsAs env D root .d2020 := by
    intro rn hrn
    unfold Spec.topDraft at htop
    rw [hrn] at htop
    exact htop
  show resolve (mapEnv e env) fuel root base = _
  unfold resolve
  refine Res.bind_congr_ok fun b _ => ?_
  have hdoc : resolveDoc (mapEnv e env) fuel root b .d2020 {} = resolveDoc env fuel root b .d2020 {} := by
    cases fuel with
    | zero => rfl
    | succ fuel =>
      exact resolveDocStep_map he env _ _ (recE_resolveDoc he env hload fuel) hload root b .d2020 hroot {}
        (allDraft_init _)
  rw [hdoc]

theorem sameForResolve_eraseDynRef : SameForResolve .d7 Inv.eraseDynRef :=
  ⟨fun _ => rfl, fun _ => rfl, fun _ => rfl, fun _ => rfl, fun _ _ => rfl, fun _ _ => rfl, fun h => nomatch h⟩

theorem sameForResolve_eraseAnchors : SameForResolve .d7 Inv.eraseAnchors :=
  ⟨fun _ => rfl, fun _ => rfl, fun _ => rfl, fun _ => rfl, fun _ _ => rfl, fun _ _ => rfl, fun h => nomatch h⟩

end RLater
end Go
end JSV
