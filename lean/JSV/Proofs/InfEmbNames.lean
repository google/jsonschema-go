/-
  C16 (embedded fields): what the loop over `VisibleFields` does to `propertyOrder`, `required` and the keys of
  `properties` when no embedded type has a TypeSchemas override and the recursive call never drops a field (`structLoopE_lists`): it is then the loop `loopG`
  over the items `itemOfV` (`structLoopE_eq`).
-/
import JSV.Spec.EncJsonEmb
import JSV.Proofs.InfEqns
namespace JSV
namespace Go
open EncJsonEmb (live jsonNameOf)

/-- no anonymous field of the list has a TypeSchemas entry (a pointer type never has one) -/
def NoOverride (opts : IOpts) (vfs : List VField) : Prop :=
  ∀ f, f ∈ vfs → f.anonymous = true → ((typeNameE f.type).bind fun nm => Json.lookup nm opts.schemas) = none

def NeverDropsE (rec : IRecE) (seen : List String) (vfs : List VField) : Prop :=
  ∀ f, f ∈ vfs → live f = true → ∀ st st1, rec f.type seen st = .ok (none, st1) → False

def loopNames (vfs : List VField) : List String := (vfs.filter live).map jsonNameOf

def alwaysLive (f : VField) : Bool :=
  live f && !(fieldJSONInfo f.goName f.tag).omitempty && !(fieldJSONInfo f.goName f.tag).omitzero

def loopAlways (vfs : List VField) : List String := (vfs.filter alwaysLive).map jsonNameOf

theorem loopNames_cons (f : VField) (rest : List VField) :
    loopNames (f :: rest) = if live f then jsonNameOf f :: loopNames rest else loopNames rest := by
  unfold loopNames
  rw [List.filter_cons]
  split <;> rfl

theorem loopAlways_cons (f : VField) (rest : List VField) :
    loopAlways (f :: rest) = if alwaysLive f then jsonNameOf f :: loopAlways rest else loopAlways rest := by
  unfold loopAlways
  rw [List.filter_cons]
  split <;> rfl

theorem addFieldE_eq (n : Node) (info : JsonInfo) (fid : NodeId) : addFieldE n info fid = addField n info fid := rfl

/-- a visible field as the iteration sees it: an anonymous field without override is passed over like an omitted one -/
def itemOfV (f : VField) : Item GoTypeE :=
  (if f.anonymous then { omitted := true } else fieldJSONInfoE f.goName f.tag f.exported, tagLookup "jsonschema" f.tag, f.type)

theorem structLoopE_eq {opts : IOpts} {rec : IRecE} {seen : List String} : ∀ (vfs : List VField), NoOverride opts vfs →
    ∀ (n : Node) (st : Store), structLoopE opts rec seen vfs none n st = loopG rec seen (vfs.map itemOfV) n st
  | [], _, _, _ => rfl
  | f :: rest, hno, n, st => by
    have ih := structLoopE_eq (rec := rec) (seen := seen) rest fun g hg => hno g (List.mem_cons_of_mem _ hg)
    rw [structLoopE_cons_none (hno f List.mem_cons_self)]
    simp only [List.map_cons, loopG, itemOfV]
    cases f.anonymous
    · exact Res.bind_congr fun r => ih r.1 r.2
    · exact ih _ _

theorem itemOfV_omitted (f : VField) : (itemOfV f).1.omitted = !live f := by
  unfold itemOfV live fieldJSONInfoE
  cases f.anonymous <;> cases f.exported <;> simp

theorem itemOfV_live {f : VField} (hl : live f = true) : (itemOfV f).1 = fieldJSONInfo f.goName f.tag := by
  unfold live at hl
  simp only [Bool.and_eq_true, Bool.not_eq_true'] at hl
  simp only [itemOfV, hl.1.1, Bool.false_eq_true, if_false, fieldJSONInfoE, hl.1.2, if_true]

theorem loopNames_eq : ∀ (vfs : List VField), loopNames vfs = namesG (vfs.map itemOfV)
  | [] => rfl
  | f :: rest => by
    rw [loopNames_cons, List.map_cons, namesG_cons, itemOfV_omitted, ← loopNames_eq rest]
    cases hl : live f
    · rfl
    · rw [itemOfV_live hl]
      rfl

theorem loopAlways_eq : ∀ (vfs : List VField), loopAlways vfs = alwaysG (vfs.map itemOfV)
  | [] => rfl
  | f :: rest => by
    rw [loopAlways_cons, List.map_cons, alwaysG_cons, itemOfV_omitted, ← loopAlways_eq rest]
    unfold alwaysLive
    cases hl : live f
    · rfl
    · rw [itemOfV_live hl]
      cases (fieldJSONInfo f.goName f.tag).omitempty <;> cases (fieldJSONInfo f.goName f.tag).omitzero <;> rfl

theorem structLoopE_lists {opts : IOpts} {rec : IRecE} {seen : List String} (vfs : List VField) {n : Node} {st : Store}
    {n' : Node} {st' : Store} (hno : NoOverride opts vfs) (hnd : NeverDropsE rec seen vfs)
    (h : structLoopE opts rec seen vfs none n st = .ok (n', st')) :
    n'.propertyOrder.getD [] = n.propertyOrder.getD [] ++ loopNames vfs ∧
    n'.required.getD [] = n.required.getD [] ++ loopAlways vfs ∧
    (∀ k, k ∈ (n'.properties.getD []).map (·.1) ↔ (k ∈ (n.properties.getD []).map (·.1) ∨ k ∈ loopNames vfs)) ∧
    coreOf n' = coreOf n := by
  rw [structLoopE_eq vfs hno] at h
  rw [loopNames_eq, loopAlways_eq]
  refine loopG_lists (P := fun _ => True) (fun _ _ _ _ _ _ _ => trivial) _ trivial (fun i hi ho st st1 _ hr => ?_) h
  obtain ⟨f, hf, rfl⟩ := List.mem_map.1 hi
  rw [itemOfV_omitted] at ho
  exact hnd f hf (by simpa using ho) st st1 hr

end Go
end JSV
