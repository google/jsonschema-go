/-
  C04: the schema `forType` builds accepts the encoding of every value of the type
  (`Models.sound`), from the shape predicate `Go.Models` and the Spec's `evalStep` on the fragment.
-/
import JSV.Proofs.InfValid
import JSV.Proofs.InfModels
namespace JSV
namespace Spec

/-- none of the assertion keywords outside the fragment is present -/
structure PlainA (n : Node) : Prop where
  enum : n.enum = none
  const : n.const = none
  multipleOf : n.multipleOf = none
  exclusiveMinimum : n.exclusiveMinimum = none
  exclusiveMaximum : n.exclusiveMaximum = none
  minLength : n.minLength = none
  maxLength : n.maxLength = none
  pattern : n.pattern = ""
  uniqueItems : n.uniqueItems = false
  minProperties : n.minProperties = none
  maxProperties : n.maxProperties = none
  dependentRequired : n.dependentRequired = none
  prefixItems : n.prefixItems = none
  patternProperties : n.patternProperties = none

theorem asserts_plain {env : Env} {n : Node} (hd : env.draft = .d2020) (A : PlainA n) (j : Json) :
    asserts env n j = true ↔
      typeOk n j = true ∧
      (∀ q, j = .num q → (∀ m, n.minimum = some m → m ≤ q) ∧ (∀ m, n.maximum = some m → q ≤ m)) ∧
      (∀ xs, j = .arr xs → (∀ m, n.minItems = some m → m ≤ (xs.length : Int)) ∧
                            (∀ m, n.maxItems = some m → (xs.length : Int) ≤ m)) ∧
      (∀ kvs, j = .obj kvs → ∀ k, k ∈ n.required.getD [] → (Json.lookup k kvs).isSome = true) := by
  unfold asserts enumOk constOk numericOk stringOk arrayLimitsOk objectLimitsOk
  simp only [A.enum, A.const, A.multipleOf, A.exclusiveMinimum, A.exclusiveMaximum, A.minLength, A.maxLength, A.pattern,
    A.uniqueItems, A.minProperties, A.maxProperties, A.dependentRequired, hd]
  cases j with
  | null => simp
  | bool b => simp
  | str s => simp
  | num q =>
    cases n.minimum <;> cases n.maximum <;> simp
  | arr xs =>
    cases n.minItems <;> cases n.maxItems <;> simp
  | obj kvs =>
    cases n.required <;> simp

theorem Plain.desc {m : Node} (P : Plain m) (d : String) : Plain { m with description := d } :=
  ⟨P.ref, P.dynamicRef, P.allOf, P.anyOf, P.oneOf, P.if_, P.contains, P.propertyNames, P.dependentSchemas,
   P.unevaluatedItems, P.unevaluatedProperties⟩

theorem PlainA.desc {m : Node} (A : PlainA m) (d : String) : PlainA { m with description := d } :=
  ⟨A.enum, A.const, A.multipleOf, A.exclusiveMinimum, A.exclusiveMaximum, A.minLength, A.maxLength, A.pattern,
   A.uniqueItems, A.minProperties, A.maxProperties, A.dependentRequired, A.prefixItems, A.patternProperties⟩

theorem Plain.addNull {m : Node} (P : Plain m) (an : Bool) : Plain (Go.addNull an m) := by
  unfold Go.addNull
  split
  · exact ⟨P.ref, P.dynamicRef, P.allOf, P.anyOf, P.oneOf, P.if_, P.contains, P.propertyNames, P.dependentSchemas,
      P.unevaluatedItems, P.unevaluatedProperties⟩
  · exact P

theorem PlainA.addNull {m : Node} (A : PlainA m) (an : Bool) : PlainA (Go.addNull an m) := by
  unfold Go.addNull
  split
  · exact ⟨A.enum, A.const, A.multipleOf, A.exclusiveMinimum, A.exclusiveMaximum, A.minLength, A.maxLength, A.pattern,
      A.uniqueItems, A.minProperties, A.maxProperties, A.dependentRequired, A.prefixItems, A.patternProperties⟩
  · exact A

theorem plain_basicNode (ty : String) (mn mx : Option Int) : Plain (Go.basicNode ty mn mx) ∧ PlainA (Go.basicNode ty mn mx) :=
  ⟨⟨rfl, rfl, rfl, rfl, rfl, rfl, rfl, rfl, rfl, rfl, rfl⟩, ⟨rfl, rfl, rfl, rfl, rfl, rfl, rfl, rfl, rfl, rfl, rfl, rfl, rfl, rfl⟩⟩

theorem plain_sliceNode (nfs : Bool) (eid : NodeId) : Plain (Go.sliceNode nfs eid) ∧ PlainA (Go.sliceNode nfs eid) := by
  cases nfs <;>
  exact ⟨⟨rfl, rfl, rfl, rfl, rfl, rfl, rfl, rfl, rfl, rfl, rfl⟩, ⟨rfl, rfl, rfl, rfl, rfl, rfl, rfl, rfl, rfl, rfl, rfl, rfl, rfl, rfl⟩⟩

theorem plain_arrayNode (len : Nat) (eid : NodeId) : Plain (Go.arrayNode len eid) ∧ PlainA (Go.arrayNode len eid) :=
  ⟨⟨rfl, rfl, rfl, rfl, rfl, rfl, rfl, rfl, rfl, rfl, rfl⟩, ⟨rfl, rfl, rfl, rfl, rfl, rfl, rfl, rfl, rfl, rfl, rfl, rfl, rfl, rfl⟩⟩

theorem plain_mapNode (eid : NodeId) : Plain (Go.mapNode eid) ∧ PlainA (Go.mapNode eid) :=
  ⟨⟨rfl, rfl, rfl, rfl, rfl, rfl, rfl, rfl, rfl, rfl, rfl⟩, ⟨rfl, rfl, rfl, rfl, rfl, rfl, rfl, rfl, rfl, rfl, rfl, rfl, rfl, rfl⟩⟩

theorem plain_structNode (falseId : NodeId) (props po rq) : Plain (Go.structNode falseId props po rq) ∧ PlainA (Go.structNode falseId props po rq) :=
  ⟨⟨rfl, rfl, rfl, rfl, rfl, rfl, rfl, rfl, rfl, rfl, rfl⟩, ⟨rfl, rfl, rfl, rfl, rfl, rfl, rfl, rfl, rfl, rfl, rfl, rfl, rfl, rfl⟩⟩

theorem plain_emptyNode : Plain Go.emptyNode ∧ PlainA Go.emptyNode :=
  ⟨⟨rfl, rfl, rfl, rfl, rfl, rfl, rfl, rfl, rfl, rfl, rfl⟩, ⟨rfl, rfl, rfl, rfl, rfl, rfl, rfl, rfl, rfl, rfl, rfl, rfl, rfl, rfl⟩⟩

theorem plain_falseNode (notId : NodeId) : Plain (Go.falseNode notId) ∧ PlainA (Go.falseNode notId) :=
  ⟨⟨rfl, rfl, rfl, rfl, rfl, rfl, rfl, rfl, rfl, rfl, rfl⟩, ⟨rfl, rfl, rfl, rfl, rfl, rfl, rfl, rfl, rfl, rfl, rfl, rfl, rfl, rfl⟩⟩

theorem valid_iff_isSome {o : Out} : Valid o ↔ o.map Option.isSome = some true := by
  unfold Valid
  rcases o with _ | _ | e <;> simp

theorem evalFuel_frag {st : Store} {re : String → String → Bool} {id : NodeId} {m : Node} (hn : Go.HasNode st id m)
    (P : Plain m) (f : Nat) (scope : List NodeId) (j : Json) :
    Valid (evalFuel (specEnvNoRefs st re) (f + 1) scope id j) ↔
      (Valid (kwNot (evalFuel (specEnvNoRefs st re) f (scope ++ [id])) m j) ∧
       Valid (kwItems (specEnvNoRefs st re) (evalFuel (specEnvNoRefs st re) f (scope ++ [id])) m j) ∧
       Valid (kwProps (specEnvNoRefs st re) (evalFuel (specEnvNoRefs st re) f (scope ++ [id])) m j) ∧
       asserts (specEnvNoRefs st re) m j = true) := by
  obtain ⟨d, hd⟩ := hn
  exact evalStep_plain (env := specEnvNoRefs st re) (n := { m with description := d }) rfl hd (P.desc d)

theorem typeMatches_null {j : Json} (h : typeMatches "null" j = true) : j = .null := by
  cases j with
  | null => rfl
  | num q => by_cases hq : q.den = 1 <;> simp [typeMatches, Json.typeName, hq] at h
  | _ => simp [typeMatches, Json.typeName] at h

theorem typeMatches_boolean {j : Json} (h : typeMatches "boolean" j = true) : ∃ b, j = .bool b := by
  cases j with
  | bool b => exact ⟨b, rfl⟩
  | num q => by_cases hq : q.den = 1 <;> simp [typeMatches, Json.typeName, hq] at h
  | _ => simp [typeMatches, Json.typeName] at h

theorem typeMatches_string {j : Json} (h : typeMatches "string" j = true) : ∃ s, j = .str s := by
  cases j with
  | str s => exact ⟨s, rfl⟩
  | num q => by_cases hq : q.den = 1 <;> simp [typeMatches, Json.typeName, hq] at h
  | _ => simp [typeMatches, Json.typeName] at h

theorem typeMatches_number {j : Json} (h : typeMatches "number" j = true) : ∃ q, j = .num q := by
  cases j with
  | num q => exact ⟨q, rfl⟩
  | _ => simp [typeMatches, Json.typeName] at h

theorem typeMatches_integer {j : Json} (h : typeMatches "integer" j = true) : ∃ q, j = .num q ∧ q.den = 1 := by
  cases j with
  | num q =>
    by_cases hq : q.den = 1
    · exact ⟨q, rfl, hq⟩
    · simp [typeMatches, Json.typeName, hq] at h
  | _ => simp [typeMatches, Json.typeName] at h

theorem typeMatches_array {j : Json} (h : typeMatches "array" j = true) : ∃ xs, j = .arr xs := by
  cases j with
  | arr xs => exact ⟨xs, rfl⟩
  | num q => by_cases hq : q.den = 1 <;> simp [typeMatches, Json.typeName, hq] at h
  | _ => simp [typeMatches, Json.typeName] at h

theorem typeMatches_object {j : Json} (h : typeMatches "object" j = true) : ∃ kvs, j = .obj kvs := by
  cases j with
  | obj kvs => exact ⟨kvs, rfl⟩
  | num q => by_cases hq : q.den = 1 <;> simp [typeMatches, Json.typeName, hq] at h
  | _ => simp [typeMatches, Json.typeName] at h

theorem typeMatches_number_num (q : Rat) : typeMatches "number" (.num q) = true := by
  by_cases hq : q.den = 1 <;> simp [typeMatches, Json.typeName, hq]

theorem typeMatches_integer_int (i : Int) : typeMatches "integer" (.num (i : Rat)) = true := by
  simp [typeMatches, Json.typeName]

theorem typeOk_type {m : Node} {ty : String} (h : m.type = ty) (hne : ty ≠ "") (j : Json) :
    typeOk m j = typeMatches ty j := by
  unfold typeOk
  rw [h, if_pos (by simpa using hne)]

/-- `null` added to the types: `null` is accepted as well, if there was a `type` to add it to -/
theorem typeOk_addNull_iff (an : Bool) (m : Node) (j : Json) :
    typeOk (Go.addNull an m) j = true ↔ typeOk m j = true ∨ (an = true ∧ m.type ≠ "" ∧ j = .null) := by
  unfold Go.addNull
  split
  · rename_i hc
    simp only [Bool.and_eq_true, bne_iff_ne, ne_eq] at hc
    unfold typeOk
    simp only [bne_self_eq_false, Bool.false_eq_true, if_false, List.any_cons, List.any_nil, Bool.or_false,
      Bool.or_eq_true, bne_iff_ne, ne_eq, hc.1, hc.2, not_false_eq_true, if_true, true_and]
    exact ⟨fun h => h.symm.imp id typeMatches_null, fun h => h.symm.imp (fun h => by rw [h]; rfl) id⟩
  · rename_i hc
    simp only [Bool.and_eq_true, bne_iff_ne, ne_eq, not_and] at hc
    exact ⟨Or.inl, fun h => h.elim id fun h => absurd h.2.1 (hc h.1)⟩

theorem typeOk_addNull_of_type {m : Node} {ty : String} (h : m.type = ty) (hne : ty ≠ "") (an : Bool) (j : Json) :
    typeOk (Go.addNull an m) j = true ↔ (j = .null ∧ an = true) ∨ typeMatches ty j = true := by
  rw [typeOk_addNull_iff, typeOk_type h hne, h]
  constructor
  · rintro (h | ⟨a, -, b⟩)
    · exact Or.inr h
    · exact Or.inl ⟨b, a⟩
  · rintro (⟨b, a⟩ | h)
    · exact Or.inr ⟨a, hne, b⟩
    · exact Or.inl h

theorem typeOk_addNull_null {m : Node} (h : m.types = none ∨ ∃ ts, m.types = some ts ∧ "null" ∈ ts) :
    typeOk (Go.addNull true m) .null = true := by
  unfold Go.addNull
  split
  · simp [typeOk, typeMatches, Json.typeName]
  · rename_i hc
    have ht : m.type = "" := by simpa using hc
    unfold typeOk
    simp only [ht, bne_self_eq_false, Bool.false_eq_true, if_false]
    rcases h with h | ⟨ts, h, hm⟩
    · simp [h]
    · simp only [h, List.any_eq_true]
      exact ⟨"null", hm, by simp [typeMatches, Json.typeName]⟩

end Spec

namespace EncJson
open Go Spec

/-- the table: every integer kind has type "integer"; a stated bound is the exact end of the value range, an
    unstated one is at an int64 / uint64 end -/
theorem int_table_tight {k : String} {lo hi : Int} (h : intRange k = some (lo, hi)) :
    ∃ mn mx, kindEntry k = some ("integer", mn, mx) ∧ (mn = some lo ∨ (mn = none ∧ lo = -9223372036854775808)) ∧
      (mx = some hi ∨ (mx = none ∧ 9223372036854775807 ≤ hi)) := by
  obtain ⟨-, h1, h2, h3⟩ := int_rows k (mem_intKinds_of_intRange h)
  rw [h] at h2 h3
  cases hk : kindEntry k with
  | none => rw [hk] at h1; cases h1
  | some e =>
    obtain ⟨ty, mn, mx⟩ := e
    rw [hk] at h1 h2 h3
    cases h1
    exact ⟨mn, mx, rfl, by simpa using h2, by simpa using h3⟩

/-- … so whatever bounds the table states contain the value range -/
theorem int_table {k : String} {lo hi : Int} (h : intRange k = some (lo, hi)) :
    ∃ mn mx, kindEntry k = some ("integer", mn, mx) ∧ (∀ m, mn = some m → m ≤ lo) ∧ (∀ m, mx = some m → hi ≤ m) := by
  obtain ⟨mn, mx, hk, h1, h2⟩ := int_table_tight h
  refine ⟨mn, mx, hk, fun m hm => ?_, fun m hm => ?_⟩
  · rcases h1 with rfl | ⟨rfl, _⟩
    · cases hm; exact Int.le_refl _
    · cases hm
  · rcases h2 with rfl | ⟨rfl, _⟩
    · cases hm; exact Int.le_refl _
    · cases hm

theorem addNull_fields (an : Bool) (m : Node) :
    (addNull an m).minimum = m.minimum ∧ (addNull an m).maximum = m.maximum ∧ (addNull an m).minItems = m.minItems ∧
    (addNull an m).maxItems = m.maxItems ∧ (addNull an m).required = m.required ∧ (addNull an m).items = m.items ∧
    (addNull an m).properties = m.properties ∧ (addNull an m).additionalProperties = m.additionalProperties ∧
    (addNull an m).not = m.not := by
  unfold addNull
  split <;> exact ⟨rfl, rfl, rfl, rfl, rfl, rfl, rfl, rfl, rfl⟩

theorem kw_addNull (env : Spec.Env) (sub : NodeId → Json → Out) (an : Bool) (m : Node) (j : Json) :
    kwNot sub (addNull an m) j = kwNot sub m j ∧ kwItems env sub (addNull an m) j = kwItems env sub m j ∧
    kwProps env sub (addNull an m) j = kwProps env sub m j := by
  unfold addNull
  split <;> exact ⟨rfl, rfl, rfl⟩

theorem basicNode_minimum (ty : String) (mn mx : Option Int) (m : Rat) :
    (basicNode ty mn mx).minimum = some m ↔ ∃ i, mn = some i ∧ m = (i : Rat) := by
  cases mn with
  | none => simp [basicNode]
  | some i =>
    show (some ((i : Int) : Rat) = some m) ↔ _
    simp only [Option.some.injEq, exists_eq_left']
    constructor
    · intro h; exact h.symm
    · intro h; exact h.symm

theorem basicNode_maximum (ty : String) (mn mx : Option Int) (m : Rat) :
    (basicNode ty mn mx).maximum = some m ↔ ∃ i, mx = some i ∧ m = (i : Rat) := by
  cases mx with
  | none => simp [basicNode]
  | some i =>
    show (some ((i : Int) : Rat) = some m) ↔ _
    simp only [Option.some.injEq, exists_eq_left']
    constructor
    · intro h; exact h.symm
    · intro h; exact h.symm

/-- **a schema object of the fragment without `not`**, with `null` added to its types or not: what it accepts -/
theorem valid_frag_iff {st : Store} {re : String → String → Bool} {id : NodeId} {m : Node} {an : Bool}
    (hn : HasNode st id (addNull an m)) (P : Plain m) (A : PlainA m) (hnot : m.not = none)
    (f : Nat) (sc : List NodeId) (j : Json) :
    Valid (evalFuel (specEnvNoRefs st re) (f + 1) sc id j) ↔
      typeOk (addNull an m) j = true ∧
      (∀ q, j = .num q → (∀ b, m.minimum = some b → b ≤ q) ∧ (∀ b, m.maximum = some b → q ≤ b)) ∧
      (∀ xs, j = .arr xs →
        ((∀ b, m.minItems = some b → b ≤ (xs.length : Int)) ∧ (∀ b, m.maxItems = some b → (xs.length : Int) ≤ b)) ∧
        ∀ eid, m.items = some eid → ∀ x, x ∈ xs → Valid (evalFuel (specEnvNoRefs st re) f (sc ++ [id]) eid x)) ∧
      (∀ kvs, j = .obj kvs →
        (∀ k, k ∈ m.required.getD [] → (Json.lookup k kvs).isSome = true) ∧
        PropsValid (evalFuel (specEnvNoRefs st re) f (sc ++ [id])) m kvs) := by
  obtain ⟨h1, h2, h3, h4, h5, -⟩ := addNull_fields an m
  obtain ⟨k1, k2, k3⟩ := kw_addNull (specEnvNoRefs st re) (evalFuel (specEnvNoRefs st re) f (sc ++ [id])) an m j
  rw [evalFuel_frag hn (P.addNull an) f sc j, asserts_plain rfl (A.addNull an), h1, h2, h3, h4, h5, k1, k2, k3,
    kwItems_valid_iff rfl A.prefixItems, kwProps_valid_iff A.patternProperties]
  constructor
  · rintro ⟨-, hi, hp, ht, hb, hl, hr⟩
    exact ⟨ht, hb, fun xs hx => ⟨hl xs hx, hi xs hx⟩, fun kvs hk => ⟨hr kvs hk, hp kvs hk⟩⟩
  · rintro ⟨ht, hb, ha, ho⟩
    exact ⟨⟨_, Laws.kwNot_absent _ _ j hnot⟩, fun xs hx => (ha xs hx).2, fun kvs hk => (ho kvs hk).2, ht, hb,
      fun xs hx => (ha xs hx).1, fun kvs hk => (ho kvs hk).1⟩

theorem empty_valid {st : Store} {re : String → String → Bool} {notId : NodeId} (hn : HasNode st notId emptyNode)
    (f : Nat) (scope : List NodeId) (j : Json) : Valid (evalFuel (specEnvNoRefs st re) (f + 1) scope notId j) :=
  (valid_frag_iff (an := false) hn plain_emptyNode.1 plain_emptyNode.2 rfl f scope j).2
    ⟨rfl, fun _ _ => ⟨fun _ h => (nomatch h), fun _ h => (nomatch h)⟩,
      fun _ _ => ⟨⟨fun _ h => (nomatch h), fun _ h => (nomatch h)⟩, fun _ h => (nomatch h)⟩,
      fun _ _ => ⟨fun _ h => (nomatch h), fun _ _ => ⟨fun _ h => (nomatch h), fun _ _ h => (nomatch h)⟩⟩⟩

/-- `{"not": {}}` accepts nothing -/
theorem false_not_valid {st : Store} {re : String → String → Bool} {notId falseId : NodeId}
    (hnot : HasNode st notId emptyNode) (hfalse : HasNode st falseId (falseNode notId))
    (f : Nat) (scope : List NodeId) (j : Json) : ¬ Valid (evalFuel (specEnvNoRefs st re) f scope falseId j) := by
  intro hv
  obtain ⟨f, rfl⟩ := valid_fuel_pos hv
  obtain ⟨⟨e, hk⟩, _⟩ := (evalFuel_frag hfalse (plain_falseNode notId).1 f scope j).1 hv
  have hk' : kwNot (evalFuel (specEnvNoRefs st re) f (scope ++ [falseId])) (falseNode notId) j =
      (evalFuel (specEnvNoRefs st re) f (scope ++ [falseId]) notId j).map fun r => if r.isSome then none else some {} := rfl
  rw [hk'] at hk
  cases f with
  | zero => cases hk
  | succ f =>
    obtain ⟨e', he'⟩ := empty_valid (re := re) hnot f (scope ++ [falseId]) j
    rw [he'] at hk
    cases hk

theorem valid_basicNode {st : Store} {re : String → String → Bool} {id : NodeId} {ty : String} {mn mx : Option Int}
    {an : Bool} (hn : HasNode st id (addNull an (basicNode ty mn mx))) (f : Nat) (sc : List NodeId) (j : Json) :
    Valid (evalFuel (specEnvNoRefs st re) (f + 1) sc id j) ↔
      typeOk (addNull an (basicNode ty mn mx)) j = true ∧
      ∀ q, j = .num q → (∀ i, mn = some i → (i : Rat) ≤ q) ∧ (∀ i, mx = some i → q ≤ (i : Rat)) := by
  have PA := plain_basicNode ty mn mx
  rw [valid_frag_iff hn PA.1 PA.2 rfl]
  constructor
  · rintro ⟨ht, hb, -, -⟩
    refine ⟨ht, fun q hq => ⟨fun i hi => ?_, fun i hi => ?_⟩⟩
    · exact (hb q hq).1 _ ((basicNode_minimum _ _ _ _).2 ⟨i, hi, rfl⟩)
    · exact (hb q hq).2 _ ((basicNode_maximum _ _ _ _).2 ⟨i, hi, rfl⟩)
  · rintro ⟨ht, hb⟩
    refine ⟨ht, fun q hq => ⟨fun b hm => ?_, fun b hm => ?_⟩, fun xs _ => ?_, fun kvs _ => ?_⟩
    · obtain ⟨i, hi, rfl⟩ := (basicNode_minimum _ _ _ _).1 hm
      exact (hb q hq).1 i hi
    · obtain ⟨i, hi, rfl⟩ := (basicNode_maximum _ _ _ _).1 hm
      exact (hb q hq).2 i hi
    · exact ⟨⟨fun _ h => (nomatch h), fun _ h => (nomatch h)⟩, fun _ h => (nomatch h)⟩
    · exact ⟨fun _ h => (nomatch h), fun p _ => ⟨fun _ h => (nomatch h), fun _ _ h => (nomatch h)⟩⟩

theorem typeOk_sliceNode (an nfs : Bool) (eid : NodeId) (j : Json) :
    typeOk (addNull an (sliceNode nfs eid)) j = true ↔
      (j = .null ∧ (an = true ∨ nfs = true)) ∨ typeMatches "array" j = true := by
  cases nfs
  · rw [typeOk_addNull_of_type (ty := "array") rfl (by decide)]
    simp only [Bool.false_eq_true, or_false]
  · rw [typeOk_addNull_iff]
    show (typeMatches "null" j || (typeMatches "array" j || false)) = true ∨ (an = true ∧ "" ≠ "" ∧ j = .null) ↔ _
    simp only [Bool.or_false, Bool.or_eq_true, ne_eq, not_true_eq_false, false_and, and_false, or_false, or_true,
      and_true]
    exact ⟨fun h => h.imp typeMatches_null id, fun h => h.imp (fun h => by rw [h]; rfl) id⟩

/-- a slice: `null` (with `nullForSlices`, or through a pointer) or an array of elements -/
theorem valid_sliceNode {st : Store} {re : String → String → Bool} {id eid : NodeId} {nfs an : Bool}
    (hn : HasNode st id (addNull an (sliceNode nfs eid))) (f : Nat) (sc : List NodeId) (j : Json) :
    Valid (evalFuel (specEnvNoRefs st re) (f + 1) sc id j) ↔
      (j = .null ∧ (an = true ∨ nfs = true)) ∨
      ∃ xs, j = .arr xs ∧ ∀ x, x ∈ xs → Valid (evalFuel (specEnvNoRefs st re) f (sc ++ [id]) eid x) := by
  have PA := plain_sliceNode nfs eid
  have hi : (sliceNode nfs eid).items = some eid := by cases nfs <;> rfl
  rw [valid_frag_iff hn PA.1 PA.2 (by cases nfs <;> rfl), typeOk_sliceNode]
  constructor
  · rintro ⟨hnull | ht, -, ha, -⟩
    · exact Or.inl hnull
    · obtain ⟨xs, rfl⟩ := typeMatches_array ht
      exact Or.inr ⟨xs, rfl, (ha xs rfl).2 eid hi⟩
  · rintro (⟨rfl, han⟩ | ⟨xs, rfl, he⟩)
    · exact ⟨Or.inl ⟨rfl, han⟩, fun _ h => (nomatch h), fun _ h => (nomatch h), fun _ h => (nomatch h)⟩
    · refine ⟨Or.inr rfl, fun _ h => (nomatch h), fun xs' h => ?_, fun _ h => (nomatch h)⟩
      cases h
      refine ⟨⟨fun b hb => ?_, fun b hb => ?_⟩, fun eid' h' => ?_⟩
      · cases nfs <;> cases hb
      · cases nfs <;> cases hb
      · rw [hi] at h'; cases h'; exact he

/-- a Go array: `null` through a pointer, or an array of elements of the exact length -/
theorem valid_arrayNode {st : Store} {re : String → String → Bool} {id eid : NodeId} {len : Nat} {an : Bool}
    (hn : HasNode st id (addNull an (arrayNode len eid))) (f : Nat) (sc : List NodeId) (j : Json) :
    Valid (evalFuel (specEnvNoRefs st re) (f + 1) sc id j) ↔
      (j = .null ∧ an = true) ∨
      ∃ xs, j = .arr xs ∧ xs.length = len ∧ ∀ x, x ∈ xs → Valid (evalFuel (specEnvNoRefs st re) f (sc ++ [id]) eid x) := by
  have PA := plain_arrayNode len eid
  rw [valid_frag_iff hn PA.1 PA.2 rfl, typeOk_addNull_of_type (ty := "array") rfl (by decide)]
  constructor
  · rintro ⟨hnull | ht, -, ha, -⟩
    · exact Or.inl hnull
    · obtain ⟨xs, rfl⟩ := typeMatches_array ht
      obtain ⟨⟨h1, h2⟩, he⟩ := ha xs rfl
      have a := h1 len rfl
      have b := h2 len rfl
      exact Or.inr ⟨xs, rfl, by omega, he eid rfl⟩
  · rintro (⟨rfl, han⟩ | ⟨xs, rfl, hlen, he⟩)
    · exact ⟨Or.inl ⟨rfl, han⟩, fun _ h => (nomatch h), fun _ h => (nomatch h), fun _ h => (nomatch h)⟩
    · refine ⟨Or.inr rfl, fun _ h => (nomatch h), fun xs' h => ?_, fun _ h => (nomatch h)⟩
      cases h
      refine ⟨⟨fun b hb => ?_, fun b hb => ?_⟩, fun eid' h' => ?_⟩
      · cases hb; rw [hlen]; exact Int.le_refl _
      · cases hb; rw [hlen]; exact Int.le_refl _
      · cases h'; exact he

theorem valid_mapNode {st : Store} {re : String → String → Bool} {id eid : NodeId} {an : Bool}
    (hn : HasNode st id (addNull an (mapNode eid))) (f : Nat) (sc : List NodeId) (j : Json) :
    Valid (evalFuel (specEnvNoRefs st re) (f + 1) sc id j) ↔
      (j = .null ∧ an = true) ∨
      ∃ kvs, j = .obj kvs ∧ ∀ p, p ∈ kvs → Valid (evalFuel (specEnvNoRefs st re) f (sc ++ [id]) eid p.2) := by
  have PA := plain_mapNode eid
  rw [valid_frag_iff hn PA.1 PA.2 rfl, typeOk_addNull_of_type (ty := "object") rfl (by decide)]
  constructor
  · rintro ⟨hnull | ht, -, -, ho⟩
    · exact Or.inl hnull
    · obtain ⟨kvs, rfl⟩ := typeMatches_object ht
      exact Or.inr ⟨kvs, rfl, fun p hp => ((ho kvs rfl).2 p hp).2 rfl eid rfl⟩
  · rintro (⟨rfl, han⟩ | ⟨kvs, rfl, he⟩)
    · exact ⟨Or.inl ⟨rfl, han⟩, fun _ h => (nomatch h), fun _ h => (nomatch h), fun _ h => (nomatch h)⟩
    · refine ⟨Or.inr rfl, fun _ h => (nomatch h), fun _ h => (nomatch h), fun kvs' h => ?_⟩
      cases h
      refine ⟨fun k hk => (nomatch hk), fun p hp => ⟨fun t ht => (nomatch ht), fun _ t ht => ?_⟩⟩
      cases ht
      exact he p hp

/-- a struct: `null` through a pointer, or an object in which the always-written fields are there and every member has a
    property schema and is valid against it (`additionalProperties` is the false schema) -/
theorem valid_structNode {st : Store} {re : String → String → Bool} {id notId falseId : NodeId}
    {props : Option (List (String × NodeId))} {po rq : Option (List String)} {an : Bool}
    (hnot : HasNode st notId emptyNode) (hfalse : HasNode st falseId (falseNode notId))
    (hn : HasNode st id (addNull an (structNode falseId props po rq))) (f : Nat) (sc : List NodeId) (j : Json) :
    Valid (evalFuel (specEnvNoRefs st re) (f + 1) sc id j) ↔
      (j = .null ∧ an = true) ∨
      ∃ kvs, j = .obj kvs ∧ (∀ k, k ∈ rq.getD [] → (Json.lookup k kvs).isSome = true) ∧
        ∀ p, p ∈ kvs → ∃ t, Json.lookup p.1 (props.getD []) = some t ∧
          Valid (evalFuel (specEnvNoRefs st re) f (sc ++ [id]) t p.2) := by
  have PA := plain_structNode falseId props po rq
  rw [valid_frag_iff hn PA.1 PA.2 rfl, typeOk_addNull_of_type (ty := "object") rfl (by decide)]
  constructor
  · rintro ⟨hnull | ht, -, -, ho⟩
    · exact Or.inl hnull
    · obtain ⟨kvs, rfl⟩ := typeMatches_object ht
      refine Or.inr ⟨kvs, rfl, (ho kvs rfl).1, fun p hp => ?_⟩
      obtain ⟨hnamed, hadd⟩ := (ho kvs rfl).2 p hp
      cases hl : Json.lookup p.1 (props.getD []) with
      | none => exact absurd (hadd hl falseId rfl) (false_not_valid hnot hfalse f _ p.2)
      | some t => exact ⟨t, rfl, hnamed t hl⟩
  · rintro (⟨rfl, han⟩ | ⟨kvs, rfl, hr, he⟩)
    · exact ⟨Or.inl ⟨rfl, han⟩, fun _ h => (nomatch h), fun _ h => (nomatch h), fun _ h => (nomatch h)⟩
    · refine ⟨Or.inr rfl, fun _ h => (nomatch h), fun _ h => (nomatch h), fun kvs' h => ?_⟩
      cases h
      refine ⟨hr, fun p hp => ?_⟩
      obtain ⟨t, hl, hv⟩ := he p hp
      refine ⟨fun t' ht' => ?_, fun hnone => ?_⟩
      · rw [show (structNode falseId props po rq).properties.getD [] = props.getD [] from rfl, hl] at ht'
        cases ht'
        exact hv
      · rw [show (structNode falseId props po rq).properties.getD [] = props.getD [] from rfl, hl] at hnone
        cases hnone

theorem basic_sound {st : Store} {re : String → String → Bool} {kind ty : String} {mn mx : Option Int}
    (hk : kindEntry kind = some (ty, mn, mx)) {an : Bool} {id : NodeId}
    (hn : HasNode st id (addNull an (basicNode ty mn mx))) (f : Nat) (sc : List NodeId) :
    (an = true → Valid (evalFuel (specEnvNoRefs st re) (f + 1) sc id .null)) ∧
    ∀ v, basicHasType kind v → Valid (evalFuel (specEnvNoRefs st re) (f + 1) sc id (encode (.basic kind) v)) := by
  refine ⟨fun han => ?_, fun v hv => ?_⟩
  · subst han
    exact (valid_basicNode hn f sc .null).2 ⟨typeOk_addNull_null (Or.inl rfl), fun _ h => (nomatch h)⟩
  · rw [valid_basicNode hn, typeOk_addNull_iff]
    cases v with
    | bool b =>
      obtain rfl : kind = "Bool" := hv
      rw [kind_rows.1] at hk; cases hk
      exact ⟨Or.inl rfl, fun _ h => (nomatch h)⟩
    | str s =>
      obtain rfl : kind = "String" := hv
      rw [kind_rows.2.1] at hk; cases hk
      exact ⟨Or.inl rfl, fun _ h => (nomatch h)⟩
    | float q =>
      rw [kind_rows.2.2.2 kind hv] at hk; cases hk
      exact ⟨Or.inl (typeMatches_number_num q), fun _ _ => ⟨fun _ h => (nomatch h), fun _ h => (nomatch h)⟩⟩
    | int i =>
      obtain ⟨lo, hi, hr, hlo, hhi⟩ : ∃ lo hi, intRange kind = some (lo, hi) ∧ lo ≤ i ∧ i ≤ hi := hv
      obtain ⟨mn', mx', hke, hmn, hmx⟩ := int_table hr
      rw [hke] at hk; cases hk
      refine ⟨Or.inl (typeMatches_integer_int i), fun q hq => ?_⟩
      cases hq
      exact ⟨fun m hm => Rat.intCast_le_intCast.2 (Int.le_trans (hmn m hm) hlo),
        fun m hm => Rat.intCast_le_intCast.2 (Int.le_trans hhi (hmx m hm))⟩
    | iface j =>
      obtain ⟨rfl, _⟩ : kind = "Interface" ∧ Json.WF j = true := hv
      rw [kind_rows.2.2.1] at hk; cases hk
      exact ⟨Or.inl rfl, fun _ _ => ⟨fun _ h => (nomatch h), fun _ h => (nomatch h)⟩⟩
    | _ => exact (hv : False).elim

theorem depth_pos : ∀ T : GoType, 1 ≤ depth T
  | .basic _ => by simp [depth]
  | .ptr e => by simp only [depth]; exact depth_pos e
  | .slice e => by simp [depth]
  | .array _ e => by simp [depth]
  | .map _ e => by simp [depth]
  | .struct fs => by simp [depth]
  | .named _ u => by simp [depth]
  | .ref _ => by simp [depth]

theorem encodeFields_required : ∀ (fields : List (String × String × GoType)) (vs : List GoValue),
    HasTypeFields fields vs → ∀ k, k ∈ alwaysNames fields → (Json.lookup k (encodeFields fields vs)).isSome = true
  | [], _, _, k, hk => by simp [alwaysNames] at hk
  | f :: rest, vs, hv, k, hk => by
    simp only [HasTypeFields] at hv
    cases vs with
    | nil => exact hv.elim
    | cons v vs' =>
      simp only at hv
      rw [alwaysNames_cons] at hk
      simp only [encodeFields]
      have ih := encodeFields_required rest vs' hv.2 k
      split at hk
      · split
        · exact ih hk
        · simp only [Json.lookup_cons]
          split
          · rfl
          · exact ih hk
      · rename_i hflags
        have hskip : fieldSkipped (fieldJSONInfo f.1 f.2.1) v = false := by
          simp only [Bool.or_eq_true, not_or, Bool.not_eq_true] at hflags
          simp [fieldSkipped, hflags.1.1, hflags.1.2, hflags.2]
        simp only [hskip, Bool.false_eq_true, if_false, Json.lookup_cons]
        rcases List.mem_cons.1 hk with rfl | hk
        · simp
        · split
          · rfl
          · exact ih hk

mutual
  /-- **the schema accepts every encoded value**, and `null` where a pointer was stripped.  For `nullForSlices = true` only:
      json.Marshal writes a nil slice as `null`, which `{"type":"array"}` rejects. -/
  theorem Models.sound {st : Store} {re : String → String → Bool} : ∀ (T : GoType) (an : Bool) (id : NodeId),
      Models true st T an id → ∀ (f : Nat) (scope : List NodeId), depth T ≤ f →
      (an = true → Valid (evalFuel (specEnvNoRefs st re) f scope id .null)) ∧
      ∀ v, HasType T v → Valid (evalFuel (specEnvNoRefs st re) f scope id (encode T v))
    | .basic kind, an, id, hm, f, scope, hf => by
      obtain ⟨f, rfl⟩ := Nat.exists_eq_add_one.2 (Nat.le_trans (depth_pos _) hf)
      simp only [Models] at hm
      obtain ⟨ty, mn, mx, hk, hn⟩ := hm
      exact basic_sound hk hn f scope
    | .ptr e, an, id, hm, f, scope, hf => by
      simp only [Models] at hm
      simp only [depth] at hf
      obtain ⟨h1, h2⟩ := Models.sound e true id hm f scope hf
      refine ⟨fun _ => h1 rfl, fun v hv => ?_⟩
      simp only [HasType] at hv
      cases v with
      | nilPtr => simp only [encode]; exact h1 rfl
      | ptr w => simp only [encode]; exact h2 w hv
      | _ => exact hv.elim
    | .slice e, an, id, hm, f, scope, hf => by
      obtain ⟨f, rfl⟩ := Nat.exists_eq_add_one.2 (Nat.le_trans (depth_pos _) hf)
      simp only [Models] at hm
      simp only [depth, Nat.add_le_add_iff_right] at hf
      obtain ⟨eid, he, hn⟩ := hm
      have hnull := (valid_sliceNode (re := re) hn f scope .null).2 (Or.inl ⟨rfl, Or.inr rfl⟩)
      refine ⟨fun _ => hnull, fun v hv => ?_⟩
      simp only [HasType] at hv
      cases v with
      | nilSlice => simp only [encode]; exact hnull
      | slice vs =>
        simp only [encode]
        refine (valid_sliceNode hn f scope _).2 (Or.inr ⟨_, rfl, fun x hx => ?_⟩)
        obtain ⟨w, hw, rfl⟩ := List.mem_map.1 hx
        exact (Models.sound e false eid he f _ hf).2 w (hv w hw)
      | _ => exact hv.elim
    | .array len e, an, id, hm, f, scope, hf => by
      obtain ⟨f, rfl⟩ := Nat.exists_eq_add_one.2 (Nat.le_trans (depth_pos _) hf)
      simp only [Models] at hm
      simp only [depth, Nat.add_le_add_iff_right] at hf
      obtain ⟨eid, he, hn⟩ := hm
      refine ⟨fun han => (valid_arrayNode hn f scope .null).2 (Or.inl ⟨rfl, han⟩), fun v hv => ?_⟩
      simp only [HasType] at hv
      cases v with
      | array vs =>
        simp only [encode]
        refine (valid_arrayNode hn f scope _).2 (Or.inr ⟨_, rfl, by rw [List.length_map]; exact hv.1, fun x hx => ?_⟩)
        obtain ⟨w, hw, rfl⟩ := List.mem_map.1 hx
        exact (Models.sound e false eid he f _ hf).2 w (hv.2 w hw)
      | _ => exact hv.elim
    | .map kk e, an, id, hm, f, scope, hf => by
      obtain ⟨f, rfl⟩ := Nat.exists_eq_add_one.2 (Nat.le_trans (depth_pos _) hf)
      simp only [Models] at hm
      simp only [depth, Nat.add_le_add_iff_right] at hf
      obtain ⟨eid, he, hn⟩ := hm
      refine ⟨fun han => (valid_mapNode hn f scope .null).2 (Or.inl ⟨rfl, han⟩), fun v hv => ?_⟩
      simp only [HasType] at hv
      cases v with
      | map kvs =>
        simp only [encode]
        refine (valid_mapNode hn f scope _).2 (Or.inr ⟨_, rfl, fun p hp => ?_⟩)
        obtain ⟨q, hq, rfl⟩ := List.mem_map.1 hp
        exact (Models.sound e false _ he f _ hf).2 q.2 (hv.2 q hq)
      | _ => exact hv.elim
    | .struct fields, an, id, hm, f, scope, hf => by
      obtain ⟨f, rfl⟩ := Nat.exists_eq_add_one.2 (Nat.le_trans (depth_pos _) hf)
      simp only [Models] at hm
      simp only [depth, Nat.add_le_add_iff_right] at hf
      obtain ⟨notId, falseId, props, po, rq, hnot, hfalse, hn, hrq, _, hmf⟩ := hm
      refine ⟨fun han => (valid_structNode hnot hfalse hn f scope .null).2 (Or.inl ⟨rfl, han⟩), fun v hv => ?_⟩
      simp only [HasType] at hv
      cases v with
      | struct vs =>
        simp only [encode]
        refine (valid_structNode hnot hfalse hn f scope _).2 (Or.inr ⟨_, rfl, fun k hk => ?_, fun p hp => ?_⟩)
        · rw [hrq] at hk
          exact encodeFields_required fields vs hv k hk
        · exact ModelsFields.sound fields (props.getD []) hmf f (scope ++ [id]) hf vs hv p hp
      | _ => exact hv.elim
    | .named _ u, an, id, hm, f, scope, hf => by
      simp only [Models] at hm
      simp only [depth] at hf
      obtain ⟨h1, h2⟩ := hm st (DExt.refl st) re f scope hf
      exact ⟨h1, fun v hv => by simp only [HasType] at hv; simp only [encode]; exact h2 v hv⟩
    | .ref _, _, _, hm, _, _, _ => by simp only [Models] at hm
  theorem ModelsFields.sound {st : Store} {re : String → String → Bool} : ∀ (fields : List (String × String × GoType))
      (props : List (String × NodeId)), ModelsFields true st fields props → ∀ (f : Nat) (scope : List NodeId),
      depthFields fields ≤ f → ∀ vs, HasTypeFields fields vs → ∀ p, p ∈ encodeFields fields vs →
      ∃ fid, Json.lookup p.1 props = some fid ∧ Valid (evalFuel (specEnvNoRefs st re) f scope fid p.2)
    | [], _, _, _, _, _, _, _, p, hp => by simp [encodeFields] at hp
    | g :: rest, props, hm, f, scope, hf, vs, hv, p, hp => by
      simp only [ModelsFields] at hm
      simp only [HasTypeFields] at hv
      simp only [depthFields, Nat.max_le] at hf
      cases vs with
      | nil => exact hv.elim
      | cons v vs' =>
        simp only at hv
        simp only [encodeFields] at hp
        have ih := ModelsFields.sound (re := re) rest props hm.2 f scope hf.2 vs' hv.2 p
        split at hp
        · exact ih hp
        · rename_i hskip
          rcases List.mem_cons.1 hp with rfl | hp
          · rcases hm.1 with ho | ⟨fid, hl, hmod⟩
            · simp [fieldSkipped, ho] at hskip
            · have hty : HasType g.2.2 v := by
                rcases hv.1 with ho | hty
                · simp [fieldSkipped, ho] at hskip
                · exact hty
              exact ⟨fid, hl, (Models.sound g.2.2 false fid hmod f scope hf.1).2 v hty⟩
          · exact ih hp
end

end EncJson
end JSV
