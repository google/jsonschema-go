/-
  Validity is invariant under a renaming of node ids, a reordering of the maps of the schema objects and a reordering of
  the members of the objects of the instance — all at once: `SpecSim.evalFuel_rel`.

  Two environments are compared along a relation `R` on node ids (`EnvRel`: related ids hold schema objects that look
  alike, `NodeRel`, and the resolution tables send related ids to related ids), on instances related by `J`.  How far
  lists may differ is a parameter `P` (`ListCong`), and with it what is concluded of the evaluated sets, `E` (`EvCong`),
  and what `J` may be (`InstCong`):
  * `P = Eq`, `E = Eq`, `J = Eq`: the same outcome (`Iso.evalFuel_sim`, in IsoValid: the ids move, nothing else does);
  * `P = List.Perm`, `E = EvEqv`, `J = JRW`: the same outcome up to the order in which evaluated properties are listed
    (`Inv.evalFuel_sim`, in SpecSimPerm: the ids stay, maps and instance members are reordered).
  One walk over the keywords (`kw*_rel`), one step (`specBody_sub`), one induction on the fuel.
-/
import JSV.Proofs.InvPermStore
namespace JSV
namespace SpecSim
open JSV.Inv
open Go.RIso (KRel)

/-- What the simulation needs of the way two instances are allowed to differ: arrays member by member, objects member by
    member after a `P`-rearrangement, anything else not at all.  `Eq`; `JRW` (`permJson`, the left instance without
    duplicate keys) with `List.Perm`. -/
structure InstCong (P : ∀ {α : Type}, List α → List α → Prop) (J : Json → Json → Prop) : Prop where
  cases : ∀ {j1 j2}, J j1 j2 →
    (∃ xs ys, j1 = .arr xs ∧ j2 = .arr ys ∧ All₂ J xs ys) ∨
    (∃ k1 k2, j1 = .obj k1 ∧ j2 = .obj k2 ∧ PRg P (KRel J) k1 k2) ∨
    (j2 = j1 ∧ (∀ xs, j1 ≠ .arr xs) ∧ ∀ kvs, j1 ≠ .obj kvs)
  str : ∀ k, J (.str k) (.str k)

theorem InstCong.ofEq : InstCong (fun {α} (a b : List α) => a = b) Eq where
  cases := fun {j1 j2} h => by
    subst h
    cases j1 with
    | arr xs => exact Or.inl ⟨xs, xs, rfl, rfl, All₂.refl fun _ _ => rfl⟩
    | obj k => exact Or.inr (Or.inl ⟨k, k, rfl, rfl, k, rfl, All₂.refl fun _ _ => ⟨rfl, rfl⟩⟩)
    | _ => exact Or.inr (Or.inr ⟨rfl, nofun, nofun⟩)
  str _ := rfl

theorem InstCong.ofPerm : InstCong (fun {α} (a b : List α) => a.Perm b) JRW where
  cases h := permJson_cases h.1 h.2
  str _ := ⟨permJson_refl _, rfl⟩

def SubRel (R : NodeId → NodeId → Prop) (J : Json → Json → Prop) (E : Spec.Ev → Spec.Ev → Prop)
    (sub1 sub2 : NodeId → Json → Spec.Out) : Prop :=
  ∀ t1 t2 j1 j2, R t1 t2 → J j1 j2 → OutRel E (sub1 t1 j1) (sub2 t2 j2)

theorem kwAllOf_getD (sub : NodeId → Json → Spec.Out) (n : Node) (j : Json) :
    Spec.kwAllOf sub n j = (Spec.sequence ((n.allOf.getD []).map fun t => sub t j)).map Spec.conj := by
  unfold Spec.kwAllOf
  cases n.allOf <;> rfl

section
variable {P : ∀ {α : Type}, List α → List α → Prop} {E : Spec.Ev → Spec.Ev → Prop} {J : Json → Json → Prop}
  {R : NodeId → NodeId → Prop} (hP : ListCong P) (hE : EvCong P E) (hJ : InstCong P J)
  {sub1 sub2 : NodeId → Json → Spec.Out} (hs : SubRel R J E sub1 sub2) {j1 j2 : Json} (hj : J j1 j2)

section
include hE hs hj

theorem inPlace_rel {p1 p2 : Bool} (hp : p1 = p2) {t1 t2 : Option NodeId} (ht : p1 = true → OptRel R t1 t2) :
    OutRel E (Spec.inPlace sub1 p1 t1 j1) (Spec.inPlace sub2 p2 t2 j2) := by
  subst hp
  unfold Spec.inPlace
  cases p1 with
  | false => exact hE.refl {}
  | true =>
    rcases (ht rfl).inv with ⟨rfl, rfl⟩ | ⟨a, b, rfl, rfl, h⟩
    · trivial
    · exact hs _ _ _ _ h hj

theorem kwRef_rel {e1 e2 : Spec.Env} {s1 s2 : NodeId} {n1 n2 : Node} (href : n1.ref = n2.ref)
    (ht : n1.ref ≠ "" → OptRel R (e1.refTarget s1) (e2.refTarget s2)) :
    OutRel E (Spec.kwRef e1 sub1 s1 n1 j1) (Spec.kwRef e2 sub2 s2 n2 j2) := by
  unfold Spec.kwRef
  refine inPlace_rel hE hs hj (by rw [href]) fun h => ht fun h0 => ?_
  rw [h0] at h
  exact absurd h (by decide)

theorem kwDynamicRef_rel {e1 e2 : Spec.Env} {sc1 sc2 : List NodeId} {s1 s2 : NodeId} {n1 n2 : Node}
    (hdr : n1.dynamicRef = n2.dynamicRef)
    (hd : n1.dynamicRef ≠ "" → OptRel R (e1.dynInitial s1) (e2.dynInitial s2) ∧ e1.dynName s1 = e2.dynName s2 ∧
      OptRel R (Spec.dynTarget e1 sc1 (e1.dynName s1)) (Spec.dynTarget e2 sc2 (e1.dynName s1))) :
    OutRel E (Spec.kwDynamicRef e1 sub1 sc1 s1 n1 j1) (Spec.kwDynamicRef e2 sub2 sc2 s2 n2 j2) := by
  unfold Spec.kwDynamicRef
  rw [← hdr]
  by_cases h : (n1.dynamicRef != "") = true
  · rw [if_pos h, if_pos h]
    obtain ⟨hi, hn, ht⟩ := hd fun h0 => by rw [h0] at h; exact absurd h (by decide)
    rw [← hn]
    rcases hi.inv with ⟨e1', e2'⟩ | ⟨i1, i2, e1', e2', hi⟩ <;> rw [e1', e2']
    · trivial
    dsimp only
    refine hs _ _ _ _ ?_ hj
    split
    · exact hi
    · rcases ht.inv with ⟨e3, e4⟩ | ⟨d1, d2, e3, e4, ht⟩ <;> rw [e3, e4]
      · exact hi
      · exact ht
  · rw [if_neg h, if_neg h]
    exact hE.refl _

theorem kwNot_rel {n1 n2 : Node} (h : OptRel R n1.not n2.not) :
    OutRel E (Spec.kwNot sub1 n1 j1) (Spec.kwNot sub2 n2 j2) := by
  unfold Spec.kwNot
  rcases h.inv with ⟨e1, e2⟩ | ⟨a, b, e1, e2, hab⟩ <;> rw [e1, e2]
  · exact hE.refl {}
  · refine OptRel.map (hs _ _ _ _ hab hj) fun r1 r2 hr => ?_
    rw [OptRel.isSome_eq hr]
    split
    · trivial
    · exact hE.refl {}

theorem kwIf_rel {n1 n2 : Node} (hi : OptRel R n1.if_ n2.if_) (ht : OptRel R n1.then_ n2.then_)
    (he : OptRel R n1.else_ n2.else_) : OutRel E (Spec.kwIf sub1 n1 j1) (Spec.kwIf sub2 n2 j2) := by
  unfold Spec.kwIf
  rcases hi.inv with ⟨e1, e2⟩ | ⟨a, b, e1, e2, hab⟩ <;> rw [e1, e2]
  · exact hE.refl {}
  dsimp only
  rcases (hs _ _ _ _ hab hj).inv with ⟨e3, e4⟩ | ⟨rc1, rc2, e3, e4, hc⟩ <;> rw [e3, e4]
  · trivial
  · have hev : E (rc1.getD {}) (rc2.getD {}) := by
      rcases hc.inv with ⟨rfl, rfl⟩ | ⟨_, _, rfl, rfl, h⟩
      · exact hE.refl _
      · exact h
    dsimp only
    rw [OptRel.isSome_eq hc]
    have hb : OptRel R (if rc2.isSome = true then n1.then_ else n1.else_)
        (if rc2.isSome = true then n2.then_ else n2.else_) := by
      split
      · exact ht
      · exact he
    rcases hb.inv with ⟨e3, e4⟩ | ⟨c, d, e3, e4, hcd⟩ <;> rw [e3, e4]
    · exact hev
    · exact OptRel.map (hs _ _ _ _ hcd hj) fun r1 r2 hr => OptRel.map hr fun _ _ he => hE.union hev he

end

section
include hE hJ hs hj

/-- `contains` counts: the results stay in step with the items in both modes -/
theorem kwContains_rel {n1 n2 : Node} (hc : OptRel R n1.contains n2.contains)
    (hmin : n1.minContains = n2.minContains) (hmax : n1.maxContains = n2.maxContains) :
    OutRel E (Spec.kwContains sub1 n1 j1) (Spec.kwContains sub2 n2 j2) := by
  rcases hJ.cases hj with ⟨xs, ys, rfl, rfl, ha⟩ | ⟨_, _, rfl, rfl, _⟩ | ⟨rfl, hna, _⟩
  · unfold Spec.kwContains
    rw [hmin, hmax]
    rcases hc.inv with ⟨e1, e2⟩ | ⟨a, b, e1, e2, hab⟩ <;> rw [e1, e2]
    · exact hE.refl {}
    dsimp only
    refine seq_map_sim_all₂ (R := OptRel E) (All₂.map _ _ (fun x y hr => hs _ _ x y hab hr) ha) _ _
      fun rs1 rs2 h => ?_
    rw [ha.length, All₂.eq_of_eq (All₂.filterMap _ _ (fun p q hr => by
      rw [OptRel.isSome_eq hr.1, hr.2]; exact OptRel.refl (fun _ => rfl) _) (All₂.zip h (All₂.refl_eq _)))]
    exact guard_rel (hE.refl _)
  · exact hE.refl {}
  · cases j2 <;> first | exact hE.refl {} | exact absurd rfl (hna _)

end

section
include hP hs

theorem namedL_rel {k1 k2 : List (String × Json)} (hk : PRg P (KRel J) k1 k2) {p1 p2 : List (String × NodeId)}
    (hp : ∀ k, OptRel R (Json.lookup k p1) (Json.lookup k p2)) :
    PRg P (KRel (OutRel E)) (Refine.namedL sub1 p1 k1) (Refine.namedL sub2 p2 k2) := by
  unfold Refine.namedL
  refine PRg.filterMap hP _ _ hk fun p q hr => ?_
  rw [← hr.1]
  rcases (hp p.1).inv with ⟨e1, e2⟩ | ⟨a, b, e1, e2, hab⟩ <;> rw [e1, e2]
  · trivial
  · exact ⟨rfl, hs _ _ _ _ hab hr.2⟩

theorem patternedL_rel (reMatch : String → String → Bool) {k1 k2 : List (String × Json)} (hk : PRg P (KRel J) k1 k2)
    {p1 p2 : List (String × NodeId)} (hp : PRg P (KRel R) p1 p2) :
    PRg P (KRel (OutRel E)) (Refine.patternedL reMatch sub1 p1 k1) (Refine.patternedL reMatch sub2 p2 k2) := by
  unfold Refine.patternedL
  refine PRg.flatMap hP _ _ hk fun p q hr => ?_
  rw [← hr.1]
  exact PRg.map hP _ _ (PRg.filter hP _ _ hp fun a b hab => by rw [hab.1]) fun a b hab => ⟨rfl, hs _ _ _ _ hab.2 hr.2⟩

theorem additionalL_rel {t1 t2 : NodeId} (ht : R t1 t2) {c1 c2 : List String} (hc : ∀ k, c1.contains k = c2.contains k)
    {k1 k2 : List (String × Json)} (hk : PRg P (KRel J) k1 k2) :
    PRg P (KRel (OutRel E)) (Refine.additionalL sub1 t1 c1 k1) (Refine.additionalL sub2 t2 c2 k2) := by
  unfold Refine.additionalL
  exact PRg.map hP _ _ (PRg.filter hP _ _ hk fun p q hr => by rw [hc, hr.1]) fun p q hr => ⟨hr.1, hs _ _ _ _ ht hr.2⟩

end

section
include hP hE hs hj

theorem kwAllOf_rel {n1 n2 : Node} (h : All₂ R (n1.allOf.getD []) (n2.allOf.getD [])) :
    OutRel E (Spec.kwAllOf sub1 n1 j1) (Spec.kwAllOf sub2 n2 j2) := by
  rw [kwAllOf_getD, kwAllOf_getD]
  exact seq_map_sim hP (PRg.of_all₂ hP (All₂.map _ _ (fun _ _ ht => hs _ _ _ _ ht hj) h)) _ _ fun _ _ h => conj_rel hP hE h

/-- `anyOf` and `oneOf`: a condition on the number of valid branches, the union over the valid ones -/
theorem countUnion_rel (c : Nat → Prop) [DecidablePred c] {l1 l2 : List NodeId} (h : All₂ R l1 l2) :
    OutRel E ((Spec.sequence (l1.map fun t => sub1 t j1)).map fun rs =>
        if c (Spec.validCount rs) then some (Spec.validUnion rs) else none)
      ((Spec.sequence (l2.map fun t => sub2 t j2)).map fun rs =>
        if c (Spec.validCount rs) then some (Spec.validUnion rs) else none) :=
  seq_map_sim hP (R := OptRel E) (PRg.of_all₂ hP (All₂.map _ _ (fun _ _ ht => hs _ _ _ _ ht hj) h)) _ _ fun rs1 rs2 h => by
    rw [validCount_rel hP h]
    exact guard_rel (validUnion_rel hP hE h)

theorem kwAnyOf_rel {n1 n2 : Node} (h : OptRel (All₂ R) n1.anyOf n2.anyOf) :
    OutRel E (Spec.kwAnyOf sub1 n1 j1) (Spec.kwAnyOf sub2 n2 j2) := by
  unfold Spec.kwAnyOf
  rcases h.inv with ⟨e1, e2⟩ | ⟨l1, l2, e1, e2, hl⟩ <;> rw [e1, e2]
  · exact hE.refl {}
  · exact countUnion_rel hP hE hs hj (· > 0) hl

theorem kwOneOf_rel {n1 n2 : Node} (h : OptRel (All₂ R) n1.oneOf n2.oneOf) :
    OutRel E (Spec.kwOneOf sub1 n1 j1) (Spec.kwOneOf sub2 n2 j2) := by
  unfold Spec.kwOneOf
  rcases h.inv with ⟨e1, e2⟩ | ⟨l1, l2, e1, e2, hl⟩ <;> rw [e1, e2]
  · exact hE.refl {}
  · exact countUnion_rel hP hE hs hj (fun k => (k == 1) = true) hl

end

section
include hP hE hJ hs hj

theorem kwItems_rel {e1 e2 : Spec.Env} {n1 n2 : Node}
    (hsh : All₂ R (Spec.arrayShape e1 n1).1 (Spec.arrayShape e2 n2).1 ∧
      OptRel R (Spec.arrayShape e1 n1).2 (Spec.arrayShape e2 n2).2) :
    OutRel E (Spec.kwItems e1 sub1 n1 j1) (Spec.kwItems e2 sub2 n2 j2) := by
  rcases hJ.cases hj with ⟨xs, ys, rfl, rfl, ha⟩ | ⟨_, _, rfl, rfl, _⟩ | ⟨rfl, hna, _⟩
  · obtain ⟨hpre, hrest⟩ := hsh
    unfold Spec.kwItems
    rw [← Prod.eta (Spec.arrayShape e1 n1), ← Prod.eta (Spec.arrayShape e2 n2)]
    dsimp only
    rw [ha.length, hpre.length, OptRel.isSome_eq hrest]
    refine seq_allHold_rel hP (PRg.of_all₂ hP (All₂.append
      (All₂.map _ _ (fun _ _ hr => hs _ _ _ _ hr.1 hr.2) (All₂.zip hpre ha)) ?_)) (hE.refl _)
    rcases hrest.inv with ⟨e1, e2⟩ | ⟨a, b, e1, e2, hab⟩ <;> rw [e1, e2]
    · trivial
    · exact All₂.map _ _ (fun x y hr => hs _ _ x y hab hr) (ha.drop _)
  · exact hE.refl {}
  · cases j2 <;> first | exact hE.refl {} | exact absurd rfl (hna _)

theorem kwUnevaluatedItems_rel {n1 n2 : Node} (hc : OptRel R n1.unevaluatedItems n2.unevaluatedItems)
    {ev1 ev2 : Spec.Ev} (hev : E ev1 ev2) :
    OutRel E (Spec.kwUnevaluatedItems sub1 n1 j1 ev1) (Spec.kwUnevaluatedItems sub2 n2 j2 ev2) := by
  rcases hJ.cases hj with ⟨xs, ys, rfl, rfl, ha⟩ | ⟨_, _, rfl, rfl, _⟩ | ⟨rfl, hna, _⟩
  · unfold Spec.kwUnevaluatedItems
    rcases hc.inv with ⟨e1, e2⟩ | ⟨a, b, e1, e2, hab⟩ <;> rw [e1, e2]
    · exact hE.refl {}
    dsimp only
    rw [ha.length]
    refine seq_allHold_rel hP (PRg.of_all₂ hP (All₂.map _ _ (fun p q hr => hs _ _ _ _ hab hr.1)
      (All₂.filter _ _ (fun p q hr => ?_) (All₂.zip ha (All₂.refl_eq (Spec.indices ys.length)))))) (hE.refl _)
    rw [hr.2, hE.items_contains hev]
  · exact hE.refl {}
  · cases j2 <;> first | exact hE.refl {} | exact absurd rfl (hna _)

/-- `properties`, `patternProperties`, `additionalProperties`: `properties` is only ever looked up by name, the patterns
    are walked -/
theorem kwProps_rel {e1 e2 : Spec.Env} (hre : e1.reMatch = e2.reMatch) {n1 n2 : Node}
    (hp : ∀ k, OptRel R (Json.lookup k (n1.properties.getD [])) (Json.lookup k (n2.properties.getD [])))
    (hpp : PRg P (KRel R) (n1.patternProperties.getD []) (n2.patternProperties.getD []))
    (hap : OptRel R n1.additionalProperties n2.additionalProperties) :
    OutRel E (Spec.kwProps e1 sub1 n1 j1) (Spec.kwProps e2 sub2 n2 j2) := by
  rcases hJ.cases hj with ⟨_, _, rfl, rfl, _⟩ | ⟨k1, k2, rfl, rfl, hk⟩ | ⟨rfl, _, hno⟩
  · exact hE.refl {}
  · have hnamed := namedL_rel hP hs (E := E) hk hp
    have hpat := patternedL_rel hP hs (E := E) e1.reMatch hk hpp
    rcases hap.inv with ⟨h1, h2⟩ | ⟨t1, t2, h1, h2, ht⟩
    · rw [Refine.kwProps_none e1 sub1 n1 k1 h1, Refine.kwProps_none e2 sub2 n2 k2 h2, ← hre]
      refine seq_allHold_rel hP (PRg.map hP _ _ ?hall fun _ _ hr => hr.2) (hE.props (PRg.keys hP ?hall))
      exact PRg.append hP (PRg.append hP hnamed hpat) (PRg.of_all₂ hP trivial)
    · rw [Refine.kwProps_some e1 sub1 n1 k1 t1 h1, Refine.kwProps_some e2 sub2 n2 k2 t2 h2, ← hre]
      refine seq_allHold_rel hP (PRg.map hP _ _ ?hall' fun _ _ hr => hr.2) (hE.props (PRg.keys hP ?hall'))
      refine PRg.append hP (PRg.append hP hnamed hpat) (additionalL_rel hP hs ht (fun k => ?_) hk)
      unfold Refine.coveredL
      exact (hP.perm (hP.append (PRg.keys hP hnamed) (PRg.keys hP hpat))).contains_eq
  · cases j2 <;> first | exact hE.refl {} | exact absurd rfl (hno _)

theorem kwPropertyNames_rel {n1 n2 : Node} (hc : OptRel R n1.propertyNames n2.propertyNames) :
    OutRel E (Spec.kwPropertyNames sub1 n1 j1) (Spec.kwPropertyNames sub2 n2 j2) := by
  rcases hJ.cases hj with ⟨_, _, rfl, rfl, _⟩ | ⟨k1, k2, rfl, rfl, hk⟩ | ⟨rfl, _, hno⟩
  · exact hE.refl {}
  · unfold Spec.kwPropertyNames
    rcases hc.inv with ⟨e1, e2⟩ | ⟨a, b, e1, e2, hab⟩ <;> rw [e1, e2]
    · exact hE.refl {}
    dsimp only
    refine seq_allHold_rel hP (PRg.map hP _ _ hk fun p q hr => ?_) (hE.refl _)
    rw [show p.1 = q.1 from hr.1]
    exact hs _ _ _ _ hab (hJ.str _)
  · cases j2 <;> first | exact hE.refl {} | exact absurd rfl (hno _)

theorem kwUnevaluatedProps_rel {n1 n2 : Node} (hc : OptRel R n1.unevaluatedProperties n2.unevaluatedProperties)
    {ev1 ev2 : Spec.Ev} (hev : E ev1 ev2) :
    OutRel E (Spec.kwUnevaluatedProps sub1 n1 j1 ev1) (Spec.kwUnevaluatedProps sub2 n2 j2 ev2) := by
  rcases hJ.cases hj with ⟨_, _, rfl, rfl, _⟩ | ⟨k1, k2, rfl, rfl, hk⟩ | ⟨rfl, _, hno⟩
  · exact hE.refl {}
  · unfold Spec.kwUnevaluatedProps
    rcases hc.inv with ⟨e1, e2⟩ | ⟨a, b, e1, e2, hab⟩ <;> rw [e1, e2]
    · exact hE.refl {}
    dsimp only
    refine seq_allHold_rel hP (PRg.map hP _ _ (PRg.filter hP _ _ hk fun p q hr => ?_)
      fun p q hr => hs _ _ _ _ hab hr.2) (hE.props (PRg.keys hP hk))
    rw [show p.1 = q.1 from hr.1, hE.props_contains hev]
  · cases j2 <;> first | exact hE.refl {} | exact absurd rfl (hno _)

theorem kwDependentSchemas_rel {e1 e2 : Spec.Env} (hd : e1.draft = e2.draft) {n1 n2 : Node}
    (h2020 : PRg P (KRel R) (n1.dependentSchemas.getD []) (n2.dependentSchemas.getD []))
    (h7 : PRg P (KRel R) (n1.dependencySchemas.getD []) (n2.dependencySchemas.getD [])) :
    OutRel E (Spec.kwDependentSchemas e1 sub1 n1 j1) (Spec.kwDependentSchemas e2 sub2 n2 j2) := by
  rcases hJ.cases hj with ⟨_, _, rfl, rfl, _⟩ | ⟨k1, k2, rfl, rfl, hk⟩ | ⟨rfl, _, hno⟩
  · exact hE.refl {}
  · have hdep : PRg P (KRel R)
        (match e1.draft with
          | .d7 => n1.dependencySchemas.getD []
          | .d2020 => n1.dependentSchemas.getD [])
        (match e2.draft with
          | .d7 => n2.dependencySchemas.getD []
          | .d2020 => n2.dependentSchemas.getD []) := by
      rw [hd]; cases e2.draft <;> assumption
    unfold Spec.kwDependentSchemas
    dsimp only
    exact seq_map_sim hP (R := OptRel E) (PRg.map hP _ _ (PRg.filter hP _ _ hdep fun p q hr => by
        rw [show p.1 = q.1 from hr.1, PRg.lookup_isSome hP hk])
      fun p q hr => hs _ _ _ _ hr.2 hj) _ _ fun _ _ h => conj_rel hP hE h
  · cases j2 <;> first | exact hE.refl {} | exact absurd rfl (hno _)

end
end

/-- `n2` is `n1` as far as `Spec.evalStep` can tell: the subschemas renamed along `R`, the maps that are walked
    (`patternProperties`, the two dependency maps) `P`-rearranged, `properties` — only ever looked up by name — equal lookup
    by lookup, the assertions equal on `J`-related instances.  Where `evalStep` makes no difference between nil and empty
    only the entry lists are compared.  Not read by `evalStep`, hence unconstrained: `$defs`, `definitions`, `$id`, the
    anchors, `$schema`, `$vocabulary`, the annotations, `format`, `content*`, Extra, PropertyOrder. -/
structure NodeRel (P : ∀ {α : Type}, List α → List α → Prop) (J : Json → Json → Prop) (R : NodeId → NodeId → Prop)
    (n1 n2 : Node) : Prop where
  ref : n1.ref = n2.ref
  dynamicRef : n1.dynamicRef = n2.dynamicRef
  minContains : n1.minContains = n2.minContains
  maxContains : n1.maxContains = n2.maxContains
  asserts : ∀ env j1 j2, J j1 j2 → assertsOf env n1 j1 = assertsOf env n2 j2
  allOf : All₂ R (n1.allOf.getD []) (n2.allOf.getD [])
  anyOf : OptRel (All₂ R) n1.anyOf n2.anyOf
  oneOf : OptRel (All₂ R) n1.oneOf n2.oneOf
  not : OptRel R n1.not n2.not
  if_ : OptRel R n1.if_ n2.if_
  then_ : OptRel R n1.then_ n2.then_
  else_ : OptRel R n1.else_ n2.else_
  prefixItems : All₂ R (n1.prefixItems.getD []) (n2.prefixItems.getD [])
  items : OptRel R n1.items n2.items
  itemsArray : OptRel (All₂ R) n1.itemsArray n2.itemsArray
  additionalItems : OptRel R n1.additionalItems n2.additionalItems
  contains : OptRel R n1.contains n2.contains
  unevaluatedItems : OptRel R n1.unevaluatedItems n2.unevaluatedItems
  properties : ∀ k, OptRel R (Json.lookup k (n1.properties.getD [])) (Json.lookup k (n2.properties.getD []))
  patternProperties : PRg P (KRel R) (n1.patternProperties.getD []) (n2.patternProperties.getD [])
  additionalProperties : OptRel R n1.additionalProperties n2.additionalProperties
  propertyNames : OptRel R n1.propertyNames n2.propertyNames
  unevaluatedProperties : OptRel R n1.unevaluatedProperties n2.unevaluatedProperties
  dependentSchemas : PRg P (KRel R) (n1.dependentSchemas.getD []) (n2.dependentSchemas.getD [])
  dependencySchemas : PRg P (KRel R) (n1.dependencySchemas.getD []) (n2.dependencySchemas.getD [])

theorem arrayShape_rel {P : ∀ {α : Type}, List α → List α → Prop} {J : Json → Json → Prop} {R : NodeId → NodeId → Prop}
    {e1 e2 : Spec.Env} (hd : e1.draft = e2.draft) {n1 n2 : Node} (hn : NodeRel P J R n1 n2) :
    All₂ R (Spec.arrayShape e1 n1).1 (Spec.arrayShape e2 n2).1 ∧
      OptRel R (Spec.arrayShape e1 n1).2 (Spec.arrayShape e2 n2).2 := by
  unfold Spec.arrayShape
  rw [hd]
  cases e2.draft with
  | d2020 => exact ⟨hn.prefixItems, hn.items⟩
  | d7 =>
    dsimp only
    rcases hn.itemsArray.inv with ⟨e1, e2⟩ | ⟨l1, l2, e1, e2, hia⟩ <;> rw [e1, e2]
    · exact ⟨trivial, hn.items⟩
    · exact ⟨hia, hn.additionalItems⟩

/-- **The simulation between two Spec environments along `R`.**  The table conditions (`ref`, `dyn`) are asked only at
    objects that use the keyword; `dyn` covers the walk over any two `R`-related dynamic scopes. -/
structure EnvRel (P : ∀ {α : Type}, List α → List α → Prop) (J : Json → Json → Prop) (R : NodeId → NodeId → Prop)
    (e1 e2 : Spec.Env) : Prop where
  draft : e1.draft = e2.draft
  reMatch : e1.reMatch = e2.reMatch
  node : ∀ a b, R a b → OptRel (NodeRel P J R) (e1.st.get? a) (e2.st.get? b)
  ref : ∀ a b n, R a b → e1.st.get? a = some n → n.ref ≠ "" → OptRel R (e1.refTarget a) (e2.refTarget b)
  dyn : ∀ a b n, R a b → e1.st.get? a = some n → n.dynamicRef ≠ "" →
    OptRel R (e1.dynInitial a) (e2.dynInitial b) ∧ e1.dynName a = e2.dynName b ∧
    ∀ sc1 sc2, All₂ R sc1 sc2 →
      OptRel R (Spec.dynTarget e1 sc1 (e1.dynName a)) (Spec.dynTarget e2 sc2 (e1.dynName a))

def RecRel (R : NodeId → NodeId → Prop) (J : Json → Json → Prop) (E : Spec.Ev → Spec.Ev → Prop)
    (rec1 rec2 : Spec.Rec) : Prop :=
  ∀ sc1 sc2 s1 s2 j1 j2, All₂ R sc1 sc2 → R s1 s2 → J j1 j2 → OutRel E (rec1 sc1 s1 j1) (rec2 sc2 s2 j2)

theorem assertsOf_env {e1 e2 : Spec.Env} (hd : e1.draft = e2.draft) (hre : e1.reMatch = e2.reMatch) (n : Node)
    (j : Json) : assertsOf e1 n j = assertsOf e2 n j := by
  unfold assertsOf Spec.stringOk Spec.objectLimitsOk
  rw [hd, hre]

section
variable {P : ∀ {α : Type}, List α → List α → Prop} {E : Spec.Ev → Spec.Ev → Prop} {J : Json → Json → Prop}
  {R : NodeId → NodeId → Prop} (hP : ListCong P) (hE : EvCong P E) (hJ : InstCong P J)
include hP hE

theorem specTail_rel {R1 R2 : Spec.R} (hR : OptRel E R1 R2) (a : Bool) {ui1 ui2 up1 up2 : Spec.Ev → Option Spec.R}
    (hui : ∀ e1 e2, E e1 e2 → OutRel E (ui1 e1) (ui2 e2)) (hup : ∀ e1 e2, E e1 e2 → OutRel E (up1 e1) (up2 e2)) :
    OutRel E (Refine.specTail R1 a ui1 up1) (Refine.specTail R2 a ui2 up2) := by
  unfold Refine.specTail
  rcases hR.inv with ⟨rfl, rfl⟩ | ⟨e1, e2, rfl, rfl, he⟩
  · trivial
  dsimp only
  split
  · trivial
  rcases (hui e1 e2 he).inv with ⟨h1, h2⟩ | ⟨r1, r2, h1, h2, hr⟩ <;> rw [h1, h2]
  · trivial
  rcases (hup e1 e2 he).inv with ⟨h3, h4⟩ | ⟨p1, p2, h3, h4, hp⟩ <;> rw [h3, h4]
  · trivial
  · exact conj_rel hP hE (PRg.of_all₂ hP ⟨he, hr, hp, trivial⟩)

theorem specBody_of_kwList {e1 e2 : Spec.Env} {rec1 rec2 : Spec.Rec} {sc1 sc2 : List NodeId} {s1 s2 : NodeId}
    {j1 j2 : Json} {n1 n2 : Node} (hc : (e1.draft == .d7 && n1.ref != "") = (e2.draft == .d7 && n2.ref != ""))
    (hl : All₂ (OutRel E) (kwList e1 rec1 sc1 s1 j1 n1) (kwList e2 rec2 sc2 s2 j2 n2))
    (ha : assertsOf e1 n1 j1 = assertsOf e2 n2 j2)
    (hui : ∀ ev1 ev2, E ev1 ev2 → OutRel E (Spec.kwUnevaluatedItems (rec1 (sc1 ++ [s1])) (Spec.vocab e1.draft n1) j1 ev1)
      (Spec.kwUnevaluatedItems (rec2 (sc2 ++ [s2])) (Spec.vocab e2.draft n2) j2 ev2))
    (hup : ∀ ev1 ev2, E ev1 ev2 → OutRel E (Spec.kwUnevaluatedProps (rec1 (sc1 ++ [s1])) (Spec.vocab e1.draft n1) j1 ev1)
      (Spec.kwUnevaluatedProps (rec2 (sc2 ++ [s2])) (Spec.vocab e2.draft n2) j2 ev2)) :
    OutRel E (specBody e1 rec1 sc1 s1 j1 n1) (specBody e2 rec2 sc2 s2 j2 n2) := by
  unfold specBody
  rw [hc, ha]
  split
  · exact OptRel.map hl.1 fun r1 r2 hr => OptRel.map hr fun _ _ _ => hE.refl _
  · rcases (sequence_all₂ hl).inv with ⟨h1, h2⟩ | ⟨q1, q2, h1, h2, hq⟩ <;> rw [h1, h2]
    · trivial
    · exact specTail_rel hP hE (conj_rel hP hE (PRg.of_all₂ hP hq)) _ hui hup

include hJ

/-- one schema object against another: nothing is asked of `s1`, `s2` or of the scopes but what `$ref` and `$dynamicRef`
    need, and that only if the object has them -/
theorem specBody_sub {e1 e2 : Spec.Env} (hdraft : e1.draft = e2.draft) (hre : e1.reMatch = e2.reMatch)
    {rec1 rec2 : Spec.Rec} {sc1 sc2 : List NodeId} {s1 s2 : NodeId}
    (hsub : SubRel R J E (rec1 (sc1 ++ [s1])) (rec2 (sc2 ++ [s2]))) {j1 j2 : Json} (hj : J j1 j2)
    {n1 n2 : Node} (hn : NodeRel P J R n1 n2)
    (href : n1.ref ≠ "" → OptRel R (e1.refTarget s1) (e2.refTarget s2))
    (hdyn : n1.dynamicRef ≠ "" → OptRel R (e1.dynInitial s1) (e2.dynInitial s2) ∧ e1.dynName s1 = e2.dynName s2 ∧
      OptRel R (Spec.dynTarget e1 (sc1 ++ [s1]) (e1.dynName s1)) (Spec.dynTarget e2 (sc2 ++ [s2]) (e1.dynName s1))) :
    OutRel E (specBody e1 rec1 sc1 s1 j1 n1) (specBody e2 rec2 sc2 s2 j2 n2) := by
  -- draft-07 knows nothing of the later keywords: on both sides they are absent
  have hv : NodeRel P J R (Spec.vocab e1.draft n1) (Spec.vocab e2.draft n2) := by
    rw [hdraft]
    cases e2.draft
    · exact { hn with dynamicRef := rfl, minContains := rfl, maxContains := rfl, unevaluatedItems := trivial,
                      unevaluatedProperties := trivial }
    · exact hn
  exact specBody_of_kwList hP hE (by rw [hdraft, hn.ref])
    ⟨kwRef_rel hE hsub hj hn.ref href,
     kwDynamicRef_rel hE hsub hj hv.dynamicRef fun h0 =>
       hdyn fun e => h0 (by cases e1.draft <;> simp [Spec.vocab, e]),
     kwAllOf_rel hP hE hsub hj hn.allOf, kwAnyOf_rel hP hE hsub hj hn.anyOf,
     kwOneOf_rel hP hE hsub hj hn.oneOf, kwNot_rel hE hsub hj hn.not,
     kwIf_rel hE hsub hj hn.if_ hn.then_ hn.else_, kwItems_rel hP hE hJ hsub hj (arrayShape_rel hdraft hn),
     kwContains_rel hE hJ hsub hj hv.contains hv.minContains hv.maxContains,
     kwProps_rel hP hE hJ hsub hj hre hn.properties hn.patternProperties hn.additionalProperties,
     kwPropertyNames_rel hP hE hJ hsub hj hn.propertyNames,
     kwDependentSchemas_rel hP hE hJ hsub hj hdraft hn.dependentSchemas hn.dependencySchemas, trivial⟩
    ((hn.asserts e1 j1 j2 hj).trans (assertsOf_env hdraft hre n2 j2))
    (fun _ _ he => kwUnevaluatedItems_rel hP hE hJ hsub hj hv.unevaluatedItems he)
    fun _ _ he => kwUnevaluatedProps_rel hP hE hJ hsub hj hv.unevaluatedProperties he

theorem evalStep_rel {e1 e2 : Spec.Env} (hEnv : EnvRel P J R e1 e2) {rec1 rec2 : Spec.Rec} (hrec : RecRel R J E rec1 rec2) :
    RecRel R J E (Spec.evalStep e1 rec1) (Spec.evalStep e2 rec2) := by
  intro sc1 sc2 s1 s2 j1 j2 hsc hs hj
  have hscope : All₂ R (sc1 ++ [s1]) (sc2 ++ [s2]) := All₂.append hsc ⟨hs, trivial⟩
  rw [evalStep_unfold, evalStep_unfold]
  rcases (hEnv.node s1 s2 hs).inv with ⟨h1, h2⟩ | ⟨n1, n2, h1, h2, hn⟩ <;> rw [h1, h2]
  · trivial
  · exact specBody_sub hP hE hJ hEnv.draft hEnv.reMatch (fun t1 t2 a b ht hab => hrec _ _ t1 t2 a b hscope ht hab) hj hn
      (hEnv.ref s1 s2 n1 hs h1)
      fun h => ⟨(hEnv.dyn s1 s2 n1 hs h1 h).1, (hEnv.dyn s1 s2 n1 hs h1 h).2.1, (hEnv.dyn s1 s2 n1 hs h1 h).2.2 _ _ hscope⟩

theorem evalFuel_rel {e1 e2 : Spec.Env} (hEnv : EnvRel P J R e1 e2) :
    ∀ fuel, RecRel R J E (Spec.evalFuel e1 fuel) (Spec.evalFuel e2 fuel)
  | 0 => fun _ _ _ _ _ _ _ _ _ => trivial
  | fuel + 1 => evalStep_rel hP hE hJ hEnv (evalFuel_rel hEnv fuel)

end

end SpecSim
end JSV
