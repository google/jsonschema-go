/-
  For C17: the walk of dereferenceJSONPointer over the store.
-/
import JSV.Proofs.PtrEscape
import JSV.Proofs.PtrIndex
namespace JSV
namespace Pointer

theorem walk_nil (st : Store) (strict : Bool) (cur : Cursor) : walk st strict cur [] = .ok cur := rfl

theorem walk_cons (st : Store) (strict : Bool) (cur : Cursor) (seg : String) (rest : List String) :
    walk st strict cur (seg :: rest) = Res.bind (step st strict cur seg) fun c => walk st strict c rest := rfl

theorem walk_append (st : Store) (strict : Bool) (cur : Cursor) (a b : List String) :
    walk st strict cur (a ++ b) = (walk st strict cur a).bind fun c => walk st strict c b := by
  induction a generalizing cur with
  | nil => simp [walk_nil]
  | cons s r ih =>
    rw [List.cons_append, walk_cons, walk_cons]
    cases step st strict cur s <;> simp [ih]

/-- a `*Schema` field is found under its name; the nil pointer is the model's `1000000000`.  (`items` names the
    single form only when that is set.) -/
theorem lookupField_one (n : Node) (j : String) (x : Option NodeId)
    (h : ChildField.one j x ∈ n.childFields) (hj : j ≠ "items" ∨ x.isSome = true) :
    lookupField n j = some (.node (x.getD 1000000000)) := by
  simp only [Node.childFields, List.mem_cons, ChildField.one.injEq, reduceCtorEq, List.mem_nil_iff,
    or_false, false_or] at h
  rcases h with ⟨rfl, h⟩ | ⟨rfl, h⟩ | ⟨rfl, h⟩ | ⟨rfl, h⟩ | ⟨rfl, h⟩ | ⟨rfl, h⟩ | ⟨rfl, h⟩ | ⟨rfl, h⟩ |
    ⟨rfl, h⟩ | ⟨rfl, h⟩ | ⟨rfl, h⟩ | ⟨rfl, h⟩
  case inr.inr.inr.inr.inr.inr.inl =>
    obtain ⟨c, rfl⟩ := Option.isSome_iff_exists.mp (hj.resolve_left (fun e => e rfl))
    simp [lookupField, ← h]
  all_goals cases x <;> simp [lookupField, Node.childFields, ← h]

theorem items_none_of_mem (n : Node) (h : ChildField.one "items" none ∈ n.childFields) :
    n.items = none := by
  simp only [Node.childFields, List.mem_cons, ChildField.one.injEq, reduceCtorEq, List.mem_nil_iff,
    or_false, false_or] at h
  simp at h
  exact h.symm

theorem lookupField_items_nil (n : Node) (h : n.items = none) :
    lookupField n "items" = some (.nodes (n.itemsArray.getD [])) := by
  simp [lookupField, h]

theorem lookupField_many (n : Node) (j : String) (cs : List NodeId)
    (h : ChildField.many j (some cs) ∈ n.childFields) (hitems : j = "items" → n.items = none) :
    lookupField n j = some (.nodes cs) := by
  simp only [Node.childFields, List.mem_cons, ChildField.many.injEq, reduceCtorEq, List.mem_nil_iff,
    or_false, false_or] at h
  rcases h with ⟨rfl, h⟩ | ⟨rfl, h⟩ | ⟨rfl, h⟩ | ⟨rfl, h⟩ | ⟨rfl, h⟩
  case inr.inr.inl => simp [lookupField, hitems rfl, ← h]
  all_goals simp [lookupField, Node.childFields, ← h]

theorem lookupField_keyed (n : Node) (j : String) (kvs : List (String × NodeId))
    (h : ChildField.keyed j (some kvs) ∈ n.childFields) : lookupField n j = some (.nodeMap kvs) := by
  simp only [Node.childFields, List.mem_cons, ChildField.keyed.injEq, reduceCtorEq, List.mem_nil_iff,
    or_false, false_or] at h
  rcases h with ⟨rfl, h⟩ | ⟨rfl, h⟩ | ⟨rfl, h⟩ | ⟨rfl, h⟩ | ⟨rfl, h⟩ | ⟨rfl, h⟩ <;>
  simp [lookupField, Node.childFields, ← h]

theorem step_node (st : Store) (strict : Bool) (id : NodeId) (n : Node) (j : String) (c : Cursor)
    (hn : st.get? id = some n) (hl : lookupField n j = some c) :
    step st strict (.node id) j = .ok c := by
  simp [step, hn, hl]

theorem step_nodes (st : Store) (strict : Bool) (cs : List NodeId) (i : Nat) (hi : i < cs.length) :
    step st strict (.nodes cs) (toString i) = .ok (.node cs[i]) := by
  simp only [step, arrayIndex_toString strict i cs.length hi, List.getElem?_eq_getElem hi]

theorem step_nodeMap (st : Store) (strict : Bool) (kvs : List (String × NodeId)) (k : String) (c : NodeId)
    (h : Json.lookup k kvs = some c) : step st strict (.nodeMap kvs) k = .ok (.node c) := by
  simp [step, h]

theorem step_dead (st : Store) (strict : Bool) (seg : String) : step st strict .dead seg = .err := rfl

theorem walk_dead (st : Store) (strict : Bool) (segs : List String) :
    walk st strict .dead segs = .ok .dead ∨ walk st strict .dead segs = .err := by
  cases segs with
  | nil => exact Or.inl rfl
  | cons s r => right; rw [walk_cons, step_dead]; rfl

/-- `Path st a p t`: `p` is the list of (unescaped) reference tokens of a chain of schema-bearing
    fields that leads from the schema `a` to the schema pointer `t`.  The side condition of `many`
    is the union field `items`: the array form is only consulted when the single form is nil. -/
inductive Path (st : Store) : NodeId → List String → NodeId → Prop
  | nil (a : NodeId) : Path st a [] a
  | one {a : NodeId} {n : Node} {j : String} {c : NodeId} {p : List String} {t : NodeId} :
      st.get? a = some n → ChildField.one j (some c) ∈ n.childFields → Path st c p t →
      Path st a (j :: p) t
  | many {a : NodeId} {n : Node} {j : String} {cs : List NodeId} {i : Nat} {p : List String} {t : NodeId} :
      st.get? a = some n → ChildField.many j (some cs) ∈ n.childFields →
      (j = "items" → n.items = none) → (hi : i < cs.length) → Path st cs[i] p t →
      Path st a (j :: toString i :: p) t
  | keyed {a : NodeId} {n : Node} {j : String} {kvs : List (String × NodeId)} {k : String} {c : NodeId}
      {p : List String} {t : NodeId} :
      st.get? a = some n → ChildField.keyed j (some kvs) ∈ n.childFields →
      Json.lookup k kvs = some c → Path st c p t →
      Path st a (j :: k :: p) t

theorem walk_path (st : Store) (strict : Bool) {a t : NodeId} {p : List String} (h : Path st a p t) :
    walk st strict (.node a) p = .ok (.node t) := by
  induction h with
  | nil a => rfl
  | one hn hm _ ih =>
    rw [walk_cons, step_node st strict _ _ _ _ hn (lookupField_one _ _ _ hm (Or.inr rfl)), Res.bind_ok]
    exact ih
  | many hn hm hitems hi _ ih =>
    rw [walk_cons, step_node st strict _ _ _ _ hn (lookupField_many _ _ _ hm hitems), Res.bind_ok,
      walk_cons, step_nodes st strict _ _ hi, Res.bind_ok, ih]
  | keyed hn hm hk _ ih =>
    rw [walk_cons, step_node st strict _ _ _ _ hn (lookupField_keyed _ _ _ hm), Res.bind_ok,
      walk_cons, step_nodeMap st strict _ _ _ hk, Res.bind_ok, ih]

/-- the last statement of dereferenceJSONPointer -/
def finish (st : Store) (nie : Bool) : Cursor → Res NodeId
  | .node id => if nie && (st.get? id).isNone then .err else .ok id
  | _ => .err

theorem dereference_eq (st : Store) (strict nie : Bool) (root : NodeId) (ptr : String) :
    dereference st strict nie root ptr =
      (parse ptr).bind fun segs => (walk st strict (.node root) segs).bind (finish st nie) :=
  rfl

theorem dereference_of_walk (st : Store) (strict nie : Bool) (root : NodeId) (ptr : String)
    (segs : List String) (cur : Cursor)
    (hp : parse ptr = .ok segs) (hw : walk st strict (.node root) segs = .ok cur) :
    dereference st strict nie root ptr = finish st nie cur := by
  rw [dereference_eq, hp, Res.bind_ok, hw, Res.bind_ok]

theorem dereference_root (st : Store) (strict nie : Bool) (r : NodeId) :
    dereference st strict nie r "" = finish st nie (.node r) :=
  dereference_of_walk st strict nie r "" [] _ (by decide) rfl

theorem dereference_path (st : Store) (strict : Bool) (root target : NodeId) (path : List String)
    (hp : Path st root path target) (hex : (st.get? target).isSome = true) :
    dereference st strict true root (render path) = .ok target := by
  rw [dereference_of_walk st strict true root _ path _ (parse_render path) (walk_path st strict hp)]
  cases hg : st.get? target <;> simp_all [finish]

theorem dereference_ok_exists (st : Store) (strict : Bool) (root t : NodeId) (ptr : String)
    (h : dereference st strict true root ptr = .ok t) : (st.get? t).isSome = true := by
  rw [dereference_eq] at h
  obtain ⟨segs, _, h⟩ := Res.bind_eq_ok_iff.mp h
  obtain ⟨cur, _, h⟩ := Res.bind_eq_ok_iff.mp h
  cases cur with
  | node id => cases hg : st.get? id <;> simp_all [finish]
  | _ => cases h

end Pointer
end JSV
