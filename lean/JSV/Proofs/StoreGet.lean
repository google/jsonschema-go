/-
  Reading a store (`Store.get?`) after the operations that build one: `push`, `setIfInBounds` (which `set!` unfolds to),
  `map`.
-/
import JSV.Model.Schema
namespace JSV
namespace Go

theorem get?_eq_none_iff {st : Store} {i : NodeId} : st.get? i = none ↔ st.size ≤ i := by
  unfold Store.get?
  exact Array.getElem?_eq_none_iff

theorem lt_size_of_get? {st : Store} {i : NodeId} {n : Node} (h : st.get? i = some n) : i < st.size := by
  apply Classical.byContradiction
  intro hlt
  rw [get?_eq_none_iff.2 (Nat.le_of_not_lt hlt)] at h
  cases h

theorem get?_getD (st : Store) {i : NodeId} (h : i < st.size) : st.get? i = some (st.getD i {}) := by
  show st[i]? = some (st.getD i {})
  rw [Array.getD_eq_getD_getElem?, Array.getElem?_eq_getElem h]
  rfl

theorem get?_push_lt {st : Store} {i : NodeId} (n : Node) (h : i < st.size) :
    Store.get? (st.push n) i = st.get? i := by
  unfold Store.get?
  rw [Array.getElem?_push, if_neg (Nat.ne_of_lt h)]

theorem get?_push_size (st : Store) (n : Node) : Store.get? (st.push n) st.size = some n := by
  unfold Store.get?
  exact Array.getElem?_push_size

theorem get?_map (st : Store) (f : Node → Node) (i : NodeId) : Store.get? (st.map f) i = (Store.get? st i).map f := by
  simp only [Store.get?, Array.getElem?_map]

theorem get?_set_self {st : Store} {s : NodeId} {n : Node} (h : st.get? s = some n) (m : Node) :
    Store.get? (st.setIfInBounds s m) s = some m := by
  show (st.setIfInBounds s m)[s]? = some m
  rw [Array.getElem?_setIfInBounds_self, if_pos (Array.getElem?_eq_some_iff.1 h).1]

theorem get?_set_ne (st : Store) {s t : NodeId} (h : t ≠ s) (m : Node) :
    Store.get? (st.setIfInBounds s m) t = Store.get? st t :=
  Array.getElem?_setIfInBounds_ne (fun e => h e.symm)

theorem size_set! (st : Store) (i : NodeId) (n : Node) : (st.set! i n).size = st.size := by
  rw [Array.set!_eq_setIfInBounds, Array.size_setIfInBounds]

theorem get?_set!_self {st : Store} {i : NodeId} (n : Node) (h : i < st.size) :
    Store.get? (st.set! i n) i = some n := get?_set_self (get?_getD st h) n

theorem get?_set!_ne {st : Store} {i j : NodeId} (n : Node) (h : i ≠ j) :
    Store.get? (st.set! i n) j = st.get? j := get?_set_ne st (Ne.symm h) n

end Go
end JSV
