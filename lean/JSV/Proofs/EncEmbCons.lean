/-
  `EncJsonEmb` is conservative over `EncJson`: on a type without embedded fields (`GoType.toE`) typing is the same,
  and — for pairwise distinct JSON names, which is H_D14 of `InDomain` — `typeFields`, `encodeE` and `decodableE` are
  `jsonNames`, `encode` and `decodable`.  Second part: `InDomainE` contains `InDomain` for structs with pairwise distinct Go
  field names (`inDomainE_toE`; `namesOk_plainV`: the walk of a struct without embedded fields is `namesOk`).
-/
import JSV.Spec.EncJsonEmb
import JSV.Proofs.InfEmbCons
import JSV.Proofs.InfEmbDom
namespace JSV
namespace EncJsonEmb
open Go EncJson

/-- a field of `fieldsToE` -/
def fE (f : String × String × GoType) : FieldE GoTypeE :=
  { goName := f.1, tag := f.2.1, exported := true, embedded := false, type := f.2.2.toE }

theorem classify_toE (g tag : String) (t : GoTypeE) :
    classify { goName := g, tag := tag, exported := true, embedded := false, type := t } =
      if (fieldJSONInfo g tag).omitted then .ignored else .leaf := by
  unfold classify
  simp

theorem candidates_toE (pre : List Nat) : ∀ (i : Nat) (fs : List (String × String × GoType)),
    (candidates pre i (fieldsToE fs)).map (·.name) = jsonNames fs
  | _, [] => by simp [fieldsToE, candidates, jsonNames]
  | i, f :: rest => by
    simp only [fieldsToE, candidates, classify_toE, jsonNames_cons, List.map_append]
    rw [candidates_toE pre (i + 1) rest]
    cases ho : (fieldJSONInfo f.1 f.2.1).omitted <;> simp [mkTField]

theorem isDominant_of_nodup {all : List TField} (h : (all.map (·.name)).Nodup) {c : TField} (hc : c ∈ all) :
    isDominant all c = true := by
  unfold isDominant
  rw [List.all_eq_true]
  intro o ho
  by_cases hn : o.name = c.name
  · have : o = c := eq_of_nodup_map (·.name) h ho hc hn
    subst this
    simp
  · simp [hn]

theorem typeFields_toE (fs : List (String × String × GoType)) (h : nodup (jsonNames fs) = true) :
    typeFields (fieldsToE fs) = candidates [] 0 (fieldsToE fs) := by
  unfold typeFields
  refine List.filter_eq_self.2 fun c hc => isDominant_of_nodup ?_ hc
  rw [candidates_toE]
  exact (nodup_iff _).1 h

/-- the JSON names json.Marshal emits: those of the non-omitted fields, in declaration order -/
theorem fieldNames_toE (fs : List (String × String × GoType)) (h : nodup (jsonNames fs) = true) :
    fieldNames (fieldsToE fs) = jsonNames fs := by
  unfold fieldNames
  rw [typeFields_toE fs h, candidates_toE]

theorem candidates_always_toE (pre : List Nat) : ∀ (i : Nat) (fs : List (String × String × GoType)),
    ((candidates pre i (fieldsToE fs)).filter fun f => !f.omitempty && !f.omitzero).map (·.name) = alwaysNames fs
  | _, [] => by simp [fieldsToE, candidates, alwaysNames]
  | i, f :: rest => by
    simp only [fieldsToE, candidates, classify_toE, alwaysNames_cons, List.filter_append, List.map_append]
    rw [candidates_always_toE pre (i + 1) rest]
    cases ho : (fieldJSONInfo f.1 f.2.1).omitted with
    | true => simp
    | false =>
      simp only [Bool.false_eq_true, if_false, Bool.false_or, List.filter_cons, List.filter_nil, mkTField]
      cases he : (fieldJSONInfo f.1 f.2.1).omitempty <;> cases hz : (fieldJSONInfo f.1 f.2.1).omitzero <;> simp

theorem alwaysFieldNames_toE (fs : List (String × String × GoType)) (h : nodup (jsonNames fs) = true) :
    alwaysFieldNames (fieldsToE fs) = alwaysNames fs := by
  unfold alwaysFieldNames
  rw [typeFields_toE fs h, candidates_always_toE]

mutual
  theorem hasTypeE_toE : ∀ (T : GoType) (v : GoValue), HasTypeE T.toE v ↔ HasType T v
    | .basic _, _ => by simp only [GoType.toE, HasTypeE, HasType]
    | .ptr e, _ | .slice e, _ | .array _ e, _ | .map _ e, _ => by
      -- the elements are typed alike (as predicates); what is left is one `match` on the value, written twice
      simp only [GoType.toE, HasTypeE, HasType, funext fun w => propext (hasTypeE_toE e w)]
      exact Iff.rfl
    | .struct fs, _ => by
      simp only [GoType.toE, HasTypeE, HasType, funext fun vs => propext (hasTypeFieldsE_toE fs vs)]
      exact Iff.rfl
    | .named _ u, v => by
      simp only [GoType.toE, HasTypeE, HasType]
      exact hasTypeE_toE u v
    | .ref _, _ => by simp only [GoType.toE, HasTypeE, HasType]
  theorem hasTypeFieldsE_toE : ∀ (fs : List (String × String × GoType)) (vs : List GoValue),
      HasTypeFieldsE (fieldsToE fs) vs ↔ HasTypeFields fs vs
    | [], _ => by simp only [fieldsToE, HasTypeFieldsE, HasTypeFields]
    | f :: rest, vs => by
      simp only [fieldsToE, HasTypeFieldsE, HasTypeFields]
      cases vs with
      | nil => exact Iff.rfl
      | cons v vs' =>
        simp only [classify_toE]
        refine and_congr ?_ (hasTypeFieldsE_toE rest vs')
        cases ho : (fieldJSONInfo f.1 f.2.1).omitted with
        | true => simp
        | false =>
          simp only [Bool.false_eq_true, if_false, false_or]
          exact hasTypeE_toE f.2.2 v
end

mutual
  theorem encodeE_toE : ∀ (T : GoType) (v : GoValue), InDomain T = true → encodeE T.toE v = encode T v
    | .basic _, v, _ => by cases v <;> rfl
    | .ptr e, _, h | .slice e, _, h | .array _ e, _, h => by
      simp only [InDomain] at h
      simp only [GoType.toE, encodeE, encode, funext fun w => encodeE_toE e w h]
      rfl
    | .map k e, v, h => by
      simp only [InDomain, Bool.and_eq_true] at h
      simp only [GoType.toE, encodeE, encode, funext fun w => encodeE_toE e w h.2]
      rfl
    | .struct fs, v, h => by
      simp only [InDomain, Bool.and_eq_true] at h
      simp only [GoType.toE, encodeE, encode]
      cases v with
      | struct vs =>
        simp only
        congr 1
        have hnd : ((candidates [] 0 (fieldsToE fs)).map (·.name)).Nodup := by
          rw [candidates_toE]
          exact (nodup_iff _).1 h.1.1
        exact encodeFieldsE_toE (candidates [] 0 (fieldsToE fs)) fs 0 vs h.2 fun c hc => isDominant_of_nodup hnd hc
      | _ => rfl
    | .named _ _, _, h => by simp [InDomain] at h
    | .ref _, _, h => by simp [InDomain] at h
  theorem encodeFieldsE_toE (all : List TField) : ∀ (fs : List (String × String × GoType)) (i : Nat) (vs : List GoValue),
      inDomainFields fs = true → (∀ c, c ∈ candidates [] i (fieldsToE fs) → isDominant all c = true) →
      encodeFieldsE all [] i (fieldsToE fs) vs = encodeFields fs vs
    | [], _, _, _, _ => by simp only [fieldsToE, encodeFieldsE, encodeFields]
    | f :: rest, i, vs, h, hdom => by
      simp only [inDomainFields, Bool.and_eq_true, Bool.or_eq_true] at h
      simp only [fieldsToE, encodeFieldsE, encodeFields]
      cases vs with
      | nil => rfl
      | cons v vs' =>
        simp only [classify_toE]
        have hrest : ∀ c, c ∈ candidates [] (i + 1) (fieldsToE rest) → isDominant all c = true := fun c hc =>
          hdom c (by simp only [fieldsToE, candidates, List.mem_append]; exact Or.inr hc)
        rw [encodeFieldsE_toE all rest (i + 1) vs' h.2 hrest]
        cases ho : (fieldJSONInfo f.1 f.2.1).omitted with
        | true => simp [fieldSkipped, ho]
        | false =>
          have hd : isDominant all (mkTField ([] ++ [i]) (fE f)) = true :=
            hdom _ (by simp only [fieldsToE, candidates, classify_toE, ho, Bool.false_eq_true, if_false, List.mem_append,
              List.mem_singleton, fE, true_or])
          unfold fE at hd
          have hty : InDomain f.2.2 = true := by
            rcases h.1 with h1 | h1
            · rw [ho] at h1; cases h1
            · exact h1
          simp only [Bool.false_eq_true, if_false, hd, Bool.true_and]
          rw [encodeE_toE f.2.2 v hty]
          cases fieldSkipped (fieldJSONInfo f.1 f.2.1) v <;> simp
end

mutual
  theorem decodableE_toE : ∀ (T : GoType) (j : Json), InDomain T = true → decodableE T.toE j = decodable T j
    | .basic _, j, _ => by simp only [GoType.toE, decodableE, decodable]
    | .ptr e, j, h => by
      simp only [InDomain] at h
      simp only [GoType.toE, decodableE, decodable]
      exact decodableE_toE e j h
    | .slice e, _, h | .array _ e, _, h => by
      simp only [InDomain] at h
      simp only [GoType.toE, decodableE, decodable, funext fun x => decodableE_toE e x h]
      rfl
    | .map k e, _, h => by
      simp only [InDomain, Bool.and_eq_true] at h
      simp only [GoType.toE, decodableE, decodable, funext fun x => decodableE_toE e x h.2]
      rfl
    | .struct fs, j, h => by
      simp only [InDomain, Bool.and_eq_true] at h
      simp only [GoType.toE, decodableE, decodable]
      cases j with
      | obj kvs =>
        simp only
        have hnd : ((candidates [] 0 (fieldsToE fs)).map (·.name)).Nodup := by
          rw [candidates_toE]
          exact (nodup_iff _).1 h.1.1
        have hdom : ∀ c, c ∈ candidates [] 0 (fieldsToE fs) → isDominant (candidates [] 0 (fieldsToE fs)) c = true :=
          fun c hc => isDominant_of_nodup hnd hc
        refine List.all_congr rfl fun p => ?_
        rw [(decodableFindE_toE (candidates [] 0 (fieldsToE fs)) fs 0 p.1 p.2 h.2 hdom).1,
          (decodableFindE_toE (candidates [] 0 (fieldsToE fs)) fs 0 p.1 p.2 h.2 hdom).2]
        cases decodableExact fs p.1 p.2 <;> rfl
      | _ => rfl
    | .named _ _, _, h => by simp [InDomain] at h
    | .ref _, _, h => by simp [InDomain] at h
  theorem decodableFindE_toE (all : List TField) : ∀ (fs : List (String × String × GoType)) (i : Nat) (k : String) (v : Json),
      inDomainFields fs = true → (∀ c, c ∈ candidates [] i (fieldsToE fs) → isDominant all c = true) →
      decodableFindE all (fun n k => n == k) [] i (fieldsToE fs) k v = decodableExact fs k v ∧
      decodableFindE all foldEq [] i (fieldsToE fs) k v = decodableFold fs k v
    | [], _, _, _, _, _ => by simp only [fieldsToE, decodableFindE, decodableExact, decodableFold, and_self]
    | f :: rest, i, k, v, h, hdom => by
      simp only [inDomainFields, Bool.and_eq_true, Bool.or_eq_true] at h
      have hrest : ∀ c, c ∈ candidates [] (i + 1) (fieldsToE rest) → isDominant all c = true := fun c hc =>
        hdom c (by simp only [fieldsToE, candidates, List.mem_append]; exact Or.inr hc)
      obtain ⟨ih1, ih2⟩ := decodableFindE_toE all rest (i + 1) k v h.2 hrest
      simp only [fieldsToE, decodableFindE, decodableExact, decodableFold, classify_toE]
      rw [ih1, ih2]
      cases ho : (fieldJSONInfo f.1 f.2.1).omitted with
      | true => simp
      | false =>
        have hd : isDominant all (mkTField ([] ++ [i]) (fE f)) = true :=
          hdom _ (by simp only [fieldsToE, candidates, classify_toE, ho, Bool.false_eq_true, if_false, List.mem_append,
            List.mem_singleton, fE, true_or])
        unfold fE at hd
        have hty : InDomain f.2.2 = true := by
          rcases h.1 with h1 | h1
          · rw [ho] at h1; cases h1
          · exact h1
        simp only [Bool.false_eq_true, if_false, hd, Bool.true_and, Bool.not_false]
        rw [decodableE_toE f.2.2 v hty]
        constructor
        · cases hm : ((fieldJSONInfo f.1 f.2.1).name == k) <;> simp
        · cases hm : foldEq (fieldJSONInfo f.1 f.2.1).name k <;> simp
end

end EncJsonEmb
end JSV

namespace JSV
namespace EncJsonEmb
open Go EncJson

theorem plainV_mem {pre : List Nat} : ∀ {i : Nat} {fs : List (String × String × GoType)} {b : VField}, b ∈ plainV pre i fs →
    ∃ g, g ∈ fs ∧ b.goName = g.1 ∧ b.tag = g.2.1 ∧ b.exported = true ∧ b.anonymous = false
  | _, [], _, h => by simp only [plainV] at h; cases h
  | i, f :: rest, b, h => by
    simp only [plainV, List.mem_cons] at h
    rcases h with rfl | h
    · exact ⟨f, List.mem_cons_self, rfl, rfl, rfl, rfl⟩
    · obtain ⟨g, hg, h1⟩ := plainV_mem h
      exact ⟨g, List.mem_cons_of_mem _ hg, h1⟩

theorem mem_goNamesOf : ∀ {fs : List (String × String × GoType)} {g : String × String × GoType}, g ∈ fs → g.1 ∈ goNamesOf fs
  | f :: rest, g, h => by
    simp only [goNamesOf, List.mem_cons]
    rcases List.mem_cons.1 h with rfl | h
    · exact Or.inl rfl
    · exact Or.inr (mem_goNamesOf h)

theorem namesOk_plainV (pre : List Nat) : ∀ (i : Nat) (fs : List (String × String × GoType)),
    nodup (goNamesOf fs) = true → nodup (jsonNames fs) = true → namesOk (plainV pre i fs) = true
  | _, [], _, _ => rfl
  | i, f :: rest, hg, hj => by
    simp only [goNamesOf, nodup, Bool.and_eq_true, Bool.not_eq_true'] at hg
    have hgn : f.1 ∉ goNamesOf rest := by simpa using hg.1
    rw [jsonNames_cons] at hj
    have hj' : nodup (jsonNames rest) = true := by
      split at hj
      · exact hj
      · simp only [nodup, Bool.and_eq_true] at hj
        exact hj.2
    simp only [plainV, namesOk, Bool.and_eq_true, List.all_eq_true]
    refine ⟨fun b hb => ?_, namesOk_plainV pre (i + 1) rest hg.2 hj'⟩
    obtain ⟨g, hgm, h1, h2, h3, h4⟩ := plainV_mem hb
    rw [pairOk_iff]
    constructor
    · intro he
      exact absurd (by rw [show f.1 = g.1 from he.trans h1]; exact mem_goNamesOf hgm) hgn
    · intro hla hlb hjn
      exfalso
      rw [live_mk] at hla
      simp only [Bool.not_false, Bool.true_and, Bool.not_eq_true'] at hla
      simp only [hla, Bool.false_eq_true, if_false, nodup, Bool.and_eq_true, Bool.not_eq_true'] at hj
      have hnot : (fieldJSONInfo f.1 f.2.1).name ∉ jsonNames rest := by simpa using hj.1
      refine hnot ?_
      have hob : (fieldJSONInfo g.1 g.2.1).omitted = false := by
        unfold live at hlb
        simp only [Bool.and_eq_true, Bool.not_eq_true'] at hlb
        rw [← h1, ← h2]
        exact hlb.2
      have : (fieldJSONInfo f.1 f.2.1).name = (fieldJSONInfo g.1 g.2.1).name := by
        have := hjn
        unfold jsonNameOf at this
        rw [h1, h2] at this
        exact this
      rw [this]
      exact mem_jsonNames_of_mem hgm hob

mutual
  /-- `InDomainE` extends `InDomain` (on types whose structs have pairwise distinct Go field names) -/
  theorem inDomainE_toE : ∀ (T : GoType), InDomain T = true → DistinctNames T = true → InDomainE T.toE = true
    | .basic _, h, _ => by simpa only [GoType.toE, InDomainE, InDomain] using h
    | .ptr e, h, hd => by
      simp only [InDomain] at h
      simp only [DistinctNames] at hd
      simp only [GoType.toE, InDomainE]
      exact inDomainE_toE e h hd
    | .slice e, h, hd => by
      simp only [InDomain] at h
      simp only [DistinctNames] at hd
      simp only [GoType.toE, InDomainE]
      exact inDomainE_toE e h hd
    | .array _ e, h, hd => by
      simp only [InDomain] at h
      simp only [DistinctNames] at hd
      simp only [GoType.toE, InDomainE]
      exact inDomainE_toE e h hd
    | .map _ e, h, hd => by
      simp only [InDomain, Bool.and_eq_true] at h
      simp only [DistinctNames] at hd
      simp only [GoType.toE, InDomainE, Bool.and_eq_true]
      exact ⟨h.1, inDomainE_toE e h.2 hd⟩
    | .struct fs, h, hd => by
      simp only [InDomain, Bool.and_eq_true] at h
      simp only [DistinctNames, Bool.and_eq_true] at hd
      simp only [GoType.toE, InDomainE, Bool.and_eq_true]
      refine ⟨?_, inDomainFieldsE_toE fs h.1.2 h.2 hd.2⟩
      rw [allFields_toE]
      exact namesOk_plainV [] 0 fs hd.1 h.1.1
    | .named _ _, h, _ => by simp [InDomain] at h
    | .ref _, h, _ => by simp [InDomain] at h
  theorem inDomainFieldsE_toE : ∀ (fs : List (String × String × GoType)), (fs.all fun f => fieldTagOk f.1 f.2.1) = true →
      inDomainFields fs = true → distinctNamesFields fs = true → inDomainFieldsE (fieldsToE fs) = true
    | [], _, _, _ => rfl
    | f :: rest, ht, h, hd => by
      simp only [List.all_cons, Bool.and_eq_true] at ht
      simp only [inDomainFields, Bool.and_eq_true, Bool.or_eq_true] at h
      simp only [distinctNamesFields, Bool.and_eq_true] at hd
      simp only [fieldsToE, inDomainFieldsE, Bool.false_eq_true, if_false, Bool.not_true, Bool.false_or, Bool.and_eq_true,
        Bool.or_eq_true]
      refine ⟨?_, inDomainFieldsE_toE rest ht.2 h.2 hd.2⟩
      rcases h.1 with ho | hty
      · exact Or.inl ho
      · exact Or.inr ⟨ht.1, inDomainE_toE f.2.2 hty hd.1⟩
end

end EncJsonEmb
end JSV
