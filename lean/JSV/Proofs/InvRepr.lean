/-
  C08 helpers: two representations of one JSON value agree on everything the blocks observe, provided `env.hash` respects `equalValue`;
  `validateStep` preserves "the recursive call respects representations" (`RecResp`; `RecEq` is the same for two given instances).
-/
import JSV.Proofs.RefineBase
import JSV.Proofs.RefineMono
namespace JSV
namespace Inv
open Go GoVal Refine

theorem jsonType_repr : ∀ (g : GoVal) (j : Json), denote g = some j → jsonType (strip g) = some j.typeName := by
  intro g j h
  have v := denote_view (strip_stripped g) j ((denote_strip g).trans h)
  cases j with
  | num q => exact v.2
  | arr _ => obtain ⟨_, e, _⟩ := v; rw [e]; rfl
  | obj _ => obtain ⟨_, e, _⟩ := v; rw [e]; rfl
  | _ => rw [v]; rfl

theorem jsonNumber_repr : ∀ (g : GoVal) (j : Json), denote g = some j →
    jsonNumber (strip g) = jsonNumber (ofJson j) := by
  intro g j h
  have v := denote_view (strip_stripped g) j ((denote_strip g).trans h)
  cases j with
  | num q => exact v.1
  | arr _ => obtain ⟨_, e, _⟩ := v; rw [e]; rfl
  | obj _ => obtain ⟨_, e, _⟩ := v; rw [e]; rfl
  | _ => rw [v]; rfl

theorem stringOf_of_number {v : GoVal} {q : Rat} (h : jsonNumber v = some q) : stringOf v = none := by
  cases v with
  | str s => cases h
  | jnum q' t => subst h; rfl
  | _ => rfl

theorem bArray_of_number {v : GoVal} {q : Rat} (h : jsonNumber v = some q) (env : VEnv) (rec : Go.Rec)
    (stack : List NodeId) (n : Node) (anns : Anns) : bArray env rec stack n v anns = .ok anns := by
  cases v with
  | list xs => cases h
  | _ => rfl

theorem bObject_of_number {v : GoVal} {q : Rat} (h : jsonNumber v = some q) (env : VEnv) (rec : Go.Rec)
    (stack : List NodeId) (n : Node) (info : Option Info) (anns : Anns) :
    bObject env rec stack n info v anns = .ok anns := by
  cases v with
  | map kvs => cases h
  | other k => cases h
  | _ => rfl

theorem stringOf_repr : ∀ (g : GoVal) (j : Json), denote g = some j →
    stringOf (strip g) = stringOf (ofJson j) := by
  intro g j h
  have v := denote_view (strip_stripped g) j ((denote_strip g).trans h)
  cases j with
  | num q => exact stringOf_of_number v.1
  | arr _ => obtain ⟨_, e, _⟩ := v; rw [e]; rfl
  | obj _ => obtain ⟨_, e, _⟩ := v; rw [e]; rfl
  | _ => rw [v]; rfl

theorem bType_repr (n : Node) (g : GoVal) (j : Json) (h : denote g = some j) :
    bType n (strip g) = bType n (ofJson j) := by
  unfold bType; rw [jsonType_repr g j h, jsonType_ofJson]

theorem equalValue_repr (c : Json) (g : GoVal) (j : Json) (h : denote g = some j) :
    equalValue (ofJson c) (strip g) = equalValue (ofJson c) (ofJson j) := by
  rw [Go.equalValue_eq (ofJson c) (strip g) c j (denote_ofJson c) (by rw [denote_strip]; exact h),
      Go.equalValue_eq (ofJson c) (ofJson j) c j (denote_ofJson c) (denote_ofJson j)]

theorem enumLoop_repr (g : GoVal) (j : Json) (h : denote g = some j) : ∀ es : List Json,
    enumLoop (strip g) es = enumLoop (ofJson j) es
  | [] => rfl
  | e :: es => by simp only [enumLoop, equalValue_repr e g j h, enumLoop_repr g j h es]

theorem bEnum_repr (n : Node) (g : GoVal) (j : Json) (h : denote g = some j) :
    bEnum n (strip g) = bEnum n (ofJson j) := by
  unfold bEnum; simp only [enumLoop_repr g j h]

theorem bConst_repr (n : Node) (g : GoVal) (j : Json) (h : denote g = some j) :
    bConst n (strip g) = bConst n (ofJson j) := by
  unfold bConst; simp only [equalValue_repr _ g j h]

theorem bNumeric_repr (n : Node) (g : GoVal) (j : Json) (h : denote g = some j) :
    bNumeric n (strip g) = bNumeric n (ofJson j) := by
  unfold bNumeric; rw [jsonNumber_repr g j h]

theorem bString_repr (env : VEnv) (n : Node) (info : Option Info) (g : GoVal) (j : Json) (h : denote g = some j) :
    bString env n info (strip g) = bString env n info (ofJson j) := by
  unfold bString; rw [stringOf_repr g j h]

def RecEq (rec : Go.Rec) (x y : GoVal) : Prop := ∀ stk t, rec stk x t = rec stk y t

theorem RecEq.refl (rec : Go.Rec) (x : GoVal) : RecEq rec x x := fun _ _ => rfl

def RecResp (rec : Go.Rec) : Prop :=
  ∀ stack s g g' j, denote g = some j → denote g' = some j → Json.WF j = true → rec stack g s = rec stack g' s

theorem CallLe.of_denote {rec : Go.Rec} (hr : RecResp rec) {x y : GoVal} {j : Json} (hx : denote x = some j)
    (hy : denote y = some j) (hw : Json.WF j = true) : CallLe rec rec x y := fun stk t =>
  Or.inr (hr stk t x y j hx hy hw)

theorem all₂_same {rec : Go.Rec} (hr : RecResp rec) : ∀ (xs ys : List GoVal) (js : List Json),
    denoteList xs = some js → denoteList ys = some js → Json.wfList js = true → All₂ (CallLe rec rec) xs ys
  | [], [], _, _, _, _ => trivial
  | x :: xs, [], js, h, h', _ => by
    obtain ⟨_, _, _, _, rfl⟩ := denoteList_cons_some.1 h
    simp [denoteList] at h'
  | [], y :: ys, js, h, h', _ => by
    obtain ⟨_, _, _, _, rfl⟩ := denoteList_cons_some.1 h'
    simp [denoteList] at h
  | x :: xs, y :: ys, js, h, h', hw => by
    obtain ⟨j, js', h1, h2, rfl⟩ := denoteList_cons_some.1 h
    obtain ⟨j', js'', h1', h2', e⟩ := denoteList_cons_some.1 h'
    cases e
    simp only [Json.wfList, Bool.and_eq_true] at hw
    exact ⟨CallLe.of_denote hr h1 h1' hw.1, all₂_same hr xs ys js' h2 h2' hw.2⟩

theorem all₂_sameObj {rec : Go.Rec} (hr : RecResp rec) : ∀ (xs ys : List (String × GoVal)) (js : List (String × Json)),
    denoteObj xs = some js → denoteObj ys = some js → Json.wfObj js = true → All₂ (KVLe rec rec) xs ys
  | [], [], _, _, _, _ => trivial
  | (k, x) :: xs, [], js, h, h', _ => by
    obtain ⟨_, _, _, _, rfl⟩ := denoteObj_cons_some.1 h
    simp [denoteObj] at h'
  | [], (k, y) :: ys, js, h, h', _ => by
    obtain ⟨_, _, _, _, rfl⟩ := denoteObj_cons_some.1 h'
    simp [denoteObj] at h
  | (k, x) :: xs, (k', y) :: ys, js, h, h', hw => by
    obtain ⟨j, js', h1, h2, rfl⟩ := denoteObj_cons_some.1 h
    obtain ⟨j', js'', h1', h2', e⟩ := denoteObj_cons_some.1 h'
    cases e
    simp only [Json.wfObj, Bool.and_eq_true] at hw
    exact ⟨⟨rfl, CallLe.of_denote hr h1 h1' hw.1⟩, all₂_sameObj hr xs ys js' h2 h2' hw.2⟩

/-- symmetric in the two representations: `≤` both ways is `=` -/
theorem stepBody_repr_le (env : VEnv) (hh : ∀ x y, equalValue x y = .ok true → env.hash x = env.hash y)
    {rec : Go.Rec} (hr : RecResp rec) (stack : List NodeId) (s : NodeId) (n : Node) (g g' : GoVal) (j : Json)
    (hg : denote g = some j) (hg' : denote g' = some j) (hw : Json.WF j = true) :
    stepBody env rec stack g s n ⊑ stepBody env rec stack g' s n := by
  have hd : denote (strip g) = some j := by rw [denote_strip]; exact hg
  have hd' : denote (strip g') = some j := by rw [denote_strip]; exact hg'
  refine stepBody_mono env stack s n (CallLe.of_denote hr hd hd' hw)
    (by rw [bType_repr n g j hg, bType_repr n g' j hg']) (by rw [bEnum_repr n g j hg, bEnum_repr n g' j hg'])
    (by rw [bConst_repr n g j hg, bConst_repr n g' j hg']) (by rw [bNumeric_repr n g j hg, bNumeric_repr n g' j hg'])
    (by rw [bString_repr env n _ g j hg, bString_repr env n _ g' j hg']) (fun a => ?_) (fun a => ?_)
  · have v := denote_view (strip_stripped g) j hd
    have v' := denote_view (strip_stripped g') j hd'
    cases j with
    | arr js =>
      obtain ⟨xs, e, hx⟩ := v
      obtain ⟨ys, e', hy⟩ := v'
      have hwl : Json.wfList js = true := by simpa [Json.WF] using hw
      rw [e, e']
      refine bArray_list_mono (all₂_same hr xs ys js hx hy hwl) env _ n ?_ a
      rw [Go.uniqueItems_eq env.hash xs js hx hwl (fun x y _ _ he => hh x y he),
          Go.uniqueItems_eq env.hash ys js hy hwl (fun x y _ _ he => hh x y he)]
    | obj _ => obtain ⟨_, e, _⟩ := v; obtain ⟨_, e', _⟩ := v'; rw [e, e']; exact Res.le_refl _
    | num q => rw [bArray_of_number v.1, bArray_of_number v'.1]; exact Res.le_refl _
    | _ => rw [v, v']; exact Res.le_refl _
  · have v := denote_view (strip_stripped g) j hd
    have v' := denote_view (strip_stripped g') j hd'
    cases j with
    | obj js =>
      obtain ⟨xs, e, hx⟩ := v
      obtain ⟨ys, e', hy⟩ := v'
      have hwo : Json.wfObj js = true := by simp only [Json.WF, Bool.and_eq_true] at hw; exact hw.2
      have hc := CallLe.of_denote hr hd hd' hw
      rw [e, e'] at hc ⊢
      exact bObject_map_mono (all₂_sameObj hr xs ys js hx hy hwo) (fun s _ _ => Res.le_refl _) env _ n _ hc a
    | arr _ => obtain ⟨_, e, _⟩ := v; obtain ⟨_, e', _⟩ := v'; rw [e, e']; exact Res.le_refl _
    | num q => rw [bObject_of_number v.1, bObject_of_number v'.1]; exact Res.le_refl _
    | _ => rw [v, v']; exact Res.le_refl _

theorem validateStep_repr (env : VEnv) (hh : ∀ x y, equalValue x y = .ok true → env.hash x = env.hash y)
    {rec : Go.Rec} (hr : RecResp rec) : RecResp (validateStep env rec) := by
  intro stack s g g' j hg hg' hw
  rw [validateStep_eq_body, validateStep_eq_body]
  cases env.st.get? s with
  | none => rfl
  | some n =>
    exact Res.le_antisymm (stepBody_repr_le env hh hr stack s n g g' j hg hg' hw)
      (stepBody_repr_le env hh hr stack s n g' g j hg' hg hw)

theorem validateFuel_repr (env : VEnv) (hh : ∀ x y, equalValue x y = .ok true → env.hash x = env.hash y) :
    ∀ fuel, RecResp (validateFuel env fuel)
  | 0 => fun _ _ _ _ _ _ _ _ => rfl
  | fuel + 1 => validateStep_repr env hh (validateFuel_repr env hh fuel)

end Inv
end JSV
