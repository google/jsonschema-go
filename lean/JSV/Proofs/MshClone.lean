/-
  For C20 (CloneSchemas): cloneStep as a fold over `Node.childFields` (`cloneField_eq`: the clone of a field is the clone
  of the list of its ids), store extension (`Ext`), what is assumed of the recursive call stated once for every
  invariant of the traversal (`CloneInv`), `NodeRel` (a node and a copy with related schema-valued fields, over the
  relators of Relators.lean), the simulation between a subtree and its clone (`Sim`), freshness of the clone
  (`FreshAbove`) and reachability (`Reach`).
-/
import JSV.Model.Clone
import JSV.Proofs.MshSort
import JSV.Proofs.Relators
import JSV.Proofs.StoreGet
import JSV.Proofs.Children
namespace JSV

namespace Go

def cloneField (rec : CRec) : ChildField → Store → Res (ChildField × Store)
  | .one k c, st => Res.bind (cloneOpt rec c st) fun r => .ok (.one k r.1, r.2)
  | .many k cs, st => Res.bind (cloneList rec cs st) fun r => .ok (.many k r.1, r.2)
  | .keyed k cs, st => Res.bind (cloneMap rec cs st) fun r => .ok (.keyed k r.1, r.2)

def cloneFields (rec : CRec) : List ChildField → Store → Res (List ChildField × Store)
  | [], st => .ok ([], st)
  | f :: fs, st =>
    Res.bind (cloneField rec f st) fun r => Res.bind (cloneFields rec fs r.2) fun r' => .ok (r.1 :: r'.1, r'.2)

def getOne (fs : List ChildField) (i : Nat) : Option NodeId :=
  match fs[i]? with
  | some (.one _ c) => c
  | _ => none

def getMany (fs : List ChildField) (i : Nat) : Option (List NodeId) :=
  match fs[i]? with
  | some (.many _ c) => c
  | _ => none

def getKeyed (fs : List ChildField) (i : Nat) : Option (List (String × NodeId)) :=
  match fs[i]? with
  | some (.keyed _ c) => c
  | _ => none

/-- the node with its schema-bearing fields replaced by the entries of a list shaped like `childFields` -/
def setChildFields (n : Node) (fs : List ChildField) : Node :=
  { n with
    defs := getKeyed fs 0, additionalItems := getOne fs 1, additionalProperties := getOne fs 2,
    allOf := getMany fs 3, anyOf := getMany fs 4, contains := getOne fs 5, contentSchema := getOne fs 6,
    definitions := getKeyed fs 7, dependencySchemas := getKeyed fs 8, dependentSchemas := getKeyed fs 9,
    else_ := getOne fs 10, if_ := getOne fs 11, items := getOne fs 12, itemsArray := getMany fs 13,
    not := getOne fs 14, oneOf := getMany fs 15, patternProperties := getKeyed fs 16,
    prefixItems := getMany fs 17, properties := getKeyed fs 18, propertyNames := getOne fs 19,
    then_ := getOne fs 20, unevaluatedItems := getOne fs 21, unevaluatedProperties := getOne fs 22 }

/-! `cloneFields` / `cloneField` followed by a continuation: with these, `cloneStep` and its fold over the 23 fields are
   rewritten into each other field by field, left to right, instead of reassociating 23 nested binds at once. -/

theorem cloneFields_cons_bind {γ} (rec : CRec) (f fs st) (k : List ChildField × Store → Res γ) :
    Res.bind (cloneFields rec (f :: fs) st) k =
      Res.bind (cloneField rec f st) fun r => Res.bind (cloneFields rec fs r.2) fun r' => k (r.1 :: r'.1, r'.2) := by
  simp only [cloneFields, Res.bind_assoc, Res.bind_ok]

theorem cloneFields_nil_bind {γ} (rec : CRec) (st) (k : List ChildField × Store → Res γ) :
    Res.bind (cloneFields rec [] st) k = k ([], st) := rfl

theorem cloneField_one_bind {γ} (rec : CRec) (j c st) (k : ChildField × Store → Res γ) :
    Res.bind (cloneField rec (.one j c) st) k = Res.bind (cloneOpt rec c st) fun r => k (.one j r.1, r.2) := by
  simp only [cloneField, Res.bind_assoc, Res.bind_ok]

theorem cloneField_many_bind {γ} (rec : CRec) (j c st) (k : ChildField × Store → Res γ) :
    Res.bind (cloneField rec (.many j c) st) k = Res.bind (cloneList rec c st) fun r => k (.many j r.1, r.2) := by
  simp only [cloneField, Res.bind_assoc, Res.bind_ok]

theorem cloneField_keyed_bind {γ} (rec : CRec) (j c st) (k : ChildField × Store → Res γ) :
    Res.bind (cloneField rec (.keyed j c) st) k = Res.bind (cloneMap rec c st) fun r => k (.keyed j r.1, r.2) := by
  simp only [cloneField, Res.bind_assoc, Res.bind_ok]

theorem cloneStep_eq (rec : CRec) (id : NodeId) (st : Store) :
    cloneStep rec id st =
      match st.get? id with
      | none => .ok (id, st)
      | some n => Res.bind (cloneFields rec n.childFields st) fun r => .ok (r.2.alloc (setChildFields n r.1)) := by
  unfold cloneStep
  cases st.get? id with
  | none => rfl
  | some n =>
    simp only [Node.childFields, cloneFields_cons_bind, cloneFields_nil_bind, cloneField_one_bind,
      cloneField_many_bind, cloneField_keyed_bind]
    rfl

def Ext (st st' : Store) : Prop := st.size ≤ st'.size ∧ ∀ i, i < st.size → st'.get? i = st.get? i

theorem Ext.refl (st : Store) : Ext st st := ⟨Nat.le_refl _, fun _ _ => rfl⟩

theorem Ext.trans {a b c : Store} (h₁ : Ext a b) (h₂ : Ext b c) : Ext a c :=
  ⟨Nat.le_trans h₁.1 h₂.1, fun i hi => (h₂.2 i (Nat.lt_of_lt_of_le hi h₁.1)).trans (h₁.2 i hi)⟩

theorem Ext.push (st : Store) (n : Node) : Ext st (st.push n) :=
  ⟨by rw [Array.size_push]; exact Nat.le_succ _, fun _ hi => get?_push_lt n hi⟩

theorem Ext.get? {st st' : Store} (h : Ext st st') {i : NodeId} {n : Node} (hn : st.get? i = some n) :
    st'.get? i = some n := by
  rw [h.2 i (lt_size_of_get? hn), hn]

/-- `f` with the ids it stores replaced, in order, by those of `l` -/
def _root_.JSV.ChildField.withIds : ChildField → List NodeId → ChildField
  | .one k c, l => .one k (c.bind fun _ => l.head?)
  | .many k cs, l => .many k (cs.map fun _ => l)
  | .keyed k cs, l => .keyed k (cs.map fun kvs => (kvs.map (·.1)).zip l)

/-! The clone of a field is the clone of the list of its ids: what is proved about `cloneIds` holds for `cloneOpt`,
   `cloneList`, `cloneMap` through `cloneField_eq`. -/

theorem cloneEntries_eq (rec : CRec) : ∀ (l : List (String × NodeId)) (st : Store),
    cloneEntries rec l st = Res.bind (cloneIds rec (l.map (·.2)) st) fun r => .ok ((l.map (·.1)).zip r.1, r.2)
  | [], _ => rfl
  | (k, x) :: xs, st => by
    simp only [cloneEntries, cloneIds, List.map_cons, Res.bind_assoc, Res.bind_ok, cloneEntries_eq rec xs,
      List.zip_cons_cons]

theorem cloneField_eq (rec : CRec) (f : ChildField) (st : Store) :
    cloneField rec f st = Res.bind (cloneIds rec f.ids st) fun r => .ok (f.withIds r.1, r.2) := by
  cases f with
  | one k c =>
    cases c with
    | none => rfl
    | some x =>
      simp only [cloneField, cloneOpt, ChildField.ids, Option.toList, cloneIds, Res.bind_assoc, Res.bind_ok]
      rfl
  | many k cs =>
    cases cs with
    | none => rfl
    | some l =>
      simp only [cloneField, cloneList, Res.bind_assoc, Res.bind_ok]
      rfl
  | keyed k cs =>
    cases cs with
    | none => rfl
    | some l =>
      simp only [cloneField, cloneMap, cloneEntries_eq, Res.bind_assoc, Res.bind_ok]
      rfl

theorem FieldRel.withIds {R : NodeId → NodeId → Prop} : ∀ {f : ChildField} {l' : List NodeId},
    ListRel R f.ids l' → FieldRel R f (f.withIds l')
  | .one k none, _, h => by cases h; exact .one trivial
  | .one k (some x), _, h => by
    obtain ⟨x', xs', rfl, h1, -⟩ := h.cons_inv
    exact .one h1
  | .many k none, _, _ => .many trivial
  | .many k (some _), _, h => .many h
  | .keyed k none, _, _ => .keyed trivial
  | .keyed k (some _), _, h => .keyed (ListRel.zip_keys h)

/-- what is assumed of the recursive call: from a store satisfying `Pre`, on an id satisfying `P`,
    a successful call takes the store to a `T`-later one and relates argument and result by `R` -/
structure CloneInv (rec : CRec) (T : Store → Store → Prop) (R : Store → NodeId → NodeId → Prop)
    (Pre : Store → Prop) (P : NodeId → Prop) : Prop where
  refl : ∀ s, T s s
  trans : ∀ {a b c}, T a b → T b c → T a c
  pre : ∀ {s s'}, Pre s → T s s' → Pre s'
  mono : ∀ {s s' x y}, T s s' → R s x y → R s' x y
  call : ∀ {x s x' s'}, Pre s → P x → rec x s = .ok (x', s') → T s s' ∧ R s' x x'

section
variable {rec : CRec} {T : Store → Store → Prop} {R : Store → NodeId → NodeId → Prop}
  {Pre : Store → Prop} {P : NodeId → Prop}

theorem cloneIds_inv (I : CloneInv rec T R Pre P) : ∀ {l : List NodeId} {st : Store} {l' st'},
    Pre st → (∀ x, x ∈ l → P x) → cloneIds rec l st = .ok (l', st') → T st st' ∧ ListRel (R st') l l'
  | [], st, l', st', _, _, h => by
    simp only [cloneIds] at h
    cases h
    exact ⟨I.refl _, .nil⟩
  | x :: xs, st, l', st', hpre, hP, h => by
    simp only [cloneIds] at h
    obtain ⟨⟨x', s1⟩, h1, h2⟩ := Res.bind_eq_ok h
    obtain ⟨⟨xs', s2⟩, h3, h4⟩ := Res.bind_eq_ok h2
    cases h4
    have c1 := I.call hpre (hP x (by simp)) h1
    have c2 := cloneIds_inv I (I.pre hpre c1.1) (fun y hy => hP y (by simp [hy])) h3
    exact ⟨I.trans c1.1 c2.1, .cons (I.mono c2.1 c1.2) c2.2⟩

theorem cloneField_inv (I : CloneInv rec T R Pre P) {f : ChildField} {st : Store} {f' st'}
    (hpre : Pre st) (hP : ∀ x, x ∈ f.ids → P x) (h : cloneField rec f st = .ok (f', st')) :
    T st st' ∧ FieldRel (R st') f f' := by
  rw [cloneField_eq] at h
  obtain ⟨⟨l', s1⟩, h1, h2⟩ := Res.bind_eq_ok h
  cases h2
  have := cloneIds_inv I hpre hP h1
  exact ⟨this.1, FieldRel.withIds this.2⟩

theorem cloneFields_inv (I : CloneInv rec T R Pre P) : ∀ {fs : List ChildField} {st : Store} {fs' st'},
    Pre st → (∀ f, f ∈ fs → ∀ x, x ∈ f.ids → P x) → cloneFields rec fs st = .ok (fs', st') →
    T st st' ∧ ListRel (FieldRel (R st')) fs fs'
  | [], st, l', st', _, _, h => by
    simp only [cloneFields] at h
    cases h
    exact ⟨I.refl _, .nil⟩
  | f :: fs, st, l', st', hpre, hP, h => by
    simp only [cloneFields] at h
    obtain ⟨⟨f', s1⟩, h1, h2⟩ := Res.bind_eq_ok h
    obtain ⟨⟨fs', s2⟩, h3, h4⟩ := Res.bind_eq_ok h2
    cases h4
    have c1 := cloneField_inv I hpre (hP f (by simp)) h1
    have c2 := cloneFields_inv I (I.pre hpre c1.1) (fun g hg => hP g (by simp [hg])) h3
    exact ⟨I.trans c1.1 c2.1, .cons (FieldRel.imp (fun _ _ hr => I.mono c2.1 hr) _ _ c1.2) c2.2⟩

end

theorem cloneStep_none {rec : CRec} {id : NodeId} {st : Store} (hn : st.get? id = none) :
    cloneStep rec id st = .ok (id, st) := by
  rw [cloneStep_eq, hn]

theorem cloneStep_some {rec : CRec} {id : NodeId} {st : Store} {n : Node} {c : NodeId} {st' : Store}
    (hn : st.get? id = some n) (h : cloneStep rec id st = .ok (c, st')) :
    ∃ fs' s', cloneFields rec n.childFields st = .ok (fs', s') ∧ c = s'.size ∧
      st' = s'.push (setChildFields n fs') := by
  rw [cloneStep_eq, hn] at h
  obtain ⟨⟨fs', s'⟩, h1, h2⟩ := Res.bind_eq_ok h
  cases h2
  exact ⟨fs', s', h1, rfl, rfl⟩

theorem childFields_inv {R : NodeId → NodeId → Prop} {n : Node} {fs : List ChildField}
    (h : ListRel (FieldRel R) n.childFields fs) :
    ∃ (c0 : Option (List (String × NodeId))) (c1 : Option NodeId) (c2 : Option NodeId) (c3 : Option (List NodeId)) (c4 : Option (List NodeId)) (c5 : Option NodeId) (c6 : Option NodeId) (c7 : Option (List (String × NodeId))) (c8 : Option (List (String × NodeId))) (c9 : Option (List (String × NodeId))) (c10 : Option NodeId) (c11 : Option NodeId) (c12 : Option NodeId) (c13 : Option (List NodeId)) (c14 : Option NodeId) (c15 : Option (List NodeId)) (c16 : Option (List (String × NodeId))) (c17 : Option (List NodeId)) (c18 : Option (List (String × NodeId))) (c19 : Option NodeId) (c20 : Option NodeId) (c21 : Option NodeId) (c22 : Option NodeId),
      fs = [.keyed "$defs" c0, .one "additionalItems" c1, .one "additionalProperties" c2, .many "allOf" c3, .many "anyOf" c4, .one "contains" c5, .one "contentSchema" c6, .keyed "definitions" c7, .keyed "dependencies" c8, .keyed "dependentSchemas" c9, .one "else" c10, .one "if" c11, .one "items" c12, .many "items" c13, .one "not" c14, .many "oneOf" c15, .keyed "patternProperties" c16, .many "prefixItems" c17, .keyed "properties" c18, .one "propertyNames" c19, .one "then" c20, .one "unevaluatedItems" c21, .one "unevaluatedProperties" c22] ∧
      OptRel (ListRel (KeyRel R)) n.defs c0 ∧
      OptRel R n.additionalItems c1 ∧
      OptRel R n.additionalProperties c2 ∧
      OptRel (ListRel R) n.allOf c3 ∧
      OptRel (ListRel R) n.anyOf c4 ∧
      OptRel R n.contains c5 ∧
      OptRel R n.contentSchema c6 ∧
      OptRel (ListRel (KeyRel R)) n.definitions c7 ∧
      OptRel (ListRel (KeyRel R)) n.dependencySchemas c8 ∧
      OptRel (ListRel (KeyRel R)) n.dependentSchemas c9 ∧
      OptRel R n.else_ c10 ∧
      OptRel R n.if_ c11 ∧
      OptRel R n.items c12 ∧
      OptRel (ListRel R) n.itemsArray c13 ∧
      OptRel R n.not c14 ∧
      OptRel (ListRel R) n.oneOf c15 ∧
      OptRel (ListRel (KeyRel R)) n.patternProperties c16 ∧
      OptRel (ListRel R) n.prefixItems c17 ∧
      OptRel (ListRel (KeyRel R)) n.properties c18 ∧
      OptRel R n.propertyNames c19 ∧
      OptRel R n.then_ c20 ∧
      OptRel R n.unevaluatedItems c21 ∧
      OptRel R n.unevaluatedProperties c22 := by
  unfold Node.childFields at h
  obtain ⟨c0, _, rfl, r0, h⟩ := FieldRel.keyed_cons h
  obtain ⟨c1, _, rfl, r1, h⟩ := FieldRel.one_cons h
  obtain ⟨c2, _, rfl, r2, h⟩ := FieldRel.one_cons h
  obtain ⟨c3, _, rfl, r3, h⟩ := FieldRel.many_cons h
  obtain ⟨c4, _, rfl, r4, h⟩ := FieldRel.many_cons h
  obtain ⟨c5, _, rfl, r5, h⟩ := FieldRel.one_cons h
  obtain ⟨c6, _, rfl, r6, h⟩ := FieldRel.one_cons h
  obtain ⟨c7, _, rfl, r7, h⟩ := FieldRel.keyed_cons h
  obtain ⟨c8, _, rfl, r8, h⟩ := FieldRel.keyed_cons h
  obtain ⟨c9, _, rfl, r9, h⟩ := FieldRel.keyed_cons h
  obtain ⟨c10, _, rfl, r10, h⟩ := FieldRel.one_cons h
  obtain ⟨c11, _, rfl, r11, h⟩ := FieldRel.one_cons h
  obtain ⟨c12, _, rfl, r12, h⟩ := FieldRel.one_cons h
  obtain ⟨c13, _, rfl, r13, h⟩ := FieldRel.many_cons h
  obtain ⟨c14, _, rfl, r14, h⟩ := FieldRel.one_cons h
  obtain ⟨c15, _, rfl, r15, h⟩ := FieldRel.many_cons h
  obtain ⟨c16, _, rfl, r16, h⟩ := FieldRel.keyed_cons h
  obtain ⟨c17, _, rfl, r17, h⟩ := FieldRel.many_cons h
  obtain ⟨c18, _, rfl, r18, h⟩ := FieldRel.keyed_cons h
  obtain ⟨c19, _, rfl, r19, h⟩ := FieldRel.one_cons h
  obtain ⟨c20, _, rfl, r20, h⟩ := FieldRel.one_cons h
  obtain ⟨c21, _, rfl, r21, h⟩ := FieldRel.one_cons h
  obtain ⟨c22, _, rfl, r22, h⟩ := FieldRel.one_cons h
  cases h.nil_inv
  exact ⟨c0, c1, c2, c3, c4, c5, c6, c7, c8, c9, c10, c11, c12, c13, c14, c15, c16, c17, c18, c19, c20, c21, c22, rfl, r0, r1, r2, r3, r4, r5, r6, r7, r8, r9, r10, r11, r12, r13, r14, r15, r16, r17, r18, r19, r20, r21, r22⟩

theorem childFields_set {R : NodeId → NodeId → Prop} {n : Node} {fs : List ChildField}
    (h : ListRel (FieldRel R) n.childFields fs) : (setChildFields n fs).childFields = fs := by
  obtain ⟨c0, c1, c2, c3, c4, c5, c6, c7, c8, c9, c10, c11, c12, c13, c14, c15, c16, c17, c18, c19, c20, c21, c22, rfl, -⟩ :=
    childFields_inv h
  rfl

theorem setChildFields_shallow (n : Node) (fs : List ChildField) :
    setChildFields (setChildFields n fs) n.childFields = n := rfl

theorem cloneInv_ext {rec : CRec} (hrec : ∀ x s x' s', rec x s = .ok (x', s') → Ext s s') :
    CloneInv rec Ext (fun _ _ _ => True) (fun _ => True) (fun _ => True) where
  refl := Ext.refl
  trans := Ext.trans
  pre := fun _ _ => trivial
  mono := fun _ _ => trivial
  call := fun _ _ h => ⟨hrec _ _ _ _ h, trivial⟩

theorem cloneStep_ext {rec : CRec} (hrec : ∀ x s x' s', rec x s = .ok (x', s') → Ext s s')
    {id : NodeId} {st : Store} {c : NodeId} {st' : Store} (h : cloneStep rec id st = .ok (c, st')) :
    Ext st st' := by
  cases hn : st.get? id with
  | none =>
    rw [cloneStep_none hn] at h
    cases h
    exact Ext.refl _
  | some n =>
    obtain ⟨fs', s', h1, -, rfl⟩ := cloneStep_some hn h
    exact (cloneFields_inv (cloneInv_ext hrec) trivial (fun _ _ _ _ => trivial) h1).1.trans (Ext.push _ _)

theorem cloneFuel_ext : ∀ (fc : Nat) {id : NodeId} {st : Store} {c : NodeId} {st' : Store},
    cloneFuel fc id st = .ok (c, st') → Ext st st'
  | 0, _, _, _, _, h => by cases h
  | fc + 1, _, _, _, _, h => cloneStep_ext (fun _ _ _ _ h' => cloneFuel_ext fc h') h

theorem FieldRel.ids_rel {R : NodeId → NodeId → Prop} : ∀ {f f'}, FieldRel R f f' → ListRel R f.ids f'.ids
  | _, _, .one (c := none) (c' := none) _ => .nil
  | _, _, .one (c := some _) (c' := some _) h => .cons h .nil
  | _, _, .one (c := none) (c' := some _) h => h.elim
  | _, _, .one (c := some _) (c' := none) h => h.elim
  | _, _, .many (cs := none) (cs' := none) _ => .nil
  | _, _, .many (cs := some _) (cs' := some _) h => h
  | _, _, .many (cs := none) (cs' := some _) h => h.elim
  | _, _, .many (cs := some _) (cs' := none) h => h.elim
  | _, _, .keyed (cs := none) (cs' := none) _ => .nil
  | _, _, .keyed (cs := some _) (cs' := some _) h => ListRel.map_snd h
  | _, _, .keyed (cs := none) (cs' := some _) h => h.elim
  | _, _, .keyed (cs := some _) (cs' := none) h => h.elim

/-- `n'` is `n` with its schema-bearing fields replaced by `R`-related ones (same shape, same keys) -/
def NodeRel (R : NodeId → NodeId → Prop) (n n' : Node) : Prop :=
  ∃ fs', ListRel (FieldRel R) n.childFields fs' ∧ n' = setChildFields n fs'

theorem NodeRel.imp {R S : NodeId → NodeId → Prop} (h : ∀ a b, R a b → S a b) {n n' : Node} :
    NodeRel R n n' → NodeRel S n n' := fun ⟨fs', h1, h2⟩ => ⟨fs', ListRel.imp (FieldRel.imp h) h1, h2⟩

/-- `Good B st d a`: the unfolding of `a` in `st` ends within depth `d` (so it is acyclic), where a nil
    pointer is an id `≥ B` (`B` bounds the size of every store considered, so nil stays nil) -/
def Good (B : Nat) (st : Store) : Nat → NodeId → Prop
  | 0, a => B ≤ a
  | d + 1, a => B ≤ a ∨ ∃ n, st.get? a = some n ∧ ∀ x, x ∈ n.children → Good B st d x

/-- `Sim B st st' d a b`: the subtree of `b` in `st'` is a copy of the subtree of `a` in `st`:
    same shape, same non-schema fields at every node, nil at the same places -/
def Sim (B : Nat) (st st' : Store) : Nat → NodeId → NodeId → Prop
  | 0, a, b => B ≤ a ∧ b = a
  | d + 1, a, b => (B ≤ a ∧ b = a) ∨
      ∃ n n', st.get? a = some n ∧ st'.get? b = some n' ∧ NodeRel (Sim B st st' d) n n'

theorem Sim.mono_right {B : Nat} {st st' st'' : Store} (he : Ext st' st'') :
    ∀ (d : Nat) (a b : NodeId), Sim B st st' d a b → Sim B st st'' d a b
  | 0, _, _, h => h
  | d + 1, _, _, h => by
    rcases h with h | ⟨n, n', ha, hb, hr⟩
    · exact Or.inl h
    · exact Or.inr ⟨n, n', ha, he.get? hb, NodeRel.imp (Sim.mono_right he d) hr⟩

theorem cloneInv_sim (B : Nat) (st0 : Store) (d fc : Nat)
    (IH : ∀ {st root c st'}, Ext st0 st → Good B st0 d root → cloneFuel fc root st = .ok (c, st') →
      st'.size ≤ B → Sim B st0 st' d root c) :
    CloneInv (cloneFuel fc) Ext (fun s' x x' => s'.size ≤ B → Sim B st0 s' d x x')
      (fun s => Ext st0 s) (fun x => Good B st0 d x) where
  refl := Ext.refl
  trans := Ext.trans
  pre := Ext.trans
  mono := fun hT hR hsz => Sim.mono_right hT _ _ _ (hR (Nat.le_trans hT.1 hsz))
  call := fun hpre hP h => ⟨cloneFuel_ext fc h, fun hsz => IH hpre hP h hsz⟩

theorem cloneFuel_sim (B : Nat) (st0 : Store) : ∀ (fc d : Nat) {st : Store} {root c : NodeId} {st' : Store},
    Ext st0 st → Good B st0 d root → cloneFuel fc root st = .ok (c, st') → st'.size ≤ B →
    Sim B st0 st' d root c := by
  intro fc
  induction fc with
  | zero => intro d st root c st' _ _ h; cases h
  | succ fc ih =>
    intro d st root c st' he hg h hsz
    have hext := cloneFuel_ext (fc + 1) h
    change cloneStep (cloneFuel fc) root st = _ at h
    cases hn : st.get? root with
    | none =>
      rw [cloneStep_none hn] at h
      cases h
      have hB : B ≤ root := by
        cases d with
        | zero => exact hg
        | succ d =>
          rcases hg with hg | ⟨n, hn0, _⟩
          · exact hg
          · rw [he.get? hn0] at hn; cases hn
      cases d with
      | zero => exact ⟨hB, rfl⟩
      | succ d => exact Or.inl ⟨hB, rfl⟩
    | some n =>
      have hlt : root < B := Nat.lt_of_lt_of_le (lt_size_of_get? hn) (Nat.le_trans hext.1 hsz)
      cases d with
      | zero => exact absurd hg (Nat.not_le_of_lt hlt)
      | succ d =>
        rcases hg with hg | ⟨n0, hn0, hch⟩
        · exact absurd hg (Nat.not_le_of_lt hlt)
        · have hnn : n0 = n := by
            have := he.get? hn0
            rw [hn] at this
            cases this
            rfl
          subst hnn
          obtain ⟨fs', s', h1, rfl, rfl⟩ := cloneStep_some hn h
          have I := cloneInv_sim B st0 d fc (fun a b c e => ih d a b c e)
          have r := cloneFields_inv I he (fun f hf x hx => hch x (mem_children_iff.2 ⟨f, hf, hx⟩)) h1
          have hs' : s'.size ≤ B := Nat.le_trans (Ext.push s' _).1 hsz
          refine Or.inr ⟨n0, _, hn0, get?_push_size _ _, fs', ?_, rfl⟩
          exact ListRel.imp (FieldRel.imp fun x y hr => Sim.mono_right (Ext.push _ _) _ _ _ (hr hs')) r.2

/-- nothing allocated from `s0` on (the clone) points below `s0` (into the original) -/
def FreshAbove (s0 : Nat) (st : Store) : Prop :=
  ∀ i n, s0 ≤ i → st.get? i = some n → ∀ x, x ∈ n.children → s0 ≤ x

theorem cloneInv_fresh (s0 fc : Nat)
    (IH : ∀ {st root c st'}, s0 ≤ st.size → cloneFuel fc root st = .ok (c, st') →
      s0 ≤ c ∧ (FreshAbove s0 st → FreshAbove s0 st')) :
    CloneInv (cloneFuel fc) (fun s s' => Ext s s' ∧ (FreshAbove s0 s → FreshAbove s0 s'))
      (fun _ _ x' => s0 ≤ x') (fun s => s0 ≤ s.size) (fun _ => True) where
  refl := fun s => ⟨Ext.refl s, id⟩
  trans := fun h1 h2 => ⟨h1.1.trans h2.1, fun hf => h2.2 (h1.2 hf)⟩
  pre := fun hp hT => Nat.le_trans hp hT.1.1
  mono := fun _ hR => hR
  call := fun hpre _ h => ⟨⟨cloneFuel_ext fc h, (IH hpre h).2⟩, (IH hpre h).1⟩

theorem cloneFuel_fresh (s0 : Nat) : ∀ (fc : Nat) {st : Store} {root c : NodeId} {st' : Store},
    s0 ≤ st.size → cloneFuel fc root st = .ok (c, st') → s0 ≤ c ∧ (FreshAbove s0 st → FreshAbove s0 st') := by
  intro fc
  induction fc with
  | zero => intro st root c st' _ h; cases h
  | succ fc ih =>
    intro st root c st' hs h
    change cloneStep (cloneFuel fc) root st = _ at h
    cases hn : st.get? root with
    | none =>
      rw [cloneStep_none hn] at h
      cases h
      exact ⟨Nat.le_trans hs (get?_eq_none_iff.1 hn), id⟩
    | some n =>
      obtain ⟨fs', s', h1, rfl, rfl⟩ := cloneStep_some hn h
      have I := cloneInv_fresh s0 fc (fun a b => ih a b)
      have r := cloneFields_inv I hs (fun _ _ _ _ => trivial) h1
      have hs' : s0 ≤ s'.size := Nat.le_trans hs r.1.1.1
      refine ⟨hs', fun hf => ?_⟩
      have hf' := r.1.2 hf
      intro i m hi hm x hx
      by_cases hlt : i < s'.size
      · rw [get?_push_lt _ hlt] at hm
        exact hf' i m hi hm x hx
      · have hi' : i = s'.size := by
          have h2 : i < (s'.push (setChildFields n fs')).size := lt_size_of_get? hm
          rw [Array.size_push] at h2
          omega
        subst hi'
        rw [get?_push_size] at hm
        cases hm
        obtain ⟨f', hf'mem, hxf⟩ := mem_children_iff.1 hx
        rw [childFields_set r.2] at hf'mem
        obtain ⟨f, _, hrel⟩ := ListRel.mem_right r.2 hf'mem
        obtain ⟨_, _, hle⟩ := ListRel.mem_right (FieldRel.ids_rel hrel) hxf
        exact hle

/-- reachability through `Node.children` (the model's everyChild) -/
inductive Reach (st : Store) : NodeId → NodeId → Prop
  | refl (a : NodeId) : Reach st a a
  | step {a : NodeId} {n : Node} {x b : NodeId} : st.get? a = some n → x ∈ n.children → Reach st x b → Reach st a b

theorem Reach.fresh {s0 : Nat} {st : Store} (hf : FreshAbove s0 st) {a b : NodeId} (h : Reach st a b) :
    s0 ≤ a → s0 ≤ b := by
  induction h with
  | refl a => exact id
  | step hn hx _ ih => exact fun ha => ih (hf _ _ ha hn _ hx)

theorem reachable_sound (st : Store) : ∀ (fuel : Nat) (work : List NodeId) (b : NodeId),
    b ∈ reachable st fuel work → ∃ a, a ∈ work ∧ Reach st a b
  | 0, _, _, h => by simp [reachable] at h
  | _ + 1, [], _, h => by simp [reachable] at h
  | fuel + 1, id :: work, b, h => by
    simp only [reachable] at h
    cases hn : st.get? id with
    | none =>
      rw [hn] at h
      obtain ⟨a, ha, hr⟩ := reachable_sound st fuel work b h
      exact ⟨a, List.mem_cons_of_mem _ ha, hr⟩
    | some n =>
      rw [hn] at h
      rcases List.mem_cons.1 h with rfl | h
      · exact ⟨_, List.mem_cons_self, .refl _⟩
      · obtain ⟨a, ha, hr⟩ := reachable_sound st fuel _ b h
        rcases List.mem_append.1 ha with ha | ha
        · exact ⟨id, List.mem_cons_self, .step hn ha hr⟩
        · exact ⟨a, List.mem_cons_of_mem _ ha, hr⟩

end Go
end JSV
