/-
  The wrapper-struct tables of MarshalJSON / UnmarshalJSON (`Generated.marshalShadow`, `Generated.unmarshalShadow`),
  each entry "GoName:jsonName:type" split once; the table facts of C05 select and project on the split entries.
-/
import JSV.Proofs.MshFacts
namespace JSV
namespace Go

def shadowParts (s : String) : String × String × String := (shadowGo s, shadowName s, shadowType s)

theorem marshalShadow_parts : Generated.marshalShadow.map shadowParts =
    [("Type", "type", "any"), ("Properties", "properties", "json.Marshaler"),
     ("Dependencies", "dependencies", "map[string]any"), ("Items", "items", "any"), ("Enum", "enum", "any"),
     ("AnyOf", "anyOf", "any"), ("OneOf", "oneOf", "any"), ("Vocabulary", "$vocabulary", "any")] := by decide +kernel

theorem unmarshalShadow_parts : Generated.unmarshalShadow.map shadowParts =
    [("Type", "type", "json.RawMessage"), ("Dependencies", "dependencies", "map[string]json.RawMessage"),
     ("Items", "items", "json.RawMessage"), ("Const", "const", "json.RawMessage"),
     ("MinLength", "minLength", "*integer"), ("MaxLength", "maxLength", "*integer"),
     ("MinItems", "minItems", "*integer"), ("MaxItems", "maxItems", "*integer"),
     ("MinProperties", "minProperties", "*integer"), ("MaxProperties", "maxProperties", "*integer"),
     ("MinContains", "minContains", "*integer"), ("MaxContains", "maxContains", "*integer")] := by decide +kernel

theorem filter_map_parts {α β γ : Type} (parts : α → β) (p : β → Bool) (g : β → γ) (l : List α) :
    (l.filter fun s => p (parts s)).map (fun s => g (parts s)) = ((l.map parts).filter p).map g := by
  rw [List.filter_map, List.map_map]; rfl

theorem filter_not_contains_self (l : List String) : l.filter (fun k => !l.contains k) = [] :=
  List.filter_eq_nil_iff.2 fun a ha => by simp [ha]

end Go
end JSV
