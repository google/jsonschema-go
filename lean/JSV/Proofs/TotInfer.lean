/-
  C10, `forType`: fuel `depth t` is enough (`inferFuel_NoFuel`), given that cloning a type-table entry does not run out of fuel.
-/
import JSV.Proofs.InfStep
import JSV.Proofs.NoPF
namespace JSV
namespace C10
open JSV Go

mutual
  /-- nesting depth: the number of forType calls on the longest path (pointers and the step from a named type to its
      underlying type are handled inside one call).  Not `EncJson.depth`, the fuel the Spec needs for the schema, which
      counts a declared type as a level: a type-table entry is evaluated with fuel `depth u + 1`. -/
  def depth : GoType → Nat
    | .basic _ => 1
    | .named _ u => depth u
    | .ref _ => 1
    | .ptr e => depth e
    | .slice e => depth e + 1
    | .array _ e => depth e + 1
    | .map _ e => depth e + 1
    | .struct fields => depthFields fields + 1
  def depthFields : List (String × String × GoType) → Nat
    | [] => 0
    | (_, _, t) :: rest => max (depth t) (depthFields rest)
end

theorem depth_pos : ∀ t : GoType, 1 ≤ depth t
  | .basic _ => by simp [depth]
  | .named _ u => by simp only [depth]; exact depth_pos u
  | .ref _ => by simp [depth]
  | .ptr e => by simp only [depth]; exact depth_pos e
  | .slice e => by simp [depth]
  | .array _ e => by simp [depth]
  | .map _ e => by simp [depth]
  | .struct _ => by simp [depth]

theorem depth_stripPtrs (t : GoType) : depth (stripPtrs t).1 = depth t := by
  induction t using GoType.ptr_ind with
  | ptr e ih => simp only [stripPtrs, depth]; exact ih
  | base t h => rw [stripPtrs_nonptr h]

theorem depth_le_depthFields : ∀ {fields : List (String × String × GoType)} {g tag : String} {ft : GoType},
    (g, tag, ft) ∈ fields → depth ft ≤ depthFields fields
  | (g', tag', ft') :: rest, g, tag, ft, h => by
    simp only [depthFields]
    rcases List.mem_cons.1 h with h | h
    · cases h; exact Nat.le_max_left _ _
    · exact Nat.le_trans (depth_le_depthFields h) (Nat.le_max_right _ _)

theorem fieldStepG_NoFuel {τ : Type} {rec : IRecG τ} {seen : List String}
    {ft : τ} {st : Store} (h : rec ft seen st ≠ .fuel) (info : JsonInfo) (desc : Option String) (n : Node) :
    fieldStepG rec seen info desc ft n st ≠ .fuel := by
  unfold fieldStepG
  split
  · exact fun h => nomatch h
  · refine NoF_bind h fun p _ => ?_
    split
    · exact fun h => nomatch h
    · split
      · split
        · exact fun h => nomatch h
        · split <;> exact fun h => nomatch h
      · exact fun h => nomatch h

theorem structLoop_NoFuel (rec : IRec) (seen : List String) :
    ∀ (fields : List (String × String × GoType)) (n : Node) (st : Store),
      (∀ g tag ft, (g, tag, ft) ∈ fields → ∀ seen st, rec ft seen st ≠ .fuel) →
      structLoop rec seen fields n st ≠ .fuel
  | [], n, st, _ => by simp [structLoop]
  | (g, tag, ft) :: rest, n, st, h => by
    rw [structLoop_cons_eq]
    exact NoF_bind (fieldStepG_NoFuel (h g tag ft List.mem_cons_self _ _) _ _ _) fun p _ =>
      structLoop_NoFuel rec seen rest _ _ fun g tag ft hm => h g tag ft (List.mem_cons_of_mem _ hm)

def ShapeNoFuel {τ : Type} (rec : IRecG τ) : Shape τ → Prop
  | .fail r => r ≠ .fuel
  | .elem e _ => ∀ seen st, rec e seen st ≠ .fuel
  | .struct loop => ∀ seen n st, loop seen n st ≠ .fuel
  | _ => True

theorem stepG_NoFuel {τ : Type} {opts : IOpts} {rec : IRecG τ}
    (hs : ∀ nm sid st, Json.lookup nm opts.schemas = some sid → clone st sid ≠ .fuel) {tn : Option String} {an : Bool}
    {sh : Shape τ} (hsh : ShapeNoFuel rec sh) {seen : List String} {st : Store} :
    stepG opts rec tn an sh seen st ≠ .fuel := by
  unfold stepG
  split
  · exact fun h => nomatch h
  · split
    · next sid hsid =>
      obtain ⟨nm, hnm⟩ : ∃ nm, Json.lookup nm opts.schemas = some sid := by
        cases tn with
        | none => cases hsid
        | some nm => exact ⟨nm, hsid⟩
      refine NoF_bind (hs nm sid st hnm) fun p _ => ?_
      split <;> exact fun h => nomatch h
    · cases sh with
      | fail r => exact hsh
      | invalid =>
        show (if opts.ignore then _ else _) ≠ _
        split <;> exact fun h => nomatch h
      | leaf n => exact fun h => nomatch h
      | elem e mk =>
        refine NoF_bind (hsh _ _) fun p _ => ?_
        show (match p.1 with | none => _ | some eid => _) ≠ _
        split <;> exact fun h => nomatch h
      | struct loop => exact NoF_bind (hsh _ _ _) fun p _ h => nomatch h

theorem inferStep_NoFuel (opts : IOpts)
    (hs : ∀ nm sid st, Json.lookup nm opts.schemas = some sid → clone st sid ≠ .fuel) (rec : IRec) (m : Nat)
    (hrec : ∀ t seen st, depth t ≤ m → rec t seen st ≠ .fuel) (t0 : GoType) (seen : List String) (st : Store)
    (h : depth t0 ≤ m + 1) : inferStep opts rec t0 seen st ≠ .fuel := by
  rw [inferStep_eq]
  refine stepG_NoFuel hs ?_
  rw [← depth_stripPtrs t0] at h
  generalize (stripPtrs t0).1 = t at h
  have hu : depth (under t) = depth t := by cases t <;> rfl
  rw [← hu] at h
  generalize under t = u at h
  cases u with
  | basic k => simp only [shapeOf]; split <;> trivial
  | map kk e =>
    simp only [shapeOf]
    split
    · trivial
    · exact fun seen st => hrec e seen st (by simp only [depth] at h; omega)
  | slice e => exact fun seen st => hrec e seen st (by simp only [depth] at h; omega)
  | array n e => exact fun seen st => hrec e seen st (by simp only [depth] at h; omega)
  | struct fs =>
    refine fun seen n st => structLoop_NoFuel rec seen fs n st fun g tag ft hm seen st => hrec ft seen st ?_
    have := depth_le_depthFields hm
    simp only [depth] at h
    omega
  | _ => exact fun h => nomatch h

theorem inferFuel_NoFuel (opts : IOpts)
    (hs : ∀ nm sid st, Json.lookup nm opts.schemas = some sid → clone st sid ≠ .fuel) :
    ∀ fuel t seen st, depth t ≤ fuel → inferFuel opts fuel t seen st ≠ .fuel := by
  intro fuel
  induction fuel with
  | zero => intro t seen st h; have := depth_pos t; omega
  | succ fuel ih =>
    intro t seen st h
    exact inferStep_NoFuel opts hs (inferFuel opts fuel) fuel ih t seen st h

end C10
end JSV
