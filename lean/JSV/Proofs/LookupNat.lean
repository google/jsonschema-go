/-
  Association lists keyed by `Nat` (the resolver's table of info objects): `lookupNat`, `setNat`.
-/
import JSV.Model.Resolve
namespace JSV
namespace Go

theorem lookupNat_cons {α} (k k' : Nat) (v : α) (l : List (Nat × α)) :
    lookupNat k ((k', v) :: l) = if k' = k then some v else lookupNat k l := rfl

theorem lookupNat_mem {α} (k : Nat) (l : List (Nat × α)) (v : α) (h : lookupNat k l = some v) :
    (k, v) ∈ l := by
  induction l with
  | nil => simp [lookupNat] at h
  | cons e r ih =>
    obtain ⟨k', v'⟩ := e
    unfold lookupNat at h
    split at h
    · rename_i hk; subst hk; simp at h; subst h; simp
    · exact List.mem_cons_of_mem _ (ih h)

theorem lookupNat_eq_none_iff {α} (k : Nat) (l : List (Nat × α)) : lookupNat k l = none ↔ k ∉ l.map (·.1) := by
  induction l with
  | nil => simp [lookupNat]
  | cons e r ih =>
    obtain ⟨k', v⟩ := e
    unfold lookupNat
    by_cases hk : k' = k
    · simp [hk]
    · rw [if_neg hk, ih]
      simp only [List.map_cons, List.mem_cons, not_or]
      exact ⟨fun h => ⟨fun e => hk e.symm, h⟩, fun h => h.2⟩

theorem lookupNat_isSome_of_mem {α : Type} {k : Nat} {l : List (Nat × α)} (h : k ∈ l.map (·.1)) :
    (lookupNat k l).isSome = true := by
  cases hl : lookupNat k l with
  | none => exact absurd h ((lookupNat_eq_none_iff k l).1 hl)
  | some _ => rfl

theorem lookupNat_of_mem_nodup {α} (k : Nat) (v : α) : ∀ (l : List (Nat × α)), (l.map (·.1)).Nodup → (k, v) ∈ l →
    lookupNat k l = some v
  | [], _, h => by simp at h
  | (k', v') :: r, hn, h => by
    unfold lookupNat
    rw [List.map_cons, List.nodup_cons] at hn
    rcases List.mem_cons.mp h with e | hm
    · simp only [Prod.mk.injEq] at e
      rw [if_pos e.1.symm, e.2]
    · have : k' ≠ k := by
        intro e; subst e
        exact hn.1 (List.mem_map.mpr ⟨(k', v), hm, rfl⟩)
      rw [if_neg this]
      exact lookupNat_of_mem_nodup k v r hn.2 hm

theorem lookupNat_perm {α} {l l' : List (Nat × α)} (hp : l.Perm l') (hn : (l.map (·.1)).Nodup) (k : Nat) :
    lookupNat k l' = lookupNat k l := by
  have hn' : (l'.map (·.1)).Nodup := (hp.map _).nodup_iff.mp hn
  cases h : lookupNat k l with
  | some v => exact lookupNat_of_mem_nodup k v l' hn' (hp.mem_iff.mp (lookupNat_mem k l v h))
  | none =>
    cases h' : lookupNat k l' with
    | none => rfl
    | some v =>
      have := lookupNat_of_mem_nodup k v l hn (hp.mem_iff.mpr (lookupNat_mem k l' v h'))
      rw [h] at this; cases this

theorem lookupNat_append {α} (k : Nat) (a b : List (Nat × α)) :
    lookupNat k (a ++ b) = match lookupNat k a with
      | some v => some v
      | none => lookupNat k b := by
  induction a with
  | nil => rfl
  | cons e r ih =>
    obtain ⟨k', v⟩ := e
    rw [List.cons_append, lookupNat_cons, lookupNat_cons]
    split
    · rfl
    · exact ih

theorem lookupNat_append_of_isSome {α} (k : Nat) (a b : List (Nat × α))
    (h : (lookupNat k a).isSome = true) : lookupNat k (a ++ b) = lookupNat k a := by
  rw [lookupNat_append]
  cases hl : lookupNat k a with
  | none => rw [hl] at h; cases h
  | some v => rfl

theorem lookupNat_append_none {α} (k : Nat) (a b : List (Nat × α)) (h : lookupNat k a = none) :
    lookupNat k (a ++ b) = lookupNat k b := by
  rw [lookupNat_append, h]

theorem lookupNat_filter {α} (k : Nat) (p : Nat → Bool) (l : List (Nat × α)) :
    lookupNat k (l.filter fun e => p e.1) = if p k = true then lookupNat k l else none := by
  induction l with
  | nil => simp [lookupNat]
  | cons e r ih =>
    obtain ⟨k', v⟩ := e
    rw [List.filter_cons]
    show lookupNat k (if p k' = true then (k', v) :: r.filter _ else r.filter _) = _
    by_cases hk : k' = k
    · subst hk
      cases hp : p k' with
      | false =>
        rw [hp] at ih
        simp only [Bool.false_eq_true, if_false] at ih ⊢
        exact ih
      | true => simp only [if_true, lookupNat_cons]
    · cases hp : p k' with
      | false =>
        simp only [Bool.false_eq_true, if_false, lookupNat_cons, if_neg hk]
        exact ih
      | true =>
        simp only [if_true, lookupNat_cons, if_neg hk]
        exact ih

theorem lookupNat_filter_key {α} (k : Nat) (p : Nat → Bool) (l : List (Nat × α)) (hp : p k = true) :
    lookupNat k (l.filter fun e => p e.1) = lookupNat k l := by
  rw [lookupNat_filter, if_pos hp]

theorem lookupNat_setNat {α} (k j : Nat) (v : α) (l : List (Nat × α)) :
    lookupNat k (setNat j v l) = if j = k then some v else lookupNat k l := by
  induction l with
  | nil => simp [setNat, lookupNat]
  | cons e r ih =>
    obtain ⟨k', v'⟩ := e
    unfold setNat
    split
    · rename_i hk
      subst hk
      by_cases h : k' = k
      · simp [lookupNat, h]
      · simp [lookupNat, h]
    · rename_i hk
      by_cases h : k' = k
      · subst h
        have hk' : ¬ j = k' := fun e => hk e.symm
        simp [lookupNat, hk']
      · simp only [lookupNat, h, if_false, ih]

theorem mem_setNat {α} (k : Nat) (v : α) (l : List (Nat × α)) (e : Nat × α) (h : e ∈ setNat k v l) :
    e ∈ l ∨ e = (k, v) := by
  induction l with
  | nil => simp [setNat] at h; exact Or.inr h
  | cons x r ih =>
    obtain ⟨k', v'⟩ := x
    unfold setNat at h
    split at h
    · rcases List.mem_cons.mp h with h | h
      · exact Or.inr h
      · exact Or.inl (List.mem_cons_of_mem _ h)
    · rcases List.mem_cons.mp h with h | h
      · exact Or.inl (by rw [h]; simp)
      · rcases ih h with h | h
        · exact Or.inl (List.mem_cons_of_mem _ h)
        · exact Or.inr h

end Go
end JSV
