/-
  C09: what the schema `forType` builds accepts, decodes (`Models.tight`).
-/
import JSV.Proofs.InfSound
namespace JSV
namespace EncJson
open Go Spec

theorem plainInts_mem {xs : List Json} : plainIntsList xs = true → ∀ x, x ∈ xs → PlainInts x = true :=
  forall_mem_of_cons (F := fun xs => plainIntsList xs = true) (P := fun x => PlainInts x = true)
    fun _ _ h => by simpa only [plainIntsList, Bool.and_eq_true] using h

theorem plainInts_memObj {kvs : List (String × Json)} : plainIntsObj kvs = true → ∀ p, p ∈ kvs → PlainInts p.2 = true :=
  forall_mem_of_cons (F := fun kvs => plainIntsObj kvs = true) (P := fun p => PlainInts p.2 = true)
    fun _ _ h => by simpa only [plainIntsObj, Bool.and_eq_true] using h

theorem intRange_of_mem {k : String} (h : k ∈ intKinds) : ∃ lo hi, intRange k = some (lo, hi) := by
  obtain ⟨⟨lo, hi⟩, he⟩ := Option.isSome_iff_exists.1 (int_rows k h).1
  exact ⟨lo, hi, he⟩

theorem not_float_of_int {k : String} (h : k ∈ intKinds) : (k == "Interface") = false ∧ floatKinds.contains k = false := by
  have hall : ∀ k, k ∈ intKinds → ((k == "Interface") = false ∧ floatKinds.contains k = false) := by decide +kernel
  exact hall k h

theorem basic_tight {st : Store} {re : String → String → Bool} {kind : String} (hdom : domainKinds.contains kind = true)
    {ty : String} {mn mx : Option Int} (hk : kindEntry kind = some (ty, mn, mx)) {an : Bool} {id : NodeId}
    (hn : HasNode st id (addNull an (basicNode ty mn mx))) {f : Nat} {scope : List NodeId} {j : Json}
    (hp : PlainInts j = true) (hv : Valid (evalFuel (specEnvNoRefs st re) f scope id j)) :
    decodableBasic kind j = true := by
  obtain ⟨f, rfl⟩ := valid_fuel_pos hv
  obtain ⟨ht, hb⟩ := (valid_basicNode hn f scope j).1 hv
  rcases (typeOk_addNull_iff _ _ _).1 ht with ht | ⟨-, -, rfl⟩
  · rcases domainKinds_cases hdom with rfl | rfl | rfl | hfl | hint
    · rw [kind_rows.1] at hk; cases hk
      obtain ⟨b, rfl⟩ := typeMatches_boolean ht
      rfl
    · rw [kind_rows.2.1] at hk; cases hk
      obtain ⟨s, rfl⟩ := typeMatches_string ht
      rfl
    · cases j <;> rfl
    · rw [kind_rows.2.2.2 kind hfl] at hk; cases hk
      obtain ⟨q, rfl⟩ := typeMatches_number ht
      simp [decodableBasic, hfl]
    · obtain ⟨lo, hi, hr⟩ := intRange_of_mem hint
      obtain ⟨mn', mx', hke, hmn, hmx⟩ := int_table_tight hr
      rw [hke] at hk; cases hk
      obtain ⟨q, rfl, hq⟩ := typeMatches_integer ht
      obtain ⟨hbmin, hbmax⟩ := hb q rfl
      -- an unstated bound is an end of int64, which `PlainInts` grants
      have hpl : ((-9223372036854775808 : Int) : Rat) ≤ q ∧ q ≤ ((9223372036854775807 : Int) : Rat) := by
        simpa only [PlainInts, hq, bne_self_eq_false, Bool.false_or, Bool.and_eq_true, decide_eq_true_eq] using hp
      have hlo : (lo : Rat) ≤ q := by
        rcases hmn with rfl | ⟨rfl, rfl⟩
        · exact hbmin lo rfl
        · exact hpl.1
      have hhi : q ≤ (hi : Rat) := by
        rcases hmx with rfl | ⟨rfl, hle⟩
        · exact hbmax hi rfl
        · exact Rat.le_trans hpl.2 (Rat.intCast_le_intCast.2 hle)
      obtain ⟨h1, h2⟩ := not_float_of_int hint
      simp only [decodableBasic, h1, h2, hr, Bool.false_or, hq, beq_self_eq_true, Bool.true_and, Bool.and_eq_true,
        decide_eq_true_eq]
      exact ⟨hlo, hhi⟩
  · rfl

theorem jsonNames_mem_cons {g : String × String × GoType} {rest : List (String × String × GoType)} {k : String}
    (h : k ∈ jsonNames (g :: rest))
    (hne : ¬ ((fieldJSONInfo g.1 g.2.1).omitted = false ∧ (fieldJSONInfo g.1 g.2.1).name = k)) : k ∈ jsonNames rest := by
  rw [jsonNames_cons] at h
  split at h
  · exact h
  · rename_i ho
    rcases List.mem_cons.1 h with rfl | h
    · exact absurd ⟨by simpa using ho, rfl⟩ hne
    · exact h

mutual
  /-- **what the schema accepts decodes**: for a type in the domain and a `PlainInts` document -/
  theorem Models.tight {nfs : Bool} {st : Store} {re : String → String → Bool} : ∀ (T : GoType) (an : Bool) (id : NodeId),
      Models nfs st T an id → InDomain T = true → ∀ (f : Nat) (scope : List NodeId) (j : Json), PlainInts j = true →
      Valid (evalFuel (specEnvNoRefs st re) f scope id j) → decodable T j = true
    | .basic kind, an, id, hm, hdom, f, scope, j, hp, hv => by
      simp only [Models] at hm
      obtain ⟨ty, mn, mx, hk, hn⟩ := hm
      simp only [InDomain] at hdom
      simp only [decodable]
      exact basic_tight hdom hk hn hp hv
    | .ptr e, an, id, hm, hdom, f, scope, j, hp, hv => by
      simp only [Models] at hm
      simp only [InDomain] at hdom
      simp only [decodable]
      exact Models.tight e true id hm hdom f scope j hp hv
    | .slice e, an, id, hm, hdom, f, scope, j, hp, hv => by
      simp only [Models] at hm
      obtain ⟨eid, he, hn⟩ := hm
      simp only [InDomain] at hdom
      obtain ⟨f, rfl⟩ := valid_fuel_pos hv
      rcases (valid_sliceNode hn f scope j).1 hv with ⟨rfl, -⟩ | ⟨xs, rfl, hx⟩
      · rfl
      · simp only [decodable, List.all_eq_true]
        intro x hxm
        exact Models.tight e false eid he hdom f _ x (plainInts_mem (by simpa [PlainInts] using hp) x hxm) (hx x hxm)
    | .array len e, an, id, hm, hdom, f, scope, j, hp, hv => by
      simp only [Models] at hm
      obtain ⟨eid, he, hn⟩ := hm
      simp only [InDomain] at hdom
      obtain ⟨f, rfl⟩ := valid_fuel_pos hv
      rcases (valid_arrayNode hn f scope j).1 hv with ⟨rfl, -⟩ | ⟨xs, rfl, -, hx⟩
      · rfl
      · simp only [decodable, List.all_eq_true]
        intro x hxm
        exact Models.tight e false eid he hdom f _ x (plainInts_mem (by simpa [PlainInts] using hp) x hxm) (hx x hxm)
    | .map kk e, an, id, hm, hdom, f, scope, j, hp, hv => by
      simp only [Models] at hm
      obtain ⟨eid, he, hn⟩ := hm
      simp only [InDomain, Bool.and_eq_true] at hdom
      obtain ⟨f, rfl⟩ := valid_fuel_pos hv
      rcases (valid_mapNode hn f scope j).1 hv with ⟨rfl, -⟩ | ⟨kvs, rfl, hx⟩
      · rfl
      · simp only [decodable, hdom.1, Bool.true_and, List.all_eq_true]
        intro p hpm
        exact Models.tight e false eid he hdom.2 f _ p.2 (plainInts_memObj (by simpa [PlainInts] using hp) p hpm) (hx p hpm)
    | .struct fields, an, id, hm, hdom, f, scope, j, hp, hv => by
      simp only [Models] at hm
      obtain ⟨notId, falseId, props, po, rq, hnot, hfalse, hn, _, hkeys, hmf⟩ := hm
      simp only [InDomain, Bool.and_eq_true] at hdom
      obtain ⟨f, rfl⟩ := valid_fuel_pos hv
      rcases (valid_structNode hnot hfalse hn f scope j).1 hv with ⟨rfl, -⟩ | ⟨kvs, rfl, -, hx⟩
      · rfl
      · simp only [decodable, List.all_eq_true]
        intro p hpm
        obtain ⟨t, hl, hvt⟩ := hx p hpm
        rw [ModelsFields.tight fields (props.getD []) hmf hdom.2 f (scope ++ [id]) p.1 p.2
          (hkeys _ (Json.mem_keys_of_mem (Json.mem_of_lookup hl))) (fun t' ht' => by rw [hl] at ht'; cases ht'; exact hvt)
          (plainInts_memObj (by simpa [PlainInts] using hp) p hpm)]
    | .named _ _, _, _, _, hdom, _, _, _, _, _ => by simp [InDomain] at hdom
    | .ref _, _, _, hm, _, _, _, _, _, _ => by simp only [Models] at hm
  theorem ModelsFields.tight {nfs : Bool} {st : Store} {re : String → String → Bool} :
      ∀ (fields : List (String × String × GoType)) (props : List (String × NodeId)),
      ModelsFields nfs st fields props → inDomainFields fields = true → ∀ (f : Nat) (scope : List NodeId) (k : String) (v : Json),
      k ∈ jsonNames fields → (∀ t, Json.lookup k props = some t → Valid (evalFuel (specEnvNoRefs st re) f scope t v)) →
      PlainInts v = true → decodableExact fields k v = some true
    | [], _, _, _, _, _, k, _, hk, _, _ => by simp [jsonNames] at hk
    | g :: rest, props, hm, hdom, f, scope, k, v, hk, hval, hp => by
      simp only [ModelsFields] at hm
      simp only [inDomainFields, Bool.and_eq_true, Bool.or_eq_true] at hdom
      simp only [decodableExact]
      split
      · rename_i hc
        simp only [Bool.and_eq_true, Bool.not_eq_true', beq_iff_eq] at hc
        rcases hm.1 with ho | ⟨fid, hl, hmod⟩
        · rw [hc.1] at ho; cases ho
        · rw [hc.2] at hl
          have hd1 : InDomain g.2.2 = true := by
            rcases hdom.1 with h1 | h1
            · rw [hc.1] at h1; cases h1
            · exact h1
          rw [Models.tight g.2.2 false fid hmod hd1 f scope v hp (hval fid hl)]
      · rename_i hc
        refine ModelsFields.tight rest props hm.2 hdom.2 f scope k v (jsonNames_mem_cons hk fun hcon => hc ?_) hval hp
        simp [hcon.1, hcon.2]
end

/-- a struct schema requires the always-written fields, which the decoder does not -/
theorem Models.required {nfs : Bool} {st : Store} {re : String → String → Bool} {fields : List (String × String × GoType)}
    {an : Bool} {id : NodeId} (hm : Models nfs st (.struct fields) an id) {f : Nat} {scope : List NodeId}
    {kvs : List (String × Json)} (hv : Valid (evalFuel (specEnvNoRefs st re) f scope id (.obj kvs))) :
    ∀ k, k ∈ alwaysNames fields → (Json.lookup k kvs).isSome = true := by
  simp only [Models] at hm
  obtain ⟨notId, falseId, props, po, rq, hnot, hfalse, hn, hrq, _, _⟩ := hm
  obtain ⟨f, rfl⟩ := valid_fuel_pos hv
  rcases (valid_structNode hnot hfalse hn f scope _).1 hv with ⟨h, -⟩ | ⟨kvs', h, hr, -⟩
  · cases h
  · cases h
    rwa [hrq] at hr

/-- an array schema fixes the length, which the decoder does not -/
theorem Models.arrayLen {nfs : Bool} {st : Store} {re : String → String → Bool} {len : Nat} {e : GoType}
    {an : Bool} {id : NodeId} (hm : Models nfs st (.array len e) an id) {f : Nat} {scope : List NodeId}
    {xs : List Json} (hv : Valid (evalFuel (specEnvNoRefs st re) f scope id (.arr xs))) : xs.length = len := by
  simp only [Models] at hm
  obtain ⟨eid, _, hn⟩ := hm
  obtain ⟨f, rfl⟩ := valid_fuel_pos hv
  rcases (valid_arrayNode hn f scope _).1 hv with ⟨h, -⟩ | ⟨xs', h, hlen, -⟩
  · cases h
  · cases h
    exact hlen

end EncJson
end JSV
