/-
  What UnmarshalJSON allocates is a tree: checkStructure accepts the schema read back.

  `unmarshalFuel` allocates one fresh node per JSON value it decodes into a `Schema`, after the nodes of the members:
  every call returns a node whose whole subtree lies in the interval of ids `[size before, size after)`, so the
  subtrees of two members occupy disjoint intervals, and a member that OVERWRITES a field set by an earlier one (an
  exact key and a case variant of it, `canonKey` / `setMember`) only turns the earlier subtree into garbage.

  The only way not to get a tree is a `null` ELEMENT of a schema list or schema map: it is decoded into a nil pointer
  (`nilId`), which checkStructure refuses.  So the statement comes in two halves:
  * `unmarshalFuel_tree` — for EVERY JSON value: in the store where the nil elements of lists / maps are dropped
    (`patch`), checkStructure accepts the result, and registers only new nodes;
  * `cs_unpatch` — if every node below the result exists (`Full`, e.g. from `TreeEq.full`) in a store smaller than
    `nilId`, there is no nil element below it and checkStructure accepts it in the store itself.
  `nilId` is the 1000000000 that the Resolve theorems write as a literal.  The lemmas `sf_same`, `sf_pure`, `sf_child`,
  `sf_items`, `sf_deps` here are the steps of `setField_tree` (not the `sf_*` of MshTreeFields, which read members back).
-/
import JSV.Proofs.MshTreeFields
import JSV.Proofs.ResIsoClone
import JSV.Proofs.ResIsoTrees
namespace JSV
namespace Go
namespace UTree
open RPerm (Sub)
open RIso (InIv fieldEntries)

def dropL (l : List NodeId) : List NodeId := l.filter (· != nilId)

def dropE (l : List (String × NodeId)) : List (String × NodeId) := l.filter (·.2 != nilId)

def dropF : ChildField → ChildField
  | .one k c => .one k c
  | .many k cs => .many k (cs.map dropL)
  | .keyed k cs => .keyed k (cs.map dropE)

def dropN (n : Node) : Node := setChildFields n (n.childFields.map dropF)

/-- every node without the nil elements of its schema lists and schema maps -/
def patch (s : Store) : Store := s.map dropN

theorem childFields_dropN (n : Node) : (dropN n).childFields = n.childFields.map dropF := rfl

/-- the entries checkStructure pushes for a field once its nil elements are dropped -/
def gE (p : String) (f : ChildField) : List (NodeId × String) := fieldEntries p (dropF f)

theorem childEntries_dropN (n : Node) (p : String) : childEntries (dropN n) p = n.childFields.flatMap (gE p) := by
  rw [RIso.childEntries_eq, childFields_dropN, List.flatMap_map]
  rfl

theorem patch_size (s : Store) : (patch s).size = s.size := Array.size_map

theorem patch_get? (s : Store) (i : NodeId) : (patch s).get? i = (s.get? i).map dropN := by
  unfold patch Store.get?
  exact Array.getElem?_map

theorem patch_ext {s s' : Store} (he : Ext s s') : Ext (patch s) (patch s') := by
  refine ⟨by rw [patch_size, patch_size]; exact he.1, fun i hi => ?_⟩
  rw [patch_size] at hi
  rw [patch_get?, patch_get?, he.2 i hi]

theorem patch_push (s : Store) (n : Node) : patch (s.push n) = (patch s).push (dropN n) := by
  unfold patch
  exact Array.map_push

theorem sub_app {S : Store} {w1 w2 : List (NodeId × String)} {D1 D2 : List (NodeId × Info)} (h1 : Sub S w1 D1)
    (h2 : Sub S w2 D2) (hd : ∀ x ∈ D2.map (·.1), x ∉ D1.map (·.1)) : Sub S (w1 ++ w2) (D1 ++ D2) :=
  (RPerm.sub_append_iff _ _ _ _).mpr ⟨D1, D2, rfl, h1, h2, hd⟩

/-- `fs.flatMap g` registers `D`, all in `[lo, mid)`; the `i`-th field is replaced by one whose entries register
    what the old field registered and nodes of `[mid, hi)`: the new list registers nodes of `D` and of `[mid, hi)` -/
theorem sub_set {S : Store} {g : ChildField → List (NodeId × String)} {lo mid hi : Nat} {f' : ChildField} :
    ∀ (fs : List ChildField) (i : Nat) (D : List (NodeId × Info)),
      (∀ f, fs[i]? = some f → ∀ Df, Sub S (g f) Df → InIv lo mid Df →
        ∃ Df', Sub S (g f') Df' ∧ ∀ k ∈ Df'.map (·.1), k ∈ Df.map (·.1) ∨ (mid ≤ k ∧ k < hi)) →
      Sub S (fs.flatMap g) D → InIv lo mid D →
      ∃ D', Sub S ((fs.set i f').flatMap g) D' ∧ ∀ k ∈ D'.map (·.1), k ∈ D.map (·.1) ∨ (mid ≤ k ∧ k < hi)
  | [], i, D, _, h, _ => ⟨D, by simpa using h, fun k hk => Or.inl hk⟩
  | f :: fs, 0, D, hf, h, hi => by
    rw [List.flatMap_cons] at h
    obtain ⟨D1, D2, rfl, h1, h2, hd⟩ := (RPerm.sub_append_iff _ _ _ _).mp h
    have hi1 : InIv lo mid D1 := fun k hk => hi k (by rw [List.map_append, List.mem_append]; exact Or.inl hk)
    have hi2 : InIv lo mid D2 := fun k hk => hi k (by rw [List.map_append, List.mem_append]; exact Or.inr hk)
    obtain ⟨Df', h1', hk'⟩ := hf f rfl D1 h1 hi1
    refine ⟨Df' ++ D2, ?_, ?_⟩
    · rw [List.set_cons_zero, List.flatMap_cons]
      refine sub_app h1' h2 fun x hx hx' => ?_
      rcases hk' x hx' with hk | hk
      · exact hd x hx hk
      · have := (hi2 x hx).2
        omega
    · intro k hk
      rw [List.map_append, List.mem_append] at hk ⊢
      rcases hk with hk | hk
      · rcases hk' k hk with h' | h'
        · exact Or.inl (Or.inl h')
        · exact Or.inr h'
      · exact Or.inl (Or.inr hk)
  | f :: fs, i + 1, D, hf, h, hi => by
    rw [List.flatMap_cons] at h
    obtain ⟨D1, D2, rfl, h1, h2, hd⟩ := (RPerm.sub_append_iff _ _ _ _).mp h
    have hi1 : InIv lo mid D1 := fun k hk => hi k (by rw [List.map_append, List.mem_append]; exact Or.inl hk)
    have hi2 : InIv lo mid D2 := fun k hk => hi k (by rw [List.map_append, List.mem_append]; exact Or.inr hk)
    obtain ⟨D2', h2', hk'⟩ := sub_set fs i D2 (fun f0 hf0 => hf f0 (by rw [List.getElem?_cons_succ]; exact hf0)) h2 hi2
    refine ⟨D1 ++ D2', ?_, ?_⟩
    · rw [List.set_cons_succ, List.flatMap_cons]
      refine sub_app h1 h2' fun x hx hx' => ?_
      rcases hk' x hx with hk | hk
      · exact hd x hk hx'
      · have := (hi1 x hx').2
        omega
    · intro k hk
      rw [List.map_append, List.mem_append] at hk ⊢
      rcases hk with hk | hk
      · exact Or.inl (Or.inl hk)
      · rcases hk' k hk with h' | h'
        · exact Or.inl (Or.inr h')
        · exact Or.inr h'

/-- the invariant of the node under construction, on its field list (`NI`: node invariant, `NIF`: on fields): the
    children recorded in `fs` form a tree (nil elements aside) inside `[lo, s.size)`.  `p`: the path of the node, from
    which checkStructure names the children; `lo`: the size of the store when the object was entered. -/
def NIF (p : String) (s : Store) (lo : Nat) (fs : List ChildField) : Prop :=
  ∃ D, Sub (patch s) (fs.flatMap (gE p)) D ∧ InIv lo s.size D

/-- what holds of the node under construction -/
def NI (p : String) (s : Store) (lo : Nat) (n : Node) : Prop := NIF p s lo n.childFields

theorem NIF.ext {p : String} {s s' : Store} {lo : Nat} {fs : List ChildField} (h : NIF p s lo fs) (he : Ext s s') :
    NIF p s' lo fs := by
  obtain ⟨D, hs, hi⟩ := h
  exact ⟨D, RIso.sub_ext (patch_ext he) hs, hi.mono (Nat.le_refl _) he.1⟩

theorem NIF.set {p : String} {s s' : Store} {lo : Nat} {fs : List ChildField} (h : NIF p s lo fs) (hlo : lo ≤ s.size)
    (he : Ext s s') (i : Nat) {f' : ChildField}
    (hf : ∃ D', Sub (patch s') (gE p f') D' ∧ InIv s.size s'.size D') : NIF p s' lo (fs.set i f') := by
  obtain ⟨D, hs, hi⟩ := h
  obtain ⟨D', hs', hi'⟩ := hf
  obtain ⟨D'', h1, h2⟩ := sub_set (hi := s'.size) (f' := f') fs i D
    (fun _ _ _ _ _ => ⟨D', hs', fun k hk => Or.inr (hi' k hk)⟩) (RIso.sub_ext (patch_ext he) hs) hi
  refine ⟨D'', h1, fun k hk => ?_⟩
  rcases h2 k hk with h' | h'
  · have := hi k h'
    have := he.1
    omega
  · omega

/-- what is assumed of the recursive call: the node it returns is the root of a tree (nil elements aside) made of
    the nodes the call has allocated -/
def RecU (rec : URec) : Prop :=
  ∀ v s c s' p, rec v s = .ok (c, s') → Ext s s' ∧ ∃ D, Sub (patch s') [(c, p)] D ∧ InIv s.size s'.size D

theorem elems_cases {rec : URec} {x : Json} {rest : List Json} {s : Store} {l' : List NodeId} {s' : Store}
    (h : decSchemaElems rec (x :: rest) s = .ok (l', s')) :
    (∃ ids, decSchemaElems rec rest s = .ok (ids, s') ∧ l' = nilId :: ids) ∨
      ∃ c s1 ids, rec x s = .ok (c, s1) ∧ decSchemaElems rec rest s1 = .ok (ids, s') ∧ l' = c :: ids := by
  cases x
  case null =>
    simp only [decSchemaElems] at h
    obtain ⟨⟨ids, s1⟩, h1, h2⟩ := Res.bind_eq_ok h
    cases h2
    exact Or.inl ⟨ids, h1, rfl⟩
  all_goals
    simp only [decSchemaElems] at h
    obtain ⟨⟨c, s1⟩, h1, h2⟩ := Res.bind_eq_ok h
    obtain ⟨⟨ids, s2⟩, h3, h4⟩ := Res.bind_eq_ok h2
    cases h4
    exact Or.inr ⟨c, s1, ids, h1, h3, rfl⟩

theorem entries_cases {rec : URec} {k : String} {x : Json} {rest : List (String × Json)} {s : Store}
    {l' : List (String × NodeId)} {s' : Store} (h : decSchemaEntries rec ((k, x) :: rest) s = .ok (l', s')) :
    (∃ es, decSchemaEntries rec rest s = .ok (es, s') ∧ l' = (k, nilId) :: es) ∨
      ∃ c s1 es, rec x s = .ok (c, s1) ∧ decSchemaEntries rec rest s1 = .ok (es, s') ∧ l' = (k, c) :: es := by
  cases x
  case null =>
    simp only [decSchemaEntries] at h
    obtain ⟨⟨es, s1⟩, h1, h2⟩ := Res.bind_eq_ok h
    cases h2
    exact Or.inl ⟨es, h1, rfl⟩
  all_goals
    simp only [decSchemaEntries] at h
    obtain ⟨⟨c, s1⟩, h1, h2⟩ := Res.bind_eq_ok h
    obtain ⟨⟨es, s2⟩, h3, h4⟩ := Res.bind_eq_ok h2
    cases h4
    exact Or.inr ⟨c, s1, es, h1, h3, rfl⟩

theorem dropL_cons_nil (l : List NodeId) : dropL (nilId :: l) = dropL l := by
  simp [dropL]

theorem dropL_cons_ne {c : NodeId} (hc : c ≠ nilId) (l : List NodeId) : dropL (c :: l) = c :: dropL l := by
  simp [dropL, hc]

theorem dropE_cons_nil (k : String) (l : List (String × NodeId)) : dropE ((k, nilId) :: l) = dropE l := by
  simp [dropE]

theorem dropE_cons_ne {c : NodeId} (hc : c ≠ nilId) (k : String) (l : List (String × NodeId)) :
    dropE ((k, c) :: l) = (k, c) :: dropE l := by
  simp [dropE, hc]

section
variable {rec : URec} (hrec : RecU rec)
include hrec

/-- `h`, `g`, `hh`: the labelling of `fieldEntries` is a pattern-matching lambda; stating it as `h` with its equation
    `hh` lets the caller's lambda unify with it -/
theorem elems_tree (h : NodeId × Nat → NodeId × String) (g : Nat → String) (hh : ∀ c i, h (c, i) = (c, g i)) :
    ∀ (xs : List Json) (k : Nat) (s : Store) (l' : List NodeId) (s' : Store),
      decSchemaElems rec xs s = .ok (l', s') →
      Ext s s' ∧ ∃ D, Sub (patch s') (((dropL l').zipIdx k).map h) D ∧ InIv s.size s'.size D
  | [], k, s, l', s', hc => by
    simp only [decSchemaElems] at hc
    cases hc
    exact ⟨Ext.refl _, [], RPerm.sub_nil _, RIso.inIv_nil _ _⟩
  | x :: xs, k, s, l', s', hc => by
    rcases elems_cases hc with ⟨ids, h1, rfl⟩ | ⟨c, s1, ids, h1, h3, rfl⟩
    · rw [dropL_cons_nil]
      exact elems_tree h g hh xs k s ids s' h1
    · obtain ⟨e1, D1, hs1, hi1⟩ := hrec x s c s1 (g k) h1
      by_cases hcn : c = nilId
      · subst hcn
        rw [dropL_cons_nil]
        obtain ⟨e2, D2, hs2, hi2⟩ := elems_tree h g hh xs k s1 ids s' h3
        exact ⟨e1.trans e2, D2, hs2, hi2.mono e1.1 (Nat.le_refl _)⟩
      · rw [dropL_cons_ne hcn, List.zipIdx_cons, List.map_cons, hh]
        obtain ⟨e2, D2, hs2, hi2⟩ := elems_tree h g hh xs (k + 1) s1 ids s' h3
        refine ⟨e1.trans e2, D1 ++ D2, ?_, hi1.append hi2 e1.1 e2.1⟩
        exact (RPerm.sub_cons_iff _ _ _ _).mpr
          ⟨D1, D2, rfl, RIso.sub_ext (patch_ext e2) hs1, hs2, hi1.disjoint hi2⟩

theorem entries_tree (h : String × NodeId → NodeId × String) (g : String → String) (hh : ∀ k c, h (k, c) = (c, g k)) :
    ∀ (xs : List (String × Json)) (s : Store) (l' : List (String × NodeId)) (s' : Store),
      decSchemaEntries rec xs s = .ok (l', s') →
      Ext s s' ∧ ∃ D, Sub (patch s') ((dropE l').map h) D ∧ InIv s.size s'.size D
  | [], s, l', s', hc => by
    simp only [decSchemaEntries] at hc
    cases hc
    exact ⟨Ext.refl _, [], RPerm.sub_nil _, RIso.inIv_nil _ _⟩
  | (k, x) :: xs, s, l', s', hc => by
    rcases entries_cases hc with ⟨es, h1, rfl⟩ | ⟨c, s1, es, h1, h3, rfl⟩
    · rw [dropE_cons_nil]
      exact entries_tree h g hh xs s es s' h1
    · obtain ⟨e1, D1, hs1, hi1⟩ := hrec x s c s1 (g k) h1
      obtain ⟨e2, D2, hs2, hi2⟩ := entries_tree h g hh xs s1 es s' h3
      by_cases hcn : c = nilId
      · subst hcn
        rw [dropE_cons_nil]
        exact ⟨e1.trans e2, D2, hs2, hi2.mono e1.1 (Nat.le_refl _)⟩
      · rw [dropE_cons_ne hcn, List.map_cons, hh]
        refine ⟨e1.trans e2, D1 ++ D2, ?_, hi1.append hi2 e1.1 e2.1⟩
        exact (RPerm.sub_cons_iff _ _ _ _).mpr
          ⟨D1, D2, rfl, RIso.sub_ext (patch_ext e2) hs1, hs2, hi1.disjoint hi2⟩

end

section
variable {rec : URec} (hrec : RecU rec)
include hrec

theorem ptr_tree (p key : String) {v : Json} {s : Store} {c : Option NodeId} {s' : Store}
    (h : decSchemaPtr rec v s = .ok (c, s')) :
    Ext s s' ∧ ∃ D, Sub (patch s') (gE p (.one key c)) D ∧ InIv s.size s'.size D := by
  have hnn : ∀ (x : NodeId × Store), rec v s = .ok x → (.ok (some x.1, x.2) : Res (Option NodeId × Store)) = .ok (c, s') →
      Ext s s' ∧ ∃ D, Sub (patch s') (gE p (.one key c)) D ∧ InIv s.size s'.size D := by
    intro x h1 h2
    cases h2
    exact hrec v s x.1 x.2 _ h1
  cases v
  case null =>
    cases h
    exact ⟨Ext.refl _, [], RPerm.sub_nil _, RIso.inIv_nil _ _⟩
  all_goals
    simp only [decSchemaPtr] at h
    obtain ⟨x, h1, h2⟩ := Res.bind_eq_ok h
    exact hnn x h1 h2

theorem list_tree (p key : String) {v : Json} {s : Store} {c : Option (List NodeId)} {s' : Store}
    (h : decSchemaList rec v s = .ok (c, s')) :
    Ext s s' ∧ ∃ D, Sub (patch s') (gE p (.many key c)) D ∧ InIv s.size s'.size D := by
  cases v
  case null =>
    cases h
    exact ⟨Ext.refl _, [], RPerm.sub_nil _, RIso.inIv_nil _ _⟩
  case arr xs =>
    simp only [decSchemaList] at h
    obtain ⟨⟨l', s1⟩, h1, h2⟩ := Res.bind_eq_ok h
    cases h2
    exact elems_tree hrec _ (fun i => p ++ "/" ++ key ++ "/" ++ toString i) (fun _ _ => rfl) xs 0 s l' _ h1
  all_goals cases h

theorem map_tree (p key : String) {v : Json} {s : Store} {c : Option (List (String × NodeId))} {s' : Store}
    (h : decSchemaMap rec v s = .ok (c, s')) :
    Ext s s' ∧ ∃ D, Sub (patch s') (gE p (.keyed key c)) D ∧ InIv s.size s'.size D := by
  cases v
  case null =>
    cases h
    exact ⟨Ext.refl _, [], RPerm.sub_nil _, RIso.inIv_nil _ _⟩
  case obj kvs =>
    simp only [decSchemaMap] at h
    obtain ⟨⟨l', s1⟩, h1, h2⟩ := Res.bind_eq_ok h
    cases h2
    exact entries_tree hrec _ (fun k => p ++ "/" ++ key ++ "/" ++ Pointer.escapeSegment k) (fun _ _ => rfl) kvs s l' _ h1
  all_goals cases h

end

theorem sf_same {α : Type} {p : String} {s : Store} {lo : Nat} {n n' : Node} {s' : Store} (hni : NI p s lo n)
    {x : Res α} {upd : α → Node} (h : Res.bind x (fun a => .ok (upd a, s)) = .ok (n', s'))
    (hupd : ∀ a, (upd a).childFields = n.childFields) : Ext s s' ∧ NI p s' lo n' := by
  obtain ⟨a, _, h2⟩ := Res.bind_eq_ok h
  cases h2
  refine ⟨Ext.refl _, ?_⟩
  unfold NI
  rw [hupd]
  exact hni

theorem sf_pure {p : String} {s : Store} {lo : Nat} {n m n' : Node} {s' : Store} (hni : NI p s lo n)
    (h : (.ok (m, s) : Res (Node × Store)) = .ok (n', s')) (hupd : m.childFields = n.childFields) :
    Ext s s' ∧ NI p s' lo n' :=
  sf_same (x := .ok ()) (upd := fun _ => m) hni h fun _ => hupd

theorem sf_child {α : Type} {p : String} {s : Store} {lo : Nat} {n n' : Node} {s' : Store} {dec : Res (α × Store)}
    {mk : α → ChildField} (hni : NI p s lo n) (hlo : lo ≤ s.size) (i : Nat) {upd : α → Node}
    (hdec : ∀ c s1, dec = .ok (c, s1) → Ext s s1 ∧ ∃ D, Sub (patch s1) (gE p (mk c)) D ∧ InIv s.size s1.size D)
    (h : Res.bind dec (fun r => .ok (upd r.1, r.2)) = .ok (n', s'))
    (hupd : ∀ c, (upd c).childFields = n.childFields.set i (mk c)) :
    Ext s s' ∧ NI p s' lo n' := by
  obtain ⟨⟨c, s1⟩, h1, h2⟩ := Res.bind_eq_ok h
  cases h2
  obtain ⟨e, hD⟩ := hdec c s1 h1
  refine ⟨e, ?_⟩
  unfold NI
  rw [hupd]
  exact NIF.set hni hlo e i hD

section
variable {rec : URec} (hrec : RecU rec)
include hrec

/-- "items": the schema form and the array form set one field and clear the other -/
theorem sf_items {p : String} {s : Store} {lo : Nat} {n n' : Node} {s' : Store} {v : Json} (hni : NI p s lo n)
    (hlo : lo ≤ s.size) (h : setField rec n s "items" v = .ok (n', s')) : Ext s s' ∧ NI p s' lo n' := by
  rw [setField_items] at h
  split at h
  · next xs =>
    obtain ⟨⟨ids, s1⟩, h1, h2⟩ := Res.bind_eq_ok h
    cases h2
    obtain ⟨e, hD⟩ := elems_tree hrec (fun (ci : NodeId × Nat) => (ci.1, p ++ "/" ++ "items" ++ "/" ++ toString ci.2))
      (fun i => p ++ "/" ++ "items" ++ "/" ++ toString i) (fun _ _ => rfl) xs 0 s ids s1 h1
    refine ⟨e, ?_⟩
    -- 12, 13: the positions of `items`, `itemsArray` in `Node.childFields` (as in `setChildFields`)
    have h12 : NIF p s lo (n.childFields.set 12 (.one "items" none)) :=
      NIF.set hni hlo (Ext.refl _) 12 ⟨[], RPerm.sub_nil _, RIso.inIv_nil _ _⟩
    exact NIF.set (f' := .many "items" (some ids)) h12 hlo e 13 hD
  · obtain ⟨x, h1, h2⟩ := Res.bind_eq_ok h
    cases h2
    obtain ⟨e, hD⟩ := hrec v s x.1 x.2 (p ++ "/" ++ "items") h1
    refine ⟨e, ?_⟩
    have h13 : NIF p s lo (n.childFields.set 13 (.many "items" none)) :=
      NIF.set hni hlo (Ext.refl _) 13 ⟨[], RPerm.sub_nil _, RIso.inIv_nil _ _⟩
    exact NIF.set (f' := .one "items" (some x.1)) h13 hlo e 12 hD

end

theorem getD_map_dropE (cs : Option (List (String × NodeId))) : (cs.map dropE).getD [] = dropE (cs.getD []) := by
  cases cs <;> rfl

theorem gE_keyed_snoc (p key : String) (cs : Option (List (String × NodeId))) (k : String) (c : NodeId) :
    gE p (.keyed key (some (cs.getD [] ++ [(k, c)]))) =
      gE p (.keyed key cs) ++ if c = nilId then [] else [(c, p ++ "/" ++ key ++ "/" ++ Pointer.escapeSegment k)] := by
  unfold gE dropF fieldEntries
  simp only [Option.map_some, Option.getD_some, getD_map_dropE]
  unfold dropE
  rw [List.filter_append, List.map_append]
  congr 1
  by_cases hc : c = nilId
  · simp [hc]
  · simp [hc]

theorem ni_dep {p : String} {s s1 : Store} {lo : Nat} {n : Node} {k : String} {c : NodeId} (hni : NI p s lo n)
    (hlo : lo ≤ s.size) (he : Ext s s1)
    (hc : ∃ D', Sub (patch s1) [(c, p ++ "/" ++ "dependencies" ++ "/" ++ Pointer.escapeSegment k)] D' ∧
      InIv s.size s1.size D') :
    NI p s1 lo { n with dependencySchemas := some (n.dependencySchemas.getD [] ++ [(k, c)]) } := by
  obtain ⟨D, hs, hi⟩ := hni
  obtain ⟨D', hs', hi'⟩ := hc
  -- 8: the position of `dependencySchemas` in `Node.childFields`
  have hcf : ({ n with dependencySchemas := some (n.dependencySchemas.getD [] ++ [(k, c)]) } : Node).childFields =
      n.childFields.set 8 (.keyed "dependencies" (some (n.dependencySchemas.getD [] ++ [(k, c)]))) := rfl
  obtain ⟨D'', h1, h2⟩ := sub_set (S := patch s1) (g := gE p) (lo := lo) (mid := s.size) (hi := s1.size)
    (f' := .keyed "dependencies" (some (n.dependencySchemas.getD [] ++ [(k, c)]))) n.childFields 8 D
    (by
      intro f hf Df hsf hif
      have h8 : n.childFields[8]? = some (.keyed "dependencies" n.dependencySchemas) := rfl
      rw [h8] at hf
      cases hf
      rw [gE_keyed_snoc]
      by_cases hcn : c = nilId
      · rw [if_pos hcn, List.append_nil]
        exact ⟨Df, hsf, fun x hx => Or.inl hx⟩
      · rw [if_neg hcn]
        refine ⟨Df ++ D', sub_app hsf hs' (hif.disjoint hi'), fun x hx => ?_⟩
        rw [List.map_append, List.mem_append] at hx
        rcases hx with hx | hx
        · exact Or.inl hx
        · exact Or.inr (hi' x hx))
    (RIso.sub_ext (patch_ext he) hs) hi
  refine ⟨D'', by rw [hcf]; exact h1, fun x hx => ?_⟩
  rcases h2 x hx with h' | h'
  · have := hi x h'
    have := he.1
    omega
  · omega

theorem deps_cases {rec : URec} {k : String} {x : Json} {rest : List (String × Json)} {n : Node} {s : Store}
    {r : Node × Store} (h : decDependencies rec ((k, x) :: rest) n s = .ok r) :
    (∃ sl, decDependencies rec rest
        { n with dependencyStrings := some ((n.dependencyStrings.getD []) ++ [(k, sl)]) } s = .ok r) ∨
      ∃ c s1, rec x s = .ok (c, s1) ∧ decDependencies rec rest
        { n with dependencySchemas := some ((n.dependencySchemas.getD []) ++ [(k, c)]) } s1 = .ok r := by
  cases x
  case arr xs =>
    simp only [decDependencies] at h
    obtain ⟨sl, _, h2⟩ := Res.bind_eq_ok h
    exact Or.inl ⟨sl, h2⟩
  all_goals
    simp only [decDependencies] at h
    obtain ⟨⟨c, s1⟩, h1, h2⟩ := Res.bind_eq_ok h
    exact Or.inr ⟨c, s1, h1, h2⟩

section
variable {rec : URec} (hrec : RecU rec)
include hrec

theorem deps_tree (p : String) (lo : Nat) : ∀ (kvs : List (String × Json)) (n : Node) (s : Store) (n' : Node) (s' : Store),
    NI p s lo n → lo ≤ s.size → decDependencies rec kvs n s = .ok (n', s') → Ext s s' ∧ NI p s' lo n'
  | [], n, s, n', s', hni, _, h => by
    simp only [decDependencies] at h
    cases h
    exact ⟨Ext.refl _, hni⟩
  | (k, x) :: rest, n, s, n', s', hni, hlo, h => by
    rcases deps_cases h with ⟨sl, h1⟩ | ⟨c, s1, h1, h2⟩
    · have hni' : NI p s lo { n with dependencyStrings := some ((n.dependencyStrings.getD []) ++ [(k, sl)]) } := hni
      exact deps_tree p lo rest _ s n' s' hni' hlo h1
    · obtain ⟨e1, hD⟩ := hrec x s c s1 (p ++ "/" ++ "dependencies" ++ "/" ++ Pointer.escapeSegment k) h1
      obtain ⟨e2, hn2⟩ := deps_tree p lo rest _ s1 n' s' (ni_dep hni hlo e1 hD) (Nat.le_trans hlo e1.1) h2
      exact ⟨e1.trans e2, hn2⟩

theorem sf_deps {p : String} {s : Store} {lo : Nat} {n n' : Node} {s' : Store} {v : Json} (hni : NI p s lo n)
    (hlo : lo ≤ s.size) (h : setField rec n s "dependencies" v = .ok (n', s')) : Ext s s' ∧ NI p s' lo n' := by
  rw [setField_dependencies] at h
  split at h
  · cases h
    exact ⟨Ext.refl _, hni⟩
  · next kvs => exact deps_tree hrec p lo kvs n s n' s' hni hlo h
  · cases h

end

section
variable {rec : URec} (hrec : RecU rec)
include hrec

theorem setField_tree {p : String} {s : Store} {lo : Nat} {n n' : Node} {s' : Store} {k : String} {v : Json}
    (hni : NI p s lo n) (hlo : lo ≤ s.size) (h : setField rec n s k v = .ok (n', s')) :
    Ext s s' ∧ NI p s' lo n' := by
  have hs := setField_slot rec n s k v none
  generalize setField rec n s k v = r, setField rec (Inv.withExtra none n) s k v = r' at h hs
  cases hs with
  | plain d set _ _ hc => exact sf_same hni h hc
  | one i set _ hc => exact sf_child hni hlo i (fun _ _ => ptr_tree hrec p k) h hc
  | many i set _ hc => exact sf_child hni hlo i (fun _ _ => list_tree hrec p k) h hc
  | keyed i set _ hc => exact sf_child hni hlo i (fun _ _ => map_tree hrec p k) h hc
  | typ =>
    rw [setField_type] at h
    split at h
    · exact sf_pure hni h rfl
    · exact sf_same hni h (fun _ => rfl)
    · cases h
  | items => exact sf_items hrec hni hlo h
  | deps => exact sf_deps hrec hni hlo h
  | extra => exact sf_pure hni h rfl

/-- one object member: a case variant of a keyword is decoded into the keyword's field and also kept in Extra -/
theorem setMember_tree {p : String} {s : Store} {lo : Nat} {n n' : Node} {s' : Store} {k : String} {v : Json}
    (hni : NI p s lo n) (hlo : lo ≤ s.size) (h : setMember rec n s k v = .ok (n', s')) :
    Ext s s' ∧ NI p s' lo n' := by
  unfold setMember at h
  split at h
  · exact setField_tree hrec hni hlo h
  · obtain ⟨⟨n1, s1⟩, h1, h2⟩ := Res.bind_eq_ok h
    have h3 := setField_tree hrec hni hlo h1
    cases h2
    exact h3

theorem setFields_tree (p : String) (lo : Nat) : ∀ (kvs : List (String × Json)) (n : Node) (s : Store) (n' : Node)
    (s' : Store), NI p s lo n → lo ≤ s.size → setFields rec kvs n s = .ok (n', s') → Ext s s' ∧ NI p s' lo n'
  | [], n, s, n', s', hni, _, h => by
    simp only [setFields] at h
    cases h
    exact ⟨Ext.refl _, hni⟩
  | (k, v) :: rest, n, s, n', s', hni, hlo, h => by
    simp only [setFields] at h
    obtain ⟨⟨n1, s1⟩, h1, h2⟩ := Res.bind_eq_ok h
    obtain ⟨e1, hn1⟩ := setMember_tree hrec hni hlo h1
    obtain ⟨e2, hn2⟩ := setFields_tree p lo rest n1 s1 n' s' hn1 (Nat.le_trans hlo e1.1) h2
    exact ⟨e1.trans e2, hn2⟩

end

theorem alloc_tree {p : String} {s : Store} {lo : Nat} {n : Node} (hni : NI p s lo n) (hlo : lo ≤ s.size) :
    ∃ D, Sub (patch (s.push n)) [(s.size, p)] D ∧ InIv lo (s.push n).size D := by
  obtain ⟨D0, hs, hi⟩ := hni
  have hsz : (s.push n).size = s.size + 1 := Array.size_push _
  refine ⟨(s.size, RPerm.infoOf p) :: D0, ?_, ?_⟩
  · refine (RPerm.sub_single_iff _ _ _ _).mpr ⟨dropN n, D0, ?_, rfl, ?_, ?_⟩
    · rw [patch_get?, get?_push_size]
      rfl
    · rw [childEntries_dropN]
      exact RIso.sub_ext (patch_ext (Ext.push s n)) hs
    · intro hm
      have := (hi _ hm).2
      omega
  · intro k hk
    rw [List.map_cons, List.mem_cons] at hk
    rcases hk with hk | hk
    · subst hk
      dsimp only
      omega
    · have := hi k hk
      omega

theorem ni_empty (p : String) (s : Store) (lo : Nat) : NI p s lo emptyNode :=
  ⟨[], RPerm.sub_nil _, RIso.inIv_nil _ _⟩

/-- `false` / `null`: `&Schema{Not: &Schema{}}` -/
theorem allocFalse_tree (p : String) (s : Store) :
    Ext s (allocFalse s).2 ∧ ∃ D, Sub (patch (allocFalse s).2) [((allocFalse s).1, p)] D ∧
      InIv s.size (allocFalse s).2.size D := by
  have e1 : Ext s (s.push emptyNode) := Ext.push _ _
  have hsz : (s.push emptyNode).size = s.size + 1 := Array.size_push _
  obtain ⟨D1, hs1, hi1⟩ := alloc_tree (p := p ++ "/" ++ "not") (ni_empty _ s s.size) (Nat.le_refl _)
  have hni : NI p (s.push emptyNode) s.size { emptyNode with not := some s.size } := ⟨D1, hs1, hi1⟩
  obtain ⟨D, hs, hi⟩ := alloc_tree hni e1.1
  refine ⟨e1.trans (Ext.push _ _), D, ?_, hi⟩
  have e : allocFalse s = ((s.push emptyNode).size, (s.push emptyNode).push { emptyNode with not := some s.size }) := rfl
  rw [e]
  exact hs

theorem unmarshalStep_tree {rec : URec} (hrec : RecU rec) : RecU (unmarshalStep rec) := by
  intro v s c s' p h
  unfold unmarshalStep at h
  split at h
  · cases h
    exact ⟨Ext.push _ _, alloc_tree (ni_empty p s s.size) (Nat.le_refl _)⟩
  · cases h
    exact allocFalse_tree p s
  · cases h
    exact allocFalse_tree p s
  · obtain ⟨⟨n, s1⟩, h1, h2⟩ := Res.bind_eq_ok h
    cases h2
    obtain ⟨e1, hn1⟩ := setFields_tree hrec p s.size _ emptyNode s n s1 (ni_empty p s s.size) (Nat.le_refl _) h1
    exact ⟨e1.trans (Ext.push _ _), alloc_tree hn1 e1.1⟩
  · cases h

/-- **what UnmarshalJSON allocates is a tree** (nil elements aside): in the store without the nil elements of schema
    lists and schema maps, checkStructure accepts the node returned — under any initial path — and registers only
    nodes allocated by the call.  For EVERY JSON value: duplicate keys, case variants of keywords overwriting a field
    set earlier, the "items" and "dependencies" unions, boolean schemas. -/
theorem unmarshalFuel_tree : ∀ fuel, RecU (unmarshalFuel fuel)
  | 0 => fun _ _ _ _ _ h => by cases h
  | fuel + 1 => unmarshalStep_tree (unmarshalFuel_tree fuel)

theorem dropL_eq_self {l : List NodeId} (h : ∀ x, x ∈ l → x ≠ nilId) : dropL l = l := by
  unfold dropL
  rw [List.filter_eq_self]
  intro x hx
  simpa using h x hx

theorem dropE_eq_self {l : List (String × NodeId)} (h : ∀ x, x ∈ l.map (·.2) → x ≠ nilId) : dropE l = l := by
  unfold dropE
  rw [List.filter_eq_self]
  intro x hx
  simpa using h x.2 (List.mem_map.2 ⟨x, hx, rfl⟩)

theorem dropF_eq_self {f : ChildField} (h : ∀ x, x ∈ f.ids → x ≠ nilId) : dropF f = f := by
  cases f with
  | one k c => rfl
  | many k cs =>
    cases cs with
    | none => rfl
    | some l => exact congrArg (fun l' => ChildField.many k (some l')) (dropL_eq_self (l := l) h)
  | keyed k cs =>
    cases cs with
    | none => rfl
    | some l => exact congrArg (fun l' => ChildField.keyed k (some l')) (dropE_eq_self (l := l) h)

theorem dropN_eq_self {n : Node} (h : ∀ x, x ∈ n.children → x ≠ nilId) : dropN n = n := by
  have hm : n.childFields.map dropF = n.childFields := by
    conv => rhs; rw [← List.map_id n.childFields]
    exact List.map_congr_left fun f hf => dropF_eq_self fun x hx => h x (mem_children_iff.2 ⟨f, hf, hx⟩)
  unfold dropN
  rw [hm]
  rfl

/-- below nodes that exist with all their descendants (`Full`), in a store smaller than `nilId`, there is no nil
    element: what checkStructure accepts in the store without nil elements (`patch s`) it accepts in `s`, with the same result -/
theorem cs_unpatch {s : Store} (hsz : s.size ≤ nilId) : ∀ (f : Nat) (w : List (NodeId × String))
    (acc res : List (NodeId × Info)), (∀ e, e ∈ w → ∃ d, Full s d e.1) →
    checkStructure (patch s) f w acc = .ok res → checkStructure s f w acc = .ok res := by
  intro f
  induction f with
  | zero => intro w acc res _ h; rw [RPerm.cs_zero] at h; cases h
  | succ f ih =>
    intro w acc res hw h
    cases w with
    | nil => rw [RPerm.cs_nil] at h ⊢; exact h
    | cons e w =>
      obtain ⟨id, path⟩ := e
      obtain ⟨n', hn', hid, hrest⟩ := (RPerm.cs_cons_ok _ _ _ _ _ _ _).mp h
      obtain ⟨d, hd⟩ := hw (id, path) List.mem_cons_self
      cases d with
      | zero => exact hd.elim
      | succ d =>
        obtain ⟨n, hn, hch⟩ := hd
        have hnn : ∀ x, x ∈ n.children → x ≠ nilId := fun x hx heq => by
          have h2 : x < s.size := Full.lt_size (hch x hx)
          rw [heq] at h2
          exact absurd h2 (Nat.not_lt.2 hsz)
        rw [patch_get?, hn, Option.map_some, dropN_eq_self hnn] at hn'
        have hnn' : n' = n := (Option.some.inj hn').symm
        rw [hnn'] at hrest
        refine (RPerm.cs_cons_ok _ _ _ _ _ _ _).mpr ⟨n, hn, hid, ih _ _ _ (fun e he => ?_) hrest⟩
        rcases List.mem_append.1 he with he | he
        · exact ⟨d, hch e.1 (mem_children_iff_entries.2 ⟨e.2, he⟩)⟩
        · exact hw e (List.mem_cons_of_mem _ he)

/-- `C05.unmarshal_is_tree` on the model's entry point.  `hfull` fails when a `null` element of a schema list / map
    was decoded into a nil pointer. -/
theorem unmarshal_checkStructure (j : Json) (st : Store) (id : NodeId) (st' : Store) (p : String) (d : Nat)
    (h : unmarshal j st = .ok (id, st')) (hfull : Full st' d id) (hsz : st'.size ≤ nilId) :
    ∃ f fresh, checkStructure st' f [(id, p)] [] = .ok fresh ∧ InIv st.size st'.size fresh := by
  obtain ⟨_, D, ⟨f, hf⟩, hi⟩ := unmarshalFuel_tree (j.size + 1) j st id st' p h
  exact ⟨f, D, cs_unpatch hsz f _ _ _ (fun e he => by
    rw [List.mem_singleton] at he
    subst he
    exact ⟨d, hfull⟩) hf, hi⟩

end UTree
end Go
end JSV
