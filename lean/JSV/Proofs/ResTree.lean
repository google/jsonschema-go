/-
  A document accepted by checkStructure is a tree: every schema of it has at most one lineage from the root (`Tree.lineage_unique`).
-/
import JSV.Spec.Designate
import JSV.Proofs.ResKnown
import JSV.Proofs.ListFacts
namespace JSV
namespace Go
namespace RInv
open Spec

theorem isChild_iff (st : Store) (p c : NodeId) :
    isChild st p c = true ↔ ∃ n, st.get? p = some n ∧ c ∈ n.children := by
  unfold isChild
  cases h : st.get? p with
  | none => simp
  | some n => simp

theorem isLineage_snoc (st : Store) : ∀ (l : List NodeId) (a p c : NodeId),
    isLineage st a l p = true → isChild st p c = true → isLineage st a (l ++ [c]) c = true := by
  intro l
  induction l with
  | nil =>
    intro a p c h hc
    simp only [isLineage, beq_iff_eq] at h
    subst h
    simp [isLineage, hc]
  | cons b l ih =>
    intro a p c h hc
    simp only [isLineage, Bool.and_eq_true] at h
    simp only [List.cons_append, isLineage, Bool.and_eq_true]
    exact ⟨h.1, ih b p c h.2 hc⟩

theorem isLineage_snoc_inv (st : Store) : ∀ (l : List NodeId) (a c s : NodeId),
    isLineage st a (l ++ [c]) s = true →
      s = c ∧ ∃ p, isLineage st a l p = true ∧ isChild st p c = true := by
  intro l
  induction l with
  | nil =>
    intro a c s h
    simp only [List.nil_append, isLineage, Bool.and_eq_true, beq_iff_eq] at h
    exact ⟨h.2.symm, a, by simp [isLineage], h.1⟩
  | cons b l ih =>
    intro a c s h
    simp only [List.cons_append, isLineage, Bool.and_eq_true] at h
    obtain ⟨hs, p, hp, hc⟩ := ih b c s h.2
    exact ⟨hs, p, by simp [isLineage, h.1, hp], hc⟩

theorem closed_has (st : Store) (P : NodeId → Prop)
    (hcl : ∀ p, P p → ∀ c, isChild st p c = true → P c) :
    ∀ (l : List NodeId) (a s : NodeId), P a → isLineage st a l s = true → P s := by
  intro l
  induction l with
  | nil =>
    intro a s ha h
    simp only [isLineage, beq_iff_eq] at h
    subst h; exact ha
  | cons b l ih =>
    intro a s ha h
    simp only [isLineage, Bool.and_eq_true] at h
    exact ih b s (hcl a ha b h.1) h.2

/-- the schemas checkStructure pushes when it visits `id` -/
def kids (st : Store) (id : NodeId) : List NodeId :=
  match st.get? id with
  | some n => (childEntries n "").map (·.1)
  | none => []

theorem isChild_kids (st : Store) (p c : NodeId) (h : isChild st p c = true) : c ∈ kids st p := by
  obtain ⟨n, hn, hc⟩ := (isChild_iff st p c).mp h
  unfold kids
  rw [hn]
  obtain ⟨q, hq⟩ := mem_children_iff_entries (path := "").1 hc
  exact List.mem_map.mpr ⟨(c, q), hq, rfl⟩

theorem checkStructure_nodup (st : Store) : ∀ fuel work acc res,
    checkStructure st fuel work acc = .ok res → (ids acc).Nodup → (ids res).Nodup := by
  refine RPerm.checkStructure_inv st (fun _ acc => (ids acc).Nodup) ?_
  intro id path n work acc _ hid hacc
  simp only [ids, List.map_append, List.map_cons, List.map_nil]
  rw [List.nodup_append]
  refine ⟨hacc, by simp, ?_⟩
  intro a ha b hb
  simp only [List.mem_singleton] at hb
  subst hb
  intro e; subst e; exact hid ha

/-- the newly visited schemas are, up to order, the pushed ones: the initial worklist and the
    children of every visited schema -/
theorem checkStructure_perm (st : Store) : ∀ fuel work acc res,
    checkStructure st fuel work acc = .ok res →
    ∃ V, ids res = ids acc ++ V ∧ List.Perm V (work.map (·.1) ++ V.flatMap (kids st)) := by
  intro fuel
  induction fuel with
  | zero => intro work acc res h; rw [RPerm.cs_zero] at h; cases h
  | succ fuel ih =>
    intro work acc res h
    cases work with
    | nil =>
      rw [RPerm.cs_nil] at h; cases h
      exact ⟨[], by simp, by simp⟩
    | cons w work =>
      obtain ⟨id, path⟩ := w
      obtain ⟨n, hn, _, h⟩ := (RPerm.cs_cons_ok st fuel id path work acc res).mp h
      obtain ⟨V', hres, hperm⟩ := ih _ _ _ h
      refine ⟨id :: V', ?_, ?_⟩
      · rw [hres]; simp [ids]
      · have hk : kids st id = (childEntries n path).map (·.1) := by
          unfold kids; rw [hn]; exact childEntries_ids n "" path
        simp only [List.map_cons, List.cons_append, List.flatMap_cons]
        apply List.Perm.cons
        rw [hk]
        rw [List.map_append] at hperm
        refine hperm.trans ?_
        rw [← List.append_assoc]
        exact List.Perm.append_right _ List.perm_append_comm

structure Tree (st : Store) (root : NodeId) (V : List NodeId) : Prop where
  root_mem : root ∈ V
  closed : ∀ p, p ∈ V → ∀ c, isChild st p c = true → c ∈ V
  parent_unique : ∀ p1 ∈ V, ∀ p2 ∈ V, ∀ c, isChild st p1 c = true → isChild st p2 c = true → p1 = p2
  root_orphan : ∀ p ∈ V, isChild st p root = false

theorem checkStructure_tree (st : Store) (fuel : Nat) (root : NodeId) (fresh : List (NodeId × Info))
    (h : checkStructure st fuel [(root, "")] [] = .ok fresh) : Tree st root (ids fresh) := by
  obtain ⟨V, hV, hperm⟩ := checkStructure_perm st fuel _ _ _ h
  have hnd : (ids fresh).Nodup := checkStructure_nodup st fuel _ _ _ h (by simp [ids])
  simp only [ids, List.map_nil, List.nil_append] at hV
  have hV' : ids fresh = V := hV
  rw [hV'] at hnd ⊢
  simp only [List.map_cons, List.map_nil, List.cons_append, List.nil_append] at hperm
  have hnd2 : (root :: V.flatMap (kids st)).Nodup := (hperm.nodup_iff).mp hnd
  rw [List.nodup_cons] at hnd2
  have hcl := checkStructure_closed st fuel _ _ _ h (fun _ hid => absurd hid (by simp [ids]))
  refine ⟨?_, ?_, ?_, ?_⟩
  · rw [← hV']; exact checkStructure_root_mem st fuel root fresh h
  · intro p hp c hc
    obtain ⟨n, hn, hcn⟩ := (isChild_iff st p c).mp hc
    rw [← hV'] at hp ⊢
    exact hcl p hp n hn c hcn
  · intro p1 hp1 p2 hp2 c h1 h2
    exact nodup_flatMap_unique (kids st) V hnd2.2 p1 hp1 p2 hp2 c (isChild_kids st p1 c h1) (isChild_kids st p2 c h2)
  · intro p hp
    cases hc : isChild st p root with
    | false => rfl
    | true => exact absurd (List.mem_flatMap.mpr ⟨p, hp, isChild_kids st p root hc⟩) hnd2.1

theorem Tree.has_mem {st : Store} {root : NodeId} {V : List NodeId} (T : Tree st root V)
    (l : List NodeId) (s : NodeId) (h : isLineage st root l s = true) : s ∈ V :=
  closed_has st (· ∈ V) T.closed l root s T.root_mem h

theorem Tree.lineage_unique {st : Store} {root : NodeId} {V : List NodeId} (T : Tree st root V) (l1 : List NodeId) :
    ∀ (l2 : List NodeId) (s : NodeId), isLineage st root l1 s = true → isLineage st root l2 s = true → l1 = l2 := by
  induction l1 using snoc_induction with
  | hnil =>
    intro l2 s h1 h2
    simp only [isLineage, beq_iff_eq] at h1
    subst h1
    rcases List.eq_nil_or_concat l2 with h | ⟨l2', c, h⟩
    · exact h.symm
    · subst h
      rw [List.concat_eq_append] at h2
      obtain ⟨hs, p, hp, hc⟩ := isLineage_snoc_inv st l2' root c root h2
      subst hs
      have := T.root_orphan p (T.has_mem l2' p hp)
      rw [this] at hc
      simp at hc
  | hsnoc l1' c1 ih =>
    intro l2 s h1 h2
    obtain ⟨hs1, p1, hp1, hc1⟩ := isLineage_snoc_inv st l1' root c1 s h1
    subst hs1
    rcases List.eq_nil_or_concat l2 with h | ⟨l2', c2, h⟩
    · subst h
      simp only [isLineage, beq_iff_eq] at h2
      subst h2
      have := T.root_orphan p1 (T.has_mem l1' p1 hp1)
      rw [this] at hc1
      simp at hc1
    · subst h
      rw [List.concat_eq_append] at h2 ⊢
      obtain ⟨hs2, p2, hp2, hc2⟩ := isLineage_snoc_inv st l2' root c2 s h2
      subst hs2
      have hp : p1 = p2 :=
        T.parent_unique p1 (T.has_mem l1' p1 hp1) p2 (T.has_mem l2' p2 hp2) s hc1 hc2
      subst hp
      rw [ih l2' p1 hp1 hp2]

theorem Tree.resourceRoot_unique {D : Doc} {V : List NodeId} (T : Tree D.st D.root V) (s r r' : NodeId)
    (h : D.ResourceRoot s r) (h' : D.ResourceRoot s r') : r = r' := by
  obtain ⟨l, hl, hr⟩ := h
  obtain ⟨l', hl', hr'⟩ := h'
  rw [← hr, ← hr', T.lineage_unique l l' s hl hl']

end RInv
end Go
end JSV
