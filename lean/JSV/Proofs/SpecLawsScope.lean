/-
  Algebraic laws: the dynamic scope.  An application at `s` with scope `scope` applies the subschemas of `s` with
  scope `scope ++ [s]`; the scope is consulted by `$dynamicRef` only, through `Spec.dynTarget`.  Two scopes on which
  `dynTarget` agrees give the same outcomes (`evalFuel_scope`); in particular the scope is immaterial when no schema
  resource declares a dynamic anchor, and entering a wrapper object of the same schema resource changes nothing.
-/
import JSV.Proofs.SpecLaws
import JSV.Proofs.ListFacts
namespace JSV
namespace Laws
open Go GoVal Refine _root_.JSV.Inv

def ScopeEqv (env : Spec.Env) (sc sc' : List NodeId) : Prop :=
  ∀ name, Spec.dynTarget env sc name = Spec.dynTarget env sc' name

theorem ScopeEqv.refl (env : Spec.Env) (sc : List NodeId) : ScopeEqv env sc sc := fun _ => rfl

theorem ScopeEqv.symm {env : Spec.Env} {sc sc' : List NodeId} (h : ScopeEqv env sc sc') : ScopeEqv env sc' sc :=
  fun name => (h name).symm

theorem ScopeEqv.trans {env : Spec.Env} {a b c : List NodeId} (h1 : ScopeEqv env a b) (h2 : ScopeEqv env b c) :
    ScopeEqv env a c := fun name => (h1 name).trans (h2 name)

theorem dynTarget_eq_findSome (env : Spec.Env) (scope : List NodeId) (name : String) :
    Spec.dynTarget env scope name = scope.findSome? fun x => (env.resource x).bind (env.dynDecl · name) := by
  unfold Spec.dynTarget
  congr 1
  funext s
  cases env.resource s <;> rfl

theorem dynTarget_append (env : Spec.Env) (l1 l2 : List NodeId) (name : String) :
    Spec.dynTarget env (l1 ++ l2) name = (Spec.dynTarget env l1 name).or (Spec.dynTarget env l2 name) :=
  List.findSome?_append

theorem ScopeEqv.append {env : Spec.Env} {sc sc' : List NodeId} (h : ScopeEqv env sc sc') (l : List NodeId) :
    ScopeEqv env (sc ++ l) (sc' ++ l) := by
  intro name
  rw [dynTarget_append, dynTarget_append, h name]

theorem ScopeEqv.prepend {env : Spec.Env} {l l' : List NodeId} (h : ScopeEqv env l l') (sc : List NodeId) :
    ScopeEqv env (sc ++ l) (sc ++ l') := by
  intro name
  rw [dynTarget_append, dynTarget_append, h name]

theorem kwDynamicRef_scope (env : Spec.Env) (sub : NodeId → Json → Spec.Out) (sc sc' : List NodeId) (s : NodeId) (n : Node)
    (j : Json) (h : ScopeEqv env sc sc') :
    Spec.kwDynamicRef env sub sc s n j = Spec.kwDynamicRef env sub sc' s n j := by
  unfold Spec.kwDynamicRef
  simp only [h (env.dynName s)]

theorem specBody_scope (env : Spec.Env) (rec : Spec.Rec) (sc sc' : List NodeId) (s : NodeId) (j : Json) (n : Node)
    (hrec : rec (sc ++ [s]) = rec (sc' ++ [s])) (h : ScopeEqv env (sc ++ [s]) (sc' ++ [s])) :
    specBody env rec sc s j n = specBody env rec sc' s j n := by
  unfold specBody kwList
  rw [hrec, kwDynamicRef_scope env _ _ _ s _ j h]

theorem evalFuel_scope (env : Spec.Env) : ∀ (fuel : Nat) (sc sc' : List NodeId) (s : NodeId) (j : Json),
    ScopeEqv env (sc ++ [s]) (sc' ++ [s]) → Spec.evalFuel env fuel sc s j = Spec.evalFuel env fuel sc' s j
  | 0, _, _, _, _, _ => rfl
  | fuel + 1, sc, sc', s, j, h => by
    show Spec.evalStep env (Spec.evalFuel env fuel) sc s j = Spec.evalStep env (Spec.evalFuel env fuel) sc' s j
    cases hn : env.st.get? s with
    | none => rw [evalStep_none hn, evalStep_none hn]
    | some n =>
      rw [evalStep_get hn, evalStep_get hn]
      apply specBody_scope env _ sc sc' s j n _ h
      funext t j'
      exact evalFuel_scope env fuel _ _ t j' (h.append [t])

theorem evalFuel_scope_eqv (env : Spec.Env) (fuel : Nat) (sc sc' : List NodeId) (s : NodeId) (j : Json)
    (h : ScopeEqv env sc sc') : Spec.evalFuel env fuel sc s j = Spec.evalFuel env fuel sc' s j :=
  evalFuel_scope env fuel sc sc' s j (h.append [s])

theorem ScopeEqv_of_no_dynamic (env : Spec.Env) (h : ∀ r name, env.dynDecl r name = none) (sc sc' : List NodeId) :
    ScopeEqv env sc sc' := by
  have : ∀ l name, Spec.dynTarget env l name = none := by
    intro l name
    unfold Spec.dynTarget
    rw [List.findSome?_eq_none_iff]
    intro x _
    cases env.resource x <;> simp [h]
  intro name
  rw [this, this]

theorem dynTarget_same_resource (env : Spec.Env) (ρ : Option NodeId) (l : List NodeId) (hl0 : l ≠ [])
    (hl : ∀ x, x ∈ l → env.resource x = ρ) (name : String) :
    Spec.dynTarget env l name = ρ.bind fun r => env.dynDecl r name := by
  rw [dynTarget_eq_findSome]
  exact findSome?_const _ _ l hl0 fun x hx => by rw [hl x hx]

theorem ScopeEqv_same_resource (env : Spec.Env) (ρ : Option NodeId) (sc l l' : List NodeId) (hl : l ≠ []) (hl' : l' ≠ [])
    (h : ∀ x, x ∈ l → env.resource x = ρ) (h' : ∀ x, x ∈ l' → env.resource x = ρ) :
    ScopeEqv env (sc ++ l) (sc ++ l') := by
  apply ScopeEqv.prepend
  intro name
  rw [dynTarget_same_resource env ρ l hl h name, dynTarget_same_resource env ρ l' hl' h' name]

theorem evalFuel_wrapper (env : Spec.Env) (fuel : Nat) (sc : List NodeId) (a s : NodeId) (j : Json)
    (h : env.resource a = env.resource s) :
    Spec.evalFuel env fuel (sc ++ [a]) s j = Spec.evalFuel env fuel sc s j := by
  apply evalFuel_scope
  rw [List.append_assoc]
  exact ScopeEqv_same_resource env (env.resource s) sc ([a] ++ [s]) [s] (by simp) (by simp)
    (by intro x hx; simp at hx; rcases hx with rfl | rfl; exact h; rfl) (by intro x hx; simp at hx; subst hx; rfl)

theorem evalFuel_wrapper2 (env : Spec.Env) (fuel : Nat) (sc : List NodeId) (a b s : NodeId) (j : Json)
    (ha : env.resource a = env.resource s) (hb : env.resource b = env.resource s) :
    Spec.evalFuel env fuel (sc ++ [a] ++ [b]) s j = Spec.evalFuel env fuel sc s j := by
  rw [evalFuel_wrapper env fuel (sc ++ [a]) b s j hb, evalFuel_wrapper env fuel sc a s j ha]

end Laws
end JSV
