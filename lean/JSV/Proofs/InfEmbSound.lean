/-
  C04 (embedded fields): the schema `forTypeE` builds for a type of the domain accepts the `encodeE` encoding of
  every value of the type (`soundE`). One induction over types and field lists (`soundE_aux`, by `GoTypeE.ind_wt`)
  against `Go.Models` of the flattened type (JSV/Proofs/InfEmbFlat.lean); the nodes are those of `Models.sound`
  (`basic_sound`, `valid_sliceNode`, ... of JSV/Proofs/InfSound.lean).  Tightness reduces to `Models.tight` of the
  flattened type (`decodableE_flatten`); soundness does not, because there is no flattened VALUE: a struct field tagged
  omitzero is zero in a flattened value and not in the original when a hidden field below it is not.
-/
import JSV.Proofs.InfEmbFlat
import JSV.Proofs.InfSound
import JSV.Proofs.JsonLookup
namespace JSV
namespace EncJsonEmb
open Go Spec EncJson

theorem _root_.JSV.Go.EmbIs.hasTypeEmb {t : GoTypeE} {fs : List (FieldE GoTypeE)} (h : EmbIs t fs) {v : GoValue}
    (hv : HasTypeEmbE t v) :
    ∃ vs, HasTypeFieldsE fs vs ∧ ∀ all idx, encodeEmbE all idx t v = encodeFieldsE all idx 0 fs vs := by
  cases h with
  | ptrNamed _ fs | ptrStruct fs =>
    cases v with
    | ptr w =>
      cases w with
      | struct vs => exact ⟨vs, hv, fun _ _ => rfl⟩
      | _ => simp only [HasTypeEmbE] at hv
    | _ => simp only [HasTypeEmbE] at hv
  | named _ fs | struct fs =>
    cases v with
    | struct vs => exact ⟨vs, hv, fun _ _ => rfl⟩
    | _ => simp only [HasTypeEmbE] at hv

theorem _root_.JSV.Go.EmbIs.depth_le {t : GoTypeE} {fs : List (FieldE GoTypeE)} (h : EmbIs t fs) :
    depthFieldsE fs ≤ depthE t := by
  cases h <;> simp only [depthE] <;> omega

theorem allFields_depth : ∀ (fs : List (FieldE GoTypeE)) (pre : List Nat) (i : Nat) (f : VField),
    f ∈ allFields pre i fs → depthE f.type ≤ depthFieldsE fs := by
  refine GoTypeE.ind_fields (fun _ _ _ hf => nomatch hf) fun g rest ihE ihR pre i f hf => ?_
  simp only [depthFieldsE]
  rcases mem_allFields_cons hf with rfl | ⟨_, fs', hg, hf⟩ | hf
  · exact Nat.le_max_left _ _
  · exact Nat.le_trans (ihE fs' hg _ 0 f hf) (Nat.le_trans hg.depth_le (Nat.le_max_left _ _))
  · exact Nat.le_trans (ihR pre (i + 1) f hf) (Nat.le_max_right _ _)

theorem modelsFields_mem {nfs : Bool} {st : Store} {fields : List (String × String × GoType)} {props : List (String × NodeId)} :
    ModelsFields nfs st fields props → ∀ g, g ∈ fields → (fieldJSONInfo g.1 g.2.1).omitted = true ∨
      ∃ fid, Json.lookup (fieldJSONInfo g.1 g.2.1).name props = some fid ∧ Models nfs st g.2.2 false fid :=
  forall_mem_of_cons (F := fun fields => ModelsFields nfs st fields props) fun _ _ h => by
    simpa only [ModelsFields] using h

theorem lookup_append_isSome {α} {k : String} {a b : List (String × α)}
    (h : (Json.lookup k a).isSome = true ∨ (Json.lookup k b).isSome = true) : (Json.lookup k (a ++ b)).isSome = true := by
  rw [Json.lookup_append_isSome, Bool.or_eq_true]
  exact h

/-- the context of a struct: the walk, the candidates of `typeFields`, the members of the schema -/
structure Ctx (st : Store) (all : List VField) (cands : List TField) (props : List (String × NodeId)) : Prop where
  ok : namesOk all = true
  cands_eq : cands = (all.filter live).map toT
  models : ModelsFields true st (plainOf (all.filter (isVisible all))) props

theorem live_headV {pre : List Nat} {i : Nat} {g : FieldE GoTypeE} (he : g.embedded = false) (hx : g.exported = true)
    (ho : (fieldJSONInfo g.goName g.tag).omitted = false) : live (headV pre i g) = true := by
  unfold headV
  rw [live_mk, he, hx, ho]
  rfl

theorem depthE_pos : ∀ T : GoTypeE, 1 ≤ depthE T
  | .basic _ => by simp [depthE]
  | .ptr e => by simp only [depthE]; exact depthE_pos e
  | .slice e => by simp [depthE]
  | .array _ e => by simp [depthE]
  | .map _ e => by simp [depthE]
  | .struct fs => by simp [depthE]
  | .named _ u => by simp [depthE]
  | .ref _ => by simp [depthE]

section Sound
variable {st : Store} {re : String → String → Bool}

/-- the members json.Marshal writes for the fields `fs` of a struct tree are properties of the schema and valid against
    them, and the always-written visible fields are written -/
def MembersOk (st : Store) (re : String → String → Bool) (fs : List (FieldE GoTypeE)) : Prop :=
  inDomainFieldsE fs = true → ∀ {all : List VField} {cands : List TField} {props : List (String × NodeId)},
    Ctx st all cands props → ∀ (f : Nat) (scope : List NodeId) (pre : List Nat) (i : Nat) (vs : List GoValue),
    (∀ g, g ∈ allFields pre i fs → g ∈ all ∧ depthE g.type ≤ f) → HasTypeFieldsE fs vs →
    (∀ p, p ∈ encodeFieldsE cands pre i fs vs →
      ∃ fid, Json.lookup p.1 props = some fid ∧ Valid (evalFuel (specEnvNoRefs st re) f scope fid p.2)) ∧
    ∀ vf, vf ∈ allFields pre i fs → alwaysLive vf = true → isVisible all vf = true →
      (Json.lookup (jsonNameOf vf) (encodeFieldsE cands pre i fs vs)).isSome = true

theorem soundE_aux :
    (∀ T : GoTypeE, InDomainE T = true → ∀ (an : Bool) (id : NodeId), Models true st (flatten T) an id →
      ∀ (f : Nat) (scope : List NodeId), depthE T ≤ f →
      (an = true → Valid (evalFuel (specEnvNoRefs st re) f scope id .null)) ∧
      ∀ v, HasTypeE T v → Valid (evalFuel (specEnvNoRefs st re) f scope id (encodeE T v))) ∧
    ∀ fs, MembersOk st re fs := by
  refine GoTypeE.ind_wt ?_ ?_ ?_ ?_ ?_ ?_ ?_ ?_ ?_ ?_
  · intro kind _ an id hm f scope hf
    obtain ⟨f, rfl⟩ := Nat.exists_eq_add_one.2 (Nat.le_trans (depthE_pos _) hf)
    simp only [flatten, Models] at hm
    obtain ⟨ty, mn, mx, hk, hn⟩ := hm
    refine ⟨(basic_sound hk hn f scope).1, fun v hv => ?_⟩
    simp only [HasTypeE] at hv
    have henc : encodeE (.basic kind) v = encode (.basic kind) v := by
      cases v <;> rfl
    rw [henc]
    exact (basic_sound hk hn f scope).2 v hv
  · intro n hdom; simp [InDomainE] at hdom
  · intro n u _ hdom; simp [InDomainE] at hdom
  · intro e ih hdom an id hm f scope hf
    simp only [flatten, Models] at hm
    simp only [depthE] at hf
    simp only [InDomainE] at hdom
    obtain ⟨h1, h2⟩ := ih hdom true id hm f scope hf
    refine ⟨fun _ => h1 rfl, fun v hv => ?_⟩
    simp only [HasTypeE] at hv
    cases v with
    | nilPtr => simp only [encodeE]; exact h1 rfl
    | ptr w => simp only [encodeE]; exact h2 w hv
    | _ => exact hv.elim
  · intro e ih hdom an id hm f scope hf
    obtain ⟨f, rfl⟩ := Nat.exists_eq_add_one.2 (Nat.le_trans (depthE_pos _) hf)
    simp only [flatten, Models] at hm
    simp only [depthE, Nat.add_le_add_iff_right] at hf
    simp only [InDomainE] at hdom
    obtain ⟨eid, he, hn⟩ := hm
    have hnull := (valid_sliceNode (re := re) hn f scope .null).2 (Or.inl ⟨rfl, Or.inr rfl⟩)
    refine ⟨fun _ => hnull, fun v hv => ?_⟩
    simp only [HasTypeE] at hv
    cases v with
    | nilSlice => simp only [encodeE]; exact hnull
    | slice vs =>
      simp only [encodeE]
      refine (valid_sliceNode hn f scope _).2 (Or.inr ⟨_, rfl, fun x hx => ?_⟩)
      obtain ⟨w, hw', rfl⟩ := List.mem_map.1 hx
      exact (ih hdom false eid he f _ hf).2 w (hv w hw')
    | _ => exact hv.elim
  · intro len e ih hdom an id hm f scope hf
    obtain ⟨f, rfl⟩ := Nat.exists_eq_add_one.2 (Nat.le_trans (depthE_pos _) hf)
    simp only [flatten, Models] at hm
    simp only [depthE, Nat.add_le_add_iff_right] at hf
    simp only [InDomainE] at hdom
    obtain ⟨eid, he, hn⟩ := hm
    refine ⟨fun han => (valid_arrayNode hn f scope .null).2 (Or.inl ⟨rfl, han⟩), fun v hv => ?_⟩
    simp only [HasTypeE] at hv
    cases v with
    | array vs =>
      simp only [encodeE]
      refine (valid_arrayNode hn f scope _).2 (Or.inr ⟨_, rfl, by rw [List.length_map]; exact hv.1, fun x hx => ?_⟩)
      obtain ⟨w, hw', rfl⟩ := List.mem_map.1 hx
      exact (ih hdom false eid he f _ hf).2 w (hv.2 w hw')
    | _ => exact hv.elim
  · intro kk e ih hdom an id hm f scope hf
    obtain ⟨f, rfl⟩ := Nat.exists_eq_add_one.2 (Nat.le_trans (depthE_pos _) hf)
    simp only [flatten, Models] at hm
    simp only [depthE, Nat.add_le_add_iff_right] at hf
    simp only [InDomainE, Bool.and_eq_true] at hdom
    obtain ⟨eid, he, hn⟩ := hm
    refine ⟨fun han => (valid_mapNode hn f scope .null).2 (Or.inl ⟨rfl, han⟩), fun v hv => ?_⟩
    simp only [HasTypeE] at hv
    cases v with
    | map kvs =>
      simp only [encodeE]
      refine (valid_mapNode hn f scope _).2 (Or.inr ⟨_, rfl, fun p hp => ?_⟩)
      obtain ⟨q, hq, rfl⟩ := List.mem_map.1 hp
      exact (ih hdom.2 false _ he f _ hf).2 q.2 (hv.2 q hq)
    | _ => exact hv.elim
  · intro fields ih hdom an id hm f scope hf
    obtain ⟨f, rfl⟩ := Nat.exists_eq_add_one.2 (Nat.le_trans (depthE_pos _) hf)
    rw [flatten_struct] at hm
    simp only [Models] at hm
    simp only [depthE, Nat.add_le_add_iff_right] at hf
    simp only [InDomainE, Bool.and_eq_true] at hdom
    obtain ⟨hok, hdf⟩ := hdom
    obtain ⟨notId, falseId, props, po, rq, hnot, hfalse, hn, hrq, _, hmf⟩ := hm
    refine ⟨fun han => (valid_structNode hnot hfalse hn f scope .null).2 (Or.inl ⟨rfl, han⟩), fun v hv => ?_⟩
    simp only [HasTypeE] at hv
    cases v with
    | struct vs =>
      simp only [encodeE]
      simp only at hv
      obtain ⟨hmem, hreq⟩ := ih hdf (all := allFields [] 0 fields) (props := props.getD [])
        ⟨hok, candidates_eq fields [] 0 hdf, hmf⟩ f (scope ++ [id]) [] 0 vs
        (fun g hg => ⟨hg, Nat.le_trans (allFields_depth fields [] 0 g hg) hf⟩) hv
      refine (valid_structNode hnot hfalse hn f scope _).2 (Or.inr ⟨_, rfl, fun k hkr => ?_, hmem⟩)
      rw [hrq, alwaysNames_plainOf] at hkr
      unfold loopAlways at hkr
      obtain ⟨vf, hvf, rfl⟩ := List.mem_map.1 hkr
      obtain ⟨hvis, hal⟩ := List.mem_filter.1 hvf
      obtain ⟨hin, hvis'⟩ := List.mem_filter.1 hvis
      exact hreq vf hin hal hvis'
    | _ => exact hv.elim
  · intro _ _ _ _ _ _ _ _ _ _ _ _
    exact ⟨(fun _ hp => nomatch hp), fun _ hvf => nomatch hvf⟩
  · intro g rest ihT ihE ihR hd all cands props C f scope pre i vs hsub hv
    simp only [inDomainFieldsE, Bool.and_eq_true] at hd
    cases vs with
    | nil => simp only [HasTypeFieldsE] at hv
    | cons v vs' =>
      simp only [HasTypeFieldsE] at hv
      obtain ⟨r1, r2⟩ := ihR hd.2 C f scope pre (i + 1) vs'
        (fun g' hg' => hsub g' (mem_allFields_tail hg')) hv.2
      simp only [encodeFieldsE, allFields, List.mem_cons, List.mem_append]
      rcases classify_domain hd.1 with ⟨he, hc, hde⟩ | ⟨he, hc, hbad⟩ | ⟨he, hc, hx, ho, hdt⟩
      · -- an embedded struct
        rw [hc] at hv ⊢
        simp only at hv ⊢
        obtain ⟨fs', hg, hdf⟩ := EmbIs.of_inDomain hde
        obtain ⟨vs2, hv2, henc⟩ := hg.hasTypeEmb hv.1
        obtain ⟨e1, e2⟩ := ihE fs' hg hdf C f scope (pre ++ [i]) 0 vs2 (fun g' hg' => hsub g' (hg.mem_allFields he hg')) hv2
        rw [henc, he, hg.fields]
        refine ⟨fun p hp => hp.elim (e1 p) (r1 p), fun vf hvf hal hvis => lookup_append_isSome ?_⟩
        rcases hvf with rfl | hvf | hvf
        · simp [alwaysLive, live] at hal
        · exact Or.inl (e2 vf hvf hal hvis)
        · exact Or.inr (r2 vf hvf hal hvis)
      · rw [hc, he]
        refine ⟨fun p hp => hp.elim (fun h => nomatch h) (r1 p), fun vf hvf hal hvis => lookup_append_isSome ?_⟩
        rcases hvf with rfl | hvf | hvf
        · rcases hbad with h | h <;> simp [alwaysLive, live, h] at hal
        · cases hvf
        · exact Or.inr (r2 vf hvf hal hvis)
      · -- a field of its own
        rw [hc] at hv ⊢
        simp only at hv ⊢
        rw [he]
        have hmem := hsub (headV pre i g) (headV_mem pre i g rest)
        have hlive : live (headV pre i g) = true := live_headV he hx ho
        have hvd := visible_eq_dominant C.ok hmem.1 hlive
        rw [← C.cands_eq] at hvd
        refine ⟨fun p hp => hp.elim (fun hp => ?_) (r1 p), fun vf hvf hal hvis => lookup_append_isSome ?_⟩
        · split at hp
          · rename_i hcond
            simp only [Bool.and_eq_true] at hcond
            have hp' : p = ((fieldJSONInfo g.goName g.tag).name, encodeE g.type v) := by simpa using hp
            subst hp'
            have hin : flatV (headV pre i g) ∈ plainOf (all.filter (isVisible all)) := by
              unfold plainOf
              exact List.mem_map.2 ⟨_, List.mem_filter.2 ⟨List.mem_filter.2 ⟨hmem.1, hvd.trans hcond.1⟩, hlive⟩, rfl⟩
            rcases modelsFields_mem C.models _ hin with hom | ⟨fid, hl, hmod⟩
            · have hom' : (fieldJSONInfo g.goName g.tag).omitted = true := hom
              rw [ho] at hom'
              cases hom'
            · exact ⟨fid, hl, (ihT hdt false fid hmod f scope hmem.2).2 v hv.1⟩
          · cases hp
        · rcases hvf with rfl | hvf | hvf
          · left
            have hdomv : isDominant cands (mkTField (pre ++ [i]) g) = true := hvd.symm.trans hvis
            have hskip : fieldSkipped (fieldJSONInfo g.goName g.tag) v = false := by
              unfold alwaysLive at hal
              simp only [Bool.and_eq_true, Bool.not_eq_true'] at hal
              simp [fieldSkipped, ho, hal.1.2, hal.2]
            simp only [hdomv, hskip, Bool.not_false, Bool.and_self, if_true, Json.lookup_cons, jsonNameOf]
            rfl
          · cases hvf
          · exact Or.inr (r2 vf hvf hal hvis)

/-- **the schema accepts every encoded value**, and `null` where a pointer was stripped -/
theorem soundE (T : GoTypeE) (hdom : InDomainE T = true) (an : Bool) (id : NodeId) (hm : Models true st (flatten T) an id)
    (f : Nat) (scope : List NodeId) (hf : depthE T ≤ f) :
    (an = true → Valid (evalFuel (specEnvNoRefs st re) f scope id .null)) ∧
    ∀ v, HasTypeE T v → Valid (evalFuel (specEnvNoRefs st re) f scope id (encodeE T v)) :=
  soundE_aux.1 T hdom an id hm f scope hf

end Sound

end EncJsonEmb
end JSV
