/-
  Declared (named) types: `forType` on a type whose declared types are transparent (`EncJson.NamedOk`) is `forType` on
  the type with the declared types erased (`EncJson.erase`) — the same outcome, the same schema, the same store —, and
  typing, json.Marshal and the strict decoder do not see the difference either.  C04 / C09 / C16 for types with declared
  types are corollaries of the statements for types without.
-/
import JSV.Proofs.InfModels
namespace JSV
namespace EncJson
open Go

theorem jsonNames_erase : ∀ (fs : List (String × String × GoType)), jsonNames (eraseFields fs) = jsonNames fs
  | [] => rfl
  | f :: rest => by
    rw [eraseFields, jsonNames_cons, jsonNames_cons, jsonNames_erase rest]

theorem alwaysNames_erase : ∀ (fs : List (String × String × GoType)), alwaysNames (eraseFields fs) = alwaysNames fs
  | [] => rfl
  | f :: rest => by
    rw [eraseFields, alwaysNames_cons, alwaysNames_cons, alwaysNames_erase rest]

theorem all_tagOk_erase : ∀ (fs : List (String × String × GoType)),
    (eraseFields fs).all (fun f => fieldTagOk f.1 f.2.1) = fs.all (fun f => fieldTagOk f.1 f.2.1)
  | [] => rfl
  | f :: rest => by
    rw [eraseFields, List.all_cons, List.all_cons, all_tagOk_erase rest]

mutual
  theorem inDomainN_eq_erase : ∀ (T : GoType), InDomainN T = InDomain (erase T)
    | .basic _ => rfl
    | .ptr e => by simp only [InDomainN, erase, InDomain]; exact inDomainN_eq_erase e
    | .slice e => by simp only [InDomainN, erase, InDomain]; exact inDomainN_eq_erase e
    | .array _ e => by simp only [InDomainN, erase, InDomain]; exact inDomainN_eq_erase e
    | .map _ e => by simp only [InDomainN, erase, InDomain]; rw [inDomainN_eq_erase e]
    | .struct fs => by
      simp only [InDomainN, erase, InDomain]
      rw [jsonNames_erase, all_tagOk_erase, inDomainFieldsN_eq_erase fs]
    | .named _ u => by simp only [InDomainN, erase]; exact inDomainN_eq_erase u
    | .ref _ => rfl
  theorem inDomainFieldsN_eq_erase : ∀ (fs : List (String × String × GoType)),
      inDomainFieldsN fs = inDomainFields (eraseFields fs)
    | [] => rfl
    | f :: rest => by
      simp only [inDomainFieldsN, eraseFields, inDomainFields]
      rw [inDomainN_eq_erase f.2.2, inDomainFieldsN_eq_erase rest]
end

mutual
  theorem inDomainN_of_inDomain : ∀ (T : GoType), InDomain T = true → InDomainN T = true
    | .basic _, h => h
    | .ptr e, h => by simp only [InDomain] at h; simp only [InDomainN]; exact inDomainN_of_inDomain e h
    | .slice e, h => by simp only [InDomain] at h; simp only [InDomainN]; exact inDomainN_of_inDomain e h
    | .array _ e, h => by simp only [InDomain] at h; simp only [InDomainN]; exact inDomainN_of_inDomain e h
    | .map _ e, h => by
      simp only [InDomain, Bool.and_eq_true] at h
      simp only [InDomainN, Bool.and_eq_true]
      exact ⟨h.1, inDomainN_of_inDomain e h.2⟩
    | .struct fs, h => by
      simp only [InDomain, Bool.and_eq_true] at h
      simp only [InDomainN, Bool.and_eq_true]
      exact ⟨h.1, inDomainFieldsN_of_inDomainFields fs h.2⟩
    | .named _ _, h => by simp [InDomain] at h
    | .ref _, h => by simp [InDomain] at h
  theorem inDomainFieldsN_of_inDomainFields : ∀ (fs : List (String × String × GoType)),
      inDomainFields fs = true → inDomainFieldsN fs = true
    | [], _ => rfl
    | f :: rest, h => by
      simp only [inDomainFields, Bool.and_eq_true, Bool.or_eq_true] at h
      simp only [inDomainFieldsN, Bool.and_eq_true, Bool.or_eq_true]
      exact ⟨h.1.imp id (inDomainN_of_inDomain f.2.2), inDomainFieldsN_of_inDomainFields rest h.2⟩
end

mutual
  theorem hasType_erase : ∀ (T : GoType) (v : GoValue), HasType (erase T) v ↔ HasType T v
    | .basic _, _ => Iff.rfl
    | .ptr e, _ | .slice e, _ | .array _ e, _ | .map _ e, _ => by
      simp only [erase, HasType, funext fun w => propext (hasType_erase e w)]
    | .struct fs, _ => by simp only [erase, HasType, funext fun vs => propext (hasTypeFields_erase fs vs)]
    | .named _ u, v => by
      simp only [erase, HasType]
      exact hasType_erase u v
    | .ref _, _ => Iff.rfl
  theorem hasTypeFields_erase : ∀ (fs : List (String × String × GoType)) (vs : List GoValue),
      HasTypeFields (eraseFields fs) vs ↔ HasTypeFields fs vs
    | [], _ => Iff.rfl
    | f :: rest, vs => by
      simp only [eraseFields, HasTypeFields]
      cases vs with
      | nil => exact Iff.rfl
      | cons v vs' => exact and_congr (or_congr Iff.rfl (hasType_erase f.2.2 v)) (hasTypeFields_erase rest vs')
end

mutual
  theorem encode_erase : ∀ (T : GoType) (v : GoValue), encode (erase T) v = encode T v
    | .basic _, _ => rfl
    | .ptr e, _ | .slice e, _ | .array _ e, _ | .map _ e, _ => by
      simp only [erase, encode, funext fun w => encode_erase e w]
    | .struct fs, _ => by simp only [erase, encode, funext fun vs => encodeFields_erase fs vs]
    | .named _ u, v => by
      simp only [erase, encode]
      exact encode_erase u v
    | .ref _, _ => rfl
  theorem encodeFields_erase : ∀ (fs : List (String × String × GoType)) (vs : List GoValue),
      encodeFields (eraseFields fs) vs = encodeFields fs vs
    | [], _ => rfl
    | f :: rest, vs => by
      simp only [eraseFields, encodeFields]
      cases vs with
      | nil => rfl
      | cons v vs' =>
        simp only
        rw [encodeFields_erase rest vs', encode_erase f.2.2 v]
end

mutual
  theorem decodable_erase : ∀ (T : GoType) (j : Json), decodable (erase T) j = decodable T j
    | .basic _, _ => rfl
    | .ptr e, _ | .slice e, _ | .array _ e, _ | .map _ e, _ => by
      simp only [erase, decodable, funext fun x => decodable_erase e x]
    | .struct fs, _ => by
      simp only [erase, decodable, funext fun k => funext fun v => decodableExact_erase fs k v,
        funext fun k => funext fun v => decodableFold_erase fs k v]
    | .named _ u, j => by
      simp only [erase, decodable]
      exact decodable_erase u j
    | .ref _, _ => rfl
  theorem decodableExact_erase : ∀ (fs : List (String × String × GoType)) (k : String) (v : Json),
      decodableExact (eraseFields fs) k v = decodableExact fs k v
    | [], _, _ => rfl
    | f :: rest, k, v => by
      simp only [eraseFields, decodableExact]
      rw [decodable_erase f.2.2 v, decodableExact_erase rest k v]
  theorem decodableFold_erase : ∀ (fs : List (String × String × GoType)) (k : String) (v : Json),
      decodableFold (eraseFields fs) k v = decodableFold fs k v
    | [], _, _ => rfl
    | f :: rest, k, v => by
      simp only [eraseFields, decodableFold]
      rw [decodable_erase f.2.2 v, decodableFold_erase rest k v]
end

mutual
  theorem depth_erase_le : ∀ (T : GoType), depth (erase T) ≤ depth T
    | .basic _ => Nat.le_refl _
    | .ptr e => by simp only [erase, depth]; exact depth_erase_le e
    | .slice e => by simp only [erase, depth]; exact Nat.succ_le_succ (depth_erase_le e)
    | .array _ e => by simp only [erase, depth]; exact Nat.succ_le_succ (depth_erase_le e)
    | .map _ e => by simp only [erase, depth]; exact Nat.succ_le_succ (depth_erase_le e)
    | .struct fs => by simp only [erase, depth]; exact Nat.succ_le_succ (depthFields_erase_le fs)
    | .named _ u => by simp only [erase, depth]; exact Nat.le_succ_of_le (depth_erase_le u)
    | .ref _ => Nat.le_refl _
  theorem depthFields_erase_le : ∀ (fs : List (String × String × GoType)), depthFields (eraseFields fs) ≤ depthFields fs
    | [] => Nat.le_refl _
    | f :: rest => by
      simp only [eraseFields, depthFields]
      have h1 := depth_erase_le f.2.2
      have h2 := depthFields_erase_le rest
      omega
end

end EncJson

namespace Go
open EncJson

theorem stripPtrs_not_ptr (T : GoType) : ∀ e, (stripPtrs T).1 ≠ .ptr e := by
  induction T using GoType.ptr_ind with
  | ptr e ih => exact ih
  | base t h => rw [stripPtrs_nonptr h]; exact h

theorem stripPtrs_erase (T : GoType) : (∀ e, erase (stripPtrs T).1 ≠ .ptr e) →
    stripPtrs (erase T) = (erase (stripPtrs T).1, (stripPtrs T).2) := by
  induction T using GoType.ptr_ind with
  | ptr e ih => intro h; simp only [erase, stripPtrs]; rw [ih h]
  | base t h => intro h'; rw [stripPtrs_nonptr h] at h' ⊢; exact stripPtrs_nonptr h'

theorem stripPtrs_namedOk (opts : IOpts) (strs : List String) (T : GoType) (seen : List String) :
    NamedOk opts strs seen T = NamedOk opts strs seen (stripPtrs T).1 := by
  induction T using GoType.ptr_ind with
  | ptr e ih => simp only [NamedOk, stripPtrs]; exact ih
  | base t h => rw [stripPtrs_nonptr h]

theorem namedOkFields_mem {opts : IOpts} {strs seen : List String} {fs : List (String × String × GoType)} :
    namedOkFields opts strs seen fs = true → ∀ f, f ∈ fs → NamedOk opts strs seen f.2.2 = true :=
  forall_mem_of_cons (F := fun fs => namedOkFields opts strs seen fs = true) (P := fun f => NamedOk opts strs seen f.2.2 = true)
    fun _ _ h => by simpa only [namedOkFields, Bool.and_eq_true] using h

theorem strEntries_ext {schemas : List (String × NodeId)} {strs : List String} {st st' : Store}
    (h : StrEntries schemas strs st) (he : Ext st st') : StrEntries schemas strs st' :=
  fun n hn sid hs => he.get? (h n hn sid hs)

theorem structLoop_erase {rec : IRec} (hinv : IRecInv rec) {seen seen' : List String} {P : Store → Prop}
    (hP : ∀ st st', P st → Ext st st' → P st') :
    ∀ (fields : List (String × String × GoType)) (n : Node) (st : Store), P st →
      (∀ f, f ∈ fields → ∀ st, P st → rec f.2.2 seen st = rec (erase f.2.2) seen' st) →
      structLoop rec seen fields n st = structLoop rec seen' (eraseFields fields) n st := by
  intro fields
  induction fields with
  | nil => intro n st _ _; rfl
  | cons f rest ih =>
    obtain ⟨goName, tag, ft⟩ := f
    intro n st hst hf
    rw [eraseFields, structLoop_cons_eq, structLoop_cons_eq, fieldStepG_congr (hf _ List.mem_cons_self st hst).symm]
    refine Res.bind_congr_ok fun r hr => ?_
    exact ih _ _ (hP _ _ hst (fieldStepG_inv hinv hr).1) fun f h => hf f (List.mem_cons_of_mem _ h)

theorem clone_strNode {st : Store} {sid : NodeId} (h : st.get? sid = some strNode) :
    clone st sid = .ok (st.size, st.push strNode) := by
  show cloneStep (cloneFuel (st.size + 1)) sid st = _
  unfold cloneStep
  rw [h]
  rfl

theorem set!_push_size (st : Store) (n m : Node) : (st.push n).set! st.size m = st.push m := by
  rw [Array.set!_eq_setIfInBounds, Array.setIfInBounds, dif_pos (by simp), Array.set_push, dif_neg (Nat.lt_irrefl _)]

/-- a marshaler type: the clone of `{"type":"string"}` is the schema of the kind `string`.  `nullForSlices`: the clone of an
    entry gets `null` for a pointer only under that setting (`tableNull`), the schema of `*string` gets it always (`addNull`). -/
theorem inferStep_strEntry {opts : IOpts} {rec : IRec} {t0 u : GoType} {nm : String} {an : Bool} {seen : List String}
    {st : Store} {sid : NodeId} (hnfs : opts.nullForSlices = true) (h : stripPtrs t0 = (.named nm u, an))
    (hseen : seen.contains nm = false) (hs : Json.lookup nm opts.schemas = some sid) (hn : st.get? sid = some strNode) :
    inferStep opts rec t0 seen st = .ok (some st.size, st.push (addNull an (basicNode "string" none none))) := by
  rw [inferStep_table (t := .named nm u) h rfl hseen hs, clone_strNode hn, Res.bind_ok]
  simp only
  rw [get?_push_size]
  simp only
  rw [set!_push_size, hnfs]
  cases an <;> rfl

/-- `*u` if a pointer was stripped: the type on which one call continues after a declared type without entry -/
def wrapPtr (an : Bool) (u : GoType) : GoType := if an then .ptr u else u

theorem stripPtrs_wrapPtr {u : GoType} (h : ∀ e, u ≠ .ptr e) (an : Bool) : stripPtrs (wrapPtr an u) = (u, an) := by
  cases an
  · exact stripPtrs_nonptr h
  · show ((stripPtrs u).1, true) = _
    rw [stripPtrs_nonptr h]

theorem namedShape_spec : ∀ {u : GoType}, namedShape u = true → (∀ e, u ≠ .ptr e) ∧ typeName u = none ∧ under u = u
  | .basic _, _ => ⟨(fun _ h => nomatch h), rfl, rfl⟩
  | .slice _, _ => ⟨(fun _ h => nomatch h), rfl, rfl⟩
  | .array _ _, _ => ⟨(fun _ h => nomatch h), rfl, rfl⟩
  | .map _ _, _ => ⟨(fun _ h => nomatch h), rfl, rfl⟩
  | .struct _, _ => ⟨(fun _ h => nomatch h), rfl, rfl⟩

theorem inferStep_named_transparent {opts : IOpts} {rec : IRec} {t0 u : GoType} {nm : String} {an : Bool}
    {seen : List String} {st : Store} (h : stripPtrs t0 = (.named nm u, an)) (hseen : seen.contains nm = false)
    (hs : Json.lookup nm opts.schemas = none) (hsh : namedShape u = true) :
    inferStep opts rec t0 seen st = inferStep opts rec (wrapPtr an u) (nm :: seen) st := by
  obtain ⟨hu, htn, hun⟩ := namedShape_spec hsh
  rw [inferStep_eq, inferStep_eq, h, stripPtrs_wrapPtr hu an]
  simp only [htn, hun]
  exact stepG_named hseen hs

/-- the induction hypothesis of `forType_erase`.  `seen'` is arbitrary: `seen` is read only at a declared type, and the
    erased type has none left (a marshaler type has become `string`). -/
def RecErase (opts : IOpts) (strs : List String) (rec : IRec) : Prop :=
  ∀ T seen seen' st, StrEntries opts.schemas strs st → NamedOk opts strs seen T = true →
    rec T seen st = rec (erase T) seen' st

theorem inferStep_erase_shape {opts : IOpts} {strs : List String} {rec : IRec} (hinv : IRecInv rec)
    (hrec : RecErase opts strs rec) {T T' t : GoType} {an : Bool} {seen seen' : List String} {st : Store}
    (hs : stripPtrs T = (t, an)) (hs' : stripPtrs T' = (erase t, an)) (hsh : namedShape t = true)
    (hok : NamedOk opts strs seen t = true) (hst : StrEntries opts.schemas strs st) :
    inferStep opts rec T seen st = inferStep opts rec T' seen' st := by
  cases t with
  | ptr e => simp [namedShape] at hsh
  | ref n => simp [namedShape] at hsh
  | named n u => simp [namedShape] at hsh
  | basic kind =>
    simp only [erase] at hs'
    rw [inferStep_basic hs, inferStep_basic hs']
  | slice e =>
    simp only [erase] at hs'
    simp only [NamedOk] at hok
    rw [inferStep_slice hs, inferStep_slice hs', hrec e seen seen' st hst hok]
  | array len e =>
    simp only [erase] at hs'
    simp only [NamedOk] at hok
    rw [inferStep_array hs, inferStep_array hs', hrec e seen seen' st hst hok]
  | map keyKind e =>
    simp only [erase] at hs'
    simp only [NamedOk] at hok
    rw [inferStep_map hs, inferStep_map hs', hrec e seen seen' st hst hok]
  | struct fs =>
    simp only [erase] at hs'
    simp only [NamedOk] at hok
    rw [inferStep_struct hs, inferStep_struct hs']
    rw [structLoop_erase hinv (P := StrEntries opts.schemas strs) (fun _ _ h he => strEntries_ext h he) fs _ _
      (strEntries_ext hst ((Ext.push _ _).trans (Ext.push _ _)))
      (fun f hf st1 hst1 => hrec _ _ _ _ hst1 (namedOkFields_mem hok f hf))]

theorem inferStep_erase (opts : IOpts) (strs : List String) {rec : IRec} (hinv : IRecInv rec)
    (hrec : RecErase opts strs rec) : RecErase opts strs (inferStep opts rec) := by
  intro T seen seen' st hst hok
  rw [stripPtrs_namedOk] at hok
  have hnp := stripPtrs_not_ptr T
  have hse := stripPtrs_erase T
  generalize hs : stripPtrs T = p at hok hnp hse
  obtain ⟨t, an⟩ := p
  simp only at hok hnp hse
  cases t with
  | ptr e => exact absurd rfl (hnp e)
  | ref n => simp [NamedOk] at hok
  | basic _ | slice _ | array _ _ | map _ _ | struct _ =>
    exact inferStep_erase_shape hinv hrec hs (hse (fun e h => by simp [erase] at h)) rfl hok hst
  | named n u =>
    simp only [NamedOk, Bool.and_eq_true, Bool.not_eq_true'] at hok
    obtain ⟨hseen, hrest⟩ := hok
    by_cases hstr : strs.contains n = true
    · -- a marshaler type: `{"type":"string"}` in the table, `string` after erasure
      simp only [hstr, if_true, Bool.and_eq_true] at hrest
      obtain ⟨⟨hnfs, hsome⟩, hu⟩ := hrest
      obtain ⟨sid, hsid⟩ := Option.isSome_iff_exists.1 hsome
      have hn := hst n (by simpa using hstr) sid hsid
      cases u with
      | basic kind =>
        have hk : kind = "String" := by simpa [isStringKind] using hu
        subst hk
        have hs' := hse (fun e h => by simp [erase] at h)
        simp only [erase] at hs'
        rw [inferStep_strEntry hnfs hs hseen hsid hn, inferStep_basic hs']
        rfl
      | _ => simp [isStringKind] at hu
    · -- a declared type that `forType` expands
      simp only [hstr, Bool.false_eq_true, if_false, Bool.and_eq_true] at hrest
      obtain ⟨⟨hnone, hsh⟩, hu⟩ := hrest
      have hnone' : Json.lookup n opts.schemas = none := Option.isNone_iff_eq_none.1 hnone
      have hup : ∀ e, u ≠ .ptr e := by cases u <;> simp_all [namedShape]
      have hue : ∀ e, erase u ≠ .ptr e := by cases u <;> simp_all [namedShape, erase]
      rw [inferStep_named_transparent hs hseen hnone' hsh]
      have hs' := hse (fun e h => by simp only [erase] at h; exact hue e h)
      simp only [erase] at hs'
      exact inferStep_erase_shape hinv hrec (stripPtrs_wrapPtr hup an) hs' hsh hu hst

theorem inferFuel_erase (opts : IOpts) (strs : List String) : ∀ fuel, RecErase opts strs (inferFuel opts fuel)
  | 0 => fun _ _ _ _ _ _ => rfl
  | fuel + 1 => inferStep_erase opts strs (inferFuel_inv opts fuel) (inferFuel_erase opts strs fuel)

/-- **`forType` does not see transparent declared types**: the same outcome, the same schema, the same store -/
theorem forType_erase (opts : IOpts) (strs : List String) (fuel : Nat) (T : GoType) (st : Store)
    (hst : StrEntries opts.schemas strs st) (hok : NamedOk opts strs [] T = true) :
    forType opts fuel T st = forType opts fuel (erase T) st :=
  inferFuel_erase opts strs fuel T [] [] st hst hok

/-- the schema of a struct type, under any list of declared types being expanded (C16.struct_schema is `seen = []`) -/
theorem inferStep_struct_schema {opts : IOpts} {fuel : Nat} {fields : List (String × String × GoType)}
    {seen : List String} {st : Store} {id : NodeId} {st' : Store} (hi : opts.ignore = false)
    (h : inferStep opts (inferFuel opts fuel) (.struct fields) seen st = .ok (some id, st')) :
    ∃ n, st'.get? id = some n ∧ n.type = "object" ∧
      n.required.getD [] = alwaysNames fields ∧
      (∀ k, k ∈ (n.properties.getD []).map (·.1) ↔ k ∈ jsonNames fields) ∧
      (nodup (jsonNames fields) = true → n.propertyOrder.getD [] = jsonNames fields) := by
  obtain ⟨n, st1, hl, hr, rfl⟩ := inferStep_struct_ok (t0 := .struct fields) (fields := fields) (an := false) rfl h
  cases hr
  have hnd : NeverDrops (inferFuel opts fuel) seen fields :=
    fun f _ _ s s1 hf => inferFuel_never_none hi fuel _ _ _ _ hf
  obtain ⟨h1, h2, h3, hcore⟩ := structLoop_lists fields hnd hl
  refine ⟨_, get?_push_size _ _, ?_, ?_, ?_, ?_⟩
  · rw [addNull_false, finalOrder_type, coreOf_type hcore]
    rfl
  · rw [addNull_false, finalOrder_required, h2]
    rfl
  · intro k
    rw [addNull_false, finalOrder_properties, h3]
    simp [structNode0]
  · intro hnd
    have h1' : n.propertyOrder.getD [] = jsonNames fields := by rw [h1]; rfl
    rw [addNull_false, finalOrder_order_of_nodup n (by rw [h1']; exact hnd), h1']

end Go
end JSV
