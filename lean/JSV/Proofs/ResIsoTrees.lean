/-
  Resolve commutes with a renaming of schema node ids: `NodeRel` (a shallow copy with related schema-valued fields)
  gives `RNode`; the one-to-one relation between two trees that look alike.  The id `1000000000` of the hypotheses
  `hnil` is `Go.nilId`, what `Pointer.lookupField` returns for a nil `*Schema` field: it must hold no node.
-/
import JSV.Proofs.ResSim
import JSV.Proofs.ResPermStructure
import JSV.Proofs.ListFacts
namespace JSV
namespace Go
namespace RIso
open RInv

theorem sortByKey_rel {R : NodeId → NodeId → Prop} {l l' : List (String × NodeId)} (h : ListRel (KeyRel R) l l') :
    ListRel (KeyRel R) (sortByKey l) (sortByKey l') := by
  rw [RPerm.sortByKey_eq_sortKV, RPerm.sortByKey_eq_sortKV]
  exact sortKV_rel (fun _ _ h => h.1) h

theorem children_fieldRel {R : NodeId → NodeId → Prop} {n n' : Node}
    (h : ListRel (FieldRel R) n.childFields n'.childFields) : ListRel R n.children n'.children := by
  unfold Node.children
  refine ListRel.flatMap (fun f f' hf => ?_) h
  cases hf with
  | one hr => exact OptRel.toList hr
  | many hr => exact getD_rel hr
  | keyed hr => exact ListRel.map_snd (sortByKey_rel (getD_rel hr))

theorem entries_fieldRel {R : NodeId → NodeId → Prop} {n n' : Node}
    (h : ListRel (FieldRel R) n.childFields n'.childFields) (path : String) :
    ListRel (EntRel R) (childEntries n path) (childEntries n' path) := by
  unfold childEntries
  refine ListRel.flatMap (fun f f' hf => ?_) h
  cases hf with
  | one hr =>
    rcases hr.inv with ⟨rfl, rfl⟩ | ⟨x, y, rfl, rfl, hxy⟩
    · exact .nil
    · exact .cons ⟨hxy, rfl⟩ .nil
  | many hr =>
    refine ListRel.map_map _ _ (fun p q hpq => ?_) (ListRel.zipIdx (getD_rel hr) 0)
    obtain ⟨c, i⟩ := p
    obtain ⟨c', i'⟩ := q
    obtain ⟨h1, rfl⟩ := hpq
    exact ⟨h1, rfl⟩
  | keyed hr =>
    refine ListRel.map_map _ _ (fun p q hpq => ?_) (getD_rel hr)
    obtain ⟨k, c⟩ := p
    obtain ⟨k', c'⟩ := q
    obtain ⟨rfl, h2⟩ := hpq
    exact ⟨h2, rfl⟩

theorem FieldRel.fieldNamed_eq {R : NodeId → NodeId → Prop} (name : String) : ∀ f f', FieldRel R f f' →
    fieldNamed name f = fieldNamed name f'
  | _, _, .one _ => rfl
  | _, _, .many _ => rfl
  | _, _, .keyed _ => rfl

theorem all_keys_rel {R : NodeId → NodeId → Prop} (p : String → Bool) : ∀ {l l' : List (String × NodeId)},
    ListRel (KeyRel R) l l' → (l.all fun x => p x.1) = (l'.all fun x => p x.1)
  | _, _, .nil => rfl
  | _, _, .cons (a := a) (b := b) h1 h2 => by
    have hk : a.1 = b.1 := h1.1
    simp only [List.all_cons, hk, all_keys_rel p h2]

theorem checkLocalOk_reOk {env₁ env₂ : Env} (hre : env₁.reOk = env₂.reOk) (n : Node) :
    checkLocalOk env₁ n = checkLocalOk env₂ n := by
  unfold checkLocalOk
  rw [hre]

theorem checkLocalOk_nodeRel {R : NodeId → NodeId → Prop} (env : Env) {n n' : Node} (h : NodeRel R n n') :
    checkLocalOk env n' = checkLocalOk env n := by
  obtain ⟨fs', hrel, rfl⟩ := h
  have hbc : basicChecksOk (setChildFields n fs') = basicChecksOk n := marshalChecksOk_congr hrel
  obtain ⟨c0, c1, c2, c3, c4, c5, c6, c7, c8, c9, c10, c11, c12, c13, c14, c15, c16, c17, c18, c19, c20, c21, c22, rfl,
    r0, r1, r2, r3, r4, r5, r6, r7, r8, r9, r10, r11, r12, r13, r14, r15, r16, r17, r18, r19, r20, r21, r22⟩ :=
    childFields_inv hrel
  unfold checkLocalOk
  rw [hbc]
  congr 1
  exact (all_keys_rel (fun k => env.reOk k) (getD_rel r16)).symm

theorem NodeRel.fields {R : NodeId → NodeId → Prop} {n n' : Node} (h : NodeRel R n n') :
    ListRel (FieldRel R) n.childFields n'.childFields := by
  obtain ⟨fs', hrel, rfl⟩ := h
  rw [childFields_set hrel]
  exact hrel

theorem field_nodeRel {R : NodeId → NodeId → Prop} {st₁ st₂ : Store} (hnil₁ : st₁.get? 1000000000 = none)
    (hnil₂ : st₂.get? 1000000000 = none) {n n' : Node} (h : NodeRel R n n') (name : String) :
    OptRel (CurRel R st₁ st₂) (Pointer.lookupField n name) (Pointer.lookupField n' name) := by
  have hfs := NodeRel.fields h
  obtain ⟨fs', hrel, rfl⟩ := h
  obtain ⟨c0, c1, c2, c3, c4, c5, c6, c7, c8, c9, c10, c11, c12, c13, c14, c15, c16, c17, c18, c19, c20, c21, c22, rfl,
    r0, r1, r2, r3, r4, r5, r6, r7, r8, r9, r10, r11, r12, r13, r14, r15, r16, r17, r18, r19, r20, r21, r22⟩ :=
    childFields_inv hrel
  refine lookupField_rel (C := CurRel R st₁ st₂) trivial (OptRel.imp (fun _ _ h => Or.inl h) r12) (getD_rel r13)
    (fun k => lookup_krel k (getD_rel (S := KeyRel R) r8)) hfs (fun name => FieldRel.fieldNamed_eq name) (fun f f' hff => ?_) name
  cases hff with
  | one hr =>
    rcases hr.inv with ⟨rfl, rfl⟩ | ⟨a, b, rfl, rfl, hab⟩
    · exact Or.inr ⟨hnil₁, hnil₂⟩
    · exact Or.inl hab
  | many hr => exact (getD_rel hr : ListRel R _ _)
  | keyed hr => exact fun k => lookup_krel k (getD_rel hr)

/-- a schema object and a shallow copy of it whose schema-valued fields have the same shape with `R`-related members
    (`Go.NodeRel`: what `cloneStep` and the round trip produce) look alike to the resolver -/
theorem RNode.of_nodeRel {R : NodeId → NodeId → Prop} {env₁ env₂ : Env} (hre : env₁.reOk = env₂.reOk)
    (hnil₁ : env₁.st.get? 1000000000 = none) (hnil₂ : env₂.st.get? 1000000000 = none) {n n' : Node}
    (h : NodeRel R n n') : RNode R env₁ env₂ n n' := by
  have hf := field_nodeRel hnil₁ hnil₂ h
  have hl := checkLocalOk_nodeRel env₁ h
  have hrel' := NodeRel.fields h
  obtain ⟨fs', hrel, rfl⟩ := h
  exact {
    id := rfl
    schema := rfl
    ref := rfl
    anchor := rfl
    dynamicAnchor := rfl
    dynamicRef := rfl
    localOk := fun h => by rw [← checkLocalOk_reOk hre, hl]; exact h
    children := children_fieldRel hrel'
    entries := entries_fieldRel hrel'
    field := hf }

/-
  `S` (what `cloneFuel_sim` / the round trip give: the subtree of `b` is a copy of the subtree of `a`) is not
  one-to-one — two equal leaves are `S`-related to each other's copies.  When checkStructure accepts both roots, the
  POSITIONS at which it registers the schemas pair them one-to-one, and paired schemas have paired children. -/

def TreeSim (S : NodeId → NodeId → Prop) (st₁ st₂ : Store) : Prop :=
  ∀ a b, S a b → OptRel (NodeRel S) (st₁.get? a) (st₂.get? b)

theorem zip_biu {l₁ l₂ : List NodeId} (hn₁ : l₁.Nodup) (hn₂ : l₂.Nodup) {a b a' b' : NodeId}
    (h : (a, b) ∈ List.zip l₁ l₂) (h' : (a', b') ∈ List.zip l₁ l₂) : (a = a' ↔ b = b') := by
  obtain ⟨i, hi, e⟩ := List.getElem_of_mem h
  obtain ⟨j, hj, e'⟩ := List.getElem_of_mem h'
  rw [List.getElem_zip] at e e'
  cases e
  cases e'
  rw [List.getElem_inj hn₁, List.getElem_inj hn₂]

theorem listRel_length {α β} {S : α → β → Prop} {l₁ : List α} {l₂ : List β} (h : ListRel S l₁ l₂) :
    l₁.length = l₂.length := h.length_eq

theorem cs_zip {S : NodeId → NodeId → Prop} {st₁ st₂ : Store} (hS : TreeSim S st₁ st₂) :
    ∀ (f₁ f₂ : Nat) (w₁ w₂ : List (NodeId × String)) (acc₁ acc₂ res₁ res₂ : List (NodeId × Info)),
      ListRel (EntRel S) w₁ w₂ → acc₁.length = acc₂.length →
      checkStructure st₁ f₁ w₁ acc₁ = .ok res₁ → checkStructure st₂ f₂ w₂ acc₂ = .ok res₂ →
      (∀ p, p ∈ List.zip (w₁.map (·.1)) (w₂.map (·.1)) → p ∈ List.zip (res₁.map (·.1)) (res₂.map (·.1))) ∧
      (∀ p, p ∈ List.zip (res₁.map (·.1)) (res₂.map (·.1)) → p ∈ List.zip (acc₁.map (·.1)) (acc₂.map (·.1)) ∨
        ∀ q, q ∈ List.zip (kids st₁ p.1) (kids st₂ p.2) → q ∈ List.zip (res₁.map (·.1)) (res₂.map (·.1))) := by
  intro f₁
  induction f₁ with
  | zero => intro f₂ w₁ w₂ acc₁ acc₂ res₁ res₂ _ _ h; rw [RPerm.cs_zero] at h; cases h
  | succ f₁ ih =>
    intro f₂ w₁ w₂ acc₁ acc₂ res₁ res₂ hw hlen h₁ h₂
    cases f₂ with
    | zero => rw [RPerm.cs_zero] at h₂; cases h₂
    | succ f₂ =>
      cases hw with
      | nil =>
        rw [RPerm.cs_nil] at h₁ h₂
        cases h₁
        cases h₂
        exact ⟨fun p hp => by simp at hp, fun p hp => Or.inl hp⟩
      | cons hh ht =>
        rename_i e₁ e₂ w₁' w₂'
        obtain ⟨a, p⟩ := e₁
        obtain ⟨b, p'⟩ := e₂
        have hp : p = p' := hh.2
        subst hp
        have hab : S a b := hh.1
        obtain ⟨n₁, hn₁, _, hrest₁⟩ := (RPerm.cs_cons_ok _ _ _ _ _ _ _).mp h₁
        obtain ⟨n₂, hn₂, _, hrest₂⟩ := (RPerm.cs_cons_ok _ _ _ _ _ _ _).mp h₂
        have hnr := hS a b hab
        rw [hn₁, hn₂] at hnr
        have hce : ListRel (EntRel S) (childEntries n₁ p) (childEntries n₂ p) := entries_fieldRel (NodeRel.fields hnr) p
        have hcelen : ((childEntries n₁ p).map (·.1)).length = ((childEntries n₂ p).map (·.1)).length := by
          rw [List.length_map, List.length_map]; exact hce.length_eq
        have hlen' : (acc₁ ++ [(a, RPerm.infoOf p)]).length = (acc₂ ++ [(b, RPerm.infoOf p)]).length := by
          rw [List.length_append, List.length_append, hlen]; rfl
        obtain ⟨A', B'⟩ := ih f₂ _ _ _ _ res₁ res₂ (ListRel.append hce ht) hlen' hrest₁ hrest₂
        simp only [List.map_append, mem_zip_append hcelen] at A'
        obtain ⟨D₁, hD₁, _⟩ := RPerm.cs_extends st₁ f₁ _ _ res₁ hrest₁
        obtain ⟨D₂, hD₂, _⟩ := RPerm.cs_extends st₂ f₂ _ _ res₂ hrest₂
        have hmlen : (acc₁.map (·.1)).length = (acc₂.map (·.1)).length := by
          rw [List.length_map, List.length_map, hlen]
        refine ⟨?_, ?_⟩
        · intro q hq
          rw [List.map_cons, List.map_cons, List.zip_cons_cons, List.mem_cons] at hq
          rcases hq with hq | hq
          · rw [hq, hD₁, hD₂]
            simp only [List.map_append, List.append_assoc]
            rw [mem_zip_append hmlen]
            exact Or.inr (by simp)
          · exact A' q (Or.inr hq)
        · intro q hq
          rcases B' q hq with h | h
          · rw [List.map_append, List.map_append, mem_zip_append hmlen] at h
            rcases h with h | h
            · exact Or.inl h
            · have hq' : q = (a, b) := by simpa using h
              subst hq'
              refine Or.inr fun q' hq' => A' q' (Or.inl ?_)
              unfold kids at hq'
              rw [hn₁, hn₂] at hq'
              rw [childEntries_ids n₁ p "", childEntries_ids n₂ p ""]
              exact hq'
          · exact Or.inr h

theorem keyed_and_zip {S : NodeId → NodeId → Prop} {Z : NodeId × NodeId → Prop} :
    ∀ {l l' : List (String × NodeId)}, ListRel (KeyRel S) l l' →
      (∀ q, q ∈ List.zip (l.map (·.2)) (l'.map (·.2)) → Z q) → ListRel (KeyRel fun a b => S a b ∧ Z (a, b)) l l'
  | _, _, .nil, _ => .nil
  | _, _, .cons h1 h2, hz =>
    .cons ⟨h1.1, h1.2, hz _ (by simp)⟩ (keyed_and_zip h2 fun q hq => hz q (by simp [hq]))

theorem fieldRel_and_zip {S : NodeId → NodeId → Prop} {Z : NodeId × NodeId → Prop} : ∀ {f f' : ChildField},
    FieldRel S f f' → (∀ q, q ∈ List.zip f.ids f'.ids → Z q) → FieldRel (fun a b => S a b ∧ Z (a, b)) f f'
  | _, _, .one (c := c) (c' := c') hr, hz => by
    refine .one (OptRel.and hr fun a b ha hb => ?_)
    subst ha; subst hb
    exact hz (a, b) (by simp [ChildField.ids])
  | _, _, .many hr, hz => by
    refine .many ?_
    rcases hr.inv with ⟨rfl, rfl⟩ | ⟨l, l', rfl, rfl, hl⟩
    · trivial
    · exact ListRel.and_zip hl hz
  | _, _, .keyed hr, hz => by
    refine .keyed ?_
    rcases hr.inv with ⟨rfl, rfl⟩ | ⟨l, l', rfl, rfl, hl⟩
    · trivial
    · exact keyed_and_zip hl hz

theorem fields_and_zip {S : NodeId → NodeId → Prop} {Z : NodeId × NodeId → Prop} : ∀ {fs fs' : List ChildField},
    ListRel (FieldRel S) fs fs' → (∀ q, q ∈ List.zip (fs.flatMap ChildField.ids) (fs'.flatMap ChildField.ids) → Z q) →
      ListRel (FieldRel fun a b => S a b ∧ Z (a, b)) fs fs'
  | _, _, .nil, _ => .nil
  | _, _, .cons (a := f) (b := f') h1 h2, hz => by
    have hl : f.ids.length = f'.ids.length := (FieldRel.ids_rel h1).length_eq
    refine .cons (fieldRel_and_zip h1 fun q hq => hz q ?_) (fields_and_zip h2 fun q hq => hz q ?_)
    · rw [List.flatMap_cons, List.flatMap_cons, mem_zip_append hl]; exact Or.inl hq
    · rw [List.flatMap_cons, List.flatMap_cons, mem_zip_append hl]; exact Or.inr hq

theorem NodeRel.and_zip {S : NodeId → NodeId → Prop} {Z : NodeId × NodeId → Prop} {n n' : Node} (h : NodeRel S n n')
    (hz : ∀ q, q ∈ List.zip ((childEntries n "").map (·.1)) ((childEntries n' "").map (·.1)) → Z q) :
    NodeRel (fun a b => S a b ∧ Z (a, b)) n n' := by
  have hf := NodeRel.fields h
  obtain ⟨fs', hrel, rfl⟩ := h
  have hcf : (setChildFields n fs').childFields = fs' := childFields_set hrel
  rw [childEntries_fst, childEntries_fst] at hz
  rw [hcf] at hz hf
  exact ⟨fs', fields_and_zip hf hz, rfl⟩

/-- no Loader, or a Loader that hands out no document (it may fail, or return nil): the resolution is self-contained -/
def NoDocs (env : Env) : Prop := ∀ t key l, env.loader = some t → Json.lookup key t ≠ some (.doc l)

def PairR (S : NodeId → NodeId → Prop) (fresh₁ fresh₂ : List (NodeId × Info)) (a b : NodeId) : Prop :=
  S a b ∧ (a, b) ∈ List.zip (fresh₁.map (·.1)) (fresh₂.map (·.1))

section
variable {S : NodeId → NodeId → Prop} {st₁ st₂ : Store} (hS : TreeSim S st₁ st₂) {r₁ r₂ : NodeId} (hr : S r₁ r₂)
  {f₁ f₂ : Nat} {fresh₁ fresh₂ : List (NodeId × Info)}
  (hcs₁ : checkStructure st₁ f₁ [(r₁, "")] [] = .ok fresh₁) (hcs₂ : checkStructure st₂ f₂ [(r₂, "")] [] = .ok fresh₂)
include hS hr hcs₁ hcs₂

theorem pairR_root : PairR S fresh₁ fresh₂ r₁ r₂ :=
  ⟨hr, (cs_zip hS f₁ f₂ [(r₁, "")] [(r₂, "")] [] [] fresh₁ fresh₂ (.cons ⟨hr, rfl⟩ .nil) rfl hcs₁ hcs₂).1 _
    (by simp)⟩

omit hS hr in
theorem pairR_biu : BiU (PairR S fresh₁ fresh₂) := by
  have hnd₁ : (fresh₁.map (·.1)).Nodup := checkStructure_nodup st₁ _ _ _ _ hcs₁ (by simp [ids])
  have hnd₂ : (fresh₂.map (·.1)).Nodup := checkStructure_nodup st₂ _ _ _ _ hcs₂ (by simp [ids])
  intro a b a' b' h h'
  exact zip_biu hnd₁ hnd₂ h.2 h'.2

theorem pairR_nodeRel : ∀ a b, PairR S fresh₁ fresh₂ a b →
    OptRel (NodeRel (PairR S fresh₁ fresh₂)) (st₁.get? a) (st₂.get? b) := by
  obtain ⟨_, B⟩ := cs_zip hS f₁ f₂ [(r₁, "")] [(r₂, "")] [] [] fresh₁ fresh₂ (.cons ⟨hr, rfl⟩ .nil) rfl hcs₁ hcs₂
  intro a b hab
  rcases (hS a b hab.1).inv with ⟨hn₁, hn₂⟩ | ⟨n₁, n₂, hn₁, hn₂, hnr⟩
  · rw [hn₁, hn₂]; trivial
  rw [hn₁, hn₂]
  rcases B _ hab.2 with h | h
  · simp at h
  · have e1 : kids st₁ a = (childEntries n₁ "").map (·.1) := by unfold kids; rw [hn₁]
    have e2 : kids st₂ b = (childEntries n₂ "").map (·.1) := by unfold kids; rw [hn₂]
    rw [e1, e2] at h
    exact NodeRel.and_zip (Z := fun q => q ∈ List.zip (fresh₁.map (·.1)) (fresh₂.map (·.1))) hnr h

end

end RIso
end Go
end JSV
