/-
  The resolver on a store whose maps have distinct keys (`StoreKeysNodup`) and are listed in another order: the pointer walk and Schema.all return the same,
  checkStructure registers the schemas in another order (ResPermStructure.lean), and the resolver proper is the simulation of
  ResSim.lean along the identity, failures compared: the same outcome, the same tables as maps.
-/
import JSV.Proofs.ResPermStructure
import JSV.Proofs.ResSim
namespace JSV
namespace Go
namespace RPerm
open JSV.Inv RInv

def ResRel {α β : Type} (R : α → β → Prop) : Res α → Res β → Prop
  | .ok a, .ok b => R a b
  | .err, .err => True
  | .panic, .panic => True
  | .fuel, .fuel => True
  | _, _ => False

theorem ResRel.bind {α β γ δ : Type} {R : α → β → Prop} {Q : γ → δ → Prop} {x : Res α} {y : Res β}
    {f : α → Res γ} {g : β → Res δ} (h : ResRel R x y) (hf : ∀ a b, R a b → ResRel Q (f a) (g b)) :
    ResRel Q (x.bind f) (y.bind g) := by
  cases x <;> cases y <;> simp only [ResRel] at h <;> first | exact h.elim | trivial | exact hf _ _ h

theorem ResRel.refl {α : Type} {R : α → α → Prop} (hR : ∀ a, R a a) (x : Res α) : ResRel R x x := by
  cases x <;> simp only [ResRel]; exact hR _

theorem ResRel.eq {α : Type} {x y : Res α} (h : ResRel (· = ·) x y) : y = x := by
  cases x <;> cases y <;> simp only [ResRel] at h <;> first | exact h.elim | rfl | (rw [h])

theorem ResRel.mono {α β : Type} {R Q : α → β → Prop} {x : Res α} {y : Res β} (h : ResRel R x y)
    (hRQ : ∀ a b, R a b → Q a b) : ResRel Q x y := by
  cases x <;> cases y <;> simp only [ResRel] at h ⊢ <;> first | exact h | exact hRQ _ _ h

def FRel : ChildField → ChildField → Prop
  | .one j c, .one j' c' => j' = j ∧ c' = c
  | .many j c, .many j' c' => j' = j ∧ c' = c
  | .keyed j c, .keyed j' c' => j' = j ∧ optPerm c c' ∧ ∀ kvs, c = some kvs → (kvs.map (·.1)).Nodup
  | _, _ => False

theorem childFields_rel {a b : Node} (h : permNode a b) (hn : KeysNodup a) :
    ListRel FRel a.childFields b.childFields := by
  obtain ⟨k1, k2, k3, k4, k5, k6⟩ := (keysNodup_iff a).mp hn
  obtain ⟨p, pp, d, df, ds, dst, dr, dsc, h1, h2, h3, h4, h5, h6, h7, h8, rfl⟩ := h
  -- field by field in the order of `Node.childFields`; the six maps are `$defs`, `definitions`, `dependencies`,
  -- `dependentSchemas`, `patternProperties`, `properties`
  exact .cons ⟨rfl, h3, k1⟩ <|
    .cons ⟨rfl, rfl⟩ <|
    .cons ⟨rfl, rfl⟩ <|
    .cons ⟨rfl, rfl⟩ <|
    .cons ⟨rfl, rfl⟩ <|
    .cons ⟨rfl, rfl⟩ <|
    .cons ⟨rfl, rfl⟩ <|
    .cons ⟨rfl, h4, k2⟩ <|
    .cons ⟨rfl, h5, k3⟩ <|
    .cons ⟨rfl, h8, k4⟩ <|
    .cons ⟨rfl, rfl⟩ <|
    .cons ⟨rfl, rfl⟩ <|
    .cons ⟨rfl, rfl⟩ <|
    .cons ⟨rfl, rfl⟩ <|
    .cons ⟨rfl, rfl⟩ <|
    .cons ⟨rfl, rfl⟩ <|
    .cons ⟨rfl, h2, k5⟩ <|
    .cons ⟨rfl, rfl⟩ <|
    .cons ⟨rfl, h1, k6⟩ <|
    .cons ⟨rfl, rfl⟩ <|
    .cons ⟨rfl, rfl⟩ <|
    .cons ⟨rfl, rfl⟩ <|
    .cons ⟨rfl, rfl⟩ <| .nil

def CurRel : Pointer.Cursor → Pointer.Cursor → Prop
  | .node a, .node b => b = a
  | .nodes a, .nodes b => b = a
  | .nodeMap a, .nodeMap b => a.Perm b ∧ (a.map (·.1)).Nodup
  | .dead, .dead => True
  | _, _ => False

theorem CurRel.of_node {a : NodeId} {c : Pointer.Cursor} (h : CurRel (.node a) c) : c = .node a := by
  cases c <;> first | exact h.elim | exact congrArg _ h

theorem CurRel.of_nodes {a : List NodeId} {c : Pointer.Cursor} (h : CurRel (.nodes a) c) : c = .nodes a := by
  cases c <;> first | exact h.elim | exact congrArg _ h

theorem CurRel.of_nodeMap {a : List (String × NodeId)} {c : Pointer.Cursor} (h : CurRel (.nodeMap a) c) :
    ∃ b, c = .nodeMap b ∧ a.Perm b ∧ (a.map (·.1)).Nodup := by
  cases c <;> first | exact h.elim | exact ⟨_, rfl, h⟩

theorem CurRel.of_dead {c : Pointer.Cursor} (h : CurRel .dead c) : c = .dead := by
  cases c <;> first | exact h.elim | rfl

theorem lookupField_rel {a b : Node} (h : permNode a b) (hn : KeysNodup a) (name : String) :
    OptRel CurRel (Pointer.lookupField a name) (Pointer.lookupField b name) := by
  have hf := childFields_rel h hn
  have hd := ((keysNodup_iff a).mp hn).2.2.1
  obtain ⟨p, pp, d, df, ds, dst, dr, dsc, h1, h2, h3, h4, h5, h6, h7, h8, rfl⟩ := h
  refine RIso.lookupField_rel (C := CurRel) (n := a) (n' := withMaps a p pp d df ds dst dr dsc) trivial ?_ rfl
    (optPerm_getD_nodup h5 hd) hf (fun name f f' hff => ?_)
    (fun f f' hff => ?_) name
  · show OptRel _ a.items a.items
    cases a.items with
    | none => trivial
    | some c => exact rfl
  · cases f <;> cases f' <;> first | exact hff.elim | exact congrArg (· == name) hff.1.symm
  · cases f <;> cases f' <;> first | exact hff.elim | skip
    · rename_i j c j' c'
      obtain ⟨_, rfl⟩ := hff
      cases c' <;> exact rfl
    · obtain ⟨_, rfl⟩ := hff
      exact rfl
    · exact optPerm_getD_nodup hff.2.1 hff.2.2

theorem permStore_isNone {st st' : Store} (hst : permStore st st') (id : NodeId) :
    (st'.get? id).isNone = (st.get? id).isNone := by
  have := hst.2 id
  cases h1 : st.get? id <;> cases h2 : st'.get? id <;> rw [h1, h2] at this <;> first | exact this.elim | rfl

theorem step_rel (st st' : Store) (hst : permStore st st') (hn : StoreKeysNodup st) (strict : Bool)
    (c c' : Pointer.Cursor) (hc : CurRel c c') (seg : String) :
    ResRel CurRel (Pointer.step st strict c seg) (Pointer.step st' strict c' seg) := by
  cases c with
  | node x =>
    obtain rfl := hc.of_node
    unfold Pointer.step
    simp only
    rcases (hst.optRel x).inv with ⟨h1, h2⟩ | ⟨n, n', h1, h2, hp⟩
    · rw [h1, h2]; exact True.intro
    rw [h1, h2]
    simp only
    rcases (lookupField_rel hp (hn x n h1) seg).inv with ⟨e1, e2⟩ | ⟨a, b, e1, e2, hab⟩
    · rw [e1, e2]; exact True.intro
    · rw [e1, e2]; exact hab
  | nodes xs =>
    obtain rfl := hc.of_nodes
    unfold Pointer.step
    simp only
    cases Pointer.arrayIndex strict seg xs.length with
    | none => exact True.intro
    | some i =>
      simp only
      cases xs[i]? with
      | none => exact True.intro
      | some c => exact rfl
  | nodeMap kvs =>
    obtain ⟨kvs', rfl, hp, hnd⟩ := hc.of_nodeMap
    unfold Pointer.step
    simp only
    rw [← Json.lookup_eq_of_perm hp hnd seg]
    cases Json.lookup seg kvs with
    | none => exact True.intro
    | some c => exact rfl
  | dead =>
    obtain rfl := hc.of_dead
    exact True.intro

theorem walk_rel (st st' : Store) (hst : permStore st st') (hn : StoreKeysNodup st) (strict : Bool) :
    ∀ (segs : List String) (c c' : Pointer.Cursor), CurRel c c' →
      ResRel CurRel (Pointer.walk st strict c segs) (Pointer.walk st' strict c' segs) := by
  intro segs
  induction segs with
  | nil => intro c c' hc; exact hc
  | cons seg rest ih =>
    intro c c' hc
    unfold Pointer.walk
    exact (step_rel st st' hst hn strict c c' hc seg).bind (fun a b hab => ih a b hab)

theorem dereference_perm (st st' : Store) (hst : permStore st st') (hn : StoreKeysNodup st) (strict nie : Bool)
    (root : NodeId) (ptr : String) :
    Pointer.dereference st' strict nie root ptr = Pointer.dereference st strict nie root ptr := by
  apply ResRel.eq
  unfold Pointer.dereference
  refine (ResRel.refl (R := (· = ·)) (fun _ => rfl) (Pointer.parse ptr)).bind ?_
  intro segs _ e
  subst e
  refine (walk_rel st st' hst hn strict segs (.node root) (.node root) rfl).bind ?_
  intro c c' hc
  cases c with
  | node x =>
    obtain rfl := hc.of_node
    simp only
    rw [permStore_isNone hst]
    split
    · exact True.intro
    · exact rfl
  | nodes xs => obtain rfl := hc.of_nodes; exact True.intro
  | nodeMap kvs => obtain ⟨_, rfl, _⟩ := hc.of_nodeMap; exact True.intro
  | dead => obtain rfl := hc.of_dead; exact True.intro

theorem allNodes_perm (st st' : Store) (hst : permStore st st') (hn : StoreKeysNodup st) :
    ∀ fuel work, allNodes st' fuel work = allNodes st fuel work := by
  intro fuel
  induction fuel with
  | zero => intro work; rfl
  | succ fuel ih =>
    intro work
    cases work with
    | nil => rfl
    | cons id work =>
      rw [allNodes, allNodes]
      rcases (hst.optRel id).inv with ⟨h1, h2⟩ | ⟨n, n', h1, h2, hp⟩
      · rw [h1, h2]; exact ih work
      · rw [h1, h2]
        simp only
        rw [children_perm hp (hn id n h1), ih]

/-- the same Resolved, `resolvedInfos` having the same domain -/
def DRel (d d' : DocRes) : Prop :=
  d'.root = d.root ∧ d'.draft = d.draft ∧ d'.uris = d.uris ∧ ∀ x, x ∈ d'.known ↔ x ∈ d.known

/-- the same resolver state, the table of info objects read as a map -/
structure SRel (s s' : RState) : Prop where
  infos : ∀ id, lookupNat id s'.infos = lookupNat id s.infos
  docs : All₂ DRel s.docs s'.docs
  loaded : s'.loaded = s.loaded
  log : s'.log = s.log

theorem DRel.contains {d d' : DocRes} (h : DRel d d') (x : NodeId) : d'.known.contains x = d.known.contains x := by
  rw [Bool.eq_iff_iff]
  simp only [List.contains_eq_mem, decide_eq_true_eq]
  exact h.2.2.2 x

theorem SRel.updInfo {s s' : RState} (h : SRel s s') (id : NodeId) (f : Info → Info) :
    SRel (s.updInfo id f) (s'.updInfo id f) := by
  refine ⟨?_, ?_, ?_, ?_⟩
  · intro k
    rw [updInfo_infos_lookup, updInfo_infos_lookup, h.infos]
  · rw [updInfo_docs, updInfo_docs]; exact h.docs
  · rw [(updInfo_same s id f).2, (updInfo_same s' id f).2]; exact h.loaded
  · rw [(updInfo_same s id f).1, (updInfo_same s' id f).1]; exact h.log

theorem SRel.setAnchor {s s' : RState} (h : SRel s s') (b t : NodeId) (a : String) (dyn : Bool) :
    SRel (setAnchor s b t a dyn) (setAnchor s' b t a dyn) := by
  rw [setAnchor_eq, setAnchor_eq]
  split
  · exact h
  · exact h.updInfo _ _

theorem uriStep_node_eq (draft : Draft) (root : NodeId) (s : RState) (id base : NodeId) (n n' : Node) (bi : Info)
    (h1 : n'.id = n.id) (h2 : n'.ref = n.ref) :
    uriStep draft root s id base n' bi = uriStep draft root s id base n bi := by
  rw [uriStep_eq_act, uriStep_eq_act, h1, h2]

theorem permNode_fields {a b : Node} (h : permNode a b) :
    b.id = a.id ∧ b.ref = a.ref ∧ b.anchor = a.anchor ∧ b.dynamicAnchor = a.dynamicAnchor ∧
    b.dynamicRef = a.dynamicRef ∧ b.schema = a.schema := by
  obtain ⟨p, pp, d, df, ds, dst, dr, dsc, _, _, _, _, _, _, _, _, rfl⟩ := h
  exact ⟨rfl, rfl, rfl, rfl, rfl, rfl⟩

theorem checkLocal_all_perm (env : Env) (st' : Store) (hst : permStore env.st st') {fresh fresh' : List (NodeId × Info)}
    (hp : fresh.Perm fresh') :
    ((fresh'.map (·.1)).all fun id => match st'.get? id with
        | some nd => checkLocalOk { env with st := st' } nd
        | none => false) =
    ((fresh.map (·.1)).all fun id => match env.st.get? id with
        | some nd => checkLocalOk env nd
        | none => false) := by
  have hfun : (fun id => match st'.get? id with
        | some nd => checkLocalOk { env with st := st' } nd
        | none => false) =
      (fun id => match env.st.get? id with
        | some nd => checkLocalOk env nd
        | none => false) := by
    funext id
    rcases (hst.optRel id).inv with ⟨h1, h2⟩ | ⟨n, n', h1, h2, hp⟩
    · rw [h1, h2]
    · rw [h1, h2]; exact checkLocalOk_perm env hp
  rw [hfun]
  exact (hp.map _).all_eq.symm

theorem Out.toResRel {α β : Type} {Q : α → β → Prop} {x : Res α} {y : Res β} (h : RSim.Out True Q x y) :
    ResRel Q x y := by
  cases x with
  | ok a => obtain ⟨b, rfl, hq⟩ := h.1 a rfl; exact hq
  | err => rw [show y = .err from h.2 trivial]; trivial
  | panic => rw [show y = .panic from h.2 trivial]; trivial
  | fuel => rw [show y = .fuel from h.2 trivial]; trivial

theorem infoRel_refl (i : Info) : RIso.InfoRel (fun a b => a = b) i i :=
  ⟨rfl, by cases i.base <;> trivial, rfl, by cases i.resolvedRef <;> trivial, by cases i.resolvedDynamicRef <;> trivial,
    rfl, ListRel.refl_of _ fun _ _ => ⟨rfl, rfl, rfl⟩⟩

theorem infoRel_eq {i₁ i₂ : Info} (h : RIso.InfoRel (fun a b => a = b) i₁ i₂) : i₁ = i₂ := by
  have ha : i₁.anchors = i₂.anchors := ListRel.eq (ListRel.imp (fun a b hab => by
    obtain ⟨k₁, s₁, d₁⟩ := a
    obtain ⟨k₂, s₂, d₂⟩ := b
    obtain ⟨h1, h2, h3⟩ := hab
    simp only at h1 h2 h3
    rw [h1, h2, h3]) h.anchors)
  have := h.path; have := OptRel.eq h.base; have := h.uri; have := OptRel.eq h.resolvedRef
  have := OptRel.eq h.resolvedDynamicRef; have := h.dynamicRefAnchor
  cases i₁; cases i₂; simp_all

theorem genv_of_perm (env : Env) (st' : Store) (hst : permStore env.st st') (hn : StoreKeysNodup env.st) :
    RSim.GEnv True (fun a b => a = b) env { env with st := st' } where
  biu := by intro a b a' b' h h'; subst h; subst h'; exact Iff.rfl
  node := by
    intro a b hab
    subst hab
    rcases (hst.optRel a).inv with ⟨h1, h2⟩ | ⟨n, n', h1, h2, hp⟩
    · rw [h1, h2]; trivial
    · obtain ⟨f1, f2, f3, f4, f5, f6⟩ := permNode_fields hp
      rw [h1, h2]
      refine ⟨f1.symm, f6.symm, f2.symm, f3.symm, f4.symm, f5.symm, ?_⟩
      rw [children_perm hp (hn a n h1)]
      exact ListRel.refl_of _ fun _ _ => rfl
  draft7 := rfl
  check := by
    intro r₁ r₂ hr
    subst hr
    have hout := checkStructure_perm_outcome env.st st' hst r₁
    show RSim.Out True _ _ (checkStructure st' (st'.size + 2) [(r₁, "")] [])
    cases hc : checkStructure env.st (env.st.size + 2) [(r₁, "")] [] <;>
      cases hc' : checkStructure st' (st'.size + 2) [(r₁, "")] [] <;> rw [hc, hc'] at hout <;>
      first | exact hout.elim | exact RSim.Out.err | skip
    have hl := checkLocal_all_perm env st' hst hout
    refine RSim.Out.ok ⟨fun a b hab => ?_, fun h => hl.trans h, fun _ h => hl.symm.trans h⟩
    subst hab
    rw [lookupNat_perm hout (checkStructure_nodup env.st _ _ _ _ hc (by simp [ids])) a]
    exact OptRel.refl infoRel_refl _
  deref := by
    intro r₁ r₂ ptr hr
    subst hr
    rw [show Pointer.dereference st' true true r₁ ptr = _ from dereference_perm env.st st' hst hn true true r₁ ptr]
    exact RSim.Out.refl_eq _
  loader key := RSim.Out.refl_eq (loaderDoc env key)

/-- the same root, draft and log, and the same info for every schema -/
def ResolvedRel (a b : Resolved) : Prop :=
  b.root = a.root ∧ b.draft = a.draft ∧ b.log = a.log ∧ ∀ id, lookupNat id b.infos = lookupNat id a.infos

theorem resolve_rel (env : Env) (st' : Store) (hst : permStore env.st st') (hn : StoreKeysNodup env.st)
    (fuel : Nat) (root : NodeId) (baseURI : String) :
    ResRel ResolvedRel (resolve env fuel root baseURI) (resolve { env with st := st' } fuel root baseURI) :=
  (Out.toResRel (RSim.resolve_sim (genv_of_perm env st' hst hn) fuel rfl baseURI)).mono fun _ _ h =>
    ⟨h.root.symm, h.draft.symm, h.log.symm, fun id =>
      (OptRel.eq (OptRel.imp (fun _ _ => infoRel_eq) (h.infos id id rfl))).symm⟩

end RPerm
end Go
end JSV
