/-
  For C03, the converse of soundness with a Loader: in a universe of documents that are all present, well-formed
  and coherent (`UniverseOk`, JSV/Spec/WellFormed.lean), handed out as fresh schema objects (`LoaderFresh`), resolveRef / resolveRefs / resolver.resolve return no
  error.  Open recursion on the loader callback; the facts about the states reached by successful steps come from
  ResDesigMulti.lean (`GInv`) and ResDraft.lean (`AllDraft`).  Without a Loader the universe is the top document.
-/
import JSV.Proofs.ResComplete
import JSV.Proofs.ResCompleteWF
import JSV.Proofs.ResNoFuel
namespace JSV
namespace Go
namespace RComp
open RInv Uri Spec RDraft

theorem docInv_anchor (D : Doc) (ret : Url) (s : RState) (hD : DocInv D ret s) (r : NodeId) (a : String) (t : NodeId)
    (h : D.AnchorTarget r a t) :
    ∃ ri, lookupNat r s.infos = some ri ∧ (Json.lookup a ri.anchors).isSome = true := by
  obtain ⟨htr, dyn, n, hn, hmem⟩ := h
  obtain ⟨⟨i, r0, hi, hb, hr0, hreg⟩, _⟩ := hD.done t (ResourceRoot.has htr)
  have e : r0 = r := resourceRoot_unique D hD.uniq t r0 r hr0 htr
  subst e
  exact hreg n hn _ hmem

theorem fragOut_ne_err (env : Env) (D : Doc) (hst : D.st = env.st) (ret : Url) (root r : NodeId)
    (s1 : RState) (hD : DocInv D ret s1) (frag : String) (hr : (D.st.get? r).isSome = true)
    (ht : ∃ t, D.FragTarget r frag t) : fragOut env s1 root r frag ≠ .err := by
  obtain ⟨t, ht⟩ := ht
  unfold Doc.FragTarget at ht
  unfold fragOut
  split
  · rename_i hc
    simp only [Bool.and_eq_true, bne_iff_ne, ne_eq] at hc
    rw [if_neg hc.1, if_neg hc.2] at ht
    obtain ⟨ri, hri, hl⟩ := docInv_anchor D ret s1 hD r frag t ht
    split
    · simp
    · rename_i rInfo hrInfo
      split
      · rename_i hnone
        rw [info?_lookup _ _ _ _ hrInfo] at hri
        simp only [Option.some.injEq] at hri
        subst hri
        rw [hnone] at hl
        simp at hl
      · simp
  · rename_i hc
    refine bind_ne_err ?_ fun _ _ => by simp
    by_cases hf : frag = ""
    · subst hf
      rw [dereference_empty_ok _ _ _ _ (by rw [← hst]; exact hr)]
      simp
    · rw [if_neg hf] at ht
      have hh : frag.toList.head? = some '/' := by
        simp only [Bool.and_eq_true, bne_iff_ne, ne_eq, not_and, Decidable.not_not] at hc
        exact hc hf
      rw [if_pos hh, hst] at ht
      rw [ht]
      simp

/-- the names of the top document are cached -/
def TopNames (env : Env) (top : NodeId) (dr : Draft) (b : Url) (s : RState) : Prop :=
  ∀ key, (⟨env.st, dr, top⟩ : Doc).Identifies b key top → (Json.lookup key s.loaded).isSome = true

structure CInv (env : Env) (top : NodeId) (dr : Draft) (b : Url) (rets : NodeId → Url) (s : RState) : Prop where
  g : GInv env top rets s
  drafts : AllDraft dr s
  topReg : Registered s top
  topRet : rets top = b
  topNames : TopNames env top dr b s

/-- what the open-recursion callback must satisfy: no error on a Loader document of the universe -/
def RecNE (env : Env) (top : NodeId) (dr : Draft) (b : Url) (recDoc : ResolveDoc) : Prop :=
  ∀ lroot base s rets, CInv env top dr b rets s → s.doc? lroot = none →
    (∀ r, Registered s r → ∀ x, Reach env.st r x → ¬ Reach env.st lroot x) →
    (∃ tbl, env.loader = some tbl ∧ Json.lookup (Uri.toString base) tbl = some (.doc lroot)) →
    base.fragment = "" → recDoc lroot base dr s ≠ .err

theorem docInv_root_uri (D : Doc) (ret : Url) (s : RState) (hD : DocInv D ret s) (r : NodeId) (u : Url)
    (hr : D.ResourceRoot r r) (hu : D.BaseUri ret r u) :
    ∃ i, lookupNat r s.infos = some i ∧ i.uri = some u := by
  obtain ⟨⟨i, r0, hi, hb, hr0, _⟩, r', ⟨i', hi', hb'⟩, ib, lb, hib, hlb, hub⟩ := hD.done r (ResourceRoot.has hr)
  rw [hi] at hi'
  simp only [Option.some.injEq] at hi'
  subst hi'
  rw [hb] at hb'
  simp only [Option.some.injEq] at hb'
  subst hb'
  have e : r0 = r := resourceRoot_unique D hD.uniq r r0 r hr0 hr
  subst e
  exact ⟨ib, hib, by rw [hub, baseUri_unique D ret hD.uniq r0 _ _ ⟨lb, hlb, rfl⟩ hu]⟩

theorem docInv_uris_lookup (D : Doc) (ret : Url) (s : RState) (hD : DocInv D ret s)
    (huids : D.UniqueIds ret) (hkeys : KeysIn D.Has D.root (Uri.toString ret) s) (d : DocRes)
    (hd : s.doc? D.root = some d) (k : String) (r : NodeId) (h : D.Identifies ret k r) :
    Json.lookup k d.uris = some r := by
  obtain ⟨d0, hd0, hk0, hall⟩ := hkeys
  rw [hd] at hd0
  simp only [Option.some.injEq] at hd0
  subst hd0
  have hsome : (Json.lookup k d.uris).isSome = true := by
    rcases h with ⟨_, hk⟩ | ⟨hr, u, hu, hk⟩
    · rw [hk]; exact hk0
    · obtain ⟨i, hi, hiu⟩ := docInv_root_uri D ret s hD r u hr hu
      rw [hk]
      exact hall r i u (ResourceRoot.has hr) hi hiu
  cases hl : Json.lookup k d.uris with
  | none => rw [hl] at hsome; simp at hsome
  | some r' =>
    have := hD.uris d hd _ (Json.mem_of_lookup hl)
    rw [huids k r' r this h]

theorem loaderDeclares_of (env : Env) (top : NodeId) (dr : Draft) (b : Url) (U : UniverseOk env top dr b) :
    LoaderDeclares env dr := by
  intro tbl k r htbl hk rn hrn
  exact U.loaderDraft tbl k r rn htbl hk hrn

theorem named_store (env : Env) (top : NodeId) (dr : Draft) (b : Url) (U : UniverseOk env top dr b)
    (u : Url) (hu : u.fragment = "") (x : NodeId) (h : NamedDoc env top dr b (Uri.toString u) x) :
    (env.st.get? x).isSome = true := by
  have hwf : ∃ ret, DocWF env top b ⟨env.st, dr, x⟩ ret := by
    rcases h with ⟨rfl, _⟩ | ⟨tbl, htbl, hl⟩
    · exact ⟨b, U.topDoc⟩
    · exact ⟨u, U.docs tbl u x htbl hl hu⟩
  obtain ⟨ret, hwf⟩ := hwf
  obtain ⟨fresh, hcs⟩ := structureOk_ok env.st x hwf.struct
  exact has_store env.st dr x fresh hcs x ⟨[], by simp [isLineage]⟩

theorem cached_name (env : Env) (top : NodeId) (dr : Draft) (b : Url) (rets : NodeId → Url) (s : RState)
    (hinv : CInv env top dr b rets s) (key : String) (lr : NodeId) (h : Json.lookup key s.loaded = some lr) :
    NameOf env top dr b key lr ∧ ∃ dl, s.doc? lr = some dl ∧ dl.draft = dr := by
  obtain ⟨dl, hdl, hI⟩ := hinv.g.loaded _ (Json.mem_of_lookup h)
  have hdr : dl.draft = dr := hinv.drafts dl (doc?_mem s lr dl hdl)
  rw [hdr] at hI
  refine ⟨?_, dl, hdl, hdr⟩
  rcases hinv.g.reg lr (by unfold Registered; rw [hdl]; rfl) with h1 | ⟨tbl, k, h1, h2, _, h4⟩
  · subst h1
    rw [hinv.topRet] at hI
    exact Or.inl ⟨rfl, hI⟩
  · exact Or.inr ⟨tbl, rets lr, h1, by rw [← h4]; exact h2, hI⟩

theorem named_name (env : Env) (top : NodeId) (dr : Draft) (b : Url) (u : Url) (x : NodeId)
    (h : NamedDoc env top dr b (Uri.toString u) x) : NameOf env top dr b (Uri.toString u) x := by
  rcases h with h | ⟨tbl, htbl, hl⟩
  · exact Or.inl h
  · exact Or.inr ⟨tbl, u, htbl, hl, Or.inl ⟨rfl, rfl⟩⟩

theorem resolveRef_ne_err_G (env : Env) (top : NodeId) (dr : Draft) (b : Url) (recDoc : ResolveDoc)
    (hrecG : RecG env top recDoc) (hrecA : RecAll env dr recDoc) (hrecN : RecNE env top dr b recDoc)
    (hfresh : LoaderFresh env top) (U : UniverseOk env top dr b)
    (rets : NodeId → Url) (s : RState) (root id : NodeId) (ref : String)
    (hinv : CInv env top dr b rets s)
    (hkeys : KeysIn (Reach env.st root) root (Uri.toString (rets root)) s)
    (hwf : DocWF env top b ⟨env.st, dr, root⟩ (rets root))
    (hid : Reach env.st root id)
    (hgood : Doc.RefGood env top b ⟨env.st, dr, root⟩ (rets root) id ref) :
    resolveRef env recDoc root s id ref ≠ .err := by
  obtain ⟨bu', refURI, hBU', hparse, hcase⟩ := hgood
  rw [resolveRef_eq, hparse, Res.bind_ok]
  cases hbu : refBase s root id with
  | none => simp
  | some bu =>
  cases hd : s.doc? root with
  | none => simp
  | some d =>
  obtain ⟨info, hinfo, base, hbase, bInfo, hbInfo, hbu⟩ := refBase_eq_some_iff.mp hbu
  dsimp only
  have hdr : d.draft = dr := hinv.drafts d (doc?_mem s root d hd)
  have hD : DocInv ⟨env.st, dr, root⟩ (rets root) s := hdr ▸ hinv.g.docs root d hd
  have hBU : (⟨env.st, dr, root⟩ : Doc).BaseUri (rets root) id bu :=
    (done_baseUri ⟨env.st, dr, root⟩ (rets root) s.infos hD.uniq id (hD.done id hid) info bInfo base bu
      (info?_lookup _ _ _ _ hinfo) hbase (info?_lookup _ _ _ _ hbInfo) hbu).2
  have e : bu = bu' := baseUri_unique _ _ hD.uniq id _ _ hBU hBU'
  subst e
  have hfl : (Uri.dropFragment (Uri.resolveReference bu refURI)).fragment = "" := rfl
  obtain ⟨fresh, hcs⟩ := structureOk_ok env.st root hwf.struct
  have hstore := has_store env.st dr root fresh hcs
  rcases hcase with ⟨r, hI, ht⟩ | ⟨hnoI, x, hnamed, ht⟩
  · rw [findDoc_hit (docInv_uris_lookup ⟨env.st, dr, root⟩ (rets root) s hD hwf.uniq hkeys d hd _ r hI), Res.bind_ok]
    exact bind_ne_err (fragOut_ne_err env ⟨env.st, dr, root⟩ rfl (rets root) root r s hD _
      (hstore r (identifies_has _ _ _ _ hI)) ht) fun _ _ => by simp
  · have hl1 : Json.lookup (Uri.toString (Uri.dropFragment (Uri.resolveReference bu refURI))) d.uris = none :=
      Option.eq_none_iff_forall_ne_some.mpr fun r' hl => hnoI r' (hD.uris d hd _ (Json.mem_of_lookup hl))
    have hx := named_store env top dr b U _ hfl x hnamed
    cases hl2 : Json.lookup (Uri.toString (Uri.dropFragment (Uri.resolveReference bu refURI))) s.loaded with
    | some lr =>
      obtain ⟨hname, dl, hdl, hdldr⟩ := cached_name env top dr b rets s hinv _ lr hl2
      have e : lr = x := U.coherent _ lr x hname (named_name env top dr b _ x hnamed)
      subst e
      rw [findDoc_cached hl1 hl2, Res.bind_ok]
      have hD' : DocInv ⟨env.st, dr, lr⟩ (rets lr) (mergeKnown s root lr) :=
        docInv_frozen _ _ (frozen_mergeKnown s root lr) (hdldr ▸ hinv.g.docs lr dl hdl)
      exact bind_ne_err (fragOut_ne_err env ⟨env.st, dr, lr⟩ rfl (rets lr) root lr _ hD' _ hx ht) fun _ _ => by simp
    | none =>
      rcases hnamed with ⟨rfl, hItop⟩ | ⟨tbl, htbl, hltbl⟩
      · have := hinv.topNames _ hItop
        rw [hl2] at this
        simp at this
      · rw [findDoc_load hl1 hl2, loaderDoc_eq_ok_iff.mpr ⟨tbl, htbl, hltbl⟩, Res.bind_ok, hdr]
        have hfr0 : Frozen s { s with log := s.log ++ [Uri.toString (Uri.dropFragment (Uri.resolveReference bu refURI))] } :=
          ⟨fun _ => rfl, fun _ => rfl, rfl⟩
        have hg0 := gInv_frozen env top rets hfr0 hinv.g
        obtain ⟨hnone, hdisj⟩ := loaderDoc_new env top rets s hfresh hinv.g tbl _ x htbl hltbl hl2
        have hinv0 : CInv env top dr b rets
            { s with log := s.log ++ [Uri.toString (Uri.dropFragment (Uri.resolveReference bu refURI))] } :=
          ⟨hg0, AllDraft.of_docs_eq rfl hinv.drafts, hinv.topReg, hinv.topRet, hinv.topNames⟩
        refine bind_ne_err (bind_ne_err (hrecN x _ _ rets hinv0 hnone hdisj ⟨tbl, htbl, hltbl⟩ hfl)
          (fun _ _ => by simp)) ?_
        intro p hp
        rw [Res.bind_eq_ok_iff] at hp
        obtain ⟨s2, hdoc, hp⟩ := hp
        simp only [Res.ok.injEq] at hp
        subst hp
        obtain ⟨rets', _, _, hg2, _, d2, hd2, _⟩ :=
          hrecG x _ dr _ s2 rets hdoc hg0 hnone hdisj (Or.inr ⟨tbl, htbl, hltbl⟩)
        have hall2 : AllDraft dr s2 :=
          hrecA x _ dr _ s2 hdoc (loaderDeclares_of env top dr b U tbl _ x htbl hltbl)
            (AllDraft.of_docs_eq rfl hinv.drafts)
        have hd2dr : d2.draft = dr := hall2 d2 (doc?_mem s2 x d2 hd2)
        have hD' : DocInv ⟨env.st, dr, x⟩ (rets' x) (mergeKnown s2 root x) :=
          docInv_frozen _ _ (frozen_mergeKnown s2 root x) (hd2dr ▸ hg2.docs x d2 hd2)
        exact bind_ne_err (fragOut_ne_err env ⟨env.st, dr, x⟩ rfl (rets' x) root x _ hD' _ hx ht) fun _ _ => by simp

theorem keysIn_grow {P : NodeId → Prop} {root : NodeId} {k0 : String} {s s' : RState} (h : Grow s s')
    (hdom : ∀ id, P id → (lookupNat id s.infos).isSome = true)
    (hs : KeysIn P root k0 s) : KeysIn P root k0 s' := by
  obtain ⟨d, hd, h0, hall⟩ := hs
  obtain ⟨d', hd', hu, _⟩ := h.doc root d hd
  refine ⟨d', hd', by rw [hu]; exact h0, ?_⟩
  intro id i' u hP hi' hu'
  obtain ⟨i, hi, e⟩ := map_eq_map_some (h.infos id (hdom id hP)).symm hi'
  simp only [fixedOf, Prod.mk.injEq] at e
  rw [hu]
  exact hall id i u hP hi (by rw [e.2.1]; exact hu')

theorem refStep_C (env : Env) (top : NodeId) (dr : Draft) (b : Url) (recDoc : ResolveDoc)
    (hrecS : RecSpec env recDoc) (hrecG : RecG env top recDoc) (hrecA : RecAll env dr recDoc)
    (hfresh : LoaderFresh env top) (U : UniverseOk env top dr b)
    (rets : NodeId → Url) (s : RState) (root id : NodeId) (ref : String) (ret0 : Url) (o : RefOut) (sa : RState)
    (hinv : CInv env top dr b rets s) (hreg : Registered s root) (hret : rets root = ret0)
    (hkeys : KeysIn (Reach env.st root) root (Uri.toString ret0) s) (hid : Reach env.st root id)
    (h : resolveRef env recDoc root s id ref = .ok (o, sa)) (f : Info → Info) (hf : ∀ i, fixedOf (f i) = fixedOf i) :
    ∃ rets', CInv env top dr b rets' (sa.updInfo id f) ∧ Registered (sa.updInfo id f) root ∧ rets' root = ret0 ∧
      KeysIn (Reach env.st root) root (Uri.toString ret0) (sa.updInfo id f) := by
  obtain ⟨rets', d, hag, hg', hgrow, _, _, hd, _, _⟩ :=
    resolveRef_upd_G env top recDoc hrecG hfresh rets s root id ref o sa hinv.g hid h f hf
  have hall : AllDraft dr (sa.updInfo id f) :=
    allDraft_updInfo sa id f
      (resolveRef_all env dr recDoc hrecA (loaderDeclares_of env top dr b U) root s id ref o sa hinv.drafts h)
  have hext : Ext s (sa.updInfo id f) :=
    (resolveRef_spec env recDoc hrecS _ _ _ _ _ _ h).1.trans (updInfo_same _ _ _).ext
  have hdr : d.draft = dr := hinv.drafts d (doc?_mem s root d hd)
  have hD : DocInv ⟨env.st, dr, root⟩ (rets root) s := hdr ▸ hinv.g.docs root d hd
  refine ⟨rets', ⟨hg', hall, hgrow.registered top hinv.topReg, by rw [hag top hinv.topReg]; exact hinv.topRet,
    fun key hk => hext.2 key (hinv.topNames key hk)⟩, hgrow.registered root hreg,
    by rw [hag root hreg]; exact hret, ?_⟩
  exact keysIn_grow hgrow (fun x hx => done_lookup_isSome (hD.done x hx).1) hkeys

theorem resolveRefsLoop_ne_err_G (env : Env) (top : NodeId) (dr : Draft) (b : Url) (recDoc : ResolveDoc)
    (hrecS : RecSpec env recDoc) (hrecG : RecG env top recDoc) (hrecA : RecAll env dr recDoc)
    (hrecN : RecNE env top dr b recDoc) (hfresh : LoaderFresh env top) (U : UniverseOk env top dr b)
    (root : NodeId) (ret0 : Url) (hwf : DocWF env top b ⟨env.st, dr, root⟩ ret0) :
    ∀ ids s rets, CInv env top dr b rets s → Registered s root → rets root = ret0 →
      KeysIn (Reach env.st root) root (Uri.toString ret0) s → (∀ id ∈ ids, Reach env.st root id) →
      (∀ id ∈ ids, ∀ n, env.st.get? id = some n →
        (n.ref ≠ "" → Doc.RefGood env top b ⟨env.st, dr, root⟩ ret0 id n.ref) ∧
        (dr = .d2020 → n.dynamicRef ≠ "" → Doc.RefGood env top b ⟨env.st, dr, root⟩ ret0 id n.dynamicRef)) →
      resolveRefsLoop env recDoc root ids s ≠ .err := by
  intro ids
  induction ids with
  | nil => intro s rets _ _ _ _ _ _; rw [resolveRefsLoop]; simp
  | cons id rest ih =>
    intro s rets hinv hreg hret hkeys hids hgood
    have hid : Reach env.st root id := hids id (by simp)
    rw [resolveRefsLoop_cons]
    split
    · simp
    rename_i n hn
    obtain ⟨d1, d2⟩ := hgood id (by simp) n hn
    have block : ∀ (on : Bool) (ref : String) (upd : RefOut → Info → Info) (a : RState) (retsa : NodeId → Url),
        (∀ o i, fixedOf (upd o i) = fixedOf i) → CInv env top dr b retsa a → Registered a root → retsa root = ret0 →
        KeysIn (Reach env.st root) root (Uri.toString ret0) a →
        (on = true → Doc.RefGood env top b ⟨env.st, dr, root⟩ ret0 id ref) →
        refStep env recDoc root id on ref upd a ≠ .err ∧
        ∀ a', refStep env recDoc root id on ref upd a = .ok a' →
          ∃ rets', CInv env top dr b rets' a' ∧ Registered a' root ∧ rets' root = ret0 ∧
            KeysIn (Reach env.st root) root (Uri.toString ret0) a' := by
      intro on ref upd a retsa hupd hinva hrega hreta hkeysa hg
      constructor
      · cases on with
        | false => simp [refStep]
        | true =>
          subst hreta
          exact bind_ne_err (resolveRef_ne_err_G env top dr b recDoc hrecG hrecA hrecN hfresh U retsa a root id ref
            hinva hkeysa hwf hid (hg rfl)) fun _ _ => by simp
      · intro a' ha'
        rcases refStep_ok' ha' with ⟨_, rfl⟩ | ⟨_, o, sa, hr, rfl⟩
        · exact ⟨retsa, hinva, hrega, hreta, hkeysa⟩
        · exact refStep_C env top dr b recDoc hrecS hrecG hrecA hfresh U retsa a root id ref ret0 o sa hinva hrega
            hreta hkeysa hid hr _ (hupd o)
    obtain ⟨ne1, ok1⟩ := block (n.ref != "") n.ref
      (fun o i => { i with resolvedRef := some o.target }) s rets (fun _ _ => rfl) hinv hreg hret hkeys
      (fun hne => d1 (by simpa using hne))
    refine bind_ne_err ne1 fun s1 h1 => ?_
    obtain ⟨rets1, hinv1, hreg1, hret1, hkeys1⟩ := ok1 s1 h1
    obtain ⟨ne2, ok2⟩ := block (n.dynamicRef != "" && s1.draftOf root == .d2020) n.dynamicRef
      (fun o i => { i with resolvedDynamicRef := some o.target, dynamicRefAnchor := o.dynFrag }) s1 rets1
      (fun _ _ => rfl) hinv1 hreg1 hret1 hkeys1 (fun hne => by
        rw [hinv1.drafts.draftOf root hreg1] at hne
        simp only [Bool.and_eq_true, bne_iff_ne, ne_eq, beq_iff_eq] at hne
        exact d2 hne.2 hne.1)
    refine bind_ne_err ne2 fun s2 h2 => ?_
    obtain ⟨rets2, hinv2, hreg2, hret2, hkeys2⟩ := ok2 s2 h2
    exact ih s2 rets2 hinv2 hreg2 hret2 hkeys2 (fun x hx => hids x (List.mem_cons_of_mem _ hx))
      (fun x hx => hgood x (List.mem_cons_of_mem _ hx))

theorem docStep_ne_err (env : Env) (top : NodeId) (dr : Draft) (b : Url) (recDoc : ResolveDoc)
    (hrecS : RecSpec env recDoc) (hrecG : RecG env top recDoc) (hrecA : RecAll env dr recDoc)
    (hrecN : RecNE env top dr b recDoc) (hfresh : LoaderFresh env top) (U : UniverseOk env top dr b)
    (root : NodeId) (baseURI : Url) (inherit : Draft) (s : RState) (rets : NodeId → Url)
    (hg : GInv env top rets s) (hall : AllDraft dr s) (hnone : s.doc? root = none)
    (hdisj : ∀ r, Registered s r → ∀ x, Reach env.st r x → ¬ Reach env.st root x)
    (hkey : IsDocRoot env top (Uri.toString baseURI) root)
    (hwf : DocWF env top b ⟨env.st, dr, root⟩ baseURI)
    (hdraft : ∀ rn, env.st.get? root = some rn → docDraft env rn inherit = dr)
    (htop : (root = top ∧ baseURI = b) ∨
      (root ≠ top ∧ Registered s top ∧ rets top = b ∧ TopNames env top dr b s)) :
    resolveDocStep env recDoc root baseURI inherit s ≠ .err := by
  obtain ⟨fresh, hcs⟩ := structureOk_ok env.st root hwf.struct
  let D : Doc := ⟨env.st, dr, root⟩
  have huniq : UniqueLineage D := tree_uniqueLineage D _ (checkStructure_tree env.st _ root fresh hcs)
  have hrootS := has_store env.st dr root fresh hcs root ⟨[], by simp [isLineage]⟩
  obtain ⟨rn, hrn⟩ := Option.isSome_iff_exists.mp hrootS
  have hdr : docDraft env rn inherit = dr := hdraft rn hrn
  rw [resolveDocStep_eq, if_neg (by rw [hwf.frag]; simp), hrn]
  simp only [hcs, Res.bind_ok]
  rw [if_neg (by rw [← localOk_eq env root fresh hcs, hwf.locals]; simp)]
  rw [hdr]
  refine bind_ne_err (fun h => ?_) fun sB hB => ?_
  · have sp := resolveURIs_sp env D rfl baseURI _ fresh hcs (env.st.size + 2) _
      (beforeURIs_root_uri env.st _ root baseURI dr fresh s hcs)
    rw [show resolveURIsLoop env _ _ _ _ _ = Res.err from h] at sp
    exact sp hwf.ids
  · obtain ⟨hgC, hextB, ⟨dB, hdB, hdrB⟩, sameB, hDB, hnoInfo⟩ :=
      gInv_afterURIs env top root baseURI dr fresh s sB rets hcs hB hg hnone hdisj hkey
    have hallB : AllDraft dr sB := allDraft_resolveURIs env dr root baseURI fresh s hall hB
    have hkeysB : KeysIn (Reach env.st root) root (Uri.toString baseURI) sB :=
      resolveURIsLoop_keysIn env dr root _ _ _ _ _ _ hB
        (keysIn_beforeURIs env (Reach env.st root) root baseURI dr fresh s _ hcs hnoInfo)
    have hregC : Registered (afterURIs root baseURI sB) root := Option.isSome_iff_exists.mpr ⟨dB, hdB⟩
    have hupdL := loaded_update sB.loaded (Uri.toString baseURI) (rootUriOf sB root) root
    have hinvC : CInv env top dr b (fun x => if x = root then baseURI else rets x) (afterURIs root baseURI sB) := by
      rcases htop with ⟨e, eb⟩ | ⟨hne, hr, hrt, hn⟩
      · subst e
        subst eb
        refine ⟨hgC, AllDraft.of_docs_eq rfl hallB, hregC, if_pos rfl, fun key hI => ?_⟩
        rcases hI with ⟨_, hk⟩ | ⟨hr, u, hu, hk⟩
        · rw [hk]; exact hupdL.1
        · obtain ⟨i, hi, hiu⟩ := docInv_root_uri D baseURI sB hDB root u hr hu
          have : rootUriOf sB root = Uri.toString u := by
            unfold rootUriOf; rw [hi]; simp [hiu]
          rw [hk, ← this]
          exact hupdL.2.1
      · refine ⟨hgC, AllDraft.of_docs_eq rfl hallB, hextB.grow.registered top hr,
          (if_neg fun e => hne e.symm).trans hrt, fun key hI => hupdL.2.2 key ?_⟩
        rw [sameB.2]
        exact hn key hI
    show resolveRefsLoop env recDoc root _ (afterURIs root baseURI sB) ≠ .err
    exact resolveRefsLoop_ne_err_G env top dr b recDoc hrecS hrecG hrecA hrecN hfresh U root baseURI hwf _ _ _ hinvC
      hregC (by simp) hkeysB
      (allNodes_has D _ _ (by
        intro w hw
        rw [List.mem_singleton.mp hw]
        exact reach_root env.st root)) hwf.refs

theorem resolveDoc_ne_err_G (env : Env) (top : NodeId) (dr : Draft) (b : Url) (hfresh : LoaderFresh env top)
    (U : UniverseOk env top dr b) : ∀ fuel, RecNE env top dr b (resolveDoc env fuel) := by
  intro fuel
  induction fuel with
  | zero => intro lroot base s rets _ _ _ _ _; rw [resolveDoc]; simp
  | succ fuel ih =>
    intro lroot base s rets hinv hnone hdisj hk hfr
    obtain ⟨tbl, htbl, hl⟩ := hk
    rw [resolveDoc]
    have hne : lroot ≠ top := by
      intro e
      have := hinv.topReg
      unfold Registered at this
      rw [← e, hnone] at this
      simp at this
    exact docStep_ne_err env top dr b _ (resolveDoc_spec env fuel) (resolveDoc_G env top hfresh fuel)
      (resolveDoc_all env dr (loaderDeclares_of env top dr b U) fuel) ih hfresh U lroot base dr s rets hinv.g
      hinv.drafts hnone hdisj (Or.inr ⟨tbl, htbl, hl⟩) (U.docs tbl base lroot htbl hl hfr)
      (loaderDeclares_of env top dr b U tbl _ lroot htbl hl)
      (Or.inr ⟨hne, hinv.topReg, hinv.topRet, hinv.topNames⟩)

/-- Schema.Resolve returns no error in a universe of well-formed, coherent documents that are all present -/
theorem resolve_ne_err_G (env : Env) (top : NodeId) (dr : Draft) (b : Url) (base : String) (fuel : Nat)
    (hb : retrievalOf base = .ok b) (hfresh : LoaderFresh env top) (U : UniverseOk env top dr b) :
    resolve env fuel top base ≠ .err := by
  rw [resolve_eq, hb, Res.bind_ok]
  refine bind_ne_err ?_ fun s _ => by split <;> simp
  cases fuel with
  | zero => rw [resolveDoc]; simp
  | succ fuel =>
    rw [resolveDoc]
    exact docStep_ne_err env top dr b _ (resolveDoc_spec env fuel) (resolveDoc_G env top hfresh fuel)
      (resolveDoc_all env dr (loaderDeclares_of env top dr b U) fuel) (resolveDoc_ne_err_G env top dr b hfresh U fuel)
      hfresh U top b .d2020 {} (fun _ => b) (gInv_init env top _) (allDraft_init dr) (by simp [RState.doc?])
      (by intro r hr; simp [Registered, RState.doc?] at hr) (Or.inl rfl) U.topDoc
      (by intro rn hrn; rw [← topDraft_eq env top rn hrn]; exact U.topDr) (Or.inl ⟨rfl, rfl⟩)

theorem universeOk_of_noloader (env : Env) (hl : env.loader = none) (root : NodeId) (b : Url)
    (hfrag : b.fragment = "") (hstruct : structureOk env.st root = true) (hlocal : localOk env root = true)
    (hids : (topDoc env root).IdsOk b) (huids : (topDoc env root).UniqueIds b)
    (hdes : (topDoc env root).RefsDesignate b (allNodes env.st (env.st.size + 2) [root])) :
    UniverseOk env root (topDraft env root) b where
  topDr := rfl
  loaderDraft := fun tbl _ _ _ h => by rw [hl] at h; cases h
  topDoc :=
    { frag := hfrag, struct := hstruct, locals := hlocal, ids := hids, uniq := huids
      refs := fun id hid n hn =>
        let ⟨h1, h2⟩ := hdes id hid n hn
        ⟨fun hne => let ⟨t, ht⟩ := h1 hne; refGood_of_designates env root b _ b id _ t ht,
         fun h20 hne => let ⟨t, ht⟩ := h2 h20 hne; refGood_of_designates env root b _ b id _ t ht⟩ }
  docs := fun tbl _ _ h => by rw [hl] at h; cases h
  coherent := by
    -- only the top document has a name
    rintro key x y (⟨rfl, _⟩ | ⟨tbl, _, h, _⟩) (⟨rfl, _⟩ | ⟨tbl', _, h', _⟩)
    · rfl
    · rw [hl] at h'; cases h'
    · rw [hl] at h; cases h
    · rw [hl] at h; cases h

/-- completeness, self-contained documents: the well-formed document whose references all designate a
    subschema is resolved, by every positive fuel -/
theorem resolve_ok_of_wf (env : Env) (hl : env.loader = none) (fuel : Nat) (hfuel : 1 ≤ fuel) (root : NodeId)
    (base : String) (b : Url) (hb : retrievalOf base = .ok b) (hfrag : b.fragment = "")
    (hstruct : structureOk env.st root = true) (hlocal : localOk env root = true)
    (hids : (topDoc env root).IdsOk b) (huids : (topDoc env root).UniqueIds b)
    (hdes : (topDoc env root).RefsDesignate b (allNodes env.st (env.st.size + 2) [root])) :
    ∃ rs, resolve env fuel root base = .ok rs :=
  (RTot.resolve_total_noloader env hl fuel hfuel root base).resolve_left
    (resolve_ne_err_G env root _ b base fuel hb (fun tbl h => by rw [hl] at h; cases h)
      (universeOk_of_noloader env hl root b hfrag hstruct hlocal hids huids hdes))

end RComp
end Go
end JSV
