/-
  Algebraic laws: replacing the content of ONE schema object of the store by an equivalent content changes no
  outcome anywhere (same definedness, same verdict, the same evaluated sets as sets) — `evalFuel_replace`.
  This is what turns a law about a keyword into a law about every schema that contains it.
  Then the laws it is applied to: `anyOf` / `allOf` depend on the SET of their subschemas, `oneOf` on the list up to
  order (`kw*_set`, `kwOneOf_perm`, as `NodeEqv_*`); the replacement written with `setIfInBounds` and carried over to
  the evaluator (`Replaced.set`, `evalFuel_set_sim`, `go_set_verdict`); and the replacements that change nothing at all,
  evaluated sets included: `const` for a one-element `enum`, `enum` as a set, `type` for a one-element `types`
  (`evalFuel_set_eq`, `specBody_const_enum`, …).
-/
import JSV.Proofs.SpecLaws
import JSV.Proofs.SpecSimPerm
import JSV.Proofs.ListFacts
namespace JSV
namespace Laws
open Go GoVal Refine _root_.JSV.Inv

theorem EvEqv.symm {a b : Spec.Ev} (h : EvEqv a b) : EvEqv b a := ⟨fun k => (h.1 k).symm, fun i => (h.2 i).symm⟩

theorem EvEqv.trans {a b c : Spec.Ev} (h1 : EvEqv a b) (h2 : EvEqv b c) : EvEqv a c :=
  ⟨fun k => (h1.1 k).trans (h2.1 k), fun i => (h1.2 i).trans (h2.2 i)⟩

theorem RSim.trans {a b c : Spec.R} (h1 : RSim a b) (h2 : RSim b c) : RSim a c :=
  OptRel.trans (R := EvEqv) (fun _ _ _ => EvEqv.trans) h1 h2

theorem OutSim.refl (a : Spec.Out) : OutSim a a := Inv.OptRel.refl RSim_refl a

theorem OutSim.trans {a b c : Spec.Out} (h1 : OutSim a b) (h2 : OutSim b c) : OutSim a c :=
  OptRel.trans (R := RSim) (fun _ _ _ => RSim.trans) h1 h2

theorem specBody_sim_of_kwList (env : Spec.Env) (rec : Spec.Rec) (scope : List NodeId) (s : NodeId) (j : Json) (n n' : Node)
    (hl : All₂ OutSim (kwList env rec scope s j n) (kwList env rec scope s j n'))
    (ha : assertsOf env n j = assertsOf env n' j) (hr : n'.ref = n.ref)
    (hui : n'.unevaluatedItems = n.unevaluatedItems) (hup : n'.unevaluatedProperties = n.unevaluatedProperties) :
    OutSim (specBody env rec scope s j n) (specBody env rec scope s j n') := by
  have hE := EvCong.eqv ListCong.ofEq
  have hsub : SpecSim.SubRel Eq Eq EvEqv (rec (scope ++ [s])) (rec (scope ++ [s])) :=
    fun _ _ _ _ ht hj => ht ▸ hj ▸ OutSim.refl _
  refine SpecSim.specBody_of_kwList ListCong.ofEq hE (by rw [hr]) hl ha
    (fun _ _ he => SpecSim.kwUnevaluatedItems_rel ListCong.ofEq hE SpecSim.InstCong.ofEq hsub rfl ?_ he)
    (fun _ _ he => SpecSim.kwUnevaluatedProps_rel ListCong.ofEq hE SpecSim.InstCong.ofEq hsub rfl ?_ he)
  · simp only [Spec.vocab, hui]; exact Inv.OptRel.refl (fun _ => rfl) _
  · simp only [Spec.vocab, hup]; exact Inv.OptRel.refl (fun _ => rfl) _

def NodeEqv (env : Spec.Env) (s : NodeId) (n n' : Node) : Prop :=
  ∀ rec scope j, OutSim (specBody env rec scope s j n) (specBody env rec scope s j n')

/-- `size` follows from the other fields and no proof reads it. -/
structure Replaced (env : Spec.Env) (st st' : Store) (s : NodeId) (n n' : Node) : Prop where
  size : st'.size = st.size
  other : ∀ t, t ≠ s → st'.get? t = st.get? t
  old : st.get? s = some n
  new : st'.get? s = some n'
  eqv : NodeEqv env s n n'

theorem NodeRel_refl (n : Node) : SpecSim.NodeRel (fun {α} (a b : List α) => a = b) Eq Eq n n where
  ref := rfl
  dynamicRef := rfl
  minContains := rfl
  maxContains := rfl
  asserts := fun _ _ _ h => h ▸ rfl
  allOf := All₂.refl_eq _
  anyOf := Inv.OptRel.refl All₂.refl_eq _
  oneOf := Inv.OptRel.refl All₂.refl_eq _
  not := Go.OptRel.refl_eq _
  if_ := Go.OptRel.refl_eq _
  then_ := Go.OptRel.refl_eq _
  else_ := Go.OptRel.refl_eq _
  prefixItems := All₂.refl_eq _
  items := Go.OptRel.refl_eq _
  itemsArray := Inv.OptRel.refl All₂.refl_eq _
  additionalItems := Go.OptRel.refl_eq _
  contains := Go.OptRel.refl_eq _
  unevaluatedItems := Go.OptRel.refl_eq _
  properties := fun _ => Go.OptRel.refl_eq _
  patternProperties := ⟨_, rfl, All₂.refl fun _ _ => ⟨rfl, rfl⟩⟩
  additionalProperties := Go.OptRel.refl_eq _
  propertyNames := Go.OptRel.refl_eq _
  unevaluatedProperties := Go.OptRel.refl_eq _
  dependentSchemas := ⟨_, rfl, All₂.refl fun _ _ => ⟨rfl, rfl⟩⟩
  dependencySchemas := ⟨_, rfl, All₂.refl fun _ _ => ⟨rfl, rfl⟩⟩

theorem specBody_rec_sim (env : Spec.Env) {rec1 rec2 : Spec.Rec} (hrec : ∀ sc t j, OutSim (rec1 sc t j) (rec2 sc t j))
    (scope : List NodeId) (s : NodeId) (j : Json) (n : Node) :
    OutSim (specBody env rec1 scope s j n) (specBody env rec2 scope s j n) :=
  SpecSim.specBody_sub ListCong.ofEq (EvCong.eqv ListCong.ofEq) SpecSim.InstCong.ofEq rfl rfl
    (fun t _ a _ e e' => e ▸ e' ▸ hrec _ t a) rfl (NodeRel_refl n) (fun _ => Go.OptRel.refl_eq _)
    fun _ => ⟨Go.OptRel.refl_eq _, rfl, Go.OptRel.refl_eq _⟩

/-- **Replacement**: the content of one schema object replaced by an equivalent content changes no outcome anywhere, on
    any instance, up to the order in which evaluated properties and items are listed.  (Nothing is asked of the store or
    of the instance; `evalFuel_replace` adds a reordering of the instance, which asks for `StoreWF` and `Json.WF`.) -/
theorem evalFuel_replace_eq (env : Spec.Env) (st st' : Store) (s : NodeId) (n n' : Node) (h : Replaced env st st' s n n') :
    ∀ fuel scope t j, OutSim (Spec.evalFuel { env with st := st } fuel scope t j)
      (Spec.evalFuel { env with st := st' } fuel scope t j)
  | 0, _, _, _ => trivial
  | fuel + 1, scope, t, j => by
    have ih := evalFuel_replace_eq env st st' s n n' h fuel
    show OutSim (Spec.evalStep _ _ scope t j) (Spec.evalStep _ _ scope t j)
    by_cases hts : t = s
    · subst hts
      rw [evalStep_store_get env h.old, evalStep_store_get env h.new]
      exact OutSim.trans (specBody_rec_sim env ih scope t j n) (h.eqv _ scope j)
    · cases hg : Store.get? st t with
      | none => rw [evalStep_store_none env hg, evalStep_store_none env ((h.other t hts).trans hg)]; trivial
      | some m =>
        rw [evalStep_store_get env hg, evalStep_store_get env ((h.other t hts).trans hg)]
        exact specBody_rec_sim env ih scope t j m

theorem evalFuel_replace (env : Spec.Env) (st st' : Store) (s : NodeId) (n n' : Node) (h : Replaced env st st' s n n')
    (hwf : StoreWF st) :
    ∀ fuel, RecSim (Spec.evalFuel { env with st := st } fuel) (Spec.evalFuel { env with st := st' } fuel) :=
  fun fuel scope t j1 j2 hj hw =>
    OutSim.trans (Inv.evalFuel_sim env st st (permStore.refl st) hwf fuel scope t j1 j2 hj hw)
      (evalFuel_replace_eq env st st' s n n' h fuel scope t j2)

theorem sequence_map_R (f : NodeId → Spec.Out) (ss : List NodeId) :
    Spec.sequence (ss.map f)
      = if ss.all (fun t => (f t).isSome) = true then some (ss.map fun t => (f t).getD none) else none := by
  induction ss with
  | nil => rfl
  | cons t ss ih =>
    simp only [List.map_cons, List.all_cons]
    cases ht : f t with
    | none => simp [Spec.sequence]
    | some r =>
      simp only [Spec.sequence, ih, Option.isSome_some, Bool.true_and, Option.getD_some]
      split <;> rfl

theorem validCount_pos_iff (rs : List Spec.R) : 0 < Spec.validCount rs ↔ ∃ r, r ∈ rs ∧ r.isSome = true := by
  unfold Spec.validCount
  rw [List.length_pos_iff_exists_mem]
  simp only [List.mem_filter]

theorem mem_validUnion_props (rs : List Spec.R) (k : String) :
    k ∈ (Spec.validUnion rs).props ↔ ∃ e, some e ∈ rs ∧ k ∈ e.props := by
  unfold Spec.validUnion
  rw [unions_eq]
  simp only [List.mem_flatMap, List.mem_filterMap, id]
  constructor
  · rintro ⟨e, ⟨r, hr, he⟩, hk⟩; subst he; exact ⟨e, hr, hk⟩
  · rintro ⟨e, hr, hk⟩; exact ⟨e, ⟨some e, hr, rfl⟩, hk⟩

theorem mem_validUnion_items (rs : List Spec.R) (i : Nat) :
    i ∈ (Spec.validUnion rs).items ↔ ∃ e, some e ∈ rs ∧ i ∈ e.items := by
  unfold Spec.validUnion
  rw [unions_eq]
  simp only [List.mem_flatMap, List.mem_filterMap, id]
  constructor
  · rintro ⟨e, ⟨r, hr, he⟩, hk⟩; subst he; exact ⟨e, hr, hk⟩
  · rintro ⟨e, hr, hk⟩; exact ⟨e, ⟨some e, hr, rfl⟩, hk⟩

theorem validUnion_set {rs rs' : List Spec.R} (h : ∀ r, r ∈ rs ↔ r ∈ rs') :
    EvEqv (Spec.validUnion rs) (Spec.validUnion rs') := by
  constructor
  · intro k
    rw [mem_validUnion_props, mem_validUnion_props]
    exact ⟨fun ⟨e, he, hk⟩ => ⟨e, (h _).1 he, hk⟩, fun ⟨e, he, hk⟩ => ⟨e, (h _).2 he, hk⟩⟩
  · intro i
    rw [mem_validUnion_items, mem_validUnion_items]
    exact ⟨fun ⟨e, he, hk⟩ => ⟨e, (h _).1 he, hk⟩, fun ⟨e, he, hk⟩ => ⟨e, (h _).2 he, hk⟩⟩

theorem conj_set {rs rs' : List Spec.R} (h : ∀ r, r ∈ rs ↔ r ∈ rs') : RSim (Spec.conj rs) (Spec.conj rs') := by
  unfold Spec.conj
  rw [all_eq_of_mem_iff (p := Option.isSome) h]
  exact guard_rel (validUnion_set h)

section kwset
variable (sub : NodeId → Json → Spec.Out) (n n' : Node) (j : Json) (ss ss' : List NodeId)

theorem kwAnyOf_set (h : n.anyOf = some ss) (h' : n'.anyOf = some ss') (hset : ∀ t, t ∈ ss ↔ t ∈ ss') :
    OutSim (Spec.kwAnyOf sub n j) (Spec.kwAnyOf sub n' j) := by
  simp only [Spec.kwAnyOf, h, h', sequence_map_R, all_eq_of_mem_iff hset]
  split
  · have hm := map_mem_congr_set (fun t => (sub t j).getD none) hset
    have hc : (Spec.validCount (ss.map fun t => (sub t j).getD none) > 0)
        ↔ (Spec.validCount (ss'.map fun t => (sub t j).getD none) > 0) := by
      show 0 < _ ↔ 0 < _
      rw [validCount_pos_iff, validCount_pos_iff]
      exact ⟨fun ⟨r, hr, e⟩ => ⟨r, (hm r).1 hr, e⟩, fun ⟨r, hr, e⟩ => ⟨r, (hm r).2 hr, e⟩⟩
    simp only [Option.map_some]
    by_cases hp : Spec.validCount (ss.map fun t => (sub t j).getD none) > 0
    · rw [if_pos hp, if_pos (hc.1 hp)]; exact validUnion_set hm
    · rw [if_neg hp, if_neg (fun h => hp (hc.2 h))]; trivial
  · trivial

theorem kwAllOf_set (h : n.allOf = some ss) (h' : n'.allOf = some ss') (hset : ∀ t, t ∈ ss ↔ t ∈ ss') :
    OutSim (Spec.kwAllOf sub n j) (Spec.kwAllOf sub n' j) := by
  simp only [Spec.kwAllOf, h, h', sequence_map_R, all_eq_of_mem_iff hset]
  split
  · exact conj_set (map_mem_congr_set (fun t => (sub t j).getD none) hset)
  · trivial

theorem kwOneOf_perm (h : n.oneOf = some ss) (h' : n'.oneOf = some ss') (hp : ss.Perm ss') :
    OutSim (Spec.kwOneOf sub n j) (Spec.kwOneOf sub n' j) := by
  simp only [Spec.kwOneOf, h, h']
  have hpr : PRg (fun {α} (a b : List α) => a.Perm b) OutSim (ss.map fun t => sub t j) (ss'.map fun t => sub t j) :=
    ⟨_, hp.map _, All₂.refl fun _ _ => OutSim.refl _⟩
  exact seq_map_sim ListCong.ofPerm (R := RSim) hpr _ _ fun _ _ h => by
    rw [validCount_rel ListCong.ofPerm h]
    exact guard_rel (validUnion_rel ListCong.ofPerm EvCong.ofPerm h)

end kwset

section nodeeqv
variable (env : Spec.Env) (s : NodeId) (n : Node)

theorem NodeEqv_anyOf (ss ss' : List NodeId) (h : n.anyOf = some ss) (hset : ∀ t, t ∈ ss ↔ t ∈ ss') :
    NodeEqv env s n { n with anyOf := some ss' } := by
  intro rec scope j
  exact specBody_sim_of_kwList env rec scope s j n _
    ⟨OutSim.refl _, OutSim.refl _, OutSim.refl _, kwAnyOf_set _ n _ j ss ss' h rfl hset, OutSim.refl _, OutSim.refl _,
      OutSim.refl _, OutSim.refl _, OutSim.refl _, OutSim.refl _, OutSim.refl _, OutSim.refl _, trivial⟩
    rfl rfl rfl rfl

theorem NodeEqv_allOf (ss ss' : List NodeId) (h : n.allOf = some ss) (hset : ∀ t, t ∈ ss ↔ t ∈ ss') :
    NodeEqv env s n { n with allOf := some ss' } := by
  intro rec scope j
  exact specBody_sim_of_kwList env rec scope s j n _
    ⟨OutSim.refl _, OutSim.refl _, kwAllOf_set _ n _ j ss ss' h rfl hset, OutSim.refl _, OutSim.refl _, OutSim.refl _,
      OutSim.refl _, OutSim.refl _, OutSim.refl _, OutSim.refl _, OutSim.refl _, OutSim.refl _, trivial⟩
    rfl rfl rfl rfl

theorem NodeEqv_oneOf (ss ss' : List NodeId) (h : n.oneOf = some ss) (hp : ss.Perm ss') :
    NodeEqv env s n { n with oneOf := some ss' } := by
  intro rec scope j
  exact specBody_sim_of_kwList env rec scope s j n _
    ⟨OutSim.refl _, OutSim.refl _, OutSim.refl _, OutSim.refl _, kwOneOf_perm _ n _ j ss ss' h rfl hp, OutSim.refl _,
      OutSim.refl _, OutSim.refl _, OutSim.refl _, OutSim.refl _, OutSim.refl _, OutSim.refl _, trivial⟩
    rfl rfl rfl rfl

end nodeeqv

theorem Replaced.set (env : Spec.Env) (st : Store) (s : NodeId) (n n' : Node) (hn : st.get? s = some n)
    (h : NodeEqv env s n n') : Replaced env st (st.setIfInBounds s n') s n n' where
  size := Array.size_setIfInBounds
  other := fun _ ht => get?_set_ne st ht n'
  old := hn
  new := get?_set_self hn n'
  eqv := h

theorem evalFuel_set_sim (env : Spec.Env) (s : NodeId) (n n' : Node) (hn : env.st.get? s = some n)
    (h : NodeEqv env s n n') (hwf : StoreWF env.st) (fuel : Nat) (scope : List NodeId) (root : NodeId) (j : Json)
    (hj : Json.WF j = true) :
    OutSim (Spec.evalFuel env fuel scope root j)
      (Spec.evalFuel { env with st := env.st.setIfInBounds s n' } fuel scope root j) :=
  evalFuel_replace env env.st _ s n n' (Replaced.set env env.st s n n' hn h) hwf fuel scope root j j (permJson_refl j) hj

theorem EnvWF_set (env : VEnv) (hwf : EnvWF env) (s : NodeId) (n' : Node) :
    EnvWF { env with st := env.st.setIfInBounds s n' } where
  info_total := by
    intro t m hm
    have hlt : t < (env.st.setIfInBounds s n').size := (Array.getElem?_eq_some_iff.1 hm).1
    rw [Array.size_setIfInBounds] at hlt
    exact hwf.info_total t env.st[t] (Array.getElem?_eq_some_iff.2 ⟨hlt, rfl⟩)
  base_total := hwf.base_total
  hash_respects := hwf.hash_respects

theorem StoreWF_set (st : Store) (hst : StoreWF st) (s : NodeId) (n n' : Node) (hn : st.get? s = some n)
    (hp : n'.properties = n.properties) : StoreWF (st.setIfInBounds s n') := by
  intro t m hm
  by_cases hts : t = s
  · subst hts
    cases (get?_set_self hn n').symm.trans hm
    rw [hp]; exact hst t n hn
  · exact hst t m ((get?_set_ne st hts n').symm.trans hm)

theorem go_set_verdict (env : VEnv) (hwf : EnvWF env) (hst : StoreWF env.st) (s : NodeId) (n n' : Node)
    (hn : env.st.get? s = some n) (h : NodeEqv (specEnvOf env) s n n') (hp : n'.properties = n.properties)
    (fuel : Nat) (stack : List NodeId) (hstack : ∀ x, x ∈ stack → (env.info? x).isSome = true) (root : NodeId) (j : Json)
    (hj : Json.WF j = true) (hdef : (Spec.evalFuel (specEnvOf env) fuel stack root j).isSome = true) :
    (Go.validateFuel { env with st := env.st.setIfInBounds s n' } fuel stack (GoVal.ofJson j) root).verdict
      = (Go.validateFuel env fuel stack (GoVal.ofJson j) root).verdict := by
  have hv : (Spec.evalFuel (specEnvOf { env with st := env.st.setIfInBounds s n' }) fuel stack root j).map (·.isSome)
      = (Spec.evalFuel (specEnvOf env) fuel stack root j).map (·.isSome) :=
    (OutRel.verdict_eq (evalFuel_set_sim (specEnvOf env) s n n' hn h hst fuel stack root j hj)).symm
  have hdef' : (Spec.evalFuel (specEnvOf { env with st := env.st.setIfInBounds s n' }) fuel stack root j).isSome = true := by
    rw [← Option.isSome_map (f := (·.isSome)), hv, Option.isSome_map]; exact hdef
  rw [go_verdict_eq env hwf hst fuel stack hstack root j hj hdef,
    go_verdict_eq _ (EnvWF_set env hwf s n') (StoreWF_set env.st hst s n n' hn hp) fuel stack hstack root j hj hdef', hv]

theorem evalFuel_set_eq (env : Spec.Env) (s : NodeId) (n n' : Node) (hn : env.st.get? s = some n)
    (h : ∀ rec scope j, specBody env rec scope s j n = specBody env rec scope s j n') (fuel : Nat) :
    Spec.evalFuel { env with st := env.st.setIfInBounds s n' } fuel = Spec.evalFuel env fuel := by
  refine evalFuel_store_congr env _ (fun rec scope t j => ?_) fuel
  by_cases hts : t = s
  · subst hts
    rw [evalStep_store_get env (get?_set_self hn n'), evalStep_get hn]
    exact (h rec scope j).symm
  · have ho := get?_set_ne env.st hts n'
    cases hg : Store.get? env.st t with
    | none => rw [evalStep_none hg, evalStep_store_none env (ho.trans hg)]
    | some m => rw [evalStep_get hg, evalStep_store_get env (ho.trans hg)]

theorem specBody_eq_of_asserts (env : Spec.Env) (rec : Spec.Rec) (scope : List NodeId) (s : NodeId) (j : Json) (n n' : Node)
    (hl : kwList env rec scope s j n' = kwList env rec scope s j n)
    (ha : assertsOf env n j = assertsOf env n' j) (hr : n'.ref = n.ref)
    (hui : n'.unevaluatedItems = n.unevaluatedItems) (hup : n'.unevaluatedProperties = n.unevaluatedProperties) :
    specBody env rec scope s j n = specBody env rec scope s j n' := by
  unfold specBody
  rw [hr, ← ha, Spec.kwUnevaluatedItems_vocab_fields hui, Spec.kwUnevaluatedProps_vocab_fields hup, Spec.kwRef_fields hr, hl]

section asserts
variable (env : Spec.Env) (n : Node) (j : Json)

theorem asserts_const_enum (v : Json) (hc : n.const = some v) (he : n.enum = none) :
    assertsOf env n j = assertsOf env { n with const := none, enum := some [v] } j := by
  simp only [assertsOf, Spec.constOk, Spec.enumOk, hc, he, List.any_cons, List.any_nil, Bool.or_false,
    Bool.and_true]
  rfl

theorem asserts_enum_set (es es' : List Json) (he : n.enum = some es) (hset : ∀ v, v ∈ es ↔ v ∈ es') :
    assertsOf env n j = assertsOf env { n with enum := some es' } j := by
  simp only [assertsOf, Spec.enumOk, he, any_eq_of_mem_iff (p := fun e => Json.eqv e j) hset]
  rfl

theorem asserts_type_singleton (t : String) (ht : t ≠ "") (h1 : n.type = "") (h2 : n.types = some [t]) :
    assertsOf env n j = assertsOf env { n with type := t, types := none } j := by
  have hb : (t != "") = true := by simpa using ht
  simp only [assertsOf, Spec.typeOk, h1, h2, hb, bne_self_eq_false, Bool.false_eq_true, if_false, if_true, List.any_cons,
    List.any_nil, Bool.or_false]
  rfl

theorem typeMatches_integer_number (h : Spec.typeMatches "integer" j = true) : Spec.typeMatches "number" j = true := by
  unfold Spec.typeMatches at h ⊢
  simp only [Bool.or_eq_true, Bool.and_eq_true, beq_iff_eq] at h ⊢
  rcases h with h | h
  · exact Or.inr ⟨h, trivial⟩
  · exact absurd h.2 (by decide)

theorem assertsOf_type_only (t : String) (ht : t ≠ "") : assertsOf env { type := t } j = Spec.typeMatches t j := by
  have hb : (t != "") = true := by simpa using ht
  unfold assertsOf
  rw [enumOk_absent _ j rfl, constOk_absent _ j rfl, numericOk_absent _ j rfl rfl rfl rfl rfl,
    stringOk_absent env _ j rfl rfl rfl, arrayLimitsOk_absent _ j rfl rfl rfl,
    objectLimitsOk_absent env _ j rfl rfl rfl rfl rfl]
  simp [Spec.typeOk, hb]

end asserts

section exact
variable (env : Spec.Env) (rec : Spec.Rec) (scope : List NodeId) (s : NodeId) (j : Json) (n : Node)

theorem specBody_const_enum (v : Json) (hc : n.const = some v) (he : n.enum = none) :
    specBody env rec scope s j n = specBody env rec scope s j { n with const := none, enum := some [v] } :=
  specBody_eq_of_asserts env rec scope s j n { n with const := none, enum := some [v] } rfl
    (asserts_const_enum env n j v hc he) rfl rfl rfl

theorem specBody_enum_set (es es' : List Json) (he : n.enum = some es) (hset : ∀ v, v ∈ es ↔ v ∈ es') :
    specBody env rec scope s j n = specBody env rec scope s j { n with enum := some es' } :=
  specBody_eq_of_asserts env rec scope s j n { n with enum := some es' } rfl
    (asserts_enum_set env n j es es' he hset) rfl rfl rfl

theorem specBody_type_singleton (t : String) (ht : t ≠ "") (h1 : n.type = "") (h2 : n.types = some [t]) :
    specBody env rec scope s j n = specBody env rec scope s j { n with type := t, types := none } :=
  specBody_eq_of_asserts env rec scope s j n { n with type := t, types := none } rfl
    (asserts_type_singleton env n j t ht h1 h2) rfl rfl rfl

end exact

end Laws
end JSV
