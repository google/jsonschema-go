/-
  C10: "neither panic nor out of fuel" (`NoPF`) for the pointer walk; for checkStructure no panic, and no running out of
  fuel from an accumulator with `AccOK` once `st.size + 1 ≤ |acc| + fuel`; for applyDefaults no panic on a store whose
  schemas have info records and whose property targets exist.
-/
import JSV.Proofs.NoPF
import JSV.Proofs.Dfl
import JSV.Model.Pointer
import JSV.Proofs.ResShape
namespace JSV
namespace C10
open Go
open Go.RInv (ids)

theorem parse_NoPF (p : String) : NoPF (Pointer.parse p) := by
  unfold Pointer.parse
  split
  · exact NoPF_ok _
  · exact NoPF_ok _
  · exact NoPF_err

theorem step_NoPF (st : Store) (strict : Bool) (cur : Pointer.Cursor) (seg : String) :
    NoPF (Pointer.step st strict cur seg) := by
  unfold Pointer.step
  repeat' split
  all_goals first | exact NoPF_ok _ | exact NoPF_err

theorem walk_NoPF (st : Store) (strict : Bool) : ∀ (segs : List String) (cur : Pointer.Cursor),
    NoPF (Pointer.walk st strict cur segs)
  | [], cur => NoPF_ok _
  | seg :: rest, cur => by
    rw [Pointer.walk]
    exact NoPF_bind (step_NoPF st strict cur seg) fun c _ => walk_NoPF st strict rest c

theorem dereference_NoPF (st : Store) (strict nilIsError : Bool) (root : NodeId) (sptr : String) :
    NoPF (Pointer.dereference st strict nilIsError root sptr) := by
  unfold Pointer.dereference
  refine NoPF_bind (parse_NoPF sptr) fun segs _ => NoPF_bind (walk_NoPF st strict segs _) fun cur _ => ?_
  repeat' split
  all_goals first | exact NoPF_ok _ | exact NoPF_err

/-- checkStructure's accumulator as a whole: the recorded ids are pairwise distinct and exist (so there are at most
    `st.size` of them); `Pointer.AccOk` speaks of one entry and of its recorded path -/
def AccOK (st : Store) (acc : List (NodeId × Info)) : Prop :=
  (ids acc).Nodup ∧ ∀ id ∈ ids acc, (st.get? id).isSome = true

theorem AccOK_length (st : Store) (acc : List (NodeId × Info)) (h : AccOK st acc) : acc.length ≤ st.size := by
  have hsub : ids acc ⊆ List.range st.size := by
    intro id hid
    have := h.2 id hid
    rw [List.mem_range]
    unfold Store.get? at this
    cases hg : st[id]? with
    | none => rw [hg] at this; cases this
    | some n => exact (Array.getElem?_eq_some_iff.1 hg).1
  have := h.1.length_le_of_subset hsub
  simpa [ids] using this

theorem AccOK_snoc (st : Store) (acc : List (NodeId × Info)) (id : NodeId) (i : Info) (h : AccOK st acc)
    (hn : id ∉ ids acc) (hex : (st.get? id).isSome = true) : AccOK st (acc ++ [(id, i)]) := by
  refine ⟨?_, ?_⟩
  · simp only [ids, List.map_append, List.map_cons, List.map_nil]
    rw [List.nodup_append]
    refine ⟨h.1, by simp, ?_⟩
    intro a ha b hb
    simp only [List.mem_cons, List.not_mem_nil, or_false] at hb
    subst hb
    rintro rfl
    exact hn ha
  · intro x hx
    simp only [ids, List.map_append, List.map_cons, List.map_nil, List.mem_append, List.mem_cons,
      List.not_mem_nil, or_false] at hx
    rcases hx with hx | rfl
    · exact h.2 x hx
    · exact hex

/-- each step either errs or records a NEW existing id: `st.size + 1 - |acc|` steps always suffice, on any graph,
    from an accumulator with `AccOK` -/
theorem checkStructure_no_fuel_gen (st : Store) : ∀ fuel work acc, AccOK st acc → st.size + 1 ≤ acc.length + fuel →
    checkStructure st fuel work acc ≠ .fuel := by
  intro fuel
  induction fuel with
  | zero =>
    intro work acc hacc hle
    have := AccOK_length st acc hacc
    omega
  | succ fuel ih =>
    intro work acc hacc hle
    cases work with
    | nil => simp [checkStructure]
    | cons w rest =>
      obtain ⟨id, path⟩ := w
      rw [Go.RPerm.cs_cons]
      split
      · simp
      · next n hn =>
        split
        · simp
        · next hl =>
          apply ih
          · refine AccOK_snoc st acc id _ hacc ?_ (by simp [hn])
            refine (Go.lookupNat_eq_none_iff id acc).mp ?_
            simpa using hl
          · simp only [List.length_append, List.length_cons, List.length_nil]; omega

theorem checkStructure_no_panic_gen (st : Store) : ∀ fuel work acc, checkStructure st fuel work acc ≠ .panic := by
  intro fuel
  induction fuel with
  | zero => intro work acc; simp [checkStructure]
  | succ fuel ih =>
    intro work acc
    cases work with
    | nil => simp [checkStructure]
    | cons w rest =>
      obtain ⟨id, path⟩ := w
      rw [Go.RPerm.cs_cons]
      split
      · simp
      · split
        · simp
        · exact ih _ _

theorem checkStructure_accOK (st : Store) : ∀ fuel work acc res, checkStructure st fuel work acc = .ok res →
    AccOK st acc → AccOK st res :=
  Go.RPerm.checkStructure_inv st (fun _ acc => AccOK st acc)
    (fun id _ _ _ acc hn hid h => AccOK_snoc st acc id _ h hid (by rw [hn]; rfl))

theorem checkStructure_accOK_nil {st : Store} {fuel work res} (h : checkStructure st fuel work [] = .ok res) :
    AccOK st res := checkStructure_accOK st fuel work [] res h ⟨List.nodup_nil, fun _ h => nomatch h⟩

theorem defaultsLoop_NoP (st : Store) (rec : DRec) (req : List String) :
    ∀ (props : List (String × NodeId)) (kvs : List (String × Json)),
      (∀ p c, (p, c) ∈ props → (st.get? c).isSome = true ∧ ∀ x, NoP (rec c x)) →
      NoP (defaultsLoop st rec req props kvs) := by
  intro props
  induction props with
  | nil => intro kvs _; simp [defaultsLoop, NoP]
  | cons q rest ih =>
    intro kvs h
    obtain ⟨prop, sub⟩ := q
    have hrest : ∀ p c, (p, c) ∈ rest → (st.get? c).isSome = true ∧ ∀ x, NoP (rec c x) :=
      fun p c hm => h p c (List.mem_cons_of_mem _ hm)
    obtain ⟨hex, hrec⟩ := h prop sub List.mem_cons_self
    rw [C15.defaultsLoop_cons]
    split
    · exact ih _ hrest
    · next hs => rw [C15.dflStep_panic hs] at hex; cases hex
    · exact NoP_bind (hrec _) fun v _ => ih _ hrest

theorem applyDefaultsFuel_NoP (env : VEnv) (hinfo : ∀ s n, env.st.get? s = some n → (env.info? s).isSome = true)
    (hprops : ∀ s n, env.st.get? s = some n → ∀ p c, (p, c) ∈ n.properties.getD [] → (env.st.get? c).isSome = true) :
    ∀ fuel id inst, (env.st.get? id).isSome = true →
    NoP (applyDefaultsFuel env fuel id inst) := by
  intro fuel
  induction fuel with
  | zero => intro id inst _; simp [applyDefaultsFuel, NoP]
  | succ fuel ih =>
    intro id inst hex
    simp only [applyDefaultsFuel, applyDefaultsStep]
    split
    · next hn => rw [hn] at hex; cases hex
    · next n hn =>
      split
      · next hi => have := hinfo id n hn; rw [hi] at this; cases this
      · split
        · refine NoP_bind (defaultsLoop_NoP _ _ _ _ _ ?_) fun _ _ => by simp [NoP]
          intro p c hm
          have hc := hprops id n hn p c hm
          exact ⟨hc, fun x => ih c x hc⟩
        · simp [NoP]

theorem defaultsLoop_NoFuel (st : Store) (rec : DRec) (req : List String) :
    ∀ (props : List (String × NodeId)) (kvs : List (String × Json)),
      (∀ p c, (p, c) ∈ props → ∀ x, rec c x ≠ .fuel) →
      defaultsLoop st rec req props kvs ≠ .fuel := by
  intro props
  induction props with
  | nil => intro kvs _; simp [defaultsLoop]
  | cons q rest ih =>
    intro kvs h
    obtain ⟨prop, sub⟩ := q
    have hrest : ∀ p c, (p, c) ∈ rest → ∀ x, rec c x ≠ .fuel :=
      fun p c hm => h p c (List.mem_cons_of_mem _ hm)
    rw [C15.defaultsLoop_cons]
    split
    · exact ih _ hrest
    · simp
    · exact NoF_bind (h prop sub List.mem_cons_self _) fun v _ => ih _ hrest

end C10
end JSV
