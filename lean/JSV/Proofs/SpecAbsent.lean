/-
  A keyword whose fields are absent holds and evaluates nothing; an assertion whose fields are absent is true.
-/
import JSV.Spec.Valid
import JSV.Proofs.ListFacts
namespace JSV
namespace Laws
open Go

section absent
variable (env : Spec.Env) (sub : NodeId → Json → Spec.Out) (n : Node) (j : Json)

theorem kwRef_absent (s : NodeId) (h : n.ref = "") : Spec.kwRef env sub s n j = some (some {}) := by
  simp [Spec.kwRef, Spec.inPlace, h]

theorem kwDynamicRef_absent (scope : List NodeId) (s : NodeId) (h : n.dynamicRef = "") :
    Spec.kwDynamicRef env sub scope s n j = some (some {}) := by
  simp [Spec.kwDynamicRef, h]

theorem vocab_dynamicRef_absent (d : Draft) (h : n.dynamicRef = "") : (Spec.vocab d n).dynamicRef = "" := by
  cases d <;> simp [Spec.vocab, h]

theorem kwDynamicRef_vocab_absent (d : Draft) (scope : List NodeId) (s : NodeId) (h : n.dynamicRef = "") :
    Spec.kwDynamicRef env sub scope s (Spec.vocab d n) j = some (some {}) :=
  kwDynamicRef_absent env sub (Spec.vocab d n) j scope s (vocab_dynamicRef_absent n d h)

theorem kwAllOf_absent (h : n.allOf = none) : Spec.kwAllOf sub n j = some (some {}) := by
  simp [Spec.kwAllOf, h]

theorem kwAnyOf_absent (h : n.anyOf = none) : Spec.kwAnyOf sub n j = some (some {}) := by
  simp [Spec.kwAnyOf, h]

theorem kwOneOf_absent (h : n.oneOf = none) : Spec.kwOneOf sub n j = some (some {}) := by
  simp [Spec.kwOneOf, h]

theorem kwNot_absent (h : n.not = none) : Spec.kwNot sub n j = some (some {}) := by
  simp [Spec.kwNot, h]

theorem kwIf_absent (h : n.if_ = none) : Spec.kwIf sub n j = some (some {}) := by
  simp [Spec.kwIf, h]

theorem arrayShape_absent (h1 : n.prefixItems = none) (h2 : n.items = none) (h3 : n.itemsArray = none) :
    Spec.arrayShape env n = ([], none) := by
  unfold Spec.arrayShape
  cases env.draft <;> simp [h1, h2, h3]

theorem kwItems_absent (h1 : n.prefixItems = none) (h2 : n.items = none) (h3 : n.itemsArray = none) :
    Spec.kwItems env sub n j = some (some {}) := by
  unfold Spec.kwItems
  cases j <;> simp [arrayShape_absent env n h1 h2 h3, Spec.sequence, Spec.allHold, Spec.indices]

theorem kwContains_absent (h : n.contains = none) : Spec.kwContains sub n j = some (some {}) := by
  unfold Spec.kwContains
  cases j <;> simp [h]

theorem kwContains_vocab_absent (d : Draft) (h : n.contains = none) :
    Spec.kwContains sub (Spec.vocab d n) j = some (some {}) := kwContains_absent sub (Spec.vocab d n) j h

theorem kwProps_absent (h1 : n.properties = none) (h2 : n.patternProperties = none)
    (h3 : n.additionalProperties = none) : Spec.kwProps env sub n j = some (some {}) := by
  unfold Spec.kwProps
  cases j <;> simp [h1, h2, h3, Spec.sequence, Spec.allHold, filterMap_none, flatMap_nil_fun]

theorem kwPropertyNames_absent (h : n.propertyNames = none) : Spec.kwPropertyNames sub n j = some (some {}) := by
  unfold Spec.kwPropertyNames
  cases j <;> simp [h]

theorem kwDependentSchemas_absent (h1 : n.dependencySchemas = none) (h2 : n.dependentSchemas = none) :
    Spec.kwDependentSchemas env sub n j = some (some {}) := by
  unfold Spec.kwDependentSchemas
  cases j <;> cases env.draft <;> simp [h1, h2, Spec.sequence, Spec.conj, Spec.Ev.unions]

theorem kwUnevaluatedItems_absent (ev : Spec.Ev) (h : n.unevaluatedItems = none) :
    Spec.kwUnevaluatedItems sub n j ev = some (some {}) := by
  unfold Spec.kwUnevaluatedItems
  cases j <;> simp [h]

theorem kwUnevaluatedProps_absent (ev : Spec.Ev) (h : n.unevaluatedProperties = none) :
    Spec.kwUnevaluatedProps sub n j ev = some (some {}) := by
  unfold Spec.kwUnevaluatedProps
  cases j <;> simp [h]

theorem typeOk_absent (h1 : n.type = "") (h2 : n.types = none) : Spec.typeOk n j = true := by
  simp [Spec.typeOk, h1, h2]

theorem enumOk_absent (h : n.enum = none) : Spec.enumOk n j = true := by simp [Spec.enumOk, h]

theorem constOk_absent (h : n.const = none) : Spec.constOk n j = true := by simp [Spec.constOk, h]

theorem numericOk_absent (h1 : n.multipleOf = none) (h2 : n.minimum = none) (h3 : n.maximum = none)
    (h4 : n.exclusiveMinimum = none) (h5 : n.exclusiveMaximum = none) : Spec.numericOk n j = true := by
  unfold Spec.numericOk
  cases j <;> simp [h1, h2, h3, h4, h5]

theorem stringOk_absent (h1 : n.minLength = none) (h2 : n.maxLength = none) (h3 : n.pattern = "") :
    Spec.stringOk env n j = true := by
  unfold Spec.stringOk
  cases j <;> simp [h1, h2, h3]

theorem arrayLimitsOk_absent (h1 : n.minItems = none) (h2 : n.maxItems = none) (h3 : n.uniqueItems = false) :
    Spec.arrayLimitsOk n j = true := by
  unfold Spec.arrayLimitsOk
  cases j <;> simp [h1, h2, h3]

theorem objectLimitsOk_absent (h1 : n.minProperties = none) (h2 : n.maxProperties = none) (h3 : n.required = none)
    (h4 : n.dependencyStrings = none) (h5 : n.dependentRequired = none) : Spec.objectLimitsOk env n j = true := by
  unfold Spec.objectLimitsOk
  cases j <;> cases env.draft <;> simp [h1, h2, h3, h4, h5]

end absent

end Laws
end JSV
