/-
  Algebraic laws: locations.  The keywords that apply subschemas at CHILD instance locations (`properties`,
  `patternProperties`, `additionalProperties`, `propertyNames`, `prefixItems`, `items`, `contains`, `unevaluated*`) use of
  those applications the verdict only: what was evaluated at a child location never reaches the parent
  (`C07.child_locations_invisible`).  Hence one step of the Spec at the instance `j` depends on the applications at other
  instances through their verdicts only (`evalStep_agree`), at every level of the in-place nesting — what a cousin
  evaluated at a child location is invisible (`C07.cousins_invisible`).
-/
import JSV.Proofs.SpecLaws
import JSV.Proofs.SpecStepCalls
namespace JSV
namespace Laws
open Go GoVal Refine _root_.JSV.Inv

def forgetR (r : Spec.R) : Spec.R := r.map fun _ => {}

def forget (o : Spec.Out) : Spec.Out := o.map forgetR

@[simp] theorem forget_none : forget none = none := rfl
@[simp] theorem forget_some (r : Spec.R) : forget (some r) = some (forgetR r) := rfl
@[simp] theorem forget_forget (o : Spec.Out) : forget (forget o) = forget o := by
  cases o with
  | none => rfl
  | some r => cases r <;> rfl

theorem forget_isSome (o : Spec.Out) : (forget o).map Option.isSome = o.map Option.isSome := by
  cases o with
  | none => rfl
  | some r => cases r <;> rfl

/-! The child-location keywords see of their calls only which succeeded (`Calls.verdicts`): `contains` keeps which items
    matched, `properties` / `patternProperties` / `additionalProperties` keep the names matched — these ARE evaluated at
    this location — and nothing of what was evaluated inside. -/

theorem forget_calls {α : Type} {Q : NodeId → Json → Prop} {f : Sub → Option α}
    (h : Calls True (fun _ _ => False) Q f) (sub : Sub) : f (fun t v => forget (sub t v)) = f sub :=
  h.congr (fun _ _ h => h.elim) fun _ _ _ => forget_isSome _

structure AgreeAt (j : Json) (rec rec' : Spec.Rec) : Prop where
  here : ∀ sc t, rec' sc t j = rec sc t j
  elsewhere : ∀ sc t v, forget (rec' sc t v) = forget (rec sc t v)

theorem specBody_agree (env : Spec.Env) (rec rec' : Spec.Rec) (scope : List NodeId) (s : NodeId) (j : Json) (n : Node)
    (h : AgreeAt j rec rec') : specBody env rec' scope s j n = specBody env rec scope s j n :=
  (specBody_calls env scope s j n).congr (fun t _ hp => hp.2 ▸ h.here _ t)
    fun t v _ => by rw [← forget_isSome, h.elsewhere, forget_isSome]

theorem evalStep_agree (env : Spec.Env) (rec rec' : Spec.Rec) (scope : List NodeId) (s : NodeId) (j : Json)
    (h : AgreeAt j rec rec') : Spec.evalStep env rec' scope s j = Spec.evalStep env rec scope s j := by
  cases hn : env.st.get? s with
  | none => rw [evalStep_none hn, evalStep_none hn]
  | some n => rw [evalStep_get hn, evalStep_get hn]; exact specBody_agree env rec rec' scope s j n h

open Classical in
noncomputable def eraseOff (j : Json) (rec : Spec.Rec) : Spec.Rec :=
  fun sc t v => if v = j then rec sc t v else forget (rec sc t v)

theorem eraseOff_agree (j : Json) (rec : Spec.Rec) : AgreeAt j rec (eraseOff j rec) where
  here := by intro sc t; simp [eraseOff]
  elsewhere := by
    intro sc t v
    unfold eraseOff
    split
    · rfl
    · exact forget_forget _

theorem namedL_keys (sub : NodeId → Json → Spec.Out) (ps : List (String × NodeId)) (kvs : List (String × Json)) :
    (namedL sub ps kvs).map (·.1) = (kvs.filter fun p => (Json.lookup p.1 ps).isSome).map (·.1) := by
  unfold namedL
  induction kvs with
  | nil => rfl
  | cons p kvs ih =>
    simp only [List.filterMap_cons, List.filter_cons]
    cases Json.lookup p.1 ps with
    | none => simp [ih]
    | some t => simp [ih]

theorem patternedL_nil (reMatch : String → String → Bool) (sub : NodeId → Json → Spec.Out) (kvs : List (String × Json)) :
    patternedL reMatch sub [] kvs = [] :=
  flatMap_nil_fun kvs

theorem kwProps_properties_only (env : Spec.Env) (sub : NodeId → Json → Spec.Out) (ps : List (String × NodeId))
    (kvs : List (String × Json)) (e : Spec.Ev)
    (h : Spec.kwProps env sub { properties := some ps } (.obj kvs) = some (some e)) :
    e = { props := (kvs.filter fun p => (Json.lookup p.1 ps).isSome).map (·.1), items := [] } := by
  rw [kwProps_none env sub _ kvs rfl] at h
  simp only [Option.map_eq_some_iff] at h
  obtain ⟨rs, _, hr⟩ := h
  split at hr
  · simp only [Option.some.injEq] at hr
    subst hr
    show ({ props := _, items := [] } : Spec.Ev) = _
    congr 1
    show ((namedL sub ps kvs ++ patternedL env.reMatch sub [] kvs ++ []).map (fun (p : String × Spec.Out) => p.1)) = _
    rw [patternedL_nil, List.append_nil, List.append_nil]
    exact namedL_keys sub ps kvs
  · cases hr

end Laws
end JSV
