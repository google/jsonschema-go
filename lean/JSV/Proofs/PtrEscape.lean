/-
  For C17: the two strings.Replacer tables, escape / unescape, split, parse ∘ render.
-/
import JSV.Model.Pointer
namespace JSV
namespace Pointer

theorem escapePairs_eq : escapePairs = [(['~'],['~','0']), (['/'],['~','1'])] := by decide +kernel
theorem unescapePairs_eq : unescapePairs = [(['~','0'],['~']), (['~','1'],['/'])] := by decide +kernel

/-- the per-character image of the escaper -/
def escChar (c : Char) : List Char :=
  if c = '~' then ['~','0'] else if c = '/' then ['~','1'] else [c]

theorem replaceAux_escape (fuel : Nat) (s : Cs) (h : s.length ≤ fuel) :
    replaceAux escapePairs fuel s = s.flatMap escChar := by
  induction fuel generalizing s with
  | zero =>
    cases s with
    | nil => rfl
    | cons c r => simp at h
  | succ fuel ih =>
    cases s with
    | nil => rfl
    | cons c r =>
      have hr : r.length ≤ fuel := by simpa using h
      rw [replaceAux, escapePairs_eq]
      by_cases h1 : c = '~'
      · subst h1
        simp [firstMatch, escChar, ← escapePairs_eq, ih r hr]
      · by_cases h2 : c = '/'
        · subst h2
          simp [firstMatch, escChar, ← escapePairs_eq, ih r hr]
        · have h1' : ¬ '~' = c := fun e => h1 e.symm
          have h2' : ¬ '/' = c := fun e => h2 e.symm
          simp [firstMatch, escChar, h1, h2, h1', h2', ← escapePairs_eq, ih r hr]

theorem replaceAll_escape (s : Cs) : replaceAll escapePairs s = s.flatMap escChar :=
  replaceAux_escape _ s (Nat.le_succ _)

theorem replaceAux_unescape (s : Cs) : ∀ fuel, (s.flatMap escChar).length ≤ fuel →
    replaceAux unescapePairs fuel (s.flatMap escChar) = s := by
  induction s with
  | nil => intro fuel _; cases fuel <;> rfl
  | cons c r ih =>
    intro fuel h
    cases fuel with
    | zero => simp [escChar] at h; split at h <;> (try split at h) <;> simp at h
    | succ fuel =>
      rw [List.flatMap_cons] at h ⊢
      by_cases h1 : c = '~'
      · subst h1
        have hr : (r.flatMap escChar).length ≤ fuel := by
          rw [List.length_append] at h; have e : (escChar '~').length = 2 := rfl; omega
        simp only [escChar, if_true, List.cons_append, List.nil_append]
        rw [replaceAux, unescapePairs_eq]
        simp [firstMatch, ← unescapePairs_eq, ih fuel hr]
      · by_cases h2 : c = '/'
        · subst h2
          have hr : (r.flatMap escChar).length ≤ fuel := by
            rw [List.length_append] at h; have e : (escChar '/').length = 2 := rfl; omega
          have e : escChar '/' = ['~', '1'] := rfl
          rw [e]
          simp only [List.cons_append, List.nil_append]
          rw [replaceAux, unescapePairs_eq]
          simp [firstMatch, ← unescapePairs_eq, ih fuel hr]
        · have hr : (r.flatMap escChar).length ≤ fuel := by
            rw [List.length_append] at h
            have e : (escChar c).length = 1 := by simp [escChar, h1, h2]
            omega
          have h1' : ¬ '~' = c := fun e => h1 e.symm
          simp only [escChar, if_neg h1, if_neg h2, List.cons_append, List.nil_append]
          rw [replaceAux, unescapePairs_eq]
          simp [firstMatch, h1', ← unescapePairs_eq, ih fuel hr]

theorem replaceAll_unescape_escape (s : Cs) :
    replaceAll unescapePairs (replaceAll escapePairs s) = s := by
  rw [replaceAll_escape, replaceAll]
  exact replaceAux_unescape s _ (Nat.le_succ _)

theorem toList_escapeSegment (s : String) : (escapeSegment s).toList = s.toList.flatMap escChar := by
  simp [escapeSegment, replaceAll_escape]

theorem unescapeSegment_escapeSegment (s : String) : unescapeSegment (escapeSegment s) = s := by
  unfold unescapeSegment
  rw [toList_escapeSegment, ← replaceAll_escape, replaceAll_unescape_escape, String.ofList_toList]

theorem slash_not_mem_escChars (s : Cs) : '/' ∉ s.flatMap escChar := by
  intro h
  rw [List.mem_flatMap] at h
  obtain ⟨c, _, hc⟩ := h
  unfold escChar at hc
  split at hc
  · simp at hc
  · split at hc
    · simp at hc
    · simp at hc; exact absurd hc.symm ‹_›

theorem escChars_eq_self (s : Cs) (h : ∀ c ∈ s, c ≠ '~' ∧ c ≠ '/') : s.flatMap escChar = s := by
  induction s with
  | nil => rfl
  | cons c r ih =>
    rw [List.flatMap_cons, ih (fun x hx => h x (List.mem_cons_of_mem _ hx))]
    have := h c (by simp)
    simp [escChar, this.1, this.2]

/-- both special characters are written with a `~` -/
theorem escChars_eq_self_of_no_tilde (s : Cs) (h : '~' ∉ s.flatMap escChar) : s.flatMap escChar = s :=
  escChars_eq_self s fun c hc =>
    ⟨fun e => h (List.mem_flatMap.mpr ⟨c, hc, by rw [e]; decide⟩),
      fun e => h (List.mem_flatMap.mpr ⟨c, hc, by rw [e]; decide⟩)⟩

theorem splitOn_cons_sep (c : Char) (r : Cs) : splitOn c (c :: r) = [] :: splitOn c r := by
  simp [splitOn]

theorem splitOn_cons_ne (c x : Char) (r h : Cs) (t : List Cs) (hx : x ≠ c) (hr : splitOn c r = h :: t) :
    splitOn c (x :: r) = (x :: h) :: t := by
  unfold splitOn at hr ⊢
  rw [List.foldr_cons]
  generalize List.foldr _ _ r = p at hr ⊢
  obtain ⟨p1, p2⟩ := p
  simp only [List.cons.injEq] at hr
  have hx' : (x == c) = false := by simpa using hx
  simp [hx', hr.1, hr.2]

theorem splitOn_no_sep (c : Char) (a : Cs) (h : c ∉ a) : splitOn c a = [a] := by
  induction a with
  | nil => rfl
  | cons x r ih =>
    have hx : x ≠ c := fun e => h (by simp [e])
    have hr : c ∉ r := fun m => h (List.mem_cons_of_mem _ m)
    exact splitOn_cons_ne c x r r [] hx (ih hr)

theorem splitOn_append_sep (c : Char) (a b : Cs) (h : c ∉ a) :
    splitOn c (a ++ c :: b) = a :: splitOn c b := by
  induction a with
  | nil => exact splitOn_cons_sep c b
  | cons x r ih =>
    have hx : x ≠ c := fun e => h (by simp [e])
    have hr : c ∉ r := fun m => h (List.mem_cons_of_mem _ m)
    exact splitOn_cons_ne c x _ r _ hx (ih hr)

def escL (s : String) : Cs := s.toList.flatMap escChar

theorem slash_toList : "/".toList = ['/'] := by decide

theorem toList_render (segs : List String) :
    (render segs).toList = segs.flatMap fun s => '/' :: escL s := by
  have h : ∀ s : String, ("/" ++ escapeSegment s).toList = '/' :: escL s := fun s => by
    rw [String.toList_append, toList_escapeSegment, slash_toList]; rfl
  unfold render
  rw [String.toList_join, List.flatMap_map]
  exact congrArg (fun f => List.flatMap f segs) (funext h)

theorem splitOn_rendered (s : String) (ss : List String) :
    splitOn '/' (escL s ++ ss.flatMap (fun s => '/' :: escL s)) = (s :: ss).map escL := by
  induction ss generalizing s with
  | nil => simp [splitOn_no_sep '/' (escL s) (slash_not_mem_escChars s.toList)]
  | cons t ts ih =>
    rw [List.flatMap_cons, List.cons_append,
      splitOn_append_sep '/' (escL s) _ (slash_not_mem_escChars s.toList), ih t]
    rfl

theorem parse_render (segs : List String) : parse (render segs) = .ok segs := by
  cases segs with
  | nil =>
    unfold parse
    rw [toList_render]
    rfl
  | cons s ss =>
    unfold parse
    rw [toList_render]
    simp only [List.flatMap_cons, List.cons_append]
    rw [splitOn_rendered]
    split
    · -- a '~' somewhere: every segment is unescaped
      apply congrArg Res.ok
      rw [List.map_map, List.map_map]
      conv => rhs; rw [← List.map_id (s :: ss)]
      apply List.map_congr_left
      intro a _
      show unescapeSegment (String.ofList (escL a)) = a
      have : String.ofList (escL a) = escapeSegment a := by
        simp [escL, escapeSegment, replaceAll_escape]
      rw [this, unescapeSegment_escapeSegment]
    · -- no '~' anywhere: the escaper was the identity on every segment
      rename_i hc
      apply congrArg Res.ok
      rw [List.map_map]
      conv => rhs; rw [← List.map_id (s :: ss)]
      apply List.map_congr_left
      intro a ha
      show String.ofList (escL a) = a
      have hno : '~' ∉ escL a := by
        intro hm
        apply hc
        rw [List.contains_iff_mem]
        have : '~' ∈ (s :: ss).flatMap fun s => '/' :: escL s :=
          List.mem_flatMap.mpr ⟨a, ha, List.mem_cons_of_mem _ hm⟩
        simpa [List.flatMap_cons] using this
      rw [escL, escChars_eq_self_of_no_tilde _ hno, String.ofList_toList]

end Pointer
end JSV
