/-
  The normal forms of the JSON round trip (`Go.normNode`) are invisible to Resolve.

  As in JSV/Proofs/IsoTrees.lean for validation, in three steps:
  (1) the nil-vs-empty normalisations and the fields Resolve does not read (`Iso.preNorm`): the same ids, `RNode Eq`
      — an instance of the simulation along a renaming (`RIso.resolve_rel`) with the identity as renaming;
  (2) the eight maps in the order they come back (ascending keys; "properties" in emission order): a permutation of
      the entry lists at fixed ids — `RPerm.resolve_rel`, the lemma behind C14;
  (3) the tree read back is a copy, node by node, of the normalised original (`Go.TreeEq`): `RIso.resolve_rel` along
      the pairing of the two trees.
  This file has the node-level facts; the steps are put together in JSV/Proofs/ResIsoNormDocs.lean.
-/
import JSV.Proofs.ResIsoTrees
import JSV.Proofs.IsoTrees
namespace JSV
namespace Go
namespace RIso

/-- the same field up to nil-vs-empty: `cs.getD []` is all the resolver reads of a list or map of schemas -/
inductive FieldEqv : ChildField → ChildField → Prop
  | one (j c) : FieldEqv (.one j c) (.one j c)
  | many {j cs cs'} : cs.getD [] = cs'.getD [] → FieldEqv (.many j cs) (.many j cs')
  | keyed {j cs cs'} : cs.getD [] = cs'.getD [] → FieldEqv (.keyed j cs) (.keyed j cs')

theorem flatMap_eqv {β : Type} {g : ChildField → List β} (hg : ∀ f f', FieldEqv f f' → g f = g f') :
    ∀ {fs fs' : List ChildField}, ListRel FieldEqv fs fs' → fs.flatMap g = fs'.flatMap g
  | _, _, .nil => rfl
  | _, _, .cons h1 h2 => by rw [List.flatMap_cons, List.flatMap_cons, hg _ _ h1, flatMap_eqv hg h2]

theorem children_eqv {n n' : Node} (h : ListRel FieldEqv n.childFields n'.childFields) : n.children = n'.children := by
  unfold Node.children
  refine flatMap_eqv (fun f f' hf => ?_) h
  cases hf with
  | one => rfl
  | many e => exact e
  | keyed e =>
    show (sortByKey _).map _ = (sortByKey _).map _
    rw [e]

theorem entries_eqv {n n' : Node} (h : ListRel FieldEqv n.childFields n'.childFields) (path : String) :
    childEntries n path = childEntries n' path := by
  unfold childEntries
  refine flatMap_eqv (fun f f' hf => ?_) h
  cases hf with
  | one => rfl
  | many e => dsimp only; rw [e]
  | keyed e => dsimp only; rw [e]

theorem emptyKV_isSome {α : Type} (m : Option (List (String × α))) (h : (Iso.emptyKV m).isSome = true) :
    m.isSome = true := by
  cases m with
  | none => cases h
  | some _ => rfl

theorem normKV_isSome {α : Type} (m : Option (List (String × α))) (h : (normKV m).isSome = true) :
    m.isSome = true := by
  cases m with
  | none => cases h
  | some _ => rfl

theorem depNil_keys_any (m : Option (List (String × Option (List String)))) (k : String) :
    (((Iso.depNil m).getD []).any fun x => x.1 == k) = ((m.getD []).any fun x => x.1 == k) := by
  cases m with
  | none => rfl
  | some l =>
    cases l with
    | nil => rfl
    | cons e es =>
      show (((e :: es).map fun e => (e.1, some (e.2.getD []))).any fun x => x.1 == k) = _
      rw [List.any_map]
      rfl

theorem preNorm_fields (n : Node) : ListRel FieldEqv n.childFields (Iso.preNorm n).childFields := by
  unfold Node.childFields
  repeat' apply ListRel.cons
  all_goals first
    | exact .nil
    | exact .one _ _
    | exact .many rfl
    | exact .keyed rfl
    | exact .keyed (Iso.emptyKV_getD _).symm
    | exact .many (Iso.normList_getD _).symm

/-- checkLocal: the normal forms only remove reasons to fail (`$defs: {}` beside `definitions` ↦ nil; the test on
    `$vocabulary` is a test of presence, which `normVocab` keeps: `normVocab_isSome`) -/
theorem checkLocalOk_preNorm (env : Env) (n : Node) (h : checkLocalOk env n = true) :
    checkLocalOk env (Iso.preNorm n) = true := by
  unfold checkLocalOk basicChecksOk at h ⊢
  simp only [Bool.and_eq_true] at h ⊢
  obtain ⟨⟨⟨⟨⟨⟨⟨h1, h2⟩, h3⟩, _⟩, h5⟩, h6⟩, h7⟩, h8⟩ := h
  refine ⟨⟨⟨⟨⟨⟨⟨h1, ?_⟩, h3⟩, rfl⟩, ?_⟩, ?_⟩, h7⟩, ?_⟩
  · show (!((Iso.emptyKV n.defs).isSome && (Iso.emptyKV n.definitions).isSome)) = true
    cases e1 : (Iso.emptyKV n.defs).isSome with
    | false => rfl
    | true =>
      cases e2 : (Iso.emptyKV n.definitions).isSome with
      | false => rfl
      | true => rw [emptyKV_isSome _ e1, emptyKV_isSome _ e2] at h2; exact h2
  · show (!(((Iso.emptyKV n.dependencySchemas).getD []).any fun x =>
      ((Iso.depNil n.dependencyStrings).getD []).any fun x' => x'.1 == x.1)) = true
    rw [Iso.emptyKV_getD]
    have : (fun (x : String × NodeId) => ((Iso.depNil n.dependencyStrings).getD []).any fun x' => x'.1 == x.1) =
        (fun (x : String × NodeId) => (n.dependencyStrings.getD []).any fun x' => x'.1 == x.1) := by
      funext x
      exact depNil_keys_any _ _
    rw [this]
    exact h5
  · show (!((normVocab n.vocabulary).isSome && n.schema != "https://json-schema.org/draft/2020-12/schema")) = true
    rw [normVocab_isSome]
    exact h6
  · show (((Iso.emptyKV n.patternProperties).getD []).all fun x => env.reOk x.1) = true
    rw [Iso.emptyKV_getD]
    exact h8

theorem field_preNorm (st₁ st₂ : Store) (n : Node) (name : String) :
    OptRel (CurRel Eq st₁ st₂) (Pointer.lookupField n name) (Pointer.lookupField (Iso.preNorm n) name) := by
  refine lookupField_rel (C := CurRel Eq st₁ st₂) (n := n) (n' := Iso.preNorm n) trivial
    (OptRel.imp (fun _ _ h => Or.inl h) (OptRel.refl_eq _)) (ListRel.refl_eq _) (fun k => ?_)
    (preNorm_fields n) (fun name f f' hff => ?_) (fun f f' hff => ?_) name
  · show OptRel Eq _ (Json.lookup k ((Iso.emptyKV n.dependencySchemas).getD []))
    rw [Iso.emptyKV_getD]
    exact OptRel.refl_eq _
  · cases hff <;> rfl
  · cases hff with
    | one j c => cases c <;> exact Or.inl rfl
    | many e =>
      show ListRel Eq _ _
      rw [e]
      exact ListRel.refl_eq _
    | keyed e =>
      show ∀ k, OptRel Eq (Json.lookup k _) (Json.lookup k _)
      rw [e]
      exact fun k => OptRel.refl_eq _

theorem rnode_preNorm (env₁ env₂ : Env) (hre : env₁.reOk = env₂.reOk) (n : Node) :
    RNode Eq env₁ env₂ n (Iso.preNorm n) where
  id := rfl
  schema := rfl
  ref := rfl
  anchor := rfl
  dynamicAnchor := rfl
  dynamicRef := rfl
  localOk := fun h => by rw [← checkLocalOk_reOk hre]; exact checkLocalOk_preNorm env₁ n h
  children := by rw [← children_eqv (preNorm_fields n)]; exact ListRel.refl_eq _
  entries := fun path => by
    rw [← entries_eqv (preNorm_fields n) path]
    exact ListRel.refl_of _ fun _ _ => ⟨rfl, rfl⟩
  field := field_preNorm _ _ n

theorem filterMap_self {α : Type} (ps : List (String × α)) (l : List (String × α))
    (h : ∀ e, e ∈ l → Json.lookup e.1 ps = some e.2) :
    (l.map (·.1)).filterMap (fun k => (Json.lookup k ps).map fun v => (k, v)) = l := by
  rw [List.filterMap_map, filterMap_congr_mem (g := some) l fun e he => by rw [Function.comp_apply, h e he]; rfl]
  exact List.filterMap_some

theorem orderedKeys_nodup {ps : List (String × NodeId)} {order : List String} (hn : (ps.map (·.1)).Nodup)
    (ho : order.Nodup) : (orderedKeys ps order).Nodup := by
  rw [orderedKeys_blocks, List.nodup_append]
  refine ⟨ho.filter _, ((sortStrings_perm _).nodup_iff).2 (hn.filter _), ?_⟩
  intro a ha b hb hab
  subst hab
  have h1 := (mem_listedKeys.1 ha).1
  have h2 := (mem_restKeys.1 ((sortStrings_perm _).mem_iff.1 hb)).2
  exact h2 h1

/-- orderedProperties emits every property exactly once -/
theorem propEntries_perm {ps : List (String × NodeId)} {order : List String} (hn : (ps.map (·.1)).Nodup)
    (ho : order.Nodup) : (propEntries ps order).Perm ps := by
  have hk : (orderedKeys ps order).Perm (ps.map (·.1)) := by
    rw [List.perm_ext_iff_of_nodup (orderedKeys_nodup hn ho) hn]
    intro k
    exact ⟨fun h => Json.lookup_isSome_iff.1 (orderedKeys_isSome h), fun h => Iso.mem_orderedKeys h⟩
  have h1 := hk.filterMap (fun k => (Json.lookup k ps).map fun v => (k, v))
  have h2 := filterMap_self ps ps fun e he => Json.lookup_of_mem_nodup hn he
  unfold propEntries
  rw [h2] at h1
  exact h1

/-- what the round trip makes of one node, when its PropertyOrder has no duplicate (else only step (1)) -/
def normT (n : Node) : Node := if hasDup (n.propertyOrder.getD []) then Iso.preNorm n else normNode n

theorem permNode_pre_normT (n : Node) (hn : ((n.properties.getD []).map (·.1)).Nodup) :
    Inv.permNode (Iso.preNorm n) (normT n) := by
  unfold normT
  split
  · exact Inv.permNode.refl _
  · rename_i hd
    have ho : (n.propertyOrder.getD []).Nodup := Classical.not_not.1 fun hnn => hd (hasDup_iff.2 hnn)
    refine ⟨normProps n.properties (n.propertyOrder.getD []), normMap n.patternProperties, normMap n.defs,
      normMap n.definitions, normMap n.dependencySchemas, normDepStrs n.dependencyStrings, normKV n.dependentRequired,
      normMap n.dependentSchemas, ?_, Iso.optPerm_emptyKV_normMap _, Iso.optPerm_emptyKV_normMap _,
      Iso.optPerm_emptyKV_normMap _, Iso.optPerm_emptyKV_normMap _, Iso.optPerm_depNil _, Iso.optPerm_emptyKV_normKV _,
      Iso.optPerm_emptyKV_normMap _, rfl⟩
    show Inv.optPerm n.properties (normProps n.properties (n.propertyOrder.getD []))
    cases hp : n.properties with
    | none => trivial
    | some l =>
      rw [hp] at hn
      exact (propEntries_perm hn ho).symm

theorem emptyKV_eq_some {α : Type} {m : Option (List (String × α))} {kvs : List (String × α)}
    (h : Iso.emptyKV m = some kvs) : m = some kvs := by
  cases m with
  | none => cases h
  | some l =>
    cases l with
    | nil => cases h
    | cons e es => exact h

theorem keysNodup_preNorm {n : Node} (h0 : RPerm.KeysNodup n) : RPerm.KeysNodup (Iso.preNorm n) := by
  obtain ⟨k1, k2, k3, k4, k5, k6⟩ := (RPerm.keysNodup_iff n).mp h0
  exact (RPerm.keysNodup_iff _).mpr ⟨fun kvs e => k1 kvs (emptyKV_eq_some e), fun kvs e => k2 kvs (emptyKV_eq_some e),
    fun kvs e => k3 kvs (emptyKV_eq_some e), fun kvs e => k4 kvs (emptyKV_eq_some e),
    fun kvs e => k5 kvs (emptyKV_eq_some e), k6⟩

/-- no duplicate in PropertyOrder (one of MarshalJSON's own checks) -/
def orderOK (n : Node) : Bool := !hasDup (n.propertyOrder.getD [])

theorem orderOK_of_nodeOK (n : Node) (h : nodeOK n = true) : orderOK n = true := by
  simp only [nodeOK, Bool.and_eq_true] at h
  -- `marshalChecksOk`, the first of `nodeOK`'s fourteen conjuncts
  obtain ⟨⟨⟨⟨⟨⟨⟨⟨⟨⟨⟨⟨⟨hm, -⟩, -⟩, -⟩, -⟩, -⟩, -⟩, -⟩, -⟩, -⟩, -⟩, -⟩, -⟩, -⟩ := h
  replace hm : basicChecksOk n = true := hm
  rw [basicChecksOk_eq] at hm
  simp only [Bool.and_eq_true] at hm
  exact hm.1.2

/-- `b` is the tree read back from the tree below `a`, in which no PropertyOrder has a duplicate -/
def TreeEqS (st st' : Store) (a b : NodeId) : Prop := ∃ d, TreeEq st st' d a b ∧ treeAll orderOK st d a = true

theorem storeWF_of_keysNodup {st : Store} (hk : RPerm.StoreKeysNodup st) : Refine.StoreWF st := by
  intro s n hn
  rw [Json.nodupKeys_iff]
  cases hp : n.properties with
  | none => exact List.nodup_nil
  | some l => exact hk s n hn "properties" l (by rw [← hp]; simp [Node.childFields])

end RIso
end Go
end JSV
