/-
  C04 — the inferred schema accepts every encoded value.  Property theorems only (helper lemmas: the JSV/Proofs
  imports below; the model of encoding/json on the fragment is JSV/Spec/EncJson.lean).

  Vocabulary:
  * `EncJson.GoValue`, `EncJson.HasType T v`, `EncJson.encode T v` : values of the fragment and json.Marshal;
  * `EncJson.InDomain T` : basic kinds Bool / Int* / Uint* / Float* / String / Interface, pointers, slices,
    arrays, string-keyed maps, structs whose non-omitted fields have pairwise distinct JSON names (H_D14) and
    tag names encoding/json accepts (H_D15); no named types;
  * `EncJson.InDomainN T` : the same with declared (named) types, which encoding/json treats like their underlying
    types (`EncJson.erase`); `EncJson.NamedOk opts strs [] T` : `forType` does so too (no type-table entry, no name
    twice along a path) — or the type is one of the marshaler types `strs` of the type table (`infer_sound_named`);
    `EncJson.EntriesAccept opts st false T` (JSV/Proofs/InfTable.lean): every entry of the type table that `forType`
    meets in `T` accepts the encodings of its type (`infer_sound_table_partial`: entries without subschemas);
    `EncJson.EntriesAcceptTree opts st false T` (JSV/Proofs/InfTableTree.lean): the same for entries that are arbitrary
    reference-free schema trees (`infer_sound_table`; `EntriesAcceptDeep … k`: … that may be `k` levels deeper than the
    schema of the type itself, `infer_sound_table_deep`);
  * `Spec.specEnvNoRefs st re` : the Spec environment over the store, draft 2020-12, no references, any
    regexp matcher;
  * `EncJson.depth T` : the nesting depth of the schema, the fuel the Spec needs.
-/
import JSV.Proofs.InfSound
import JSV.Proofs.InfNamed
import JSV.Proofs.InfTable
import JSV.Proofs.InfTableTree
import JSV.Proofs.InfTableDeep
import JSV.Proofs.ResIsoDocs
import JSV.Props.C20
import JSV.Proofs.InfEmbSound
import JSV.Proofs.InfEmbNamed
import JSV.Proofs.EncEmbCons
namespace JSV.C04
open JSV Go EncJson Spec

/-! ## the kind table (regenerated from infer.go) against the value ranges of the Go kinds -/

/-- for every sized integer kind the schema's bounds contain the kind's value range -/
theorem int_bounds_contain :
    ∀ k, k ∈ sizedKinds → ∃ mn mx lo hi, kindEntry k = some ("integer", some mn, some mx) ∧
      minValue k = some lo ∧ maxValue k = some hi ∧ mn ≤ lo ∧ hi ≤ mx := by
  intro k hk
  obtain ⟨lo, hi, hr, hke⟩ := sized_rows k hk
  exact ⟨lo, hi, lo, hi, hke, by rw [minValue, hr]; rfl, by rw [maxValue, hr]; rfl, Int.le_refl _, Int.le_refl _⟩

/-- … and for every integer kind at all, whatever bounds the table states contain the value range -/
theorem int_bounds_contain_all (k : String) (lo hi : Int) (h : intRange k = some (lo, hi)) :
    ∃ mn mx, kindEntry k = some ("integer", mn, mx) ∧ (∀ m, mn = some m → m ≤ lo) ∧ (∀ m, mx = some m → hi ≤ m) :=
  int_table h

/-- unsigned kinds have minimum 0 -/
theorem unsigned_minimum_zero :
    ∀ k, k ∈ unsignedKinds → (kindEntry k).map (fun e => (e.1, e.2.1)) = some ("integer", some 0) := by
  decide +kernel

/-- int and int64 have no bounds; uint, uint64 and uintptr have no maximum -/
theorem word_kinds_unbounded :
    kindEntry "Int" = some ("integer", none, none) ∧ kindEntry "Int64" = some ("integer", none, none) ∧
    kindEntry "Uint" = some ("integer", some 0, none) ∧ kindEntry "Uint64" = some ("integer", some 0, none) ∧
    kindEntry "Uintptr" = some ("integer", some 0, none) := by
  decide +kernel

/-- the type keyword of every basic kind of the fragment -/
theorem kind_types :
    (∀ k, k ∈ intKinds → (kindEntry k).map (·.1) = some "integer") ∧
    (∀ k, k ∈ floatKinds → kindEntry k = some ("number", none, none)) ∧
    kindEntry "Bool" = some ("boolean", none, none) ∧ kindEntry "String" = some ("string", none, none) ∧
    kindEntry "Interface" = some ("", none, none) :=
  ⟨fun k hk => (int_rows k hk).2.1, kind_rows.2.2.2, kind_rows.1, kind_rows.2.1, kind_rows.2.2.1⟩

/-- **main (fragment)**: for a type of the domain, the schema `ForType` returns accepts the JSON encoding of
    every value of the type (with the default setting that slices may be `null`) -/
theorem infer_sound (opts : IOpts) (fuel : Nat) (T : GoType) (st : Store) (id : NodeId) (st' : Store)
    (re : String → String → Bool) (hnfs : opts.nullForSlices = true) (hdom : InDomain T = true)
    (h : forType opts fuel T st = .ok (some id, st')) (v : GoValue) (hv : HasType T v)
    (fuel' : Nat) (hf : depth T ≤ fuel') :
    Spec.valid (specEnvNoRefs st' re) fuel' id (encode T v) = some true := by
  obtain ⟨id', hid, hm⟩ := inferFuel_models opts fuel T [] st (some id) st' hdom h
  cases hid
  rw [hnfs] at hm
  exact valid_iff_isSome.1 ((Models.sound (re := re) T false id hm fuel' [] hf).2 v hv)

/-- on the domain `ForType` never drops the type (IgnoreInvalidTypes has nothing to ignore) -/
theorem infer_some (opts : IOpts) (fuel : Nat) (T : GoType) (st : Store) (r : Option NodeId) (st' : Store)
    (hdom : InDomain T = true) (h : forType opts fuel T st = .ok (r, st')) : ∃ id, r = some id := by
  obtain ⟨id, hid, _⟩ := inferFuel_models opts fuel T [] st r st' hdom h
  exact ⟨id, hid⟩

/-- a pointer to a type of the domain: `null` (the nil pointer) is accepted as well — an instance of
    `infer_sound`, spelled out -/
theorem infer_sound_nil_pointer (opts : IOpts) (fuel : Nat) (T : GoType) (st : Store) (id : NodeId) (st' : Store)
    (re : String → String → Bool) (hnfs : opts.nullForSlices = true) (hdom : InDomain T = true)
    (h : forType opts fuel (.ptr T) st = .ok (some id, st')) (fuel' : Nat) (hf : depth T ≤ fuel') :
    Spec.valid (specEnvNoRefs st' re) fuel' id .null = some true :=
  infer_sound opts fuel (.ptr T) st id st' re hnfs hdom h .nilPtr trivial fuel' hf

/-- **main, with declared types**: `type Point struct{…}`, `type Celsius float64`, `type IDs []int` … at any position of
    `T`.  For a type of the domain `InDomainN` (`InDomain` with declared types allowed) whose declared types are
    transparent for `forType` (`NamedOk`, decidable: a declared type that is not one of the marshaler types `strs` has no
    entry in the type table, its underlying type is a basic kind, slice, array, map or struct, and no name occurs twice
    along a root-to-leaf path — the cycle check of `forType` fires otherwise, `C16.recursive_*_errors`), the schema
    `ForType` returns accepts the JSON encoding of every value of the type; a value of a declared type is a value of its
    underlying type and is encoded like it (encoding/json for types without marshal methods).

    The marshaler types `strs` (`StrEntries`): declared types whose entry in the type table is the schema
    `{"type":"string"}` — `initial_entries_string`: time.Time, slog.Level, big.Rat, big.Float of the initial table — and
    whose `MarshalJSON` / `MarshalText` writes a JSON string.  Such a type is represented as `.named n (.basic "String")`,
    its values as `GoValue.str s` with `s` the marshaled text (nothing else about these types is modelled).  `ForType`
    returns a clone of the entry, with `null` added for a pointer; it accepts every string, and `null`.
    (big.Int is not one of them: it marshals as a JSON number, which its entry `{"type":"string"}` rejects — the known
    finding D13.  A marshaler type with pointer receiver held by value in a non-addressable position is outside the
    property's domain: encoding/json does not call the marshaler there.)

    The statement for types without declared types is `infer_sound` (there `NamedOk` holds trivially). -/
theorem infer_sound_named (opts : IOpts) (strs : List String) (fuel : Nat) (T : GoType) (st : Store) (id : NodeId)
    (st' : Store) (re : String → String → Bool) (hnfs : opts.nullForSlices = true) (hdom : InDomainN T = true)
    (hst : StrEntries opts.schemas strs st) (hok : NamedOk opts strs [] T = true)
    (h : forType opts fuel T st = .ok (some id, st')) (v : GoValue) (hv : HasType T v)
    (fuel' : Nat) (hf : depth T ≤ fuel') :
    Spec.valid (specEnvNoRefs st' re) fuel' id (encode T v) = some true := by
  rw [forType_erase opts strs fuel T st hst hok] at h
  rw [← encode_erase]
  exact infer_sound opts fuel (erase T) st id st' re hnfs (by rw [← inDomainN_eq_erase]; exact hdom) h v
    ((hasType_erase T v).2 hv) fuel' (Nat.le_trans (depth_erase_le T) hf)

/-- on the domain with declared types `ForType` never drops the type -/
theorem infer_some_named (opts : IOpts) (strs : List String) (fuel : Nat) (T : GoType) (st : Store) (r : Option NodeId)
    (st' : Store) (hdom : InDomainN T = true) (hst : StrEntries opts.schemas strs st)
    (hok : NamedOk opts strs [] T = true) (h : forType opts fuel T st = .ok (r, st')) : ∃ id, r = some id := by
  rw [forType_erase opts strs fuel T st hst hok] at h
  exact infer_some opts fuel (erase T) st r st' (by rw [← inDomainN_eq_erase]; exact hdom) h

/-- the schema built for a type with declared types is the schema of the type with the declared types replaced by their
    underlying types (`erase`), in the sense of `Go.Models` -/
theorem infer_models_erase (opts : IOpts) (strs : List String) (fuel : Nat) (T : GoType) (st : Store) (id : NodeId)
    (st' : Store) (hdom : InDomainN T = true) (hst : StrEntries opts.schemas strs st)
    (hok : NamedOk opts strs [] T = true) (h : forType opts fuel T st = .ok (some id, st')) :
    Models opts.nullForSlices st' (erase T) false id := by
  rw [forType_erase opts strs fuel T st hst hok] at h
  obtain ⟨id', hid, hm⟩ := inferFuel_models opts fuel (erase T) [] st (some id) st'
    (by rw [← inDomainN_eq_erase]; exact hdom) h
  cases hid
  exact hm

/-- the spec with declared types is conservative: typing, json.Marshal and the strict decoder on `T` are those on
    `erase T`; `InDomainN` is `InDomain` of `erase T`, and contains `InDomain` -/
theorem encJson_named_conservative (T : GoType) :
    (∀ v, HasType (erase T) v ↔ HasType T v) ∧ (∀ v, encode (erase T) v = encode T v) ∧
    (∀ j, decodable (erase T) j = decodable T j) ∧ InDomainN T = InDomain (erase T) ∧
    (InDomain T = true → InDomainN T = true) :=
  ⟨hasType_erase T, encode_erase T, decodable_erase T, inDomainN_eq_erase T, inDomainN_of_inDomain T⟩

/-! ### the initial type table (infer.go `init`), regenerated from the source -/

/-- the standard-library marshaler types of the initial table whose JSON form is a string -/
def marshalerTypes : List String := ["time.Time", "slog.Level", "big.Rat", "big.Float"]

/-- the initial type table as the driver builds it: ONE schema object (`ss`, node 0) shared by all entries -/
def initialTable : List (String × NodeId) :=
  ["time.Time", "slog.Level", "big.Int", "big.Rat", "big.Float"].map fun n => (n, 0)

/-- **the initial entries are `{"type":"string"}`** (regenerated facts `Generated.initialSchemaEntries`,
    `Generated.initialSchemaLocals`): `init` enters time.Time, slog.Level, big.Int, big.Rat and big.Float, each with the
    one schema `ss`, which is `&Schema{Type: "string"}` (for big.Int, under the GODEBUG setting, `["null","string"]`).
    A change of the table changes these lists and fails this obligation. -/
theorem initial_entries_string :
    Generated.initialSchemaLocals = ["ss := &Schema{Type: \"string\"}"] ∧
    Generated.initialSchemaEntries =
      ["reflect.TypeFor[time.Time]() := ss", "reflect.TypeFor[slog.Level]() := ss",
       "reflect.TypeFor[big.Int]() := &Schema{Types: []string{\"null\", \"string\"}}",
       "reflect.TypeFor[big.Int]() := ss", "reflect.TypeFor[big.Rat]() := ss", "reflect.TypeFor[big.Float]() := ss"] := by
  decide +kernel

/-- … so `StrEntries` holds of the initial table for the marshaler types, in every store that extends the one holding
    `ss` -/
theorem strEntries_initial (st : Store) (h : st.get? 0 = some strNode) : StrEntries initialTable marshalerTypes st := by
  intro n hn sid hs
  simp only [marshalerTypes, List.mem_cons, List.not_mem_nil, or_false] at hn
  rcases hn with rfl | rfl | rfl | rfl <;>
  · have : sid = 0 := by
      simp [initialTable, Json.lookup] at hs
      exact hs.symm
    rw [this]; exact h

/-- `infer_sound_named` for the initial type table (no `TypeSchemas`): declared types without marshal methods anywhere,
    time.Time / slog.Level / big.Rat / big.Float as `.named n (.basic "String")` -/
theorem infer_sound_initial_table (opts : IOpts) (fuel : Nat) (T : GoType) (st : Store) (id : NodeId)
    (st' : Store) (re : String → String → Bool) (hnfs : opts.nullForSlices = true) (htbl : opts.schemas = initialTable)
    (hss : st.get? 0 = some strNode) (hdom : InDomainN T = true) (hok : NamedOk opts marshalerTypes [] T = true)
    (h : forType opts fuel T st = .ok (some id, st')) (v : GoValue) (hv : HasType T v)
    (fuel' : Nat) (hf : depth T ≤ fuel') :
    Spec.valid (specEnvNoRefs st' re) fuel' id (encode T v) = some true :=
  infer_sound_named opts marshalerTypes fuel T st id st' re hnfs hdom (by rw [htbl]; exact strEntries_initial st hss) hok
    h v hv fuel' hf

/-- **main, with entries of the type table (partial)**.  A declared type with an entry in the type table gets a clone of
    the entry, with `null` added to its types for a pointer.  If every entry that `ForType` meets in `T` accepts the
    encodings of its type (`EntriesAccept`: for every declared type `.named n u` of `T` with an entry `sid` — outside
    `json:"-"` fields — `EntryAccepts st sid u an`: the entry is a schema without subschemas and references; it accepts
    `encode u v` for every value `v` of the type; where the type is used through a pointer, the entry has a type keyword
    and, with `null` added, accepts `null`), the schema `ForType` returns accepts the JSON encoding of every value of `T`.
    Declared types without an entry are expanded (`C16.named_pushes_seen`) and need no hypothesis: if a name recurs along
    a path, or the underlying type is not one the model knows, `ForType` does not return a schema.

    `entryAccepts_string`: the entry `{"type":"string"}` accepts every marshaler type whose JSON form is a string
    (`.named n (.basic "String")`), so this statement contains `infer_sound_named`'s marshaler types; with an empty
    table it is `infer_sound` for types with declared types (`entriesAccept_of_empty`).

    Partial, what is missing: entries WITH subschemas — `infer_sound_table` / `infer_sound_table_deep` below, for
    reference-free schema trees of any shape and depth — or references (`infer_sound_table_root_refs` at the root of
    the inferred schema; below the root a `#`-rooted reference does not keep its meaning:
    `table_entry_with_ref_unresolvable`, `table_entry_with_ref_changes_meaning`); an entry without a type keyword
    reached through a pointer (known finding D17: its types become `["null"]`); an entry that rejects some encoding, of
    course (big.Int's, D13). -/
theorem infer_sound_table_partial (opts : IOpts) (fuel : Nat) (T : GoType) (st : Store) (id : NodeId) (st' : Store)
    (re : String → String → Bool) (hnfs : opts.nullForSlices = true) (hdom : InDomainN T = true)
    (hacc : EntriesAccept opts st false T) (h : forType opts fuel T st = .ok (some id, st')) (v : GoValue)
    (hv : HasType T v) (fuel' : Nat) (hf : depth T ≤ fuel') :
    Spec.valid (specEnvNoRefs st' re) fuel' id (encode T v) = some true := by
  obtain ⟨id', hid, hm⟩ := inferFuel_modelsTT opts hnfs st fuel T [] st (some id) st' (Ext.refl st) hdom
    (entriesAcceptTree_of_leaves opts st T false hacc) h
  cases hid
  rw [hnfs] at hm
  exact valid_iff_isSome.1 ((Models.sound (re := re) T false id hm fuel' [] hf).2 v hv)

/-- … and `ForType` never drops such a type -/
theorem infer_some_table_partial (opts : IOpts) (fuel : Nat) (T : GoType) (st : Store) (r : Option NodeId) (st' : Store)
    (hnfs : opts.nullForSlices = true) (hdom : InDomainN T = true) (hacc : EntriesAccept opts st false T)
    (h : forType opts fuel T st = .ok (r, st')) : ∃ id, r = some id := by
  obtain ⟨id, hid, _⟩ := inferFuel_modelsTT opts hnfs st fuel T [] st r st' (Ext.refl st) hdom
    (entriesAcceptTree_of_leaves opts st T false hacc) h
  exact ⟨id, hid⟩

/-- the entry `{"type":"string"}` accepts the encodings of every marshaler type whose JSON form is a string, by value and
    through a pointer -/
theorem string_entry_accepts (st : Store) (sid : NodeId) (h : st.get? sid = some strNode) (an : Bool) :
    EntryAccepts st sid (.basic "String") an :=
  entryAccepts_string h an

/-- without entries for the declared types there is nothing to assume: `infer_sound_table_partial` is then `infer_sound`
    for every type with declared types on which `ForType` returns a schema -/
theorem no_entries_nothing_assumed (opts : IOpts) (st : Store) (h : opts.schemas = []) (T : GoType) :
    EntriesAccept opts st false T :=
  entriesAccept_of_empty opts st h T false

/-- **main, with entries of the type table**.  A declared type with an entry in the type table (`ForOptions.TypeSchemas`,
    the initial entries) gets a clone of the entry (`CloneSchemas`), with `null` added to the types of the clone's ROOT
    where the type is reached through a pointer.  Let every entry that `ForType` meets in `T` be a reference-free schema
    tree that accepts the encodings of its type (`EntriesAcceptTree`: for every declared type `.named n u` of `T` with an
    entry `sid` — outside `json:"-"` fields — `EntryAcceptsTree st sid u an`:
    * the entry is a full, finite, reference-free schema tree in the store that holds the table (`Go.treeAll Iso.noRefs`:
      objects with `properties`, `items`, `prefixItems`, `allOf` / `anyOf` / `oneOf` / `not`, `if` / `then` / `else`,
      `additionalProperties`, `patternProperties`, `contains`, `dependentSchemas`, `propertyNames`, `unevaluated*` … to
      any depth; what `checkStructure` accepts, shared subschemas included; no `$ref` / `$dynamicRef`);
    * it accepts `encode u v` for every value `v` of the type — Spec validity, with the fuel `depth u + 1` the schema of
      `u` itself would need (deeper entries: `infer_sound_table_deep`);
    * where the type is used through a pointer: its root has a type keyword (D17) and, with `null` added to the types of
      its root, the entry accepts `null`).
    Then the schema `ForType` returns accepts the JSON encoding of every value of `T`.  E.g. a type with a custom
    `MarshalJSON` and the entry `{"type":"object","properties":{"lat":{"type":"number"},"lon":{"type":"number"}},
    "required":["lat","lon"]}` (`geo_entryAcceptsTree` below).
    Declared types without an entry are expanded and need no hypothesis, as in `infer_sound_table_partial`, which is the
    special case of entries without subschemas (`leaf_entries_are_tree_entries`).

    Proof: the clone is a node-by-node copy of the entry (`Go.cloneFuel_sim`, C20) whose subschemas are allocated before
    its root; validity is invariant under the renaming of node ids and blind to descriptions (`Iso.evalFuel_sim` along
    `Iso.TSim`), so it survives the rewriting of the root (`null` added: only the `type` assertion changes,
    `Iso.specBody_tableNull`), the later growth of the store and the descriptions the struct loop writes
    (`Go.namedLeaf_table`).

    Not covered: entries WITH `$ref` / `$dynamicRef` — at the root of the inferred schema they are fine
    (`infer_sound_table_root_refs`, from C20), below the root they are not: after cloning into the inferred schema a
    `#`-rooted reference is relative to the root of the INFERRED schema, not of the entry, so `Resolve` fails
    (`table_entry_with_ref_unresolvable`) or the reference changes its meaning and an encoded value is rejected
    (`table_entry_with_ref_changes_meaning`); the real package behaves the same —; an entry without a type keyword
    reached through a pointer (D17); an entry that rejects some encoding (big.Int's, D13). -/
theorem infer_sound_table (opts : IOpts) (fuel : Nat) (T : GoType) (st : Store) (id : NodeId) (st' : Store)
    (re : String → String → Bool) (hnfs : opts.nullForSlices = true) (hdom : InDomainN T = true)
    (hacc : EntriesAcceptTree opts st false T) (h : forType opts fuel T st = .ok (some id, st')) (v : GoValue)
    (hv : HasType T v) (fuel' : Nat) (hf : depth T ≤ fuel') :
    Spec.valid (specEnvNoRefs st' re) fuel' id (encode T v) = some true := by
  obtain ⟨id', hid, hm⟩ := inferFuel_modelsTT opts hnfs st fuel T [] st (some id) st' (Ext.refl st) hdom hacc h
  cases hid
  rw [hnfs] at hm
  exact valid_iff_isSome.1 ((Models.sound (re := re) T false id hm fuel' [] hf).2 v hv)

/-- … and `ForType` never drops such a type -/
theorem infer_some_table (opts : IOpts) (fuel : Nat) (T : GoType) (st : Store) (r : Option NodeId) (st' : Store)
    (hnfs : opts.nullForSlices = true) (hdom : InDomainN T = true) (hacc : EntriesAcceptTree opts st false T)
    (h : forType opts fuel T st = .ok (r, st')) : ∃ id, r = some id := by
  obtain ⟨id, hid, _⟩ := inferFuel_modelsTT opts hnfs st fuel T [] st r st' (Ext.refl st) hdom hacc h
  exact ⟨id, hid⟩

/-- **main, with entries of the type table of any depth**: `infer_sound_table` asks the entries to accept the encodings
    with the fuel `depth u + 1` that the schema of the type itself would need, i.e. not to be deeper than that schema.
    In general (`EntriesAcceptDeep opts st k false T`: every entry met accepts the encodings of its type with fuel
    `depth u + 1 + k`, otherwise as `EntryAcceptsTree`; `k = 0` is `EntriesAcceptTree`) the inferred schema accepts
    every encoded value with fuel `depth T + k`: the entries may be `k` levels deeper.
    Proof: `forType` never looks at the underlying type of a declared type that has an entry, so the type may be padded
    with `k` transparent declarations there (`Go.inferFuel_pad`), which changes neither typing nor json.Marshal and adds
    `k` to the depth; then `infer_sound_table`. -/
theorem infer_sound_table_deep (opts : IOpts) (fuel : Nat) (T : GoType) (st : Store) (id : NodeId) (st' : Store)
    (re : String → String → Bool) (hnfs : opts.nullForSlices = true) (hdom : InDomainN T = true) (k : Nat)
    (hacc : EntriesAcceptDeep opts st k false T) (h : forType opts fuel T st = .ok (some id, st')) (v : GoValue)
    (hv : HasType T v) (fuel' : Nat) (hf : depth T + k ≤ fuel') :
    Spec.valid (specEnvNoRefs st' re) fuel' id (encode T v) = some true := by
  have h' : forType opts fuel (padT opts k T) st = .ok (some id, st') := by
    show inferFuel opts fuel (padT opts k T) [] st = _
    rw [inferFuel_pad opts k fuel T [] st]
    exact h
  have := infer_sound_table opts fuel (padT opts k T) st id st' re hnfs (by rw [inDomainN_pad]; exact hdom)
    (entriesAcceptTree_pad opts st k T false hacc) h' v ((hasType_pad opts k T v).2 hv) fuel'
    (Nat.le_trans (depth_pad_le opts k T) hf)
  rwa [encode_pad] at this

/-- entries without subschemas and references — the hypothesis of `infer_sound_table_partial` — are tree entries -/
theorem leaf_entries_are_tree_entries (opts : IOpts) (st : Store) (T : GoType) (an : Bool)
    (h : EntriesAccept opts st an T) : EntriesAcceptTree opts st an T :=
  entriesAcceptTree_of_leaves opts st T an h

/-- … so `infer_sound_table_partial` is the special case of `infer_sound_table` for such entries -/
example (opts : IOpts) (fuel : Nat) (T : GoType) (st : Store) (id : NodeId) (st' : Store)
    (re : String → String → Bool) (hnfs : opts.nullForSlices = true) (hdom : InDomainN T = true)
    (hacc : EntriesAccept opts st false T) (h : forType opts fuel T st = .ok (some id, st')) (v : GoValue)
    (hv : HasType T v) (fuel' : Nat) (hf : depth T ≤ fuel') :
    Spec.valid (specEnvNoRefs st' re) fuel' id (encode T v) = some true :=
  infer_sound_table opts fuel T st id st' re hnfs hdom (leaf_entries_are_tree_entries opts st T false hacc) h v hv fuel' hf

/-- **a declared type with an entry, at the ROOT** (`For[Point]()` where `TypeSchemas[Point]` is set; by value): the
    inferred schema is `CloneSchemas` of the entry, so — C20 `clone_validates_same` — if `Resolve` of the entry returns
    normally (self-contained: no Loader document), `Resolve` of the inferred schema, same options and base URI, returns
    normally too, with the same draft, and every instance gets from it exactly the Spec result it gets from the entry:
    whatever `$ref`, `$dynamicRef`, `$id`, `$anchor`, `$defs` the entry contains.  This is the one position where a
    `#`-rooted reference of an entry keeps its meaning (`table_entry_with_ref_unresolvable`,
    `table_entry_with_ref_changes_meaning` for the others). -/
theorem infer_table_root_refs (opts : IOpts) (fuel : Nat) (n : String) (u : GoType) (sid : NodeId) (st : Store)
    (r : Option NodeId) (st' : Store) (hl : Json.lookup n opts.schemas = some sid)
    (env : Go.Env) (hnd : Go.RIso.NoDocs env)
    (hroom : st.size + Go.cloneCount st (st.size + 1) sid ≤ 1000000000)
    (rfuel : Nat) (base : String) (rs : Go.Resolved)
    (hres : Go.resolve { env with st := st } rfuel sid base = .ok rs)
    (h : forType opts (fuel + 1) (.named n u) st = .ok (r, st')) :
    ∃ id rs', r = some id ∧ Go.resolve { env with st := st' } rfuel id base = .ok rs' ∧
      rs.draft = rs'.draft ∧ rs.log = rs'.log ∧
      ∀ (reMatch : String → String → Bool) (vfuel : Nat) (j : Json),
        Spec.evalFuel (Go.RIso.specOf st' rs' reMatch) vfuel [] id j =
          Spec.evalFuel (Go.RIso.specOf st rs reMatch) vfuel [] sid j := by
  obtain ⟨c, st1, rs', hc, hr', e1, e2, e3⟩ := C20.clone_validates_same st sid env hnd hroom rfuel base rs hres
  change inferStep opts (inferFuel opts fuel) (.named n u) [] st = _ at h
  rw [inferStep_table (t := .named n u) rfl rfl rfl hl, hc, Res.bind_ok] at h
  simp only at h
  cases hcn : st1.get? c with
  | none => rw [hcn] at h; cases h
  | some cn =>
    rw [hcn, Bool.and_false] at h
    simp only at h
    have : tableNull false cn = cn := rfl
    rw [this, set!_get?_self hcn] at h
    cases h
    exact ⟨c, rs', rfl, hr', e1, e2, e3⟩

/-- … hence soundness there: if the entry, resolved, accepts the encodings of the type, so does the inferred schema -/
theorem infer_sound_table_root_refs (opts : IOpts) (fuel : Nat) (n : String) (u : GoType) (sid : NodeId) (st : Store)
    (id : NodeId) (st' : Store) (hl : Json.lookup n opts.schemas = some sid)
    (env : Go.Env) (hnd : Go.RIso.NoDocs env)
    (hroom : st.size + Go.cloneCount st (st.size + 1) sid ≤ 1000000000)
    (rfuel : Nat) (base : String) (rs : Go.Resolved)
    (hres : Go.resolve { env with st := st } rfuel sid base = .ok rs)
    (h : forType opts (fuel + 1) (.named n u) st = .ok (some id, st'))
    (re : String → String → Bool) (vfuel : Nat)
    (hacc : ∀ v, HasType u v → Spec.valid (Go.RIso.specOf st rs re) vfuel sid (encode u v) = some true) :
    ∃ rs', Go.resolve { env with st := st' } rfuel id base = .ok rs' ∧
      ∀ v, HasType (.named n u) v → Spec.valid (Go.RIso.specOf st' rs' re) vfuel id (encode (.named n u) v) = some true := by
  obtain ⟨id', rs', hid, hr', -, -, e⟩ :=
    infer_table_root_refs opts fuel n u sid st (some id) st' hl env hnd hroom rfuel base rs hres h
  cases hid
  refine ⟨rs', hr', fun v hv => ?_⟩
  simp only [HasType] at hv
  simp only [encode]
  unfold Spec.valid
  rw [e re vfuel (encode u v)]
  exact hacc v hv

/-! ### the hypotheses of `infer_sound_named` are satisfiable, and needed (labelled tests)

  `tagLookup` splits the tag with `String.splitOn`, which the kernel does not evaluate; what the tag parser returns for
  each tag is a hypothesis here (the parser is specified in C16: `fieldJSONInfo_named`, `fieldJSONInfo_no_tag`). -/

/-- `type Point struct { X int "json:\"x\""; Y int "json:\"y,omitempty\"" }` -/
def pointT (tX tY : String) : GoType := .named "Point" (.struct [("X", tX, .basic "Int"), ("Y", tY, .basic "Int")])

/-- `type Celsius float64` and
    `type Reading struct { Temp Celsius "json:\"temp\""; Origin Point "json:\"origin\""; Path []Point "json:\"path\"";
                           At time.Time "json:\"at\"" }`:
    a declared struct type with a declared scalar type, a declared struct type at two sibling positions (once in a
    slice) and a marshaler type of the initial table -/
def readingT (tT tO tP tA tX tY : String) : GoType :=
  .named "Reading" (.struct [
    ("Temp", tT, .named "Celsius" (.basic "Float64")),
    ("Origin", tO, pointT tX tY),
    ("Path", tP, .slice (pointT tX tY)),
    ("At", tA, .named "time.Time" (.basic "String"))])

/-- the options of a call without `TypeSchemas`: the initial table -/
def initialOpts : IOpts := { schemas := initialTable }

/-- the declared types of `Reading` are transparent, time.Time is a marshaler type of the table (no tag is read) -/
theorem reading_namedOk (tT tO tP tA tX tY : String) :
    NamedOk initialOpts marshalerTypes [] (readingT tT tO tP tA tX tY) = true := by
  simp [readingT, pointT, NamedOk, namedOkFields, initialOpts, initialTable, marshalerTypes, namedShape, isStringKind,
    Json.lookup]

theorem reading_depth (tT tO tP tA tX tY : String) : depth (readingT tT tO tP tA tX tY) ≤ 6 := by
  simp [readingT, pointT, depth, depthFields]

section WitnessesN
variable (tT tO tP tA tX tY : String)
  (hT : fieldJSONInfo "Temp" tT = { name := "temp" }) (hO : fieldJSONInfo "Origin" tO = { name := "origin" })
  (hP : fieldJSONInfo "Path" tP = { name := "path" }) (hA : fieldJSONInfo "At" tA = { name := "at" })
  (hX : fieldJSONInfo "X" tX = { name := "x" }) (hY : fieldJSONInfo "Y" tY = { name := "y", omitempty := true })
include hT hO hP hA hX hY

theorem reading_inDomainN : InDomainN (readingT tT tO tP tA tX tY) = true := by
  have v1 : validTagName "temp" = true := by decide +kernel
  have v2 : validTagName "path" = true := by decide +kernel
  have v3 : validTagName "at" = true := by decide +kernel
  have v4 : validTagName "x" = true := by decide +kernel
  have v5 : validTagName "y" = true := by decide +kernel
  have v6 : validTagName "origin" = true := by decide +kernel
  have d1 : "Int" ∈ domainKinds := by decide +kernel
  have d2 : "String" ∈ domainKinds := by decide +kernel
  have d3 : "Float64" ∈ domainKinds := by decide +kernel
  simp [readingT, pointT, InDomainN, inDomainFieldsN, jsonNames, nodup, fieldTagOk, hT, hO, hP, hA, hX, hY, v1, v2, v3, v4,
    v5, v6, d1, d2, d3]

/-- the value `Reading{Temp: 20, Origin: Point{0, 0}, Path: []Point{{X: 1, Y: 0}}, At: t}` where `t.MarshalJSON()` is
    `"2026-09-30T00:00:00Z"` -/
theorem reading_hasType : HasType (readingT tT tO tP tA tX tY)
    (.struct [.float 20, .struct [.int 0, .int 0], .slice [.struct [.int 1, .int 0]], .str "2026-09-30T00:00:00Z"]) := by
  simp [readingT, pointT, HasType, HasTypeFields, hT, hO, hP, hA, hX, hY, basicHasType, intRange, floatKinds]
  exact ⟨⟨_, _, ⟨rfl, rfl⟩, by decide +kernel, by decide +kernel⟩, ⟨_, _, ⟨rfl, rfl⟩, by decide +kernel, by decide +kernel⟩,
    ⟨_, _, ⟨rfl, rfl⟩, by decide +kernel, by decide +kernel⟩⟩

/-- … marshals to `{"temp":20,"origin":{"x":0},"path":[{"x":1}],"at":"2026-09-30T00:00:00Z"}` (`y` is 0 and omitempty) -/
theorem reading_encode : encode (readingT tT tO tP tA tX tY)
    (.struct [.float 20, .struct [.int 0, .int 0], .slice [.struct [.int 1, .int 0]], .str "2026-09-30T00:00:00Z"]) =
    .obj [("temp", .num 20), ("origin", .obj [("x", .num 0)]), ("path", .arr [.obj [("x", .num 1)]]),
          ("at", .str "2026-09-30T00:00:00Z")] := by
  simp [readingT, pointT, encode, encodeFields, hT, hO, hP, hA, hX, hY, fieldSkipped, isEmptyValue]

/-- `ForType` succeeds on the type (the initial table, the store that holds `ss`): `h` below is satisfiable -/
theorem reading_infers (dT : tagLookup "jsonschema" tT = none) (dO : tagLookup "jsonschema" tO = none)
    (dP : tagLookup "jsonschema" tP = none) (dA : tagLookup "jsonschema" tA = none)
    (dX : tagLookup "jsonschema" tX = none) (dY : tagLookup "jsonschema" tY = none) :
    ∃ id st', forType initialOpts 5 (readingT tT tO tP tA tX tY) #[strNode] = .ok (some id, st') := by
  rw [forType_erase initialOpts marshalerTypes 5 _ _ (strEntries_initial _ rfl) (reading_namedOk tT tO tP tA tX tY)]
  have kF : kindEntry "Float64" = some ("number", none, none) := kind_rows.2.2.2 _ (by decide)
  have kI : kindEntry "Int" = some ("integer", none, none) := word_kinds_unbounded.1
  have kS : kindEntry "String" = some ("string", none, none) := kind_rows.2.1
  have basic : ∀ {kind ty : String} (_ : kindEntry kind = some (ty, none, none)) (f : Nat) (S : Store),
      inferFuel initialOpts (f + 1) (.basic kind) [] S = .ok (some S.size, S.push (addNull false (basicNode ty none none))) :=
    fun hk f S => by
      show inferStep initialOpts (inferFuel initialOpts f) (.basic _) [] S = _
      rw [inferStep_basic rfl, hk]
  have point : ∀ (f : Nat) (S : Store), ∃ fid S',
      inferFuel initialOpts (f + 2) (.struct [("X", tX, .basic "Int"), ("Y", tY, .basic "Int")]) [] S = .ok (some fid, S') :=
    fun f S => by
      show ∃ fid S', inferStep initialOpts (inferFuel initialOpts (f + 1)) _ [] S = _
      rw [inferStep_struct (an := false) rfl, structLoop_step (by rw [hX]) dX (basic kI f _),
        structLoop_step (by rw [hY]) dY (basic kI f _)]
      simp only [structLoop, Res.bind_ok]
      exact ⟨_, _, rfl⟩
  show ∃ id st', inferStep initialOpts (inferFuel initialOpts 4) (erase (readingT tT tO tP tA tX tY)) [] #[strNode] = _
  simp only [readingT, pointT, erase, eraseFields]
  rw [inferStep_struct (an := false) rfl, structLoop_step (by rw [hT]) dT (basic kF 3 _)]
  obtain ⟨f1, S1, e1⟩ := point 2 (((#[strNode].push emptyNode).push (falseNode (#[strNode] : Store).size)).push
    (addNull false (basicNode "number" none none)))
  rw [structLoop_step (by rw [hO]) dO e1]
  obtain ⟨f2, S2, e2⟩ := point 1 S1
  have e3 : inferFuel initialOpts 4 (.slice (.struct [("X", tX, .basic "Int"), ("Y", tY, .basic "Int")])) [] S1 =
      .ok (some S2.size, S2.push (addNull false (sliceNode initialOpts.nullForSlices f2))) := by
    show inferStep initialOpts (inferFuel initialOpts 3) (.slice _) [] S1 = _
    rw [inferStep_slice rfl, e2, Res.bind_ok]
  rw [structLoop_step (by rw [hP]) dP e3, structLoop_step (by rw [hA]) dA (basic kS 3 _)]
  simp only [structLoop, Res.bind_ok]
  exact ⟨_, _, rfl⟩

/-- `infer_sound_initial_table` applied: the value marshals to
    `{"temp":20,"origin":{"x":0},"path":[{"x":1}],"at":"2026-09-30T00:00:00Z"}` (`y` is 0 and omitempty), which the
    inferred schema accepts -/
example (id : NodeId) (st' : Store)
    (h : forType initialOpts 5 (readingT tT tO tP tA tX tY) #[strNode] = .ok (some id, st')) :
    Spec.valid (specEnvNoRefs st') 6 id
      (.obj [("temp", .num 20), ("origin", .obj [("x", .num 0)]), ("path", .arr [.obj [("x", .num 1)]]),
             ("at", .str "2026-09-30T00:00:00Z")]) = some true := by
  have := infer_sound_initial_table initialOpts 5 _ #[strNode] id st' (fun _ _ => false) rfl rfl rfl
    (reading_inDomainN tT tO tP tA tX tY hT hO hP hA hX hY) (reading_namedOk tT tO tP tA tX tY) h _
    (reading_hasType tT tO tP tA tX tY hT hO hP hA hX hY) 6 (reading_depth tT tO tP tA tX tY)
  rwa [reading_encode tT tO tP tA tX tY hT hO hP hA hX hY] at this

end WitnessesN

/-! ### the hypotheses of `infer_sound_table_partial` are satisfiable (labelled tests) -/

/-- an entry `{"type": ty}` accepts the encodings of a type all of whose encodings have the JSON type `ty` -/
theorem type_entry_accepts (st : Store) (sid : NodeId) (ty : String) (u : GoType) (hty : ty ≠ "")
    (h : st.get? sid = some { type := ty }) (hu : ∀ v, HasType u v → typeMatches ty (encode u v) = true) (an : Bool) :
    EntryAccepts st sid u an :=
  entryAccepts_typeOnly hty h hu an

/-- `Reading` and the initial table: the one entry met is time.Time's -/
theorem reading_entriesAccept (tT tO tP tA tX tY : String) :
    EntriesAccept initialOpts #[strNode] false (readingT tT tO tP tA tX tY) := by
  simp [readingT, pointT, EntriesAccept, EntriesAcceptFields, initialOpts, initialTable, Json.lookup]
  exact Or.inr (string_entry_accepts _ _ rfl false)

/-- `infer_sound_table_partial` applied to `Reading` (no `NamedOk` is asked for) -/
example (tT tO tP tA tX tY : String)
    (hT : fieldJSONInfo "Temp" tT = { name := "temp" }) (hO : fieldJSONInfo "Origin" tO = { name := "origin" })
    (hP : fieldJSONInfo "Path" tP = { name := "path" }) (hA : fieldJSONInfo "At" tA = { name := "at" })
    (hX : fieldJSONInfo "X" tX = { name := "x" }) (hY : fieldJSONInfo "Y" tY = { name := "y", omitempty := true })
    (id : NodeId) (st' : Store) (h : forType initialOpts 5 (readingT tT tO tP tA tX tY) #[strNode] = .ok (some id, st')) :
    Spec.valid (specEnvNoRefs st') 6 id
      (.obj [("temp", .num 20), ("origin", .obj [("x", .num 0)]), ("path", .arr [.obj [("x", .num 1)]]),
             ("at", .str "2026-09-30T00:00:00Z")]) = some true := by
  have := infer_sound_table_partial initialOpts 5 _ #[strNode] id st' (fun _ _ => false) rfl
    (reading_inDomainN tT tO tP tA tX tY hT hO hP hA hX hY) (reading_entriesAccept tT tO tP tA tX tY) h _
    (reading_hasType tT tO tP tA tX tY hT hO hP hA hX hY) 6 (reading_depth tT tO tP tA tX tY)
  rwa [reading_encode tT tO tP tA tX tY hT hO hP hA hX hY] at this

/-- `type Celsius float64` with `TypeSchemas[Celsius] = {"type":"number"}`, used through a pointer:
    `struct { T *Celsius "json:\"t\"" }` -/
def celsiusOpts : IOpts := { schemas := [("Celsius", 0)] }

theorem celsius_entriesAccept (tT : String) :
    EntriesAccept celsiusOpts #[{ type := "number" }] false (.struct [("T", tT, .ptr (.named "Celsius" (.basic "Float64")))]) := by
  simp [EntriesAccept, EntriesAcceptFields, celsiusOpts]
  refine Or.inr (entryAccepts_typeOnly (by decide +kernel) rfl (fun v hv => ?_) true)
  cases v with
  | float q => by_cases hq : q.den = 1 <;> simp [encode, typeMatches, Json.typeName, hq]
  | int i => obtain ⟨lo, hi, hr, _⟩ := (show ∃ lo hi, intRange "Float64" = some (lo, hi) ∧ lo ≤ i ∧ i ≤ hi from hv); simp [intRange] at hr
  | _ => simp [HasType, basicHasType] at hv

/-- `infer_sound_table_partial` applied: `{"t":null}` (the nil pointer) and `{"t":20}` are accepted by the schema inferred
    with `TypeSchemas[Celsius] = {"type":"number"}` -/
example (tT : String) (hT : fieldJSONInfo "T" tT = { name := "t" }) (id : NodeId) (st' : Store)
    (h : forType celsiusOpts 3 (.struct [("T", tT, .ptr (.named "Celsius" (.basic "Float64")))]) #[{ type := "number" }]
      = .ok (some id, st')) :
    Spec.valid (specEnvNoRefs st') 3 id (.obj [("t", .null)]) = some true ∧
    Spec.valid (specEnvNoRefs st') 3 id (.obj [("t", .num 20)]) = some true := by
  have hd : InDomainN (.struct [("T", tT, .ptr (.named "Celsius" (.basic "Float64")))]) = true := by
    have v1 : validTagName "t" = true := by decide +kernel
    have d1 : "Float64" ∈ domainKinds := by decide +kernel
    simp [InDomainN, inDomainFieldsN, jsonNames, nodup, fieldTagOk, hT, v1, d1]
  have key := fun v hv => infer_sound_table_partial celsiusOpts 3 _ #[{ type := "number" }] id st' (fun _ _ => false) rfl hd
    (celsius_entriesAccept tT) h v hv 3 (by simp [depth, depthFields])
  constructor
  · have := key (.struct [.nilPtr]) (by simp [HasType, HasTypeFields, hT])
    simpa [encode, encodeFields, hT, fieldSkipped] using this
  · have := key (.struct [.ptr (.float 20)]) (by simp [HasType, HasTypeFields, hT, basicHasType, floatKinds])
    simpa [encode, encodeFields, hT, fieldSkipped] using this

/-- … and evaluated (no tag: the field name is `T`), with a non-number rejected -/
example : (match forType celsiusOpts 3 (.ptr (.named "Celsius" (.basic "Float64"))) #[{ type := "number" }] with
    | .ok (some id, st') => [Spec.valid (specEnvNoRefs st') 1 id .null, Spec.valid (specEnvNoRefs st') 1 id (.num 20),
        Spec.valid (specEnvNoRefs st') 1 id (.str "x")]
    | _ => []) = [some true, some true, some false] := by decide +kernel

/-- the hypothesis on the type keyword is needed (known finding D17): `TypeSchemas[Celsius] = {}` ("anything") reached
    through a pointer becomes `{"type":["null"]}`, which rejects every number -/
example : (match forType celsiusOpts 3 (.ptr (.named "Celsius" (.basic "Float64"))) #[{}] with
    | .ok (some id, st') => [Spec.valid (specEnvNoRefs st') 1 id .null, Spec.valid (specEnvNoRefs st') 1 id (.num 20)]
    | _ => []) = [some true, some false] := by decide +kernel

/-! ### the hypotheses of `infer_sound_table` are satisfiable, and needed (labelled tests) -/

/-- the store of the caller: `TypeSchemas[Point]` is node 2,
    `{"type":"object","properties":{"lat":{"type":"number"},"lon":{"type":"number"}},"required":["lat","lon"]}` -/
def geoStore : Store := #[
  { type := "number" },
  { type := "number" },
  { type := "object", properties := some [("lat", 0), ("lon", 1)], required := some ["lat", "lon"] }]

/-- the root of the entry, and of its clones -/
def geoNode (a b : NodeId) : Node :=
  { type := "object", properties := some [("lat", a), ("lon", b)], required := some ["lat", "lon"] }

/-- `CloneSchemas` of the entry, in any store that holds it -/
theorem clone_geo {S : Store} (h0 : S.get? 0 = some { type := "number" }) (h1 : S.get? 1 = some { type := "number" })
    (h2 : S.get? 2 = some (geoNode 0 1)) :
    clone S 2 = .ok (S.size + 2, ((S.push { type := "number" }).push { type := "number" }).push (geoNode S.size (S.size + 1))) := by
  have h1' : Store.get? (S.push { type := "number" }) 1 = some { type := "number" } := (Ext.push S _).get? h1
  have e0 : cloneFuel (S.size + 1) 0 S = .ok (S.size, S.push { type := "number" }) :=
    cloneStep_leaf h0 (leafSchema_typeOnly "number")
  have e1 : cloneFuel (S.size + 1) 1 (S.push { type := "number" }) =
      .ok ((S.push { type := "number" }).size, (S.push { type := "number" }).push { type := "number" }) :=
    cloneStep_leaf h1' (leafSchema_typeOnly "number")
  show cloneStep (cloneFuel (S.size + 1)) 2 S = _
  unfold cloneStep
  rw [h2]
  simp only [geoNode, cloneMap, cloneEntries, cloneOpt, cloneList, e0, e1, Res.bind_ok, Store.alloc, Array.size_push]

/-- `ForOptions{TypeSchemas: {Point: …}}` -/
def geoOpts : IOpts := { schemas := [("Point", 2)] }
/-- `type Point struct { Lat float64 "json:\"lat\""; Lon float64 "json:\"lon\"" }` — e.g. with a `MarshalJSON` of its own
    that writes `{"lat":…,"lon":…}` — and
    `type Trip struct { At Point "json:\"at\""; Track []Point "json:\"track\""; Home *Point "json:\"home\"" }` -/
def geoU (tLat tLon : String) : GoType := .struct [("Lat", tLat, .basic "Float64"), ("Lon", tLon, .basic "Float64")]
def geoT (tLat tLon : String) : GoType := .named "Point" (geoU tLat tLon)
def tripT (tA tT tH tLat tLon : String) : GoType :=
  .struct [("At", tA, geoT tLat tLon), ("Track", tT, .slice (geoT tLat tLon)), ("Home", tH, .ptr (geoT tLat tLon))]

/-- `forType` on `Point` / `*Point`: the clone of the entry, `null` added for the pointer -/
theorem inferFuel_geo (tLat tLon : String) (f : Nat) {T : GoType} {an : Bool} (hs : stripPtrs T = (geoT tLat tLon, an))
    {seen : List String} (hseen : seen.contains "Point" = false) {S : Store} (hS : Ext geoStore S) :
    ∃ fid S', inferFuel geoOpts (f + 1) T seen S = .ok (some fid, S') ∧ Ext geoStore S' := by
  have h0 : S.get? 0 = some { type := "number" } := hS.get? (i := 0) rfl
  have h1 : S.get? 1 = some { type := "number" } := hS.get? (i := 1) rfl
  have h2 : S.get? 2 = some (geoNode 0 1) := hS.get? (i := 2) rfl
  refine ⟨S.size + 2, ((S.push { type := "number" }).push { type := "number" }).push
    (tableNull an (geoNode S.size (S.size + 1))), ?_,
    hS.trans ((Ext.push _ _).trans ((Ext.push _ _).trans (Ext.push _ _)))⟩
  show inferStep geoOpts (inferFuel geoOpts f) T seen S = _
  rw [inferStep_table (t := geoT tLat tLon) hs rfl hseen rfl, clone_geo h0 h1 h2, Res.bind_ok]
  have hsz : ((S.push { type := "number" }).push { type := "number" }).size = S.size + 2 := by
    simp only [Array.size_push]
  have hg := get?_push_size ((S.push { type := "number" }).push { type := "number" }) (geoNode S.size (S.size + 1))
  have hset := set!_push_size ((S.push { type := "number" }).push { type := "number" }) (geoNode S.size (S.size + 1))
      (tableNull an (geoNode S.size (S.size + 1)))
  rw [hsz] at hg hset
  simp only [hg]
  rw [show (geoOpts.nullForSlices && an) = an from rfl, hset]

/-- … on `[]Point` -/
theorem inferFuel_geo_slice (tLat tLon : String) (f : Nat) {S : Store} (hS : Ext geoStore S) :
    ∃ fid S', inferFuel geoOpts (f + 2) (.slice (geoT tLat tLon)) [] S = .ok (some fid, S') ∧ Ext geoStore S' := by
  obtain ⟨fid, S', h, hS'⟩ := inferFuel_geo tLat tLon f (T := geoT tLat tLon) rfl (seen := []) rfl hS
  refine ⟨S'.size, S'.push (addNull false (sliceNode geoOpts.nullForSlices fid)), ?_, hS'.trans (Ext.push _ _)⟩
  show inferStep geoOpts (inferFuel geoOpts (f + 1)) (.slice (geoT tLat tLon)) [] S = _
  rw [inferStep_slice rfl, h, Res.bind_ok]

def geoRoot : Node := geoNode 0 1

theorem plain_geoRoot (b : Bool) : Plain (tableNull b geoRoot) := by
  cases b <;> exact ⟨rfl, rfl, rfl, rfl, rfl, rfl, rfl, rfl, rfl, rfl, rfl⟩

theorem number_leaf_valid {st : Store} {re : String → String → Bool} {id : NodeId} (h : st.get? id = some { type := "number" })
    (f : Nat) (sc : List NodeId) (q : Rat) : Valid (evalFuel (specEnvNoRefs st re) (f + 1) sc id (.num q)) := by
  refine (leaf_valid_iff (HasNode.of_get h) (leafSchema_typeOnly "number") f sc _).2 ?_
  simp [asserts, typeOk, typeMatches_number_num, enumOk, constOk, numericOk, stringOk, arrayLimitsOk, objectLimitsOk]

theorem float64_value {v : GoValue} (h : basicHasType "Float64" v) : ∃ q, v = .float q := by
  cases v with
  | float q => exact ⟨q, rfl⟩
  | int i => obtain ⟨lo, hi, hr, _⟩ := h; simp [intRange] at hr
  | _ => simp [basicHasType] at h

/-- **the entry accepts the encodings of `Point`**, by value and through a pointer: `EntryAcceptsTree` holds -/
theorem geo_entryAcceptsTree (tLat tLon : String) (hLat : fieldJSONInfo "Lat" tLat = { name := "lat" })
    (hLon : fieldJSONInfo "Lon" tLon = { name := "lon" }) (an : Bool) :
    EntryAcceptsTree geoStore 2 (geoU tLat tLon) an := by
  refine ⟨geoRoot, 2, rfl, by decide +kernel, fun re v hv => ?_, fun _ => ⟨Or.inl (by decide +kernel), fun re => ?_⟩⟩
  · obtain ⟨q1, q2, rfl⟩ : ∃ q1 q2, v = .struct [.float q1, .float q2] := by
      cases v with
      | struct vs =>
        simp only [geoU, HasType, HasTypeFields, hLat, hLon] at hv
        rcases vs with _ | ⟨a, _ | ⟨b, vs⟩⟩
        · exact hv.elim
        · exact hv.2.elim
        · simp only [Bool.false_eq_true, false_or] at hv
          obtain ⟨q1, rfl⟩ := float64_value hv.1
          obtain ⟨q2, rfl⟩ := float64_value hv.2.1
          rw [hv.2.2]
          exact ⟨q1, q2, rfl⟩
      | _ => simp [geoU, HasType] at hv
    have henc : encode (geoU tLat tLon) (.struct [.float q1, .float q2]) = .obj [("lat", .num q1), ("lon", .num q2)] := by
      simp [geoU, encode, encodeFields, hLat, hLon, fieldSkipped]
    rw [henc]
    refine valid_iff_isSome.1 ((evalFuel_frag (HasNode.of_get (m := geoRoot) rfl) (plain_geoRoot false) _ [] _).2
      ⟨⟨_, Laws.kwNot_absent _ _ _ rfl⟩, kwItems_none rfl rfl rfl _, ?_, ?_⟩)
    · refine kwProps_obj_valid rfl fun p hp => ⟨fun t ht => ?_, fun hl t ht => ?_⟩
      · simp only [List.mem_cons, List.not_mem_nil, or_false] at hp
        rcases hp with rfl | rfl
        · obtain rfl : t = 0 := by simpa [geoRoot, geoNode, Json.lookup] using ht.symm
          exact number_leaf_valid rfl _ _ q1
        · obtain rfl : t = 1 := by simpa [geoRoot, geoNode, Json.lookup] using ht.symm
          exact number_leaf_valid rfl _ _ q2
      · cases ht
    · simp [asserts, typeOk, geoRoot, geoNode, typeMatches, Json.typeName, enumOk, constOk, numericOk, stringOk, arrayLimitsOk,
        objectLimitsOk, specEnvNoRefs, Json.lookup]
  · refine valid_iff_isSome.1 ((evalFuel_frag (st := geoStore.push (tableNull true geoRoot)) (HasNode.of_get (m := tableNull true geoRoot) rfl)
      (plain_geoRoot true) _ [] _).2 ⟨⟨_, Laws.kwNot_absent _ _ _ rfl⟩, kwItems_none rfl rfl rfl _, ⟨_, kwProps_nonobj rfl⟩, ?_⟩)
    simp [asserts, typeOk, geoRoot, geoNode, tableNull, typeMatches, Json.typeName, enumOk, constOk, numericOk, stringOk, arrayLimitsOk,
        objectLimitsOk]

/-- `ForType` succeeds on `Trip` (computed: three clones of the entry): `h` of `infer_sound_table` is satisfiable -/
theorem trip_infers (tA tT tH tLat tLon : String)
    (hA : fieldJSONInfo "At" tA = { name := "at" }) (hT : fieldJSONInfo "Track" tT = { name := "track" })
    (hH : fieldJSONInfo "Home" tH = { name := "home" })
    (dA : tagLookup "jsonschema" tA = none) (dT : tagLookup "jsonschema" tT = none)
    (dH : tagLookup "jsonschema" tH = none) :
    ∃ id st', forType geoOpts 3 (tripT tA tT tH tLat tLon) geoStore = .ok (some id, st') := by
  show ∃ id st', inferStep geoOpts (inferFuel geoOpts 2) (tripT tA tT tH tLat tLon) [] geoStore = _
  rw [inferStep_struct (fields := [("At", tA, geoT tLat tLon), ("Track", tT, .slice (geoT tLat tLon)), ("Home", tH, .ptr (geoT tLat tLon))]) (an := false) rfl]
  obtain ⟨f1, S2, e1, i2⟩ := inferFuel_geo tLat tLon 1 (T := geoT tLat tLon) rfl (seen := []) rfl
    (S := (geoStore.push emptyNode).push (falseNode geoStore.size)) ((Ext.push _ _).trans (Ext.push _ _))
  rw [structLoop_step (by rw [hA]) dA e1]
  obtain ⟨f2, S3, e2, i3⟩ := inferFuel_geo_slice tLat tLon 0 i2
  rw [structLoop_step (by rw [hT]) dT e2]
  obtain ⟨f3, S4, e3, i4⟩ := inferFuel_geo tLat tLon 1 (T := .ptr (geoT tLat tLon)) rfl (seen := []) rfl i3
  rw [structLoop_step (by rw [hH]) dH e3]
  simp only [structLoop, Res.bind_ok]
  exact ⟨_, _, rfl⟩

/-- the three uses of `Point` in `Trip`: by value, in a slice, through a pointer -/
theorem trip_entriesAcceptTree (tA tT tH tLat tLon : String) (hLat : fieldJSONInfo "Lat" tLat = { name := "lat" })
    (hLon : fieldJSONInfo "Lon" tLon = { name := "lon" }) :
    EntriesAcceptTree geoOpts geoStore false (tripT tA tT tH tLat tLon) := by
  simp only [tripT, geoT, EntriesAcceptTree, EntriesAcceptTreeFields, geoOpts, Json.lookup]
  exact ⟨Or.inr (geo_entryAcceptsTree tLat tLon hLat hLon false), Or.inr (geo_entryAcceptsTree tLat tLon hLat hLon false),
    Or.inr (geo_entryAcceptsTree tLat tLon hLat hLon true), trivial⟩

section WitnessesT
variable (tA tT tH tLat tLon : String)
  (hA : fieldJSONInfo "At" tA = { name := "at" }) (hT : fieldJSONInfo "Track" tT = { name := "track" })
  (hH : fieldJSONInfo "Home" tH = { name := "home" })
  (hLat : fieldJSONInfo "Lat" tLat = { name := "lat" }) (hLon : fieldJSONInfo "Lon" tLon = { name := "lon" })
include hA hT hH hLat hLon

theorem trip_inDomainN : InDomainN (tripT tA tT tH tLat tLon) = true := by
  have v1 : validTagName "at" = true := by decide +kernel
  have v2 : validTagName "track" = true := by decide +kernel
  have v3 : validTagName "home" = true := by decide +kernel
  have v4 : validTagName "lat" = true := by decide +kernel
  have v5 : validTagName "lon" = true := by decide +kernel
  have d1 : "Float64" ∈ domainKinds := by decide +kernel
  simp [tripT, geoT, geoU, InDomainN, inDomainFieldsN, jsonNames, nodup, fieldTagOk, hA, hT, hH, hLat, hLon, v1, v2, v3, v4,
    v5, d1]

/-- the value `Trip{At: Point{1.5, 2}, Track: []Point{{3, 4}}, Home: nil}` -/
theorem trip_hasType : HasType (tripT tA tT tH tLat tLon)
    (.struct [.struct [.float (3/2), .float 2], .slice [.struct [.float 3, .float 4]], .nilPtr]) := by
  simp [tripT, geoT, geoU, HasType, HasTypeFields, hA, hT, hH, hLat, hLon, basicHasType, floatKinds]

/-- `infer_sound_table` applied: the value marshals to
    `{"at":{"lat":1.5,"lon":2},"track":[{"lat":3,"lon":4}],"home":null}`, which the inferred schema accepts -/
example (id : NodeId) (st' : Store) (h : forType geoOpts 3 (tripT tA tT tH tLat tLon) geoStore = .ok (some id, st')) :
    Spec.valid (specEnvNoRefs st') 5 id
      (.obj [("at", .obj [("lat", .num (3/2)), ("lon", .num 2)]), ("track", .arr [.obj [("lat", .num 3), ("lon", .num 4)]]),
             ("home", .null)]) = some true := by
  have := infer_sound_table geoOpts 3 _ geoStore id st' (fun _ _ => false) rfl
    (trip_inDomainN tA tT tH tLat tLon hA hT hH hLat hLon) (trip_entriesAcceptTree tA tT tH tLat tLon hLat hLon) h _
    (trip_hasType tA tT tH tLat tLon hA hT hH hLat hLon) 5 (by simp [tripT, geoT, geoU, depth, depthFields])
  simpa [tripT, geoT, geoU, encode, encodeFields, hA, hT, hH, hLat, hLon, fieldSkipped] using this
end WitnessesT

/-- … evaluated, on `Point` and `*Point` alone (no tag is read): the clone accepts `{"lat":1.5,"lon":2}`, rejects
    `{"lat":1.5}` (required) and `{"lat":"x","lon":2}` (the subschema of `lat`), and accepts `null` through the pointer only -/
example : (match forType geoOpts 2 (.named "Point" (.basic "Bool")) geoStore,
                 forType geoOpts 2 (.ptr (.named "Point" (.basic "Bool"))) geoStore with
    | .ok (some id, st'), .ok (some idp, stp) =>
      [Spec.valid (specEnvNoRefs st') 2 id (.obj [("lat", .num (3/2)), ("lon", .num 2)]),
       Spec.valid (specEnvNoRefs st') 2 id (.obj [("lat", .num (3/2))]),
       Spec.valid (specEnvNoRefs st') 2 id (.obj [("lat", .str "x"), ("lon", .num 2)]),
       Spec.valid (specEnvNoRefs st') 2 id .null,
       Spec.valid (specEnvNoRefs stp) 2 idp .null,
       Spec.valid (specEnvNoRefs stp) 2 idp (.obj [("lat", .num (3/2)), ("lon", .num 2)])]
    | _, _ => []) = [some true, some false, some false, some false, some true, some true] := by decide +kernel

/-- the hypothesis on the entry is needed: with `"lat": {"type":"integer"}` in the entry (`TypeSchemas[Point]` written for
    another `Point`), the inferred schema rejects the encoding `{"lat":1.5,"lon":2}` of `Point{1.5, 2}` -/
example : (match forType geoOpts 2 (.named "Point" (.basic "Bool"))
      #[{ type := "integer" }, { type := "number" }, geoNode 0 1] with
    | .ok (some id, st') => Spec.valid (specEnvNoRefs st') 2 id (.obj [("lat", .num (3/2)), ("lon", .num 2)])
    | _ => none) = some false := by decide +kernel

/-- … and so is the clause on `null` for pointers, beyond the type keyword at the root (D17): the entry
    `{"type":"object","allOf":[{"type":"object"}]}` has a type keyword, but with `null` added to the types of its root
    it still rejects `null` — the `allOf` branch does — so the schema inferred for `*Point` rejects the nil pointer -/
example : (match forType { schemas := [("Point", 1)] } 2 (.ptr (.named "Point" (.basic "Bool")))
      #[{ type := "object" }, { type := "object", allOf := some [0] }] with
    | .ok (some id, st') => [Spec.valid (specEnvNoRefs st') 2 id .null, Spec.valid (specEnvNoRefs st') 2 id (.obj [])]
    | _ => []) = [some false, some true] := by decide +kernel

/-! ### … of `infer_sound_table_deep` (labelled tests) -/

/-- `TypeSchemas[Celsius] = {"type":"number","allOf":[{"anyOf":[{"type":"number"},{"type":"string"}]}]}` (node 3): three
    levels, one more than the schema `{"type":"number"}` of `float64` under a declared type -/
def deepStore : Store := #[
  { type := "number" },
  { type := "string" },
  { anyOf := some [0, 1] },
  { type := "number", allOf := some [2] }]

def deepOpts : IOpts := { schemas := [("Celsius", 3)] }

theorem deep_num_valid (re : String → String → Bool) (q : Rat) :
    Spec.valid (specEnvNoRefs deepStore re) 3 3 (.num q) = some true := by
  have hs : typeMatches "string" (.num q) = false := by
    by_cases hq : q.den = 1 <;> simp [typeMatches, Json.typeName, hq]
  simp [Spec.valid, evalFuel, evalStep, specEnvNoRefs, Store.get?, deepStore, kwRef, inPlace, kwDynamicRef, kwAllOf, kwAnyOf,
    kwOneOf, kwNot, kwIf, kwItems, kwContains, kwProps, kwPropertyNames, kwDependentSchemas,
    kwUnevaluatedItems, kwUnevaluatedProps, sequence, conj, typeOk, typeMatches_number_num, hs, enumOk, constOk,
    numericOk, stringOk, arrayLimitsOk, objectLimitsOk, validCount, validUnion, Ev.unions, Ev.union]

/-- the entry accepts the encodings of `Celsius` with one level of extra depth (by value) … -/
theorem deep_entryAccepts : EntryAcceptsDeep deepStore 3 (.basic "Float64") false 1 := by
  refine ⟨_, 3, rfl, by decide, fun re v hv => ?_, fun h => nomatch h⟩
  obtain ⟨q, rfl⟩ := float64_value hv
  exact deep_num_valid re q

/-- … but not with the fuel of `infer_sound_table`: two levels of fuel do not reach the leaves -/
example : Spec.valid (specEnvNoRefs deepStore) 2 3 (.num 20) = none := by decide

/-- `infer_sound_table_deep` applied to `[]Celsius`: `[20, 21.5]` is accepted, with fuel `depth T + 1` -/
example (id : NodeId) (st' : Store)
    (h : forType deepOpts 3 (.slice (.named "Celsius" (.basic "Float64"))) deepStore = .ok (some id, st')) :
    Spec.valid (specEnvNoRefs st') 4 id (.arr [.num 20, .num (43/2)]) = some true := by
  have := infer_sound_table_deep deepOpts 3 (.slice (.named "Celsius" (.basic "Float64"))) deepStore id st' (fun _ _ => false)
    rfl (by decide +kernel) 1 (by simpa [EntriesAcceptDeep, deepOpts, Json.lookup] using deep_entryAccepts) h
    (.slice [.float 20, .float (43/2)]) (by simp [HasType, basicHasType, floatKinds]) 4 (by decide +kernel)
  simpa [encode] using this

/-- … and evaluated -/
example : (match forType deepOpts 3 (.slice (.named "Celsius" (.basic "Float64"))) deepStore with
    | .ok (some id, st') => [Spec.valid (specEnvNoRefs st') 4 id (.arr [.num 20, .num (43/2)]),
        Spec.valid (specEnvNoRefs st') 3 id (.arr [.num 20]), Spec.valid (specEnvNoRefs st') 4 id (.arr [.bool true])]
    | _ => []) = [some true, none, some false] := by decide +kernel

/-! ### entries WITH references (labelled tests): after cloning, a `#`-rooted reference is relative to the inferred root -/

/-- `TypeSchemas[Point] = {"$defs":{"coord":{"type":"number"}},"type":"object","properties":{"lat":{"$ref":"#/$defs/coord"},
    "lon":{"$ref":"#/$defs/coord"}},"required":["lat","lon"]}` (node 3) -/
def refStore : Store := #[
  { type := "number" },
  { ref := "#/$defs/coord" },
  { ref := "#/$defs/coord" },
  { type := "object", defs := some [("coord", 0)], properties := some [("lat", 1), ("lon", 2)], required := some ["lat", "lon"] }]

/-- `Resolve` (no Loader, empty base URI) and then validate: the verdict of the Spec over the tables `Resolve` computes -/
def resolvedValid (st : Store) (root : NodeId) (j : Json) : Res (Option Bool) :=
  (Go.resolve { st := st, reOk := fun _ => true, loader := none } 4 root "").bind fun rs =>
    .ok (Spec.valid (Go.RIso.specOf st rs fun _ _ => false) 6 root j)

/-- the entry on its own resolves and accepts `{"lat":1.5,"lon":2}` -/
example : resolvedValid refStore 3 (.obj [("lat", .num (3/2)), ("lon", .num 2)]) = .ok (some true) := by decide +kernel

/-- at the ROOT of the inferred schema (`For[Point]`) the clone resolves like the entry (`infer_table_root_refs`) -/
example : (match forType { schemas := [("Point", 3)] } 2 (.named "Point" (.basic "Bool")) refStore with
    | .ok (some id, st') => resolvedValid st' id (.obj [("lat", .num (3/2)), ("lon", .num 2)])
    | _ => .panic) = .ok (some true) := by decide +kernel

/-- **`table_entry_with_ref_unresolvable`**: below the root (`For[[]Point]`; the same for a struct field of type `Point`)
    the pointer `#/$defs/coord` is evaluated from the root of the INFERRED schema, `{"type":["null","array"],"items":…}`,
    which has no `$defs`: `Resolve` of the schema `ForType` returned fails (the real package: `JSON Pointer
    "/$defs/coord": no key "coord" in map`), so no instance is accepted -/
theorem table_entry_with_ref_unresolvable : (match forType { schemas := [("Point", 3)] } 3 (.slice (.named "Point" (.basic "Bool"))) refStore with
    | .ok (some id, st') => resolvedValid st' id (.arr [.obj [("lat", .num (3/2)), ("lon", .num 2)]])
    | _ => .panic) = .err := by decide +kernel

/-- `type Tree struct { Children []Tree "json:\"children\"" }` with the recursive entry
    `TypeSchemas[Tree] = {"type":"object","properties":{"children":{"type":["null","array"],"items":{"$ref":"#"}}},
    "required":["children"]}` (node 2) -/
def hashStore : Store := #[
  { ref := "#" },
  { types := some ["null", "array"], items := some 0 },
  { type := "object", properties := some [("children", 1)], required := some ["children"] }]

/-- the entry on its own accepts the encoding `{"children":[{"children":null}]}` of `Tree{Children: []Tree{{}}}` -/
example : resolvedValid hashStore 2 (.obj [("children", .arr [.obj [("children", .null)]])]) = .ok (some true) := by decide +kernel

/-- **`table_entry_with_ref_changes_meaning`**: in the schema inferred for `[]Tree`, `{"type":["null","array"],"items":
    <clone>}`, the reference `#` of the clone designates the ARRAY schema, not the clone: the encoding
    `[{"children":[{"children":null}]}]` of `[]Tree{{Children: []Tree{{}}}}` is rejected (the inner tree is not an
    array), while `[{"children":[[]]}]`, which no value of the type encodes to, is accepted.  The real package does the
    same (also for `struct{ Root Tree }`: `unexpected additional properties ["children"]`).  So the hypothesis
    "reference-free" of `infer_sound_table` is needed for entries below the root. -/
theorem table_entry_with_ref_changes_meaning : (match forType { schemas := [("Tree", 2)] } 3 (.slice (.named "Tree" (.basic "Bool"))) hashStore with
    | .ok (some id, st') =>
      [resolvedValid st' id (.arr [.obj [("children", .null)]]),
       resolvedValid st' id (.arr [.obj [("children", .arr [.obj [("children", .null)]])]]),
       resolvedValid st' id (.arr [.obj [("children", .arr [.arr []])]])]
    | _ => []) = [.ok (some true), .ok (some false), .ok (some true)] := by decide +kernel

/-- `NamedOk` is needed, (1): a name that occurs twice along ONE path — how a recursive declaration looks in the type
    language — makes `forType` fail (the cycle check, `C16.recursive_*_errors`), although the erased type has a schema -/
example : NamedOk {} [] [] (.named "L" (.slice (.named "L" (.slice (.basic "Int"))))) = false ∧
    forType {} 5 (.named "L" (.slice (.named "L" (.slice (.basic "Int"))))) #[] = .err ∧
    (forType {} 5 (erase (.named "L" (.slice (.named "L" (.slice (.basic "Int")))))) #[]).isOk = true :=
  ⟨by decide, by rfl, by decide⟩

/-- … (2): a declared type with a `TypeSchemas` entry that is not its own schema: `type Celsius float64` with the entry
    `{"type":"string"}` — the clone of the entry rejects the encoding `20` of `Celsius(20)` -/
example : NamedOk { schemas := [("Celsius", 0)] } [] [] (.named "Celsius" (.basic "Float64")) = false ∧
    (match forType { schemas := [("Celsius", 0)] } 2 (.named "Celsius" (.basic "Float64")) #[strNode] with
     | .ok (some id, st') => Spec.valid (specEnvNoRefs st') 2 id (encode (.named "Celsius" (.basic "Float64")) (.float 20))
     | _ => none) = some false := by decide +kernel

/-- … and the known finding D13 in these terms: big.Int is not among `marshalerTypes`, and cannot be: its entry is
    `{"type":"string"}`, its JSON form a number (`.named "big.Int" (.basic "Int")`) -/
example : NamedOk initialOpts marshalerTypes [] (.named "big.Int" (.basic "Int")) = false ∧
    (match forType initialOpts 2 (.named "big.Int" (.basic "Int")) #[strNode] with
     | .ok (some id, st') => Spec.valid (specEnvNoRefs st') 2 id (encode (.named "big.Int" (.basic "Int")) (.int 7))
     | _ => none) = some false := by decide +kernel

/-! ## embedded struct fields (`forTypeE`, JSV/Model/InferEmb.lean; json.Marshal: `EncJsonEmb.encodeE`) -/

open EncJsonEmb in
/-- **main, with embedded fields (partial)**: for a type of the domain `InDomainE` — `InDomain` plus embedded fields
    that are untagged exported declared struct types, by value or by pointer, such that within every tree of embedded
    structs the JSON name of a field is determined by its Go name and vice versa and no Go name occurs twice at one
    depth (`namesOk`) — the schema `ForType` returns accepts the JSON encoding of every value of the type.  A value
    of the type has non-nil embedded pointers (`HasTypeE`): through a nil embedded pointer json.Marshal leaves out the
    promoted fields, the required ones included.

    `hno` (`EmbNotInTable`): no embedded field, at any level of `T`, is of a type with a TypeSchemas entry (other
    entries, e.g. the initial ones for time.Time …, do not matter; `embNotInTable_of_empty` for the empty table).  With
    an override of an embedded type the statement is false in general: the override replaces the promoted properties
    by its own, and `additionalProperties: false` then rejects the promoted members.

    Partial, what is missing: types outside `InDomainE`: D14 (a JSON name shared by two Go names), D16 (tagged /
    non-struct embedded fields); declared types in non-embedded positions are in `infer_soundE_named_partial`. -/
theorem infer_soundE_partial (opts : IOpts) (fuel : Nat) (T : GoTypeE) (st : Store) (id : NodeId) (st' : Store)
    (re : String → String → Bool) (hnfs : opts.nullForSlices = true) (hno : EmbNotInTable opts T)
    (hdom : InDomainE T = true) (h : forTypeE opts fuel T st = .ok (some id, st')) (v : GoValue) (hv : HasTypeE T v)
    (fuel' : Nat) (hf : depthE T ≤ fuel') :
    Spec.valid (specEnvNoRefs st' re) fuel' id (encodeE T v) = some true := by
  obtain ⟨id', hid, hm⟩ := inferFuelE_models opts fuel T [] st (some id) st' hdom hno h
  cases hid
  rw [hnfs] at hm
  exact valid_iff_isSome.1 ((soundE (re := re) T hdom false id hm fuel' [] hf).2 v hv)

open EncJsonEmb in
/-- **main, with embedded fields and declared types (partial)**: as `infer_soundE_partial`, with declared types
    (`type Celsius float64`, `type Point struct{…}` …) in NON-embedded positions anywhere in `T`: field types, element
    types, the types of the fields of embedded structs.  `InDomainEN T`: the type with these declared types replaced by
    their underlying types (`eraseE`; the declared types of embedded fields stay) is in `InDomainE`; `NamedOkE opts [] T`
    (decidable): none of them has an entry in the type table, the underlying types are basic kinds, slices, arrays, maps or
    structs, no name occurs twice along a root-to-leaf path.  A value of a declared type is a value of its underlying type
    and is encoded like it.

    Partial, what is missing: as `infer_soundE_partial` (D14, D16, overrides of embedded types), and declared types WITH
    a type-table entry in non-embedded positions (`infer_sound_table_partial` has them for types without embedded
    fields). -/
theorem infer_soundE_named_partial (opts : IOpts) (fuel : Nat) (T : GoTypeE) (st : Store) (id : NodeId) (st' : Store)
    (re : String → String → Bool) (hnfs : opts.nullForSlices = true) (hno : EmbNotInTable opts T)
    (hdom : InDomainEN T = true) (hok : NamedOkE opts [] T = true)
    (h : forTypeE opts fuel T st = .ok (some id, st')) (v : GoValue) (hv : HasTypeE T v)
    (fuel' : Nat) (hf : depthE T ≤ fuel') :
    Spec.valid (specEnvNoRefs st' re) fuel' id (encodeE T v) = some true := by
  rw [forTypeE_erase opts fuel T st hok] at h
  rw [← encodeE_erase]
  exact infer_soundE_partial opts fuel (eraseE T) st id st' re hnfs (embNotInTable_erase opts T hno) hdom h v
    ((hasTypeE_erase T v).2 hv) fuel' (Nat.le_trans (depthE_erase_le T) hf)

open EncJsonEmb in
/-- … and `ForType` never drops such a type -/
theorem infer_someE_named (opts : IOpts) (fuel : Nat) (T : GoTypeE) (st : Store) (r : Option NodeId) (st' : Store)
    (hdom : InDomainEN T = true) (hok : NamedOkE opts [] T = true) (h : forTypeE opts fuel T st = .ok (r, st')) :
    ∃ id, r = some id := by
  rw [forTypeE_erase opts fuel T st hok] at h
  exact inferFuelE_some opts fuel (eraseE T) [] st r st' hdom h

open EncJsonEmb in
/-- the spec with embedded fields does not see declared types in non-embedded positions either -/
theorem encJsonEmb_named_conservative (T : GoTypeE) :
    (∀ v, HasTypeE (eraseE T) v ↔ HasTypeE T v) ∧ (∀ v, encodeE (eraseE T) v = encodeE T v) ∧
    depthE (eraseE T) ≤ depthE T :=
  ⟨hasTypeE_erase T, encodeE_erase T, depthE_erase_le T⟩

open EncJsonEmb in
/-- on the domain `ForType` never drops the type -/
theorem infer_someE (opts : IOpts) (fuel : Nat) (T : GoTypeE) (st : Store) (r : Option NodeId) (st' : Store)
    (hdom : InDomainE T = true) (h : forTypeE opts fuel T st = .ok (r, st')) : ∃ id, r = some id :=
  inferFuelE_some opts fuel T [] st r st' hdom h

open EncJsonEmb in
/-- the schema built for a type of the domain is the schema of the type with its embedded structs dissolved
    (`flatten`: the fields of a struct are its live visible fields), in the sense of `Go.Models` -/
theorem infer_models_flatten (opts : IOpts) (fuel : Nat) (T : GoTypeE) (st : Store) (id : NodeId) (st' : Store)
    (hno : EmbNotInTable opts T) (hdom : InDomainE T = true)
    (h : forTypeE opts fuel T st = .ok (some id, st')) : Models opts.nullForSlices st' (flatten T) false id := by
  obtain ⟨id', hid, hm⟩ := inferFuelE_models opts fuel T [] st (some id) st' hdom hno h
  cases hid
  exact hm

open EncJsonEmb in
/-- **the spec with embedded fields is conservative over the spec without**: on a type without embedded fields
    (`GoType.toE`) typing is the same; on `InDomain` (pairwise distinct JSON names, H_D14) `typeFields`, json.Marshal
    and the strict decoder are the same; and `InDomainE` contains `InDomain` (for structs with pairwise distinct Go
    field names) -/
theorem encJsonEmb_conservative (T : GoType) :
    (∀ v, HasTypeE T.toE v ↔ HasType T v) ∧
    (InDomain T = true → (∀ v, encodeE T.toE v = encode T v) ∧ (∀ j, decodableE T.toE j = decodable T j)) ∧
    (InDomain T = true → DistinctNames T = true → InDomainE T.toE = true) :=
  ⟨hasTypeE_toE T, fun h => ⟨fun v => encodeE_toE T v h, fun j => decodableE_toE T j h⟩, inDomainE_toE T⟩

open EncJsonEmb in
/-- … `typeFields` of a struct without embedded fields: the non-omitted fields in declaration order -/
theorem typeFields_conservative (fs : List (String × String × GoType)) (h : nodup (jsonNames fs) = true) :
    fieldNames (fieldsToE fs) = jsonNames fs ∧ alwaysFieldNames (fieldsToE fs) = alwaysNames fs :=
  ⟨fieldNames_toE fs h, alwaysFieldNames_toE fs h⟩

/-! ### the hypotheses of `infer_soundE_partial` are satisfiable (labelled tests; what the tag parser returns for each
  tag is a hypothesis, as above) -/

def fld (g tag : String) (t : GoTypeE) : FieldE GoTypeE :=
  { goName := g, tag := tag, exported := true, embedded := false, type := t }
def emb (g tag : String) (t : GoTypeE) : FieldE GoTypeE :=
  { goName := g, tag := tag, exported := true, embedded := true, type := t }

/-- `struct{ Inner; A int "json:\"a\"" }` with `type Inner struct { X int "json:\"x\""; Y string "json:\"y,omitempty\"" }` -/
def embedValT (tI tX tY tA : String) : GoTypeE :=
  .struct [emb "Inner" tI (.named "Inner" (.struct [fld "X" tX (.basic "Int"), fld "Y" tY (.basic "String")])),
           fld "A" tA (.basic "Int")]

section WitnessesE
open EncJsonEmb
variable (tI tX tY tA : String)
  (hI : tagLookup "json" tI = none)
  (hX : fieldJSONInfo "X" tX = { name := "x" }) (hY : fieldJSONInfo "Y" tY = { name := "y", omitempty := true })
  (hA : fieldJSONInfo "A" tA = { name := "a" })
include hI hX hY hA

theorem embedVal_inDomain : InDomainE (embedValT tI tX tY tA) = true := by
  have v1 : validTagName "x" = true := by decide +kernel
  have v2 : validTagName "y" = true := by decide +kernel
  have v3 : validTagName "a" = true := by decide +kernel
  have d1 : "Int" ∈ domainKinds := by decide +kernel
  have d2 : "String" ∈ domainKinds := by decide +kernel
  simp [embedValT, fld, emb, InDomainE, inDomainFieldsE, inDomainEmbE, namesOk, pairOk, live, jsonNameOf, allFields, embFields,
    hI, hX, hY, hA, fieldTagOk, v1, v2, v3, d1, d2]

/-- the value `{Inner: {X: 1, Y: ""}, A: 2}` -/
theorem embedVal_hasType : HasTypeE (embedValT tI tX tY tA) (.struct [.struct [.int 1, .str ""], .int 2]) := by
  have hIo := (fieldJSONInfo_untagged (g := "Inner") (tag := tI) (by rw [hI]; rfl))
  simp [embedValT, fld, emb, HasTypeE, HasTypeFieldsE, HasTypeEmbE, classify, isStructE, derefE, hIo.1, hIo.2, hX, hY, hA,
    basicHasType, intRange]
  exact ⟨⟨_, _, ⟨rfl, rfl⟩, by decide +kernel, by decide +kernel⟩, ⟨_, _, ⟨rfl, rfl⟩, by decide +kernel, by decide +kernel⟩⟩

/-- the encoding `{"x":1,"a":2}` of that value is accepted (used again in C09, where the same document is decoded) -/
theorem embedVal_accepted (id : NodeId) (st' : Store) (h : forTypeE {} 3 (embedValT tI tX tY tA) #[] = .ok (some id, st')) :
    Spec.valid (specEnvNoRefs st') 4 id (.obj [("x", .num 1), ("a", .num 2)]) = some true := by
  have hIo := (fieldJSONInfo_untagged (g := "Inner") (tag := tI) (by rw [hI]; rfl))
  have := infer_soundE_partial {} 3 _ #[] id st' (fun _ _ => false) rfl
    ((embNotInTable_of_empty (opts := {}) (fun _ => rfl)).1 _)
    (embedVal_inDomain tI tX tY tA hI hX hY hA) h _ (embedVal_hasType tI tX tY tA hI hX hY hA) 4
    (by simp [embedValT, fld, emb, depthE, depthFieldsE])
  simpa [embedValT, fld, emb, encodeE, encodeFieldsE, encodeEmbE, candidates, embCandidates, classify, mkTField, isDominant,
    dominates, isStructE, derefE, hIo.1, hIo.2, hX, hY, hA, fieldSkipped, isEmptyValue] using this

/-- `infer_soundE_partial` applied: the value marshals to `{"x":1,"a":2}` (`y` is empty and omitempty), which the
    inferred schema accepts -/
example (id : NodeId) (st' : Store) (h : forTypeE {} 3 (embedValT tI tX tY tA) #[] = .ok (some id, st')) :
    Spec.valid (specEnvNoRefs st') 4 id (.obj [("x", .num 1), ("a", .num 2)]) = some true :=
  embedVal_accepted tI tX tY tA hI hX hY hA id st' h

end WitnessesE

/-! ### … with declared types in non-embedded positions -/

/-- `struct{ Inner; A Celsius "json:\"a\"" }` with `type Inner struct { X Count "json:\"x\""; Y string "json:\"y,omitempty\"" }`,
    `type Count int`, `type Celsius float64` -/
def embedNamedT (tI tX tY tA : String) : GoTypeE :=
  .struct [emb "Inner" tI (.named "Inner" (.struct [fld "X" tX (.named "Count" (.basic "Int")), fld "Y" tY (.basic "String")])),
           fld "A" tA (.named "Celsius" (.basic "Float64"))]

open EncJsonEmb in
theorem embedNamed_erase (tI tX tY tA : String) :
    eraseE (embedNamedT tI tX tY tA) =
      .struct [emb "Inner" tI (.named "Inner" (.struct [fld "X" tX (.basic "Int"), fld "Y" tY (.basic "String")])),
               fld "A" tA (.basic "Float64")] := by
  simp [embedNamedT, eraseE, eraseFieldsE, eraseEmbE, emb, fld]

open EncJsonEmb in
theorem embedNamed_namedOk (tI tX tY tA : String) : NamedOkE {} [] (embedNamedT tI tX tY tA) = true := by
  simp [embedNamedT, NamedOkE, namedOkFieldsE, namedOkEmbE, emb, fld, namedShapeE, Json.lookup]

section WitnessesEN
open EncJsonEmb
variable (tI tX tY tA : String)
  (hI : tagLookup "json" tI = none)
  (hX : fieldJSONInfo "X" tX = { name := "x" }) (hY : fieldJSONInfo "Y" tY = { name := "y", omitempty := true })
  (hA : fieldJSONInfo "A" tA = { name := "a" })
include hI hX hY hA

theorem embedNamed_inDomain : InDomainEN (embedNamedT tI tX tY tA) = true := by
  have v1 : validTagName "x" = true := by decide +kernel
  have v2 : validTagName "y" = true := by decide +kernel
  have v3 : validTagName "a" = true := by decide +kernel
  have d1 : "Int" ∈ domainKinds := by decide +kernel
  have d2 : "String" ∈ domainKinds := by decide +kernel
  have d3 : "Float64" ∈ domainKinds := by decide +kernel
  unfold InDomainEN
  rw [embedNamed_erase]
  simp [fld, emb, InDomainE, inDomainFieldsE, inDomainEmbE, namesOk, pairOk, live, jsonNameOf, allFields, embFields,
    hI, hX, hY, hA, fieldTagOk, v1, v2, v3, d1, d2, d3]

theorem embedNamed_hasType : HasTypeE (embedNamedT tI tX tY tA) (.struct [.struct [.int 1, .str ""], .float 20]) := by
  have hIo := (fieldJSONInfo_untagged (g := "Inner") (tag := tI) (by rw [hI]; rfl))
  simp [embedNamedT, fld, emb, HasTypeE, HasTypeFieldsE, HasTypeEmbE, classify, isStructE, derefE, hIo.1, hIo.2, hX, hY, hA,
    basicHasType, intRange, floatKinds]
  exact ⟨_, _, ⟨rfl, rfl⟩, by decide +kernel, by decide +kernel⟩

/-- `infer_soundE_named_partial` applied: `{Inner: {X: 1, Y: ""}, A: 20}` marshals to `{"x":1,"a":20}`, which the inferred
    schema accepts -/
example (id : NodeId) (st' : Store) (h : forTypeE {} 4 (embedNamedT tI tX tY tA) #[] = .ok (some id, st')) :
    Spec.valid (specEnvNoRefs st') 5 id (.obj [("x", .num 1), ("a", .num 20)]) = some true := by
  have hIo := (fieldJSONInfo_untagged (g := "Inner") (tag := tI) (by rw [hI]; rfl))
  have := infer_soundE_named_partial {} 4 _ #[] id st' (fun _ _ => false) rfl
    ((embNotInTable_of_empty (opts := {}) (fun _ => rfl)).1 _)
    (embedNamed_inDomain tI tX tY tA hI hX hY hA) (embedNamed_namedOk tI tX tY tA) h _
    (embedNamed_hasType tI tX tY tA hI hX hY hA) 5
    (by simp [embedNamedT, fld, emb, depthE, depthFieldsE])
  simpa [embedNamedT, fld, emb, encodeE, encodeFieldsE, encodeEmbE, candidates, embCandidates, classify, mkTField, isDominant,
    dominates, isStructE, derefE, hIo.1, hIo.2, hX, hY, hA, fieldSkipped, isEmptyValue] using this
end WitnessesEN

/-- outside the domain (known finding D14): in `struct{ Y string "json:\"x\""; Inner }` the JSON name `x` belongs to
    two Go names -/
example (tI tX tY tY' : String)
    (hX : fieldJSONInfo "X" tX = { name := "x" }) (hY : fieldJSONInfo "Y" tY = { name := "y", omitempty := true })
    (hY' : fieldJSONInfo "Y" tY' = { name := "x" }) :
    EncJsonEmb.InDomainE (.struct [fld "Y" tY' (.basic "String"),
      emb "Inner" tI (.named "Inner" (.struct [fld "X" tX (.basic "Int"), fld "Y" tY (.basic "String")]))]) = false := by
  simp [fld, emb, EncJsonEmb.InDomainE, EncJsonEmb.namesOk, EncJsonEmb.pairOk, EncJsonEmb.live, EncJsonEmb.jsonNameOf,
    allFields, embFields, hX, hY, hY']

/-! ## what the hypotheses exclude (labelled tests) -/

/-- `opts.nullForSlices = true` is needed: with `JSONSCHEMAGODEBUG=typeschemasnull=1` the schema of `[]int8` is
    `{"type":"array",…}`, which rejects the encoding `null` of the nil slice -/
example : (match forType { nullForSlices := false } 2 (.slice (.basic "Int8")) #[] with
    | .ok (some id, st') => Spec.valid (specEnvNoRefs st') 3 id (encode (.slice (.basic "Int8")) .nilSlice)
    | _ => none) = some false := by decide

/-- nil maps are outside the fragment (`GoValue` has no nil map): json.Marshal writes `null` for them, which
    the schema of `map[string]int8` rejects -/
example : (match forType {} 2 (.map "String" (.basic "Int8")) #[] with
    | .ok (some id, st') => Spec.valid (specEnvNoRefs st') 3 id .null
    | _ => none) = some false := by decide

/-! ## the hypotheses are satisfiable on non-trivial data -/

example : InDomain (.slice (.ptr (.basic "Int8"))) = true := by decide

example : HasType (.slice (.ptr (.basic "Int8"))) (.slice [.ptr (.int 5), .nilPtr]) := by
  simp only [HasType, basicHasType, intRange, List.mem_cons, List.not_mem_nil, or_false]
  rintro w (rfl | rfl)
  · exact ⟨-128, 127, by simp, by decide +kernel, by decide +kernel⟩
  · trivial

/-- `infer_sound` applied: `[]*int8{&5, nil}` ↦ `[5,null]` is accepted -/
example (id : NodeId) (st' : Store) (h : forType {} 3 (.slice (.ptr (.basic "Int8"))) #[] = .ok (some id, st')) :
    Spec.valid (specEnvNoRefs st') 2 id (.arr [.num 5, .null]) = some true := by
  have hv : HasType (.slice (.ptr (.basic "Int8"))) (.slice [.ptr (.int 5), .nilPtr]) := by
    simp only [HasType, basicHasType, intRange, List.mem_cons, List.not_mem_nil, or_false]
    rintro w (rfl | rfl)
    · exact ⟨-128, 127, by simp, by decide +kernel, by decide +kernel⟩
    · trivial
  have := infer_sound {} 3 _ #[] id st' (fun _ _ => false) rfl (by decide +kernel) h _ hv 2 (by decide +kernel)
  simpa [encode] using this

/-- … and evaluated: the same verdict by running the model and the Spec -/
example : (match forType {} 3 (.slice (.ptr (.basic "Int8"))) #[] with
    | .ok (some id, st') => Spec.valid (specEnvNoRefs st') 2 id (.arr [.num 5, .null])
    | _ => none) = some true := by decide +kernel

/-- out of range: 128 is rejected by the schema of `[]*int8` -/
example : (match forType {} 3 (.slice (.ptr (.basic "Int8"))) #[] with
    | .ok (some id, st') => Spec.valid (specEnvNoRefs st') 2 id (.arr [.num 128])
    | _ => none) = some false := by decide +kernel

end JSV.C04
