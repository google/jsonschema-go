/-
  C18 — non-asserting keywords are never read by the evaluator; unknown keywords never make Unmarshal fail.
  Property theorems only (helper lemmas: JSV/Proofs/InvMeta.lean, JSV/Proofs/InvUnmarshal.lean).
-/
import JSV.Proofs.InvMeta
import JSV.Proofs.InvUnmarshal
namespace JSV.C18
open JSV Go GoVal

/-- clear every field the package documents as non-asserting, and Extra / PropertyOrder / unreferenced definitions -/
def eraseMeta (n : Node) : Node :=
  { n with title := "", description := "", comment := "", default := none, examples := none, deprecated := false,
           readOnly := false, writeOnly := false, format := "", contentEncoding := "", contentMediaType := "",
           contentSchema := none, extra := none, propertyOrder := none, defs := none, definitions := none,
           vocabulary := none }

def eraseStore (st : Store) : Store := st.map eraseMeta

/-- **C18.**  Clearing title, description, $comment, default, examples, deprecated, readOnly, writeOnly, format,
    contentEncoding, contentMediaType, contentSchema, Extra, PropertyOrder, $defs, definitions and $vocabulary in
    every schema object changes no result of the evaluator: same verdict, same annotations, same panics, same fuel. -/
theorem validate_eraseMeta (env : Go.VEnv) : ∀ fuel stack i s,
    Go.validateFuel { env with st := eraseStore env.st } fuel stack i s = Go.validateFuel env fuel stack i s :=
  Inv.validateFuel_map env eraseMeta (fun _ => rfl)

/-- … and at the entry point `(*Resolved).Validate` (which also reads the root's `$schema`) -/
theorem validate_eraseMeta_entry (env : Go.VEnv) (supported : List String) (fuel : Nat) (root : NodeId) (inst : GoVal) :
    Go.validate { env with st := eraseStore env.st } supported fuel root inst = Go.validate env supported fuel root inst :=
  Inv.validate_map_of env eraseMeta (fun _ => rfl) (Inv.validateFuel_map env eraseMeta (fun _ => rfl)) supported fuel root inst

/-- **generalisation**: any per-node decoration `f` that agrees with the identity on the fields the blocks read
    (`Inv.readsOf` keeps exactly the 44 fields of `Generated.validateReads` and `id`, and zeroes the 20 others)
    is invisible to the evaluator. -/
theorem validate_decoration (env : Go.VEnv) (f : Node → Node) (hf : ∀ n, Inv.readsOf (f n) = Inv.readsOf n) :
    ∀ fuel stack i s,
    Go.validateFuel { env with st := env.st.map f } fuel stack i s = Go.validateFuel env fuel stack i s :=
  Inv.validateFuel_map env f hf

/-- `$id`, `$schema`, `$anchor`, `$dynamicAnchor` are consumed by Resolve; `(*state).validate` never selects
    `Schema`, `Anchor`, `DynamicAnchor` (it reads `ID` only through `schemaString` in the deferred `wrapf`):
    clearing these three as well is invisible to `validateFuel` -/
theorem validate_eraseMeta_anchors (env : Go.VEnv) : ∀ fuel stack i s,
    Go.validateFuel { env with st := env.st.map fun n =>
        { eraseMeta n with schema := "", anchor := "", dynamicAnchor := "" } } fuel stack i s
      = Go.validateFuel env fuel stack i s :=
  Inv.validateFuel_map env _ (fun _ => rfl)

/-- the regenerated list of fields read by `(*state).validate` contains none of the non-asserting ones -/
theorem validateReads_disjoint :
    ∀ f ∈ ["Title","Description","Comment","Default","Examples","Deprecated","ReadOnly","WriteOnly","Format",
           "ContentEncoding","ContentMediaType","ContentSchema","Extra","PropertyOrder","Defs","Definitions",
           "Vocabulary","ID","Schema","Anchor","DynamicAnchor"],
      f ∉ Generated.validateReads := by
  decide +kernel

/-- the Node fields the model's keyword blocks read, by Go field name (`Inv.readsOf` keeps exactly these and `id`) -/
def modelReads : List String := [
  "Ref", "DynamicRef", "Type", "Types", "Enum", "Const", "MultipleOf", "Minimum", "Maximum", "ExclusiveMinimum",
  "ExclusiveMaximum", "MinLength", "MaxLength", "Pattern", "PrefixItems", "Items", "ItemsArray", "MinItems",
  "MaxItems", "AdditionalItems", "UniqueItems", "Contains", "MinContains", "MaxContains", "UnevaluatedItems",
  "MinProperties", "MaxProperties", "Required", "DependentRequired", "Properties", "PatternProperties",
  "AdditionalProperties", "PropertyNames", "UnevaluatedProperties", "AllOf", "AnyOf", "OneOf", "Not", "If", "Then",
  "Else", "DependentSchemas", "DependencySchemas", "DependencyStrings"]

/-- the documented list of fields the model reads = the list regenerated from the Go source -/
theorem modelReads_eq_generated :
    (modelReads.all (Generated.validateReads.contains ·) && Generated.validateReads.all (modelReads.contains ·)) = true := by
  decide +kernel

/-- every name of `modelReads` is a field of the Go struct -/
theorem modelReads_are_fields : modelReads.all ((Generated.schemaFields.map (·.1)).contains ·) = true := by
  decide +kernel

/-- the formal half of `modelReads_eq_generated`: resetting ANY field of the Go struct that is not in the regenerated
    list (and is not `ID`) to its zero value, in every schema object, is invisible to the evaluator — so the model
    reads no field outside `Generated.validateReads ∪ {ID}`. -/
theorem model_reads_within_generated (env : Go.VEnv) (name : String)
    (h : name ∉ Generated.validateReads) (hid : name ≠ "ID") : ∀ fuel stack i s,
    Go.validateFuel { env with st := env.st.map (Inv.eraseField name) } fuel stack i s
      = Go.validateFuel env fuel stack i s :=
  Inv.validateFuel_map env _ (Inv.eraseField_preserves name h hid)

/-- the 20 fields of the struct this covers -/
theorem unread_fields :
    (Generated.schemaFields.map (·.1)).filter (fun f => !("ID" :: Generated.validateReads).contains f) =
      ["Schema", "Comment", "Defs", "Definitions", "Anchor", "DynamicAnchor", "Vocabulary", "Title", "Description",
       "Default", "Deprecated", "ReadOnly", "WriteOnly", "Examples", "ContentEncoding", "ContentMediaType",
       "ContentSchema", "Format", "Extra", "PropertyOrder"] := by
  decide +kernel

/-! ### … and conversely every field of the regenerated list matters to the model

For each of the 44 names a one-object schema (plus a `true` schema at 1 and a `false` schema at 2) and an instance on
which the model answers "invalid", and answers "valid" once the field is reset to its zero value: the model really
reads every field `(*state).validate` selects. -/

def witnessEnv (d : Draft) (n : Node) : VEnv :=
  { st := #[n, {}, { not := some 3 }, {}], draft := d,
    infos := [(0, { base := some 0, resolvedRef := some 2, resolvedDynamicRef := some 2 }), (1, { base := some 0 }),
              (2, { base := some 0 }), (3, { base := some 0 })],
    reMatch := fun re _ => re == "p", hash := fun _ => 0 }

def readWitnesses : List (String × Draft × Node × Json) := [
  ("Ref", .d2020, { ref := "x" }, .null),
  ("DynamicRef", .d2020, { dynamicRef := "x" }, .null),
  ("Type", .d2020, { type := "string" }, .null),
  ("Types", .d2020, { types := some ["string"] }, .null),
  ("Enum", .d2020, { enum := some [] }, .null),
  ("Const", .d2020, { const := some (.num 1) }, .null),
  ("MultipleOf", .d2020, { multipleOf := some 2 }, .num 3),
  ("Minimum", .d2020, { minimum := some 5 }, .num 3),
  ("Maximum", .d2020, { maximum := some 1 }, .num 3),
  ("ExclusiveMinimum", .d2020, { exclusiveMinimum := some 3 }, .num 3),
  ("ExclusiveMaximum", .d2020, { exclusiveMaximum := some 3 }, .num 3),
  ("MinLength", .d2020, { minLength := some 2 }, .str "a"),
  ("MaxLength", .d2020, { maxLength := some 0 }, .str "a"),
  ("Pattern", .d2020, { pattern := "q" }, .str "a"),
  ("PrefixItems", .d2020, { prefixItems := some [2] }, .arr [.null]),
  ("Items", .d2020, { items := some 2 }, .arr [.null]),
  ("ItemsArray", .d7, { itemsArray := some [2] }, .arr [.null]),
  ("MinItems", .d2020, { minItems := some 1 }, .arr []),
  ("MaxItems", .d2020, { maxItems := some 0 }, .arr [.null]),
  ("AdditionalItems", .d7, { itemsArray := some [], additionalItems := some 2 }, .arr [.null]),
  ("UniqueItems", .d2020, { uniqueItems := true }, .arr [.null, .null]),
  ("Contains", .d2020, { contains := some 2 }, .arr [.null]),
  ("MinContains", .d2020, { contains := some 1, minContains := some 2 }, .arr [.null]),
  ("MaxContains", .d2020, { contains := some 1, maxContains := some 0 }, .arr [.null]),
  ("UnevaluatedItems", .d2020, { unevaluatedItems := some 2 }, .arr [.null]),
  ("MinProperties", .d2020, { minProperties := some 1 }, .obj []),
  ("MaxProperties", .d2020, { maxProperties := some 0 }, .obj [("a", .null)]),
  ("Required", .d2020, { required := some ["b"] }, .obj [("a", .null)]),
  ("DependentRequired", .d2020, { dependentRequired := some [("a", some ["b"])] }, .obj [("a", .null)]),
  ("Properties", .d2020, { properties := some [("a", 2)] }, .obj [("a", .null)]),
  ("PatternProperties", .d2020, { patternProperties := some [("p", 2)] }, .obj [("a", .null)]),
  ("AdditionalProperties", .d2020, { additionalProperties := some 2 }, .obj [("a", .null)]),
  ("PropertyNames", .d2020, { propertyNames := some 2 }, .obj [("a", .null)]),
  ("UnevaluatedProperties", .d2020, { unevaluatedProperties := some 2 }, .obj [("a", .null)]),
  ("AllOf", .d2020, { allOf := some [2] }, .null),
  ("AnyOf", .d2020, { anyOf := some [2] }, .null),
  ("OneOf", .d2020, { oneOf := some [2] }, .null),
  ("Not", .d2020, { not := some 1 }, .null),
  ("If", .d2020, { if_ := some 2, else_ := some 2 }, .null),
  ("Then", .d2020, { if_ := some 1, then_ := some 2 }, .null),
  ("Else", .d2020, { if_ := some 2, else_ := some 2 }, .null),
  ("DependentSchemas", .d2020, { dependentSchemas := some [("a", 2)] }, .obj [("a", .null)]),
  ("DependencySchemas", .d7, { dependencySchemas := some [("a", 2)] }, .obj [("a", .null)]),
  ("DependencyStrings", .d7, { dependencyStrings := some [("a", some ["b"])] }, .obj [("a", .null)])]

theorem readWitnesses_cover : readWitnesses.map (·.1) = modelReads := by decide +kernel

/-- every field of `modelReads` (= `Generated.validateReads`) is read: resetting it flips a verdict -/
theorem every_read_field_matters :
    readWitnesses.all (fun w =>
      (Go.validateFuel (witnessEnv w.2.1 w.2.2.1) 3 [] (GoVal.ofJson w.2.2.2) 0).verdict == some false &&
      (Go.validateFuel (witnessEnv w.2.1 (Inv.eraseField w.1 w.2.2.1)) 3 [] (GoVal.ofJson w.2.2.2) 0).verdict
        == some true) = true := by
  decide +kernel

/-- unknown keywords never make Unmarshal fail: one more member with a key outside `Go.knownKeys`.
    H_D4 (`hf`): the key is not a case variant of a keyword either — encoding/json matches struct fields
    case-insensitively, so `{"Type":5}` fails like `{"type":5}` (known finding D4, `unmarshal_folded_is_keyword` below). -/
theorem unmarshal_unknown_ok (rec : URec) (kvs : List (String × Json)) (k : String) (v : Json) (st : Store)
    (hk : Go.knownKeys.contains k = false) (hf : Go.isFoldedKey k = false) :
    (∃ r, Go.setFields rec (kvs ++ [(k, v)]) Go.emptyNode st = .ok r) ↔
    (∃ r, Go.setFields rec kvs Go.emptyNode st = .ok r) := by
  rw [Inv.setFields_append]
  cases Go.setFields rec kvs Go.emptyNode st with
  | ok p =>
    simp only [Res.bind_ok, Go.setFields, Inv.setMember_unknown rec p.1 p.2 k v hk hf]
    exact ⟨fun _ => ⟨p, rfl⟩, fun _ => ⟨_, rfl⟩⟩
  | fuel => simp
  | panic => simp
  | err => simp

/-- … and the resulting schema object differs from the original only in `extra`, the store not at all.
    H_D4 (`hf`): the key is not a case variant of a keyword (such a member also sets the keyword's field). -/
theorem unmarshal_unknown_extra_only (rec : URec) (kvs : List (String × Json)) (k : String) (v : Json) (st st' : Store)
    (n : Node) (hk : Go.knownKeys.contains k = false) (hf : Go.isFoldedKey k = false)
    (h : Go.setFields rec kvs Go.emptyNode st = .ok (n, st')) :
    Go.setFields rec (kvs ++ [(k, v)]) Go.emptyNode st
      = .ok ({ n with extra := some ((n.extra.getD []) ++ [(k, v)]) }, st') := by
  rw [Inv.setFields_append, h]
  simp only [Res.bind_ok, Go.setFields, Inv.setMember_unknown rec n st' k v hk hf]

/-- an outcome other than success is unchanged too (error, panic, out of fuel) — whatever the extra member is -/
theorem unmarshal_unknown_fail (rec : URec) (kvs : List (String × Json)) (k : String) (v : Json) (st : Store)
    (h : ∀ r, Go.setFields rec kvs Go.emptyNode st ≠ .ok r) :
    Go.setFields rec (kvs ++ [(k, v)]) Go.emptyNode st = (Go.setFields rec kvs Go.emptyNode st).bind fun _ => .err := by
  rw [Inv.setFields_append]
  cases he : Go.setFields rec kvs Go.emptyNode st with
  | ok p => exact absurd he (h p)
  | _ => rfl

/-- the unknown member at ANY position of the object: with it and without it, Unmarshal fails the same way, or succeeds
    on both with the same store and schema objects that differ at most in `Extra` (later unknown members are appended
    to a different `Extra`, later keyword members — and case variants of keywords — never read it).
    H_D4 (`hf`): the key itself is not a case variant of a keyword; the other members `l1`, `l2` are arbitrary. -/
theorem unmarshal_unknown_anywhere (rec : URec) (l1 l2 : List (String × Json)) (k : String) (v : Json) (st : Store)
    (hk : Go.knownKeys.contains k = false) (hf : Go.isFoldedKey k = false) :
    (match Go.setFields rec (l1 ++ (k, v) :: l2) Go.emptyNode st, Go.setFields rec (l1 ++ l2) Go.emptyNode st with
     | .ok (a, s), .ok (b, t) => (∃ e, a = { b with extra := e }) ∧ s = t
     | .fuel, .fuel => True
     | .panic, .panic => True
     | .err, .err => True
     | _, _ => False) := by
  have h := Inv.setFields_unknown_anywhere rec l1 l2 k v Go.emptyNode st hk hf
  generalize Go.setFields rec (l1 ++ (k, v) :: l2) Go.emptyNode st = r1 at h ⊢
  generalize Go.setFields rec (l1 ++ l2) Go.emptyNode st = r2 at h ⊢
  cases r1 <;> cases r2 <;> first | exact h | exact False.elim h

/-- **known finding D4 as the model (= the code) behaves.**  A key with `canonKey k ≠ k` — no keyword, but equal to one up
    to letter case, e.g. "MINIMUM" or "Type" — is decoded by `json.Unmarshal` into that keyword's field exactly as if it had
    been spelled like the keyword (same value, same failures), and `unmarshalStructWithMap` additionally keeps the member in
    `Extra` because the key is not *exactly* a JSON name of the struct. -/
theorem unmarshal_folded_is_keyword (rec : URec) (n : Node) (st : Store) (k : String) (v : Json)
    (h : Go.canonKey k ≠ k) :
    Go.setMember rec n st k v = (Go.setField rec n st (Go.canonKey k) v).bind fun p =>
      .ok ({ p.1 with extra := some ((p.1.extra.getD []) ++ [(k, v)]) }, p.2) :=
  Go.setMember_of_folded rec n st v h

/-- the keys this concerns are exactly the class `Go.isFoldedKey` (hypothesis H_D4 is its complement), and the field they
    are routed to is a keyword's -/
theorem folded_iff (k : String) :
    (Go.canonKey k ≠ k ↔ Go.isFoldedKey k = true) ∧ (Go.canonKey k ≠ k → Go.knownKeys.contains (Go.canonKey k) = true) := by
  refine ⟨⟨Go.isFoldedKey_of_canonKey_ne, fun hf hc => ?_⟩, Go.canonKey_known_of_ne⟩
  -- canonKey k = k and isFoldedKey k: k is no keyword, so `find?` returned none, so no keyword folds to k
  unfold Go.isFoldedKey at hf
  cases hk : Go.knownKeys.contains k with
  | true => rw [hk] at hf; cases hf
  | false =>
    rw [hk] at hf
    obtain ⟨x, hx, hp⟩ := List.any_eq_true.1 hf
    unfold Go.canonKey at hc
    rw [if_neg (by rw [hk]; decide +kernel)] at hc
    cases hfind : Go.knownKeys.find? (Go.foldEq k) with
    | none => exact absurd hp (List.find?_eq_none.1 hfind x hx)
    | some c =>
      rw [hfind] at hc
      have hc' : c = k := hc
      have := List.contains_iff_mem.2 (List.mem_of_find?_eq_some hfind)
      rw [hc', hk] at this
      cases this

/-- a keyword or a key outside the class is matched exactly: `setMember` is `setField` -/
theorem unmarshal_unfolded_is_exact (rec : URec) (n : Node) (st : Store) (k : String) (v : Json)
    (h : Go.isFoldedKey k = false) : Go.setMember rec n st k v = Go.setField rec n st k v := by
  apply Go.setMember_eq_setField
  cases hk : Go.knownKeys.contains k with
  | true => exact Go.canonKey_of_known hk
  | false => exact Go.canonKey_of_unfolded hk h

/-- hence the evaluator cannot tell the two schema objects apart -/
theorem unknown_keyword_not_read (n : Node) (k : String) (v : Json) :
    Inv.readsOf { n with extra := some ((n.extra.getD []) ++ [(k, v)]) } = Inv.readsOf n := rfl

/-! ## The statements are not vacuous: a store full of metadata

`{"title":"T","description":"d","$defs":{"unused":{}},"x-foo":1,"allOf":[{"properties":{"a":{"default":"x","readOnly":true}},
"format":"email"}],"unevaluatedProperties":false}` -/

def exStore : Store := #[
  { title := "T", description := "d", defs := some [("unused", 4)], extra := some [("x-foo", .num 1)],
    allOf := some [1], unevaluatedProperties := some 3 },
  { properties := some [("a", 2)], format := "email" },
  { default := some (.str "x"), readOnly := true },
  { not := some 4, comment := "false" },
  {} ]

def exInfos : List (NodeId × Info) :=
  [(0, { path := "root", base := some 0 }), (1, { path := "/allOf/0", base := some 0 }),
   (2, { path := "/allOf/0/properties/a", base := some 0 }), (3, { path := "/unevaluatedProperties", base := some 0 }),
   (4, { path := "/unevaluatedProperties/not", base := some 0 })]

def exEnv : VEnv :=
  { st := exStore, draft := .d2020, infos := exInfos, reMatch := fun _ _ => false, hash := fun _ => 0 }

def exGood : Json := .obj [("a", .str "x")]
def exBad : Json := .obj [("a", .str "x"), ("b", .null)]

def exErased : Store := #[
  { allOf := some [1], unevaluatedProperties := some 3 },
  { properties := some [("a", 2)] },
  {},
  { not := some 4 },
  {} ]

/-- the erased store really is different: title, description, $defs, Extra, format, default, readOnly, $comment are gone,
    the asserting keywords are still there -/
theorem exErased_eq : eraseStore exStore = exErased := by
  simp only [eraseStore, exStore, List.map_toArray, List.map]
  rfl
example : (exStore[0]?.map (·.title), exErased[0]?.map (·.title)) = (some "T", some "") := by decide
example : (exStore[1]?.map (·.format), exErased[1]?.map (·.format)) = (some "email", some "") := by decide
example : (exStore[2]?.map (·.readOnly), exErased[2]?.map (·.readOnly)) = (some true, some false) := by decide

/-- `validate_eraseMeta` applied -/
example : Go.validateFuel { exEnv with st := exErased } 3 [] (GoVal.ofJson exBad) 0
    = Go.validateFuel exEnv 3 [] (GoVal.ofJson exBad) 0 := by
  rw [← exErased_eq]; exact validate_eraseMeta exEnv 3 [] _ 0
/-- both sides by running the model -/
example : (Go.validateFuel exEnv 3 [] (GoVal.ofJson exBad) 0).verdict = some false := by decide
example : (Go.validateFuel { exEnv with st := exErased } 3 [] (GoVal.ofJson exBad) 0).verdict = some false := by decide
example : (Go.validateFuel exEnv 3 [] (GoVal.ofJson exGood) 0).verdict = some true := by decide
example : (Go.validateFuel { exEnv with st := exErased } 3 [] (GoVal.ofJson exGood) 0).verdict = some true := by decide
/-- `validate_eraseMeta_entry` applied -/
example : Go.validate { exEnv with st := exErased } [""] 3 0 (GoVal.ofJson exGood)
    = Go.validate exEnv [""] 3 0 (GoVal.ofJson exGood) := by
  rw [← exErased_eq]; exact validate_eraseMeta_entry exEnv [""] 3 0 _
/-- `model_reads_within_generated` applied to a field name -/
example : ∀ fuel stack i s,
    Go.validateFuel { exEnv with st := exEnv.st.map (Inv.eraseField "Format") } fuel stack i s
      = Go.validateFuel exEnv fuel stack i s :=
  model_reads_within_generated exEnv "Format" (by decide +kernel) (by decide +kernel)
/-- a field that IS read: clearing `unevaluatedProperties` at the root flips the verdict, so the hypothesis
    `name ∉ Generated.validateReads` of `model_reads_within_generated` cannot be dropped -/
example : Inv.eraseField "UnevaluatedProperties" { allOf := some [1], unevaluatedProperties := some 3 } = { allOf := some [1] } :=
  rfl
example : (Go.validateFuel { exEnv with st := #[{ allOf := some [1] }, { properties := some [("a", 2)] }, {},
    { not := some 4 }, {}] } 3 [] (GoVal.ofJson exBad) 0).verdict = some true := by decide

/-- the keys of the examples below, looked up in the keyword table in one evaluation (the case folding of the
    table is shared) -/
theorem key_facts : Go.knownKeys.contains "x-vendor" = false ∧ Go.isFoldedKey "x-vendor" = false ∧
    Go.canonKey "MINIMUM" = "minimum" ∧ Go.canonKey "Type" = "type" ∧ Go.knownKeys.contains "Type" = false := by
  decide +kernel
theorem xvendor_unknown : Go.knownKeys.contains "x-vendor" = false := key_facts.1
theorem xvendor_unfolded : Go.isFoldedKey "x-vendor" = false := key_facts.2.1
theorem canonKey_MINIMUM : Go.canonKey "MINIMUM" = "minimum" := key_facts.2.2.1
theorem canonKey_Type : Go.canonKey "Type" = "type" := key_facts.2.2.2.1

/-- unknown keyword: `{"type":"string","minLength":2}` then `"x-vendor":{"a":[1]}` -/
example : Go.knownKeys.contains "x-vendor" = false := xvendor_unknown
/-- H_D4 holds of it -/
example : Go.isFoldedKey "x-vendor" = false := xvendor_unfolded
example :
    Go.setFields (Go.unmarshalFuel 3) [("type", .str "string"), ("minLength", .num 2)] Go.emptyNode #[]
      = .ok ({ type := "string", minLength := some 2 }, #[]) := by rfl
/-- `unmarshal_unknown_extra_only` applied -/
example :
    Go.setFields (Go.unmarshalFuel 3) ([("type", .str "string"), ("minLength", .num 2)] ++
        [("x-vendor", .obj [("a", .arr [.num 1])])]) Go.emptyNode #[]
      = .ok ({ type := "string", minLength := some 2, extra := some [("x-vendor", .obj [("a", .arr [.num 1])])] }, #[]) :=
  unmarshal_unknown_extra_only (Go.unmarshalFuel 3) [("type", .str "string"), ("minLength", .num 2)] "x-vendor"
    (.obj [("a", .arr [.num 1])]) #[] #[] { type := "string", minLength := some 2 } xvendor_unknown xvendor_unfolded (by rfl)
/-- `unmarshal_unknown_ok` applied -/
example : ∃ r, Go.setFields (Go.unmarshalFuel 3) ([("type", .str "string"), ("minLength", .num 2)] ++
    [("x-vendor", .null)]) Go.emptyNode #[] = .ok r :=
  (unmarshal_unknown_ok (Go.unmarshalFuel 3) _ "x-vendor" .null #[] xvendor_unknown xvendor_unfolded).mpr ⟨_, by rfl⟩
/-- the unknown member in the middle: `{"type":"string","x-vendor":1,"minLength":2}` -/
example :
    Go.setFields (Go.unmarshalFuel 3) ([("type", .str "string")] ++ ("x-vendor", .num 1) :: [("minLength", .num 2)])
      Go.emptyNode #[] = .ok ({ type := "string", minLength := some 2, extra := some [("x-vendor", .num 1)] }, #[]) := by
  rw [List.singleton_append, Go.setFields_cons_canon _ _ _ _ _ (Go.canonKey_knownKeys "type" (by repeat constructor)),
    Go.setField_type]
  dsimp only [Res.bind_ok]
  rw [Go.setFields_cons, Inv.setMember_unknown _ _ _ _ _ xvendor_unknown xvendor_unfolded]
  dsimp only [Res.bind_ok]
  rw [Go.setFields_cons_canon _ _ _ _ _ (Go.canonKey_knownKeys "minLength" (by repeat constructor))]
  rfl
/-- a failing document keeps failing with the same outcome -/
example : Go.setFields (Go.unmarshalFuel 3) ([("type", .num 1)] ++ [("x-vendor", .null)]) Go.emptyNode #[] = .err := by
  rfl

/-- **witness of D4**: `{"MINIMUM": 5}` sets `minimum` AND keeps the member in `Extra` … -/
example : Go.canonKey "MINIMUM" = "minimum" ∧ Go.isFoldedKey "MINIMUM" = true :=
  ⟨canonKey_MINIMUM, Go.isFoldedKey_of_canonKey_ne (by rw [canonKey_MINIMUM]; decide)⟩
example :
    Go.setFields (Go.unmarshalFuel 3) [("MINIMUM", .num 5)] Go.emptyNode #[]
      = .ok ({ minimum := some 5, extra := some [("MINIMUM", .num 5)] }, #[]) := by rfl
/-- … and `{"Type": 5}` makes Unmarshal fail like `{"type": 5}` does, so `hf` cannot be dropped from `unmarshal_unknown_ok`:
    "Type" is outside `knownKeys`, `{}` unmarshals, `{"Type": 5}` does not -/
example : Go.knownKeys.contains "Type" = false ∧ Go.isFoldedKey "Type" = true :=
  ⟨key_facts.2.2.2.2, Go.isFoldedKey_of_canonKey_ne (by rw [canonKey_Type]; decide)⟩
theorem setFields_Type_err : Go.setFields (Go.unmarshalFuel 3) [("Type", .num 5)] Go.emptyNode #[] = .err := by
  rw [Go.setFields_cons, Go.setMember_of_folded _ _ _ _ (by rw [canonKey_Type]; decide), canonKey_Type, Go.setField_type]
  rfl
example : Go.setFields (Go.unmarshalFuel 3) [("Type", .num 5)] Go.emptyNode #[] = .err := setFields_Type_err
example : Go.setFields (Go.unmarshalFuel 3) [("type", .num 5)] Go.emptyNode #[] = .err := by rfl
example : ¬ ((∃ r, Go.setFields (Go.unmarshalFuel 3) ([] ++ [("Type", .num 5)]) Go.emptyNode #[] = .ok r) ↔
             (∃ r, Go.setFields (Go.unmarshalFuel 3) [] Go.emptyNode #[] = .ok r)) := by
  intro h
  obtain ⟨r, hr⟩ := h.2 ⟨_, rfl⟩
  rw [List.nil_append, setFields_Type_err] at hr
  cases hr
/-- `unmarshal_folded_is_keyword` applied -/
example (rec : URec) (n : Node) (st : Store) :
    Go.setMember rec n st "MINIMUM" (.num 5)
      = .ok ({ n with minimum := some 5, extra := some ((n.extra.getD []) ++ [("MINIMUM", .num 5)]) }, st) :=
  (unmarshal_folded_is_keyword rec n st "MINIMUM" (.num 5) (by rw [canonKey_MINIMUM]; decide)).trans
    (by rw [canonKey_MINIMUM]; rfl)

/-! ### The per-node checks of Resolve (`checkLocal`, `basicChecks`) under a decoration

`Resolve` refuses a schema object that sets both `$defs` and `definitions` ("both Defs and Definitions are set; at most one
should be" — expected by resolve_test.go).  So a decoration is invisible to `checkLocal` only under the hypothesis **H_D22**: it
does not change whether the object holds both spellings.  Known finding D22; the full statement (without `hD22`) is false,
see the witness below. -/

/-- **partial** (missing: decorations that add `definitions` next to `$defs` or vice versa).  A decorated node `n'` that agrees
    with `n` on every field `checkLocal` reads other than `$defs` / `definitions` passes `checkLocal` iff `n` does. -/
theorem checkLocal_decoration_partial (env : Go.Env) (n n' : Node)
    (h1 : n'.type = n.type) (h2 : n'.types = n.types) (h3 : n'.items = n.items) (h4 : n'.itemsArray = n.itemsArray)
    (h5 : n'.propertyOrder = n.propertyOrder) (h6 : n'.dependencySchemas = n.dependencySchemas)
    (h7 : n'.dependencyStrings = n.dependencyStrings) (h8 : n'.vocabulary = n.vocabulary) (h9 : n'.schema = n.schema)
    (h10 : n'.pattern = n.pattern) (h11 : n'.patternProperties = n.patternProperties)
    (hD22 : (n'.defs.isSome && n'.definitions.isSome) = (n.defs.isSome && n.definitions.isSome)) :
    Go.checkLocalOk env n' = Go.checkLocalOk env n := by
  simp only [Go.checkLocalOk, Go.basicChecksOk, h1, h2, h3, h4, h5, h6, h7, h8, h9, h10, h11, hD22]

/-- in particular: adding or removing an (unreferenced) `$defs` map on an object without `definitions`, and the other way round -/
theorem checkLocal_defs_only (env : Go.Env) (n : Node) (d : Option (List (String × NodeId))) (h : n.definitions = none) :
    Go.checkLocalOk env { n with defs := d } = Go.checkLocalOk env n := by
  apply checkLocal_decoration_partial <;> simp [h]

theorem checkLocal_definitions_only (env : Go.Env) (n : Node) (d : Option (List (String × NodeId))) (h : n.defs = none) :
    Go.checkLocalOk env { n with definitions := d } = Go.checkLocalOk env n := by
  apply checkLocal_decoration_partial <;> simp [h]

/-- the hypothesis is met by a concrete non-trivial pair -/
example : (({ type := "string", defs := some [("a", 1)], title := "t" } : Node).defs.isSome &&
           ({ type := "string", defs := some [("a", 1)], title := "t" } : Node).definitions.isSome)
        = (({ type := "string" } : Node).defs.isSome && ({ type := "string" } : Node).definitions.isSome) := by decide

/-- **witness of D22** (the statement without `hD22` is false): `{"$defs":{"a":…}}` passes the checks, the same object with an
    unreferenced `"definitions":{"unused":…}` added does not — every verdict becomes a Resolve error. -/
example : Go.checkLocalOk { st := #[], reOk := fun _ => true, loader := none } { defs := some [("a", 1)] } = true ∧
          Go.checkLocalOk { st := #[], reOk := fun _ => true, loader := none }
            { defs := some [("a", 1)], definitions := some [("unused", 2)] } = false := by decide

end JSV.C18
