/-
  C03 — loader discipline and resolution invariants (resolve.go): the Loader is asked at most once per URI, recorded
  targets exist, every `$ref` reaches the subschema the specification designates (JSV/Spec/Designate.lean), and the
  converse: a reference that designates nothing is an error, and on a well-formed document (JSV/Spec/WellFormed.lean)
  nothing else is.
-/
import JSV.Proofs.ResInv
import JSV.Proofs.ResRefs
import JSV.Proofs.ResKnown
import JSV.Proofs.ResMono
import JSV.Proofs.ResUri
import JSV.Proofs.ResDesigRefs
import JSV.Proofs.ResDesigMulti
import JSV.Proofs.ResComplete
import JSV.Proofs.ResCompleteMulti
import JSV.Proofs.ResCompleteWF
import JSV.Proofs.UriEscape
import JSV.Proofs.ResLoader
namespace JSV.C03
open JSV Go Go.RInv

/-- the Loader is asked at most once per URI: the call log of a successful resolution has no duplicates -/
theorem loader_at_most_once (env : Env) (fuel : Nat) (root : NodeId) (base : String) (rs : Resolved)
    (h : Go.resolve env fuel root base = .ok rs) : rs.log.Nodup := by
  obtain ⟨s, b, d, hs, _, hlog, _⟩ := resolve_ok env fuel root base rs h
  rw [hlog]
  exact ((resolveDoc_spec env fuel _ _ _ _ _ hs).2.2 (logOk_init.weaken _)).1

/-- the same fact for resolver.resolve entered at any depth: from a state in which no URI was
    loaded twice and every URI handed to the Loader — except the one whose document is being resolved —
    is cached, a successful run ends in such a state, now without the exception -/
theorem loader_discipline (env : Env) (fuel : Nat) (root : NodeId) (base : Uri.Url) (draft : Draft)
    (s s' : RState) (h : resolveDoc env fuel root base draft s = .ok s')
    (hs : s.log.Nodup ∧ ∀ k ∈ s.log, k = Uri.toString base ∨ (Json.lookup k s.loaded).isSome = true) :
    s'.log.Nodup ∧ ∀ k ∈ s'.log, (Json.lookup k s'.loaded).isSome = true := by
  have := (resolveDoc_spec env fuel _ _ _ _ _ h).2.2
    ⟨hs.1, fun k hk => (hs.2 k hk).imp (fun e => by rw [e]) id⟩
  exact ⟨this.1, fun k hk => (this.2 k hk).resolve_left (by simp)⟩

/-- the log only grows (at its end) -/
theorem log_prefix (env : Env) (fuel : Nat) (root : NodeId) (base : Uri.Url) (draft : Draft)
    (s s' : RState) (h : resolveDoc env fuel root base draft s = .ok s') :
    ∃ l, s'.log = s.log ++ l :=
  (resolveDoc_spec env fuel _ _ _ _ _ h).1.1

/-- `loaded` only grows: a cached URI is never dropped -/
theorem loaded_monotone (env : Env) (fuel : Nat) (root : NodeId) (base : Uri.Url) (draft : Draft)
    (s s' : RState) (h : resolveDoc env fuel root base draft s = .ok s') (k : String)
    (hk : (Json.lookup k s.loaded).isSome = true) : (Json.lookup k s'.loaded).isSome = true :=
  (resolveDoc_spec env fuel _ _ _ _ _ h).1.2 k hk

/-- the document being resolved is cached under its base URI when resolver.resolve returns -/
theorem loaded_after_resolve (env : Env) (fuel : Nat) (root : NodeId) (base : Uri.Url) (draft : Draft)
    (s s' : RState) (h : resolveDoc env fuel root base draft s = .ok s') :
    (Json.lookup (Uri.toString base) s'.loaded).isSome = true := by
  cases fuel with
  | zero => simp [resolveDoc] at h
  | succ fuel => exact resolveDocStep_loaded env _ (resolveDoc_spec env fuel) _ _ _ _ _ h

/-! ## Fuel is only a bound

(That the number of loader table entries + 1 suffices is
`C10.resolve_no_fuel` in JSV/Props/C10.lean, with the termination arguments of checkStructure / resolveURIs
over a tree in JSV/Proofs/ResNoFuel.lean.) -/

/-- more fuel refines the outcome in the information order (`.fuel` below everything) -/
theorem resolve_fuel_mono (env : Env) (f f' : Nat) (h : f ≤ f') (root : NodeId) (base : String) :
    Go.resolve env f root base ⊑ Go.resolve env f' root base :=
  resolve_mono env f f' h root base

/-- an outcome other than `.fuel` (success, error, panic) is final: it is the outcome for every
    larger fuel -/
theorem resolve_fuel_stable (env : Env) (f f' : Nat) (h : f ≤ f') (root : NodeId) (base : String)
    (hne : Go.resolve env f root base ≠ .fuel) :
    Go.resolve env f' root base = Go.resolve env f root base :=
  ((resolve_mono env f f' h root base).resolve_left hne).symm

def okAnd {α} (x : Res α) (p : α → Bool) : Bool :=
  match x with
  | .ok a => p a
  | _ => false

/-- one evaluation settles a successful resolution for every larger fuel.  (`okAnd` and not a `match` in the
    hypothesis: a `match` written out at each use is a different matcher each time, and checking that two of them
    agree makes the kernel evaluate the resolution once more) -/
theorem run_of_check {env : Env} {f : Nat} {root : NodeId} {base : String} {P : Resolved → Prop} [DecidablePred P]
    (h : okAnd (Go.resolve env f root base) (fun rs => decide (P rs)) = true) :
    ∃ rs, (∀ f', f ≤ f' → Go.resolve env f' root base = .ok rs) ∧ P rs := by
  unfold okAnd at h
  cases hr : Go.resolve env f root base with
  | ok rs =>
    rw [hr] at h
    exact ⟨rs, fun f' hf => (resolve_fuel_stable env f f' hf root base (by rw [hr]; nofun)).trans hr,
      of_decide_eq_true h⟩
  | _ => rw [hr] at h; cases h

/-- one call of resolveRef: the schema it returns exists (JSON Pointer fragments: because a nil
    `*Schema` at the end of the walk is an error; anchors: because only existing schemas are registered) -/
theorem resolveRef_target_exists (env : Env) (fuel : Nat) (root : NodeId) (s : RState) (id : NodeId)
    (ref : String) (o : RefOut) (s' : RState)
    (hs : InfosOk env.st s.infos)
    (h : resolveRef env (resolveDoc env fuel) root s id ref = .ok (o, s')) :
    (env.st.get? o.target).isSome = true :=
  ((resolveRef_spec env _ (resolveDoc_spec env fuel) _ _ _ _ _ _ h).2.1 hs).2

/-- a successful resolution only records targets that exist in the store: `$ref`, `$dynamicRef`
    and anchors.  PARTIAL: nothing is said of a schema whose record has no target.  That every `$ref` of `root.all()`
    has one is `resolved_refs_complete` (for the first table entry of the schema; for every entry it is false, see
    `cxEnv` below); that it is the designated one is `resolve_sound`. -/
theorem resolved_refs_exist_partial (env : Env) (fuel : Nat) (root : NodeId) (base : String) (rs : Resolved)
    (h : Go.resolve env fuel root base = .ok rs) :
    ∀ e ∈ rs.infos,
      (∀ t, e.2.resolvedRef = some t → (env.st.get? t).isSome = true) ∧
      (∀ t, e.2.resolvedDynamicRef = some t → (env.st.get? t).isSome = true) ∧
      (∀ a ∈ e.2.anchors, (env.st.get? a.2.schema).isSome = true) := by
  obtain ⟨s, b, d, hs, _, _, hinfos⟩ := resolve_ok env fuel root base rs h
  have := (resolveDoc_spec env fuel _ _ _ _ _ hs).2.1 (infosOk_init env.st)
  intro e he
  rw [hinfos] at he
  have := this e (List.mem_filter.mp he).1
  exact ⟨this.2.1, this.2.2, this.1⟩

/-- completeness: every schema of `root.all()` that carries a `$ref` has, in the table of the
    successful resolution, an info object with a target, and the target exists.  (The table is searched
    with `lookupNat`, i.e. the first entry for the schema — see the counterexample below for why plain
    membership is not enough.) -/
theorem resolved_refs_complete (env : Env) (fuel : Nat) (root : NodeId) (base : String) (rs : Resolved)
    (h : Go.resolve env fuel root base = .ok rs) :
    ∀ id ∈ allNodes env.st (env.st.size + 2) [root], ∀ n, env.st.get? id = some n → n.ref ≠ "" →
      ∃ info t, lookupNat id rs.infos = some info ∧ info.resolvedRef = some t ∧
        (env.st.get? t).isSome = true := by
  obtain ⟨s, b, d, hs, hd, _, hinfos⟩ := resolve_ok env fuel root base rs h
  intro id hid n hn hne
  cases fuel with
  | zero => simp [resolveDoc] at hs
  | succ fuel =>
    obtain ⟨info, t, hl, ht⟩ :=
      (resolveDocStep_keeps env _ (resolveDoc_keeps env fuel) _ _ _ _ _ hs).2 id hid n hn hne
    have hl' : lookupNat id rs.infos = some info := by
      rw [hinfos, resolve_lookup_all env _ root b _ s d hs hd id hid]; exact hl
    exact ⟨info, t, hl', ht,
      (resolved_refs_exist_partial env _ root base rs h _ (lookupNat_mem _ _ _ hl')).1 t ht⟩

/-- the schemas met by `root.all()` are all in the table of the resolution -/
theorem all_nodes_known (env : Env) (fuel : Nat) (root : NodeId) (base : String) (rs : Resolved)
    (h : Go.resolve env fuel root base = .ok rs) :
    ∀ id ∈ allNodes env.st (env.st.size + 2) [root], (lookupNat id rs.infos).isSome = true := by
  obtain ⟨s, b, d, hs, hd, _, hinfos⟩ := resolve_ok env fuel root base rs h
  intro id hid
  cases fuel with
  | zero => simp [resolveDoc] at hs
  | succ fuel =>
    obtain ⟨_, fresh, _, _, hfresh, _⟩ := RDraft.resolveDocStep_unfold env _ root b .d2020 {} s hs
    rw [hinfos, resolve_lookup_all env _ root b _ s d hs hd id hid]
    exact resolveDocStep_table env _ (resolveDoc_keeps env fuel) _ _ _ _ _ hs fresh hfresh id
      (allNodes_sub_checkStructure env.st _ (env.st.size + 2) root fresh hfresh id hid)

/-! ## The hypotheses are satisfiable on non-trivial data

`{"$id":"http://a/root.json","allOf":[{"$ref":"other.json#/$defs/x"},{"$ref":"other.json"}]}` with a
Loader that serves `http://a/other.json` = `{"$defs":{"x":{"type":"string"}}}`: two references into
the same remote document, one Loader call. -/

def exStore : Store := #[
  { id := "http://a/root.json", allOf := some [1, 2] },
  { ref := "other.json#/$defs/x" },
  { ref := "other.json" },
  { defs := some [("x", 4)] },
  { type := "string" } ]

def exEnv : Env :=
  { st := exStore, reOk := fun _ => true, loader := some [("http://a/other.json", .doc 3)] }

open Spec RComp in
/-- everything the examples evaluate on `exEnv`, evaluated once: the resolution with two units of fuel, with one,
    without the Loader, and the checks behind `ex_universe` -/
theorem ex_all :
    okAnd (Go.resolve exEnv 2 0 "") (fun rs => decide (rs.log = ["http://a/other.json"] ∧ rs.draft = .d2020 ∧
      rs.infos.map (fun e => (e.1, e.2.resolvedRef)) = [(0, none), (1, some 4), (2, some 3), (3, none), (4, none)])) = true ∧
    ((Go.resolve exEnv 1 0 "").bind fun rs => .ok rs.log) = .fuel ∧
    (Go.resolve { exEnv with loader := none } 5 0 "").isOk = false ∧
    (topDraft exEnv 0 = .d2020 ∧ structureOk exStore 0 = true ∧ localOk exEnv 0 = true ∧
    (⟨exEnv.st, .d2020, 0⟩ : Doc).idsOk {} = true ∧ (⟨exEnv.st, .d2020, 0⟩ : Doc).depthOk = true ∧
    (⟨exEnv.st, .d2020, 0⟩ : Doc).identKeys {} = [("", 0), ("http://a/root.json", 0)] ∧
    allNodes exStore (exStore.size + 2) [0] = [0, 1, 2] ∧
    checkRefOut exEnv ⟨exEnv.st, .d2020, 0⟩ {} [("", 0), ("http://a/root.json", 0)] 1 "other.json#/$defs/x" [1] 3 [] 4 = true ∧
    checkRefOut exEnv ⟨exEnv.st, .d2020, 0⟩ {} [("", 0), ("http://a/root.json", 0)] 2 "other.json" [2] 3 [] 3 = true ∧
    structureOk exStore 3 = true ∧ localOk exEnv 3 = true ∧ allNodes exStore (exStore.size + 2) [3] = [3, 4]) := by
  decide +kernel

theorem ex_run : ∃ rs, (∀ fuel, 2 ≤ fuel → Go.resolve exEnv fuel 0 "" = .ok rs) ∧
    rs.log = ["http://a/other.json"] ∧ rs.draft = .d2020 ∧
    rs.infos.map (fun e => (e.1, e.2.resolvedRef)) = [(0, none), (1, some 4), (2, some 3), (3, none), (4, none)] :=
  run_of_check ex_all.1

example : ((Go.resolve exEnv 5 0 "").bind fun rs =>
      .ok (rs.log, rs.infos.map fun e => (e.1, e.2.resolvedRef))) =
    .ok (["http://a/other.json"], [(0, none), (1, some 4), (2, some 3), (3, none), (4, none)]) := by
  obtain ⟨rs, hr, hlog, _, hinf⟩ := ex_run
  rw [hr 5 (by decide), Res.bind_ok, hlog, hinf]

/-- fuel = nesting depth of loader documents + 1: one unit is not enough here, two are -/
example : ((Go.resolve exEnv 1 0 "").bind fun rs => .ok rs.log) = .fuel := ex_all.2.1
example : ((Go.resolve exEnv 2 0 "").bind fun rs => .ok rs.log) = .ok ["http://a/other.json"] := by
  obtain ⟨rs, hr, hlog, _⟩ := ex_run
  rw [hr 2 (by decide), Res.bind_ok, hlog]

/-- without a Loader the same resolution fails (and so says nothing) -/
example : (Go.resolve { exEnv with loader := none } 5 0 "").isOk = false := ex_all.2.2.1

/-! ## "every `$ref`-bearing schema in the table of a successful resolution has a recorded target" is false in the model

Counterexample: a Loader that returns the *same* document object for two URIs (the model's
assumption "fresh nodes per loader document" is violated).  The second visit appends a second,
never updated, info entry for schema 3.  What holds without that assumption is
`resolved_refs_exist_partial` (every recorded target exists) and `resolved_refs_complete` (the first
table entry — the one Go's map lookup corresponds to — of every `$ref`-bearing schema of `root.all()`
has a target) above; the statement with plain membership, and for the schemas of the other loaded documents, needs an
Env well-formedness hypothesis (distinct, disjoint loader documents). -/

def cxStore : Store := #[
  { id := "http://a/root.json", allOf := some [1, 2] },
  { ref := "x" },
  { ref := "y" },
  { ref := "#" } ]

def cxEnv : Env :=
  { st := cxStore, reOk := fun _ => true,
    loader := some [("http://a/x", .doc 3), ("http://a/y", .doc 3)] }

theorem cx_run : ∃ rs, (∀ fuel, 5 ≤ fuel → Go.resolve cxEnv fuel 0 "" = .ok rs) ∧ rs.log = ["http://a/x", "http://a/y"] ∧
    rs.infos.map (fun e => (e.1, e.2.resolvedRef)) = [(0, none), (1, some 3), (2, some 3), (3, some 3), (3, none)] :=
  run_of_check (by decide +kernel)

example : ((Go.resolve cxEnv 5 0 "").bind fun rs =>
      .ok (rs.log, rs.infos.map fun e => (e.1, e.2.resolvedRef))) =
    .ok (["http://a/x", "http://a/y"], [(0, none), (1, some 3), (2, some 3), (3, some 3), (3, none)]) := by
  obtain ⟨rs, hr, hlog, hinf⟩ := cx_run
  rw [hr 5 (by decide), Res.bind_ok, hlog, hinf]

example : ¬ (∀ rs, Go.resolve cxEnv 5 0 "" = .ok rs →
    ∀ id info n, (id, info) ∈ rs.infos → cxEnv.st.get? id = some n → n.ref ≠ "" →
      ∃ t, info.resolvedRef = some t ∧ (cxEnv.st.get? t).isSome = true) := by
  intro H
  obtain ⟨rs, hr, _, hinf⟩ := cx_run
  obtain ⟨⟨id, info⟩, hmem, he⟩ := List.mem_map.mp (show (3, none) ∈ rs.infos.map _ by rw [hinf]; simp)
  obtain ⟨rfl, hnone⟩ := Prod.mk.inj he
  obtain ⟨t, ht, _⟩ := H rs (hr 5 (by decide)) _ info { ref := "#" } hmem rfl (by decide)
  rw [hnone] at ht
  cases ht

/-! ## Every `$ref` reaches the subschema the specification designates

The declarative side is JSV/Spec/Designate.lean: `Doc.ResourceRoot` (lexical scope of `$id`),
`Doc.BaseUri`, `Doc.AnchorTarget` (plain names), `Doc.FragTarget` (fragment dispatch),
`Doc.Identifies`, `Doc.Designates`.  `D = ⟨store, draft, root⟩` is the document. -/

section designation
open Spec

/-- A document accepted by checkStructure is a tree: every subschema has exactly one lineage from the
    root, hence exactly one schema resource it belongs to. -/
theorem resource_root_unique (st : Store) (draft : Draft) (root : NodeId) (cf : Nat)
    (fresh : List (NodeId × Info)) (hcs : checkStructure st cf [(root, "")] [] = .ok fresh)
    (s r r' : NodeId) (h : (⟨st, draft, root⟩ : Doc).ResourceRoot s r)
    (h' : (⟨st, draft, root⟩ : Doc).ResourceRoot s r') : r = r' :=
  resourceRoot_unique ⟨st, draft, root⟩
    (tree_uniqueLineage ⟨st, draft, root⟩ _ (checkStructure_tree st cf root fresh hcs)) s r r' h h'

/-- Lexical scope.  resolveURIs (run, as resolver.resolve does, on a document checkStructure accepted
    and with the root's info initialised with the retrieval URI `ret`) records for every subschema `p`
    of the document, as `Info.base`, the root of the schema resource `p` belongs to — and for that
    resource root, as `Info.uri`, the base URI of `p`. -/
theorem base_is_resource_root (env : Env) (draft : Draft) (root : NodeId) (ret : Uri.Url) (cf : Nat)
    (fresh : List (NodeId × Info)) (hcs : checkStructure env.st cf [(root, "")] [] = .ok fresh)
    (fuel : Nat) (s s' : RState)
    (hroot : ∃ i, lookupNat root s.infos = some i ∧ i.uri = some ret)
    (h : resolveURIsLoop env draft root fuel [(root, root)] s = .ok s') :
    (∀ p r, (⟨env.st, draft, root⟩ : Doc).ResourceRoot p r →
      ∃ i, lookupNat p s'.infos = some i ∧ i.base = some r) ∧
    (∀ p r u, (⟨env.st, draft, root⟩ : Doc).ResourceRoot p r → (⟨env.st, draft, root⟩ : Doc).BaseUri ret p u →
      ∃ i, lookupNat r s'.infos = some i ∧ i.uri = some u) := by
  have := resolveURIs_props env ⟨env.st, draft, root⟩ rfl ret cf fresh hcs fuel s s' hroot h
  exact ⟨this.1, this.2.1⟩

/-- If the infos of the document's schemas held no anchors before (fresh info objects),
    every entry `a ↦ t` of the anchors of a schema `r` of the document after resolveURIs is a declaration:
    `t` belongs to the resource rooted at `r` and declares the plain name `a` (with that dynamic flag). -/
theorem anchors_sound (env : Env) (draft : Draft) (root : NodeId) (ret : Uri.Url) (cf : Nat)
    (fresh : List (NodeId × Info)) (hcs : checkStructure env.st cf [(root, "")] [] = .ok fresh)
    (fuel : Nat) (s s' : RState)
    (hroot : ∃ i, lookupNat root s.infos = some i ∧ i.uri = some ret)
    (hempty : ∀ b i, lookupNat b s.infos = some i → (⟨env.st, draft, root⟩ : Doc).Has b → i.anchors = [])
    (h : resolveURIsLoop env draft root fuel [(root, root)] s = .ok s') :
    ∀ r i, lookupNat r s'.infos = some i → (⟨env.st, draft, root⟩ : Doc).Has r → ∀ e ∈ i.anchors,
      (⟨env.st, draft, root⟩ : Doc).AnchorTarget r e.1 e.2.schema ∧
      (⟨env.st, draft, root⟩ : Doc).Declares e.2.schema e.1 e.2.dynamic := by
  have := (resolveURIs_props env ⟨env.st, draft, root⟩ rfl ret cf fresh hcs fuel s s' hroot h).2.2.2
    (by intro b i hi hb e he; rw [hempty b i hi hb] at he; simp at he)
  intro r i hi hr e he
  obtain ⟨h1, h2⟩ := this r i hi hr e he
  exact ⟨⟨h1, _, h2⟩, h2⟩

/-- Every plain name declared by a schema `t` has an entry in the anchors of the
    root `r` of the resource `t` belongs to.  (The entry may belong to another schema of the resource
    that declares the same name: the resolver drops the "duplicate anchor" error.) -/
theorem anchors_complete (env : Env) (draft : Draft) (root : NodeId) (ret : Uri.Url) (cf : Nat)
    (fresh : List (NodeId × Info)) (hcs : checkStructure env.st cf [(root, "")] [] = .ok fresh)
    (fuel : Nat) (s s' : RState)
    (hroot : ∃ i, lookupNat root s.infos = some i ∧ i.uri = some ret)
    (h : resolveURIsLoop env draft root fuel [(root, root)] s = .ok s') :
    ∀ t r a dyn, (⟨env.st, draft, root⟩ : Doc).ResourceRoot t r → (⟨env.st, draft, root⟩ : Doc).Declares t a dyn →
      ∃ i, lookupNat r s'.infos = some i ∧ (Json.lookup a i.anchors).isSome = true :=
  (resolveURIs_props env ⟨env.st, draft, root⟩ rfl ret cf fresh hcs fuel s s' hroot h).2.2.1

/-- In a document that declares no plain name twice in one resource, the anchors of a
    resource root map `a` to `t` iff `t` is the schema of that resource declaring `a`. -/
theorem anchors_exact (env : Env) (draft : Draft) (root : NodeId) (ret : Uri.Url) (cf : Nat)
    (fresh : List (NodeId × Info)) (hcs : checkStructure env.st cf [(root, "")] [] = .ok fresh)
    (fuel : Nat) (s s' : RState)
    (hroot : ∃ i, lookupNat root s.infos = some i ∧ i.uri = some ret)
    (hempty : ∀ b i, lookupNat b s.infos = some i → (⟨env.st, draft, root⟩ : Doc).Has b → i.anchors = [])
    (h : resolveURIsLoop env draft root fuel [(root, root)] s = .ok s')
    (hnodup : (⟨env.st, draft, root⟩ : Doc).NoDupAnchors)
    (r : NodeId) (i : Info) (hi : lookupNat r s'.infos = some i) (hr : (⟨env.st, draft, root⟩ : Doc).ResourceRoot r r)
    (a : String) (t : NodeId) :
    (∃ ai, Json.lookup a i.anchors = some ai ∧ ai.schema = t) ↔ (⟨env.st, draft, root⟩ : Doc).AnchorTarget r a t := by
  constructor
  · rintro ⟨ai, hl, rfl⟩
    exact (anchors_sound env draft root ret cf fresh hcs fuel s s' hroot hempty h r i hi
      (ResourceRoot.has hr) _ (Json.mem_of_lookup hl)).1
  · rintro ⟨htr, dyn, hd⟩
    obtain ⟨i', hi', hsome⟩ := anchors_complete env draft root ret cf fresh hcs fuel s s' hroot h t r a dyn htr hd
    rw [hi] at hi'
    simp only [Option.some.injEq] at hi'
    subst hi'
    cases hl : Json.lookup a i.anchors with
    | none => rw [hl] at hsome; simp at hsome
    | some ai =>
      refine ⟨ai, rfl, ?_⟩
      have := (anchors_sound env draft root ret cf fresh hcs fuel s s' hroot hempty h r i hi
        (ResourceRoot.has hr) _ (Json.mem_of_lookup hl)).1
      exact hnodup r a _ _ this ⟨htr, dyn, hd⟩

/-- One call of resolveRef that loads no document (`s'.log = s.log`), in a state in which
    resolveURIs has run for the document (`StaticInv`: ResDesigRefs.lean; resolver.resolve establishes it,
    see `staticInv_afterURIs`): the schema returned is the one `ref` designates — the reference is
    resolved against the base URI of `id`, the fragment-less URI identifies a resource `r` of the
    document, and the fragment selects inside `r` (empty: `r`; `/…`: JSON Pointer from `r`; otherwise
    the schema of `r` declaring that plain name).  Never another target. -/
theorem resolveRef_designates (env : Env) (recDoc : ResolveDoc) (hrec : RecSpec env recDoc)
    (draft : Draft) (root : NodeId) (ret : Uri.Url) (s : RState) (id : NodeId) (ref : String)
    (o : RefOut) (s' : RState)
    (hinv : StaticInv ⟨env.st, draft, root⟩ ret s) (hid : (⟨env.st, draft, root⟩ : Doc).Has id)
    (h : resolveRef env recDoc root s id ref = .ok (o, s')) (hlog : s'.log = s.log) :
    (⟨env.st, draft, root⟩ : Doc).Designates ret id ref o.target :=
  (resolveRef_local env recDoc hrec ⟨env.st, draft, root⟩ rfl ret s id ref o s' hinv hid h hlog).2.2

/-- One call of resolveRef in general (documents may be loaded).  In a state satisfying the invariant of all documents
    (`GInv`: ResDesigMulti.lean; `rets r` = the retrieval URI of document `r`), with a Loader satisfying
    the freshness assumption and a recursive resolver satisfying its specification (`RecG`, which
    `resolveDoc env fuel` does: `resolveDoc_G`), the schema resolveRef returns is the designated one among
    the documents resolved when it returns. -/
theorem resolveRef_designates_among (env : Env) (top : NodeId) (recDoc : ResolveDoc)
    (hrec : RecG env top recDoc) (hfresh : LoaderFresh env top) (rets : NodeId → Uri.Url) (s : RState)
    (root id : NodeId) (ref : String) (o : RefOut) (s' : RState) (hg : GInv env top rets s)
    (hid : Reach env.st root id) (h : resolveRef env recDoc root s id ref = .ok (o, s')) :
    ∃ rets' d, s.doc? root = some d ∧ GInv env top rets' s' ∧
      DesignatesAmong (docsOf env rets' s') ⟨env.st, d.draft, root⟩ (rets root) id ref o.target := by
  obtain ⟨rets', d, hag, hg', _, _, _, hd, hdes⟩ :=
    resolveRef_G env top recDoc hrec hfresh rets s root id ref o s' hg hid h
  refine ⟨rets', d, hd, hg', ?_⟩
  have := gDesig_among env rets' s' _ id ref o.target hdes
  rw [show (⟨env.st, d.draft, root⟩ : Doc).root = root from rfl,
    hag root (by unfold Registered; rw [hd]; rfl)] at this
  exact this

/-- resolveRef unfolded into table lookups, without any hypothesis: which resource the fragment-less
    URI is looked up to (`Located`: the document's `uris`, else the `loaded` cache, else the Loader
    followed by the recursive resolution) and the fragment dispatch with the anchors read from the
    table (`TableFrag`). -/
theorem resolveRef_lookup (env : Env) (recDoc : ResolveDoc) (root : NodeId) (s : RState)
    (id : NodeId) (ref : String) (o : RefOut) (s' : RState)
    (h : resolveRef env recDoc root s id ref = .ok (o, s')) :
    ∃ refURI info base bInfo bu d r,
      Uri.parse ref = .ok refURI ∧ s.info? root id = some info ∧ info.base = some base ∧
      s.info? root base = some bInfo ∧ bInfo.uri = some bu ∧ s.doc? root = some d ∧
      Located env recDoc root s d (Uri.resolveReference bu refURI) r s' ∧
      TableFrag env s' root r (Uri.resolveReference bu refURI).fragment o :=
  resolveRef_unfold env recDoc root s id ref o s' h

/-- For resolutions that load no other document (`rs.log = []`; in particular every
    self-contained document), without any assumption on the Loader: every `$ref` of `root.all()` has a
    recorded target and it is the schema the reference designates, with `b` = the parsed base URI option
    (or the empty URL) as retrieval URI.  (`resolve_sound` below is the statement for resolutions
    that load documents.) -/
theorem resolve_sound_selfcontained (env : Env) (fuel : Nat) (root : NodeId) (base : String) (rs : Resolved)
    (h : Go.resolve env fuel root base = .ok rs) (hlog : rs.log = []) :
    ∃ b, retrievalOf base = .ok b ∧
      ∀ id ∈ allNodes env.st (env.st.size + 2) [root], ∀ n, env.st.get? id = some n → n.ref ≠ "" →
        ∃ info t, lookupNat id rs.infos = some info ∧ info.resolvedRef = some t ∧
          (⟨env.st, rs.draft, root⟩ : Doc).Designates b id n.ref t := by
  have hno : ∀ tbl k r, (onlyLogged env rs.log).loader = some tbl → Json.lookup k tbl ≠ some (.doc r) :=
    fun tbl k r htbl hk => by have := onlyLogged_doc htbl hk; rw [hlog] at this; cases this
  obtain ⟨s, b, d, rets, hb, hret, hd, hdr, hg, hok⟩ := resolve_G_logged env fuel root base rs h
    (fun tbl htbl => ⟨fun k r hk => absurd hk (hno tbl k r htbl), fun k1 _ r1 _ _ hk => absurd hk (hno tbl k1 r1 htbl)⟩)
  refine ⟨b, hb, fun id hid n hn hne => ?_⟩
  obtain ⟨info, t, hi, ht, hdes⟩ := (hok id hid n hn).1 hne
  rw [hdr] at hdes
  have := Go.RComp.gDesig_noloader _ hno root rets s hg d hd id _ t hdes
  rw [hret, ← hdr] at this
  exact ⟨info, t, hi, ht, this⟩

/-- In general (documents may be loaded).  Assumption (`LoaderFresh`, the model's "fresh nodes per document"): the
    Loader's documents share no schema object with the root document or with each other.  Then every `$ref` of
    `root.all()` (and, as its initial lexical target, every `$dynamicRef` — when the root document is read under
    2020-12, `rs.draft = .d2020`: under draft-07 `$dynamicRef` is an unknown keyword and is not resolved) has a
    recorded target, and it is the designated one among the documents the resolution touched (`docs`: the root
    document with the retrieval URI `b`, and Loader documents, each with the URI it was loaded from): the reference
    is resolved against the base URI of its schema; the fragment-less URI identifies a resource of the root
    document, or the root of one of `docs`; the fragment selects inside that document. -/
theorem resolve_sound (env : Env) (fuel : Nat) (root : NodeId) (base : String) (rs : Resolved)
    (hfresh : LoaderFresh env root) (h : Go.resolve env fuel root base = .ok rs) :
    ∃ b docs, retrievalOf base = .ok b ∧
      (∀ e ∈ docs, e.1.st = env.st ∧ ((e.1.root = root ∧ e.2 = b) ∨
        ∃ tbl, env.loader = some tbl ∧ Json.lookup (Uri.toString e.2) tbl = some (.doc e.1.root))) ∧
      ∀ id ∈ allNodes env.st (env.st.size + 2) [root], ∀ n, env.st.get? id = some n →
        (n.ref ≠ "" → ∃ info t, lookupNat id rs.infos = some info ∧ info.resolvedRef = some t ∧
          DesignatesAmong docs ⟨env.st, rs.draft, root⟩ b id n.ref t) ∧
        (rs.draft = .d2020 → n.dynamicRef ≠ "" →
          ∃ info t, lookupNat id rs.infos = some info ∧ info.resolvedDynamicRef = some t ∧
          DesignatesAmong docs ⟨env.st, rs.draft, root⟩ b id n.dynamicRef t) := by
  obtain ⟨s, b, d, rets, hb, hret, _, _, hg, hok⟩ := resolve_G env fuel root base rs hfresh h
  refine ⟨b, docsOf env rets s, hb, ?_, ?_⟩
  · have := docsOf_spec env root rets s hg
    rw [hret] at this
    exact this
  · intro id hid n hn
    obtain ⟨h1, h2⟩ := hok id hid n hn
    constructor
    · intro hne
      obtain ⟨info, t, hi, ht, hdes⟩ := h1 hne
      have := gDesig_among env rets s _ id n.ref t hdes
      rw [show (⟨env.st, rs.draft, root⟩ : Doc).root = root from rfl, hret] at this
      exact ⟨info, t, hi, ht, this⟩
    · intro h20 hne
      obtain ⟨info, t, hi, ht, hdes⟩ := h2 h20 hne
      have := gDesig_among env rets s _ id n.dynamicRef t hdes
      rw [show (⟨env.st, rs.draft, root⟩ : Doc).root = root from rfl, hret] at this
      exact ⟨info, t, hi, ht, this⟩

end designation

/-! ### The designation theorems on non-trivial data

`{"$id":"http://a/root.json","$defs":{"a":{"$anchor":"foo"},"b":{"$id":"sub.json","$defs":{"c":{"$anchor":"foo"}},
"items":{"$ref":"#foo"}}},"allOf":[{"$ref":"#foo"},{"$ref":"sub.json#foo"},{"$ref":"sub.json#/$defs/c"}]}`:
an embedded resource (`$id` in a subschema) with an anchor inside it and an anchor of the same name
outside it.  The Spec's designations, computed from the definitions, agree with what Go.resolve records. -/

section designation_examples
open Spec

def dsStore : Store := #[
  { id := "http://a/root.json", defs := some [("a", 1), ("b", 2)], allOf := some [3, 4, 5] },  -- 0
  { anchor := "foo" },                                                                          -- 1
  { id := "sub.json", defs := some [("c", 6)], items := some 7 },                              -- 2
  { ref := "#foo" },                                                                            -- 3
  { ref := "sub.json#foo" },                                                                    -- 4
  { ref := "sub.json#/$defs/c" },                                                               -- 5
  { anchor := "foo" },                                                                          -- 6
  { ref := "#foo" } ]                                                                           -- 7

def dsEnv : Env := { st := dsStore, reOk := fun _ => true, loader := none }
def dsDoc : Doc := ⟨dsStore, .d2020, 0⟩

theorem ds_run : ∃ rs, (∀ fuel, 1 ≤ fuel → Go.resolve dsEnv fuel 0 "" = .ok rs) ∧ rs.log = [] ∧ rs.draft = .d2020 ∧
    rs.infos.map (fun e => (e.1, e.2.base, e.2.resolvedRef)) =
      [(0, some 0, none), (1, some 0, none), (2, some 2, none), (6, some 2, none), (7, some 2, some 6),
        (3, some 0, some 1), (4, some 0, some 6), (5, some 0, some 6)] :=
  run_of_check (by decide +kernel)

example : ((Go.resolve dsEnv 1 0 "").bind fun rs =>
      .ok (rs.log, rs.infos.map fun e => (e.1, e.2.base, e.2.resolvedRef))) =
    .ok ([], [(0, some 0, none), (1, some 0, none), (2, some 2, none), (6, some 2, none), (7, some 2, some 6),
      (3, some 0, some 1), (4, some 0, some 6), (5, some 0, some 6)]) := by
  obtain ⟨rs, hr, hlog, _, hinf⟩ := ds_run
  rw [hr 1 (by decide), Res.bind_ok, hlog, hinf]

example : dsDoc.ResourceRoot 6 2 := ⟨[2, 6], by decide +kernel, by decide +kernel⟩
example : dsDoc.ResourceRoot 1 0 := ⟨[1], by decide +kernel, by decide +kernel⟩
example : dsDoc.ResourceRoot 2 2 := ⟨[2], by decide +kernel, by decide +kernel⟩
example : dsDoc.ResourceRoot 7 2 := ⟨[2, 7], by decide +kernel, by decide +kernel⟩
example : dsDoc.AnchorTarget 2 "foo" 6 :=
  ⟨⟨[2, 6], by decide +kernel, by decide +kernel⟩, false, _, rfl, by decide +kernel⟩
example : dsDoc.AnchorTarget 0 "foo" 1 :=
  ⟨⟨[1], by decide +kernel, by decide +kernel⟩, false, _, rfl, by decide +kernel⟩
example : dsDoc.FragTarget 2 "foo" 6 := by
  unfold Doc.FragTarget
  rw [if_neg (by decide +kernel), if_neg (by decide +kernel)]
  exact ⟨⟨[2, 6], by decide +kernel, by decide +kernel⟩, false, _, rfl, by decide +kernel⟩
example : dsDoc.FragTarget 2 "/$defs/c" 6 := by
  unfold Doc.FragTarget
  rw [if_neg (by decide +kernel), if_pos (by decide +kernel)]
  decide +kernel
example : dsDoc.FragTarget 2 "" 2 := by
  unfold Doc.FragTarget
  rw [if_pos rfl]
example : Uri.toString (baseUriAlong dsDoc {} [2, 7]) = "http://a/sub.json" := by decide +kernel
example : Uri.toString (baseUriAlong dsDoc {} [3]) = "http://a/root.json" := by decide +kernel
/-- `resolve_sound_selfcontained` applies to the run above and yields, for the reference in schema 7 (inside the
    embedded resource), a designation whose target is the recorded one, 6 — not the `foo` of the root
    resource, 1 -/
example : dsDoc.Designates {} 7 "#foo" 6 := by
  obtain ⟨rs, hr, hlog, hdraft, hinf⟩ := ds_run
  obtain ⟨b, hb, hall⟩ := resolve_sound_selfcontained dsEnv 1 0 "" rs (hr 1 (by decide)) hlog
  cases (Res.ok.inj hb : ({} : Uri.Url) = b)
  obtain ⟨info, t, hi, ht, hd⟩ := hall 7 (by decide +kernel) { ref := "#foo" } rfl (by decide)
  have h7 := List.mem_map_of_mem (f := fun e : NodeId × Info => (e.1, e.2.base, e.2.resolvedRef)) (lookupNat_mem _ _ _ hi)
  rw [hinf, ht] at h7
  simp at h7
  rw [hdraft, h7.2] at hd
  exact hd

/-! draft-07: `$id: "#foo"` declares the plain name `foo`; an `$id` beside `$ref` is ignored (schema 2
    stays in the root resource and its reference is resolved against the root's URI) -/

def d7Store : Store := #[
  { schema := "http://json-schema.org/draft-07/schema#", id := "http://a/r7.json",
    definitions := some [("a", 1), ("b", 2)], allOf := some [3] },   -- 0
  { id := "#foo" },                                                    -- 1
  { id := "other.json", ref := "#foo" },                               -- 2
  { ref := "#foo" } ]                                                  -- 3
def d7Env : Env := { st := d7Store, reOk := fun _ => true, loader := none }
def d7Doc : Doc := ⟨d7Store, .d7, 0⟩

theorem d7_run : ∃ rs, (∀ fuel, 1 ≤ fuel → Go.resolve d7Env fuel 0 "" = .ok rs) ∧ rs.log = [] ∧ rs.draft = .d7 ∧
    rs.infos.map (fun e => (e.1, e.2.base, e.2.resolvedRef)) =
      [(0, some 0, none), (3, some 0, some 1), (1, some 0, none), (2, some 0, some 1)] :=
  run_of_check (by decide +kernel)

example : ((Go.resolve d7Env 1 0 "").bind fun rs =>
      .ok (rs.log, rs.infos.map fun e => (e.1, e.2.base, e.2.resolvedRef))) =
    .ok ([], [(0, some 0, none), (3, some 0, some 1), (1, some 0, none), (2, some 0, some 1)]) := by
  obtain ⟨rs, hr, hlog, _, hinf⟩ := d7_run
  rw [hr 1 (by decide), Res.bind_ok, hlog, hinf]
example : ((Go.resolve d7Env 1 0 "").bind fun rs => .ok (rs.draft == .d7)) = .ok true := by
  obtain ⟨rs, hr, _, hdraft, _⟩ := d7_run
  rw [hr 1 (by decide), Res.bind_ok, hdraft]
  rfl
example : d7Doc.ResourceRoot 2 0 := ⟨[2], by decide +kernel, by decide +kernel⟩
example : d7Doc.AnchorTarget 0 "foo" 1 :=
  ⟨⟨[1], by decide +kernel, by decide +kernel⟩, false, _, rfl, by decide +kernel⟩

theorem ex_tbl (tbl : List (String × LoaderResult)) (h : exEnv.loader = some tbl) :
    tbl = [("http://a/other.json", .doc 3)] := by
  have : exEnv.loader = some [("http://a/other.json", .doc 3)] := rfl
  rw [this] at h
  simp only [Option.some.injEq] at h
  exact h.symm

theorem ex_key (k : String) (r : NodeId)
    (h : Json.lookup k [("http://a/other.json", LoaderResult.doc 3)] = some (.doc r)) :
    k = "http://a/other.json" ∧ r = 3 := by
  rw [Json.lookup_cons] at h
  split at h
  · rename_i hk
    simp only [Option.some.injEq, LoaderResult.doc.injEq] at h
    exact ⟨hk.symm, h.symm⟩
  · simp at h

/-- the universe `exEnv` (root document 0, Loader document 3) satisfies the freshness assumption -/
theorem exEnv_fresh : LoaderFresh exEnv 0 := by
  intro tbl htbl
  cases ex_tbl tbl htbl
  constructor
  · intro k r hk b hb hb0
    obtain ⟨_, rfl⟩ := ex_key k r hk
    have h1 := reach_sub_closed exStore [3, 4] 3 b (by simp) (by decide +kernel) hb
    have h2 := reach_sub_closed exStore [0, 1, 2] 0 b (by simp) (by decide +kernel) hb0
    simp only [List.mem_cons, List.mem_nil_iff, or_false] at h1 h2
    rcases h1 with rfl | rfl <;> simp at h2
  · intro k1 k2 r1 r2 hne h1 h2
    exact absurd ((ex_key k1 r1 h1).1.trans (ex_key k2 r2 h2).1.symm) hne

/-- so `resolve_sound` applies to the resolution of `exEnv`: the reference `other.json#/$defs/x` of schema 1
    designates, among the documents resolved, the recorded target 4 (in the Loader document) -/
example : ∃ b docs, DesignatesAmong docs ⟨exStore, .d2020, 0⟩ b 1 "other.json#/$defs/x" 4 := by
  obtain ⟨rs, hr, _, hdraft, hinf⟩ := ex_run
  obtain ⟨b, docs, _, _, hall⟩ := resolve_sound exEnv 5 0 "" rs exEnv_fresh (hr 5 (by decide))
  obtain ⟨info, t, hi, ht, hd⟩ := (hall 1 (by decide +kernel) { ref := "other.json#/$defs/x" } rfl).1 (by decide)
  have h1 := List.mem_map_of_mem (f := fun e : NodeId × Info => (e.1, e.2.resolvedRef)) (lookupNat_mem _ _ _ hi)
  rw [hinf, ht] at h1
  simp at h1
  rw [hdraft, h1] at hd
  exact ⟨b, docs, hd⟩

/-- the universe of the counterexample above (`cxEnv`: one document object served under two URIs)
    violates the assumption -/
example : ¬ LoaderFresh cxEnv 0 := by
  intro h
  exact (h _ rfl).2 "http://a/x" "http://a/y" 3 3 (by decide) rfl rfl 3 (reach_root _ 3) (reach_root _ 3)

end designation_examples

/-! ## The converse: Resolve fails when a reference designates nothing — and, on a well-formed document, only then

Soundness above says: success ⇒ every reference has the designated target.  Here: a reference that designates
nothing ⇒ no success (`dangling_ref_is_error`), and on a self-contained document (no Loader) that satisfies the
well-formedness conditions W1–W6 of JSV/Spec/WellFormed.lean — one per other reason resolve.go has to return an
error — every reference designating something ⇒ success (`resolve_complete_selfcontained`); together
`resolve_ok_iff_selfcontained`.  `topDoc env root` is the document read under the draft its `$schema` selects. -/

section completeness
open Spec RComp

/-- Without a Loader: if some `$ref` or — the document being read under 2020-12, `topDraft env root = .d2020`; under
    draft-07 a `$dynamicRef` is an unknown keyword and may dangle — some `$dynamicRef` of `root.all()` designates no
    subschema of the document (`b` = the parsed BaseURI option), Schema.Resolve does not succeed; it returns an error
    for every positive fuel (never a panic, never another target). -/
theorem dangling_ref_is_error (env : Env) (hl : env.loader = none) (fuel : Nat) (root : NodeId) (base : String)
    (id : NodeId) (n : Node) (hid : id ∈ allNodes env.st (env.st.size + 2) [root]) (hn : env.st.get? id = some n)
    (hdang : ∀ b, retrievalOf base = .ok b →
      (n.ref ≠ "" ∧ ¬ ∃ t, (topDoc env root).Designates b id n.ref t) ∨
      (topDraft env root = .d2020 ∧ n.dynamicRef ≠ "" ∧ ¬ ∃ t, (topDoc env root).Designates b id n.dynamicRef t)) :
    (∀ rs, Go.resolve env fuel root base ≠ .ok rs) ∧ (1 ≤ fuel → Go.resolve env fuel root base = .err) := by
  have hno : ∀ rs, Go.resolve env fuel root base ≠ .ok rs := by
    intro rs h
    obtain ⟨b, hb, hall⟩ := resolve_designates_noloader env hl fuel root base rs h
    obtain ⟨h1, h2⟩ := hall id hid n hn
    rcases hdang b hb with ⟨hne, hnot⟩ | ⟨h20, hne, hnot⟩
    · exact hnot (h1 hne)
    · exact hnot (h2 h20 hne)
  exact ⟨hno, fun hfuel =>
    (RTot.resolve_total_noloader env hl fuel hfuel root base).resolve_right fun ⟨rs, h⟩ => hno rs h⟩

/-- With a Loader that satisfies the freshness assumption: if a `$ref` of `root.all()` designates nothing among
    any documents the resolution may touch (`docs`: the root document under the retrieval URI `b`, Loader
    documents under the URIs they are served for), Schema.Resolve does not succeed; when moreover the documents are
    disjoint (`docsDisjoint`, decidable) and the fuel exceeds the number of Loader entries, it returns an error. -/
theorem dangling_ref_is_error_among (env : Env) (fuel : Nat) (root : NodeId) (base : String)
    (hfresh : LoaderFresh env root)
    (id : NodeId) (n : Node) (hid : id ∈ allNodes env.st (env.st.size + 2) [root]) (hn : env.st.get? id = some n)
    (hne : n.ref ≠ "")
    (hdang : ∀ b docs draft, retrievalOf base = .ok b →
      (∀ e ∈ docs, e.1.st = env.st ∧ ((e.1.root = root ∧ e.2 = b) ∨
        ∃ tbl, env.loader = some tbl ∧ Json.lookup (Uri.toString e.2) tbl = some (.doc e.1.root))) →
      ¬ ∃ t, DesignatesAmong docs ⟨env.st, draft, root⟩ b id n.ref t) :
    (∀ rs, Go.resolve env fuel root base ≠ .ok rs) ∧
    (RTot.docsDisjoint env root = true → (env.loader.getD []).length + 1 ≤ fuel →
      Go.resolve env fuel root base = .err) := by
  have hno : ∀ rs, Go.resolve env fuel root base ≠ .ok rs := by
    intro rs h
    obtain ⟨b, docs, hb, hdocs, hall⟩ := resolve_sound env fuel root base rs hfresh h
    obtain ⟨info, t, _, _, hd⟩ := (hall id hid n hn).1 hne
    exact hdang b docs rs.draft hb hdocs ⟨t, hd⟩
  exact ⟨hno, fun hdis hfuel =>
    (RTot.resolve_total env fuel root base hdis hfuel).resolve_right fun ⟨rs, h⟩ => hno rs h⟩

/-- COMPLETENESS, self-contained documents.  No Loader; then the following are ALL the reasons resolve.go has to
    fail, so a document that passes them is resolved, by every positive fuel:

    * W1 the BaseURI option is empty or parses, W2 and has no fragment;
    * W3 `structureOk`: the subschemas form a tree without nil pointers (checkStructure);
    * W4 `localOk`: checkLocal accepts every subschema;
    * W5 `IdsOk`: every `$id` that is read parses, has no fragment in 2020-12, and the URI of every resource it
      establishes is absolute;
    * W6 `UniqueIds`: no URI identifies two resources (NOT checked by resolve.go — see the counterexample
      `dupStore` below: without it the resolver may look in the wrong one of two homonymous resources);
    * D  every `$ref` and every `$dynamicRef` of `root.all()` designates a subschema of the document (in
      particular its fragment-less URI identifies a resource of the document: no reference leaves it). -/
theorem resolve_complete_selfcontained (env : Env) (hl : env.loader = none) (fuel : Nat) (hfuel : 1 ≤ fuel)
    (root : NodeId) (base : String) (b : Uri.Url)
    (W1 : retrievalOf base = .ok b) (W2 : b.fragment = "")
    (W3 : structureOk env.st root = true) (W4 : localOk env root = true)
    (W5 : (topDoc env root).IdsOk b) (W6 : (topDoc env root).UniqueIds b)
    (D : (topDoc env root).RefsDesignate b (allNodes env.st (env.st.size + 2) [root])) :
    ∃ rs, Go.resolve env fuel root base = .ok rs :=
  resolve_ok_of_wf env hl fuel hfuel root base b W1 W2 W3 W4 W5 W6 D

/-- the same with the Bool checkers for W5, W6 (sufficient, evaluable) -/
theorem resolve_complete_selfcontained_checked (env : Env) (hl : env.loader = none) (fuel : Nat) (hfuel : 1 ≤ fuel)
    (root : NodeId) (base : String) (b : Uri.Url)
    (W1 : retrievalOf base = .ok b) (W2 : b.fragment = "")
    (W3 : structureOk env.st root = true) (W4 : localOk env root = true)
    (W5 : (topDoc env root).idsOk b = true) (W6 : (topDoc env root).uniqueIds b = true)
    (D : (topDoc env root).RefsDesignate b (allNodes env.st (env.st.size + 2) [root])) :
    ∃ rs, Go.resolve env fuel root base = .ok rs :=
  resolve_ok_of_wf env hl fuel hfuel root base b W1 W2 W3 W4 (idsOk_sound _ _ W5) (uniqueIds_sound _ _ W6) D

/-- the conditions W1–W5 are necessary, whatever the Loader: a successful Resolve was given a well-formed document -/
theorem resolve_ok_wellformed (env : Env) (fuel : Nat) (root : NodeId) (base : String) (rs : Resolved)
    (h : Go.resolve env fuel root base = .ok rs) :
    ∃ b, retrievalOf base = .ok b ∧ b.fragment = "" ∧ structureOk env.st root = true ∧
      localOk env root = true ∧ (topDoc env root).IdsOk b :=
  resolve_wf_of_ok env fuel root base rs h

/-- Success exactly when well-formed and every reference designates something: for a document without Loader in
    which no URI identifies two resources (W6), and positive fuel. -/
theorem resolve_ok_iff_selfcontained (env : Env) (hl : env.loader = none) (fuel : Nat) (hfuel : 1 ≤ fuel)
    (root : NodeId) (base : String)
    (W6 : ∀ b, retrievalOf base = .ok b → (topDoc env root).UniqueIds b) :
    (∃ rs, Go.resolve env fuel root base = .ok rs) ↔
    ∃ b, retrievalOf base = .ok b ∧ b.fragment = "" ∧ structureOk env.st root = true ∧ localOk env root = true ∧
      (topDoc env root).IdsOk b ∧
      (topDoc env root).RefsDesignate b (allNodes env.st (env.st.size + 2) [root]) := by
  constructor
  · rintro ⟨rs, h⟩
    obtain ⟨b, hb, h2, h3, h4, h5⟩ := resolve_wf_of_ok env fuel root base rs h
    obtain ⟨b', hb', hD⟩ := resolve_designates_noloader env hl fuel root base rs h
    rw [hb] at hb'
    simp only [Res.ok.injEq] at hb'
    subst hb'
    exact ⟨b, hb, h2, h3, h4, h5, hD⟩
  · rintro ⟨b, hb, h2, h3, h4, h5, hD⟩
    exact resolve_ok_of_wf env hl fuel hfuel root base b hb h2 h3 h4 h5 (W6 b hb) hD

/-- otherwise (positive fuel, no Loader) the outcome is an error: never a panic, never out of fuel -/
theorem resolve_err_iff_selfcontained (env : Env) (hl : env.loader = none) (fuel : Nat) (hfuel : 1 ≤ fuel)
    (root : NodeId) (base : String) :
    Go.resolve env fuel root base = .err ↔ ¬ ∃ rs, Go.resolve env fuel root base = .ok rs := by
  rcases RTot.resolve_total_noloader env hl fuel hfuel root base with h | ⟨rs, h⟩ <;> simp [h]

/-- COMPLETENESS with a Loader whose documents are all present (`UniverseOk`, JSV/Spec/WellFormed.lean):
    * every document — the top one under the retrieval URI `b`, every Loader document under every URL whose string
      is its key in the table — is well-formed (W2–W6), and all documents are read under one draft `dr`;
    * every reference of every document is good (`Doc.RefGood`): its fragment-less URI identifies a resource of
      its own document in which the fragment selects something, or it identifies nothing there and is a name of the
      top document or a key of the Loader table (with a `.doc` entry) in whose document the fragment selects something;
    * no URI names two documents (`Coherent`: retrieval URIs and root `$id`s — what resolver.loaded is keyed by);
    * the Loader's documents share no schema object (`LoaderFresh`, and its decidable form `docsDisjoint` which
      excludes the model's panic).
    Then Schema.Resolve succeeds, for every fuel above the number of Loader entries. -/
theorem resolve_complete (env : Env) (root : NodeId) (dr : Draft) (base : String) (b : Uri.Url) (fuel : Nat)
    (hfuel : (env.loader.getD []).length + 1 ≤ fuel) (W1 : retrievalOf base = .ok b)
    (hfresh : LoaderFresh env root) (hdis : RTot.docsDisjoint env root = true)
    (U : UniverseOk env root dr b) : ∃ rs, Go.resolve env fuel root base = .ok rs :=
  (RTot.resolve_total env fuel root base hdis hfuel).resolve_left
    (resolve_ne_err_G env root dr b base fuel W1 hfresh U)

end completeness

/-! ### The completeness theorems on non-trivial data

`dsEnv` (above): an embedded resource, an anchor of the same name inside and outside it, four references.
All hypotheses of `resolve_complete_selfcontained` hold — W3–W6 by evaluation of the checkers, D by a table of
witnesses (`dsCert`: lineage of the referring schema, lineage of the identified resource root, lineage of the
target) checked by `checkRefs` — so the theorem yields a successful resolution. -/

section completeness_examples
open Spec RComp

/-- for `$ref` in schema `id`: ⟨lineage of `id`, lineage of the resource root, the root, lineage of the target, target⟩ -/
def dsCert : NodeId → Bool → DesigCert
  | 3, _ => ⟨[3], [], 0, [1], 1⟩         -- "#foo" in the root resource: the `foo` outside
  | 4, _ => ⟨[4], [2], 2, [2, 6], 6⟩     -- "sub.json#foo": the `foo` inside
  | 5, _ => ⟨[5], [2], 2, [], 6⟩         -- "sub.json#/$defs/c"
  | 7, _ => ⟨[2, 7], [2], 2, [2, 6], 6⟩  -- "#foo" inside the embedded resource
  | _, _ => ⟨[], [], 0, [], 0⟩

/-- W3–W6 and the witness table for D, evaluated in one piece -/
theorem ds_checks : selfContainedB dsEnv 0 {} dsCert = true := by decide +kernel
theorem ds_W3 : structureOk dsStore 0 = true := (selfContained_of_check _ _ _ _ ds_checks).1
theorem ds_W4 : localOk dsEnv 0 = true := (selfContained_of_check _ _ _ _ ds_checks).2.1
theorem ds_W5 : (topDoc dsEnv 0).idsOk {} = true := (selfContained_of_check _ _ _ _ ds_checks).2.2.1
theorem ds_W6 : (topDoc dsEnv 0).uniqueIds {} = true := (selfContained_of_check _ _ _ _ ds_checks).2.2.2.1
theorem ds_D : (topDoc dsEnv 0).RefsDesignate {} (allNodes dsEnv.st (dsEnv.st.size + 2) [0]) :=
  (selfContained_of_check _ _ _ _ ds_checks).2.2.2.2

/-- every hypothesis of the completeness theorem holds for `dsEnv`, hence Resolve succeeds -/
example : ∃ rs, Go.resolve dsEnv 1 0 "" = .ok rs :=
  resolve_complete_selfcontained_checked dsEnv rfl 1 (by decide) 0 "" {} rfl rfl ds_W3 ds_W4 ds_W5 ds_W6 ds_D

example : ∃ rs, Go.resolve dsEnv 1 0 "" = .ok rs :=
  (resolve_ok_iff_selfcontained dsEnv rfl 1 (by decide) 0 "" (by
      intro b hb
      have : retrievalOf "" = .ok ({} : Uri.Url) := rfl
      rw [this] at hb
      simp only [Res.ok.injEq] at hb
      subst hb
      exact uniqueIds_sound _ _ ds_W6)).mpr
    ⟨{}, rfl, rfl, ds_W3, ds_W4, idsOk_sound _ _ ds_W5, ds_D⟩

/-! Dropping the designation hypothesis: `dgStore` = `dsStore` with the reference of schema 7 changed to `#bar` —
    no schema of the embedded resource declares `bar`.  W1–W6 still hold, every other reference still designates its
    target; Resolve returns an error; and the reference of schema 7 designates nothing (no schema at all declares
    `bar`), which is the hypothesis of `dangling_ref_is_error`. -/

def dgStore : Store := #[
  { id := "http://a/root.json", defs := some [("a", 1), ("b", 2)], allOf := some [3, 4, 5] },
  { anchor := "foo" },
  { id := "sub.json", defs := some [("c", 6)], items := some 7 },
  { ref := "#foo" },
  { ref := "sub.json#foo" },
  { ref := "sub.json#/$defs/c" },
  { anchor := "foo" },
  { ref := "#bar" } ]
def dgEnv : Env := { st := dgStore, reOk := fun _ => true, loader := none }

example : (Go.resolve dgEnv 1 0 "").verdict = some false := by decide +kernel

theorem dg_dangling : ¬ ∃ t, (topDoc dgEnv 0).Designates {} 7 "#bar" t := by
  rintro ⟨t, bu, refURI, r, -, hp, -, hF⟩
  -- whatever the base URI, the fragment of the resolved reference is `bar`
  have hbar : Uri.parse "#bar" = .ok { fragment := "bar" } := by decide +kernel
  cases hbar.symm.trans hp
  rw [Uri.resolveReference_fragment bu _ (by decide)] at hF
  -- a plain name: a schema of the document would have to declare it, and none does
  unfold Doc.FragTarget at hF
  rw [if_neg (by decide), if_neg (by decide +kernel)] at hF
  obtain ⟨-, dyn, n, hn, hm⟩ := hF
  have hnone : (dgStore.toList.all fun n =>
      (declaredAnchors (topDraft dgEnv 0) n).all fun e => e.1 != "bar") = true := by decide +kernel
  have hmem : n ∈ dgStore.toList := Array.mem_toList_iff.mpr (Array.mem_of_getElem? hn)
  have := List.all_eq_true.mp (List.all_eq_true.mp hnone n hmem) _ hm
  simp at this

/-- so `dangling_ref_is_error` applies: an error, for every positive fuel -/
example (fuel : Nat) (hfuel : 1 ≤ fuel) : Go.resolve dgEnv fuel 0 "" = .err :=
  (dangling_ref_is_error dgEnv rfl fuel 0 "" 7 { ref := "#bar" } (by decide +kernel) rfl (by
    intro b hb
    have : retrievalOf "" = .ok ({} : Uri.Url) := rfl
    rw [this] at hb
    simp only [Res.ok.injEq] at hb
    subst hb
    exact Or.inl ⟨by decide, dg_dangling⟩)).2 hfuel

/-- a reference that leaves the document (`other.json`, no Loader): an error as well -/
example : (Go.resolve { dsEnv with st := dsStore.set! 3 { ref := "other.json" } } 1 0 "").verdict = some false := by
  decide +kernel

/-! W6 cannot be dropped, and resolve.go does not check it: two subschemas with the same `$id`.  The second
    registration silently replaces the first in `resolvedURIs`; the reference `x.json#/$defs/t` designates schema 4
    (in the first resource, schema 1), all of W1–W5 and D hold, and Resolve fails with "no key t" because it looks in
    the second resource (schema 2).  With the names `a` and `b` exchanged it succeeds.  (Replayed on the Go package:
    same outcome.) -/

def dupStore : Store := #[
  { id := "http://a/root.json", defs := some [("a", 1), ("b", 2)], allOf := some [3] },
  { id := "x.json", defs := some [("t", 4)] },
  { id := "x.json" },
  { ref := "x.json#/$defs/t" },
  { } ]
def dupEnv : Env := { st := dupStore, reOk := fun _ => true, loader := none }

/-- what the examples below evaluate on `dupEnv`, evaluated once -/
theorem dup_facts : (Go.resolve dupEnv 1 0 "").verdict = some false ∧
    (structureOk dupStore 0 = true ∧ localOk dupEnv 0 = true ∧ (topDoc dupEnv 0).idsOk {} = true) ∧
    checkRefs (topDoc dupEnv 0) {} (allNodes dupEnv.st (dupEnv.st.size + 2) [0]) (fun _ _ => ⟨[3], [1], 1, [], 4⟩) = true ∧
    (topDoc dupEnv 0).uniqueIds {} = false ∧
    "http://a/x.json" = Uri.toString (baseUriAlong (topDoc dupEnv 0) {} [1]) ∧
    "http://a/x.json" = Uri.toString (baseUriAlong (topDoc dupEnv 0) {} [2]) := by decide +kernel

example : (Go.resolve dupEnv 1 0 "").verdict = some false := dup_facts.1
example : structureOk dupStore 0 = true ∧ localOk dupEnv 0 = true ∧ (topDoc dupEnv 0).idsOk {} = true := dup_facts.2.1
example : (topDoc dupEnv 0).RefsDesignate {} (allNodes dupEnv.st (dupEnv.st.size + 2) [0]) :=
  checkRefs_sound _ _ _ _ dup_facts.2.2.1
/-- what fails is W6 -/
example : (topDoc dupEnv 0).uniqueIds {} = false := dup_facts.2.2.2.1
example : ¬ (topDoc dupEnv 0).UniqueIds {} := by
  intro h
  have h1 : (topDoc dupEnv 0).Identifies {} "http://a/x.json" 1 :=
    Or.inr ⟨⟨[1], by decide +kernel, by decide +kernel⟩, _, ⟨[1], by decide +kernel, rfl⟩, dup_facts.2.2.2.2.1⟩
  have h2 : (topDoc dupEnv 0).Identifies {} "http://a/x.json" 2 :=
    Or.inr ⟨⟨[2], by decide +kernel, by decide +kernel⟩, _, ⟨[2], by decide +kernel, rfl⟩, dup_facts.2.2.2.2.2⟩
  exact absurd (h _ _ _ h1 h2) (by decide)

/-! With a Loader: the universe `exEnv` (root document 0 with two references into `http://a/other.json`, served by
    the Loader as document 3) satisfies `UniverseOk`; the references leave the root document (`checkRefOut`: their
    URI is no key of the document and is a key of the table) and the fragment selects in the Loader's document. -/

theorem ex_noIds (dr : Draft) : NoIds ⟨exStore, dr, 3⟩ := by
  intro x n hx hn
  have hmem := reach_sub_closed exStore [3, 4] 3 x (by simp) (by decide +kernel) hx
  simp only [List.mem_cons, List.mem_nil_iff, or_false] at hmem
  have hn' : exStore.get? x = some n := hn
  rcases hmem with rfl | rfl <;> cases (hn' : some _ = some n) <;> rfl

theorem ex_universe : UniverseOk exEnv 0 .d2020 {} := by
  obtain ⟨hDr, hS0, hL0, hIds, hDepth, hKeys, hAll0, hOut1, hOut2, hS3, hL3, hAll3⟩ := ex_all.2.2.2
  exact {
    topDr := hDr
    loaderDraft := by
      intro tbl k r rn htbl hk hrn
      rw [ex_tbl tbl htbl] at hk
      obtain ⟨_, rfl⟩ := ex_key k r hk
      have : exEnv.st.get? 3 = some { defs := some [("x", 4)] } := rfl
      rw [this] at hrn
      rw [← Option.some.inj hrn]
      rfl
    topDoc :=
      { frag := rfl
        struct := hS0
        locals := hL0
        ids := idsOk_sound _ _ hIds
        uniq := by
          -- both keys name schema 0
          intro k r r' h1 h2
          have m1 := identifies_mem _ {} hDepth k r h1
          have m2 := identifies_mem _ {} hDepth k r' h2
          rw [hKeys] at m1 m2
          simp only [List.mem_cons, Prod.mk.injEq, List.mem_nil_iff, or_false] at m1 m2
          rw [show r = 0 from m1.elim (·.2) (·.2), show r' = 0 from m2.elim (·.2) (·.2)]
        refs := by
          have hall : allNodes exStore (exStore.size + 2) [0] = [0, 1, 2] := hAll0
          intro id hid n hn
          have hid' : id ∈ [0, 1, 2] := by rw [← hall]; exact hid
          have hn' : exStore.get? id = some n := hn
          simp only [List.mem_cons, List.mem_nil_iff, or_false] at hid'
          rcases hid' with rfl | rfl | rfl
          · cases (hn' : some _ = some n)
            exact ⟨fun h => absurd rfl h, fun _ h => absurd rfl h⟩
          · cases (hn' : some _ = some n)
            exact ⟨fun _ => checkRefOut_sound exEnv 0 {} _ {} _ hDepth hKeys 1 _ [1] 3 [] 4 hOut1, fun _ h => absurd rfl h⟩
          · cases (hn' : some _ = some n)
            exact ⟨fun _ => checkRefOut_sound exEnv 0 {} _ {} _ hDepth hKeys 2 _ [2] 3 [] 3 hOut2, fun _ h => absurd rfl h⟩ }
    docs := by
      intro tbl u r htbl hk hfr
      rw [ex_tbl tbl htbl] at hk
      obtain ⟨_, rfl⟩ := ex_key _ r hk
      exact
        { frag := hfr
          struct := hS3
          locals := hL3
          ids := noIds_idsOk _ (ex_noIds _) u
          uniq := noIds_uniqueIds _ (ex_noIds _) u
          refs := by
            have hall : allNodes exStore (exStore.size + 2) [3] = [3, 4] := hAll3
            intro id hid n hn
            have hid' : id ∈ [3, 4] := by rw [← hall]; exact hid
            have hn' : exStore.get? id = some n := hn
            simp only [List.mem_cons, List.mem_nil_iff, or_false] at hid'
            rcases hid' with rfl | rfl
            · cases (hn' : some _ = some n)
              exact ⟨fun h => absurd rfl h, fun _ h => absurd rfl h⟩
            · cases (hn' : some _ = some n)
              exact ⟨fun h => absurd rfl h, fun _ h => absurd rfl h⟩ }
    coherent := by
      have htop : ∀ key, (⟨exEnv.st, .d2020, 0⟩ : Doc).Identifies {} key 0 → key = "" ∨ key = "http://a/root.json" := by
        intro key h
        have hm := identifies_mem ⟨exEnv.st, .d2020, 0⟩ {} hDepth key 0 h
        rw [hKeys] at hm
        simp only [List.mem_cons, Prod.mk.injEq, List.mem_nil_iff, or_false] at hm
        rcases hm with ⟨h, _⟩ | ⟨h, _⟩
        · exact Or.inl h
        · exact Or.inr h
      have hdoc : ∀ key x, (∃ tbl u, exEnv.loader = some tbl ∧ Json.lookup (Uri.toString u) tbl = some (.doc x) ∧
          (⟨exEnv.st, .d2020, x⟩ : Doc).Identifies u key x) → x = 3 ∧ key = "http://a/other.json" := by
        rintro key x ⟨tbl, u, htbl, hk, hI⟩
        rw [ex_tbl tbl htbl] at hk
        obtain ⟨hu, rfl⟩ := ex_key _ x hk
        exact ⟨rfl, by rw [(noIds_identifies _ (ex_noIds _) u key 3 hI).2, hu]⟩
      intro key x y hx hy
      rcases hx with ⟨rfl, hx⟩ | hx <;> rcases hy with ⟨rfl, hy⟩ | hy
      · rfl
      · obtain ⟨_, hk⟩ := hdoc key y hy
        rcases htop key hx with h | h <;> rw [h] at hk <;> exact absurd hk (by decide)
      · obtain ⟨_, hk⟩ := hdoc key x hx
        rcases htop key hy with h | h <;> rw [h] at hk <;> exact absurd hk (by decide)
      · rw [(hdoc key x hx).1, (hdoc key y hy).1] }

/-- so `resolve_complete` applies: success, by every fuel ≥ 2 -/
example : ∃ rs, Go.resolve exEnv 2 0 "" = .ok rs :=
  resolve_complete exEnv 0 .d2020 "" {} 2 (by decide) rfl exEnv_fresh (by decide +kernel) ex_universe

/-! Why `Doc.RefGood` asks a reference that leaves its document for a KEY of the Loader table (or a name of the top
    document), not for any name of a Loader document: a Loader document can be reached under the URI its root `$id`
    gives it only once it has been loaded under its retrieval URI (resolver.loaded is filled as documents arrive), so
    with the same universe success depends on the order of the references.  (Replayed on the Go package: same outcomes.) -/

def alStore : Store := #[
  { id := "http://a/root.json", allOf := some [1, 2] },
  { ref := "http://a/x.json" },
  { ref := "http://canon/x" },
  { id := "http://canon/x" } ]
def alEnv : Env := { st := alStore, reOk := fun _ => true, loader := some [("http://a/x.json", .doc 3)] }
def alEnv' : Env := { alEnv with st := (alStore.set! 1 { ref := "http://canon/x" }).set! 2 { ref := "http://a/x.json" } }

example : ((Go.resolve alEnv 2 0 "").bind fun rs => .ok (rs.log, rs.infos.map fun e => (e.1, e.2.resolvedRef))) =
    .ok (["http://a/x.json"], [(0, none), (1, some 3), (2, some 3), (3, none)]) := by decide +kernel
example : (Go.resolve alEnv' 2 0 "").verdict = some false := by decide +kernel
end completeness_examples

/-! ## Tests of the URL model against RFC 3986 §5.4 (reference resolution examples) -/

section rfc3986_examples
open Uri

theorem rfc_base : parse "http://a/b/c/d;p?q" =
    .ok { scheme := "http", host := "a", path := "/b/c/d;p", rawQuery := "q" } := by decide +kernel

/-- §5.4.1 normal examples, base `http://a/b/c/d;p?q` -/
example : resolveStr "http://a/b/c/d;p?q" "g:h" = .ok "g:h" := by rw [resolveStr, rfc_base]; decide +kernel
example : resolveStr "http://a/b/c/d;p?q" "g" = .ok "http://a/b/c/g" := by rw [resolveStr, rfc_base]; decide +kernel
example : resolveStr "http://a/b/c/d;p?q" "./g" = .ok "http://a/b/c/g" := by rw [resolveStr, rfc_base]; decide +kernel
example : resolveStr "http://a/b/c/d;p?q" "g/" = .ok "http://a/b/c/g/" := by rw [resolveStr, rfc_base]; decide +kernel
example : resolveStr "http://a/b/c/d;p?q" "/g" = .ok "http://a/g" := by rw [resolveStr, rfc_base]; decide +kernel
example : resolveStr "http://a/b/c/d;p?q" "//g" = .ok "http://g" := by rw [resolveStr, rfc_base]; decide +kernel
example : resolveStr "http://a/b/c/d;p?q" "?y" = .ok "http://a/b/c/d;p?y" := by rw [resolveStr, rfc_base]; decide +kernel
example : resolveStr "http://a/b/c/d;p?q" "g?y" = .ok "http://a/b/c/g?y" := by rw [resolveStr, rfc_base]; decide +kernel
example : resolveStr "http://a/b/c/d;p?q" "#s" = .ok "http://a/b/c/d;p?q#s" := by rw [resolveStr, rfc_base]; decide +kernel
example : resolveStr "http://a/b/c/d;p?q" "g#s" = .ok "http://a/b/c/g#s" := by rw [resolveStr, rfc_base]; decide +kernel
example : resolveStr "http://a/b/c/d;p?q" "g?y#s" = .ok "http://a/b/c/g?y#s" := by rw [resolveStr, rfc_base]; decide +kernel
example : resolveStr "http://a/b/c/d;p?q" ";x" = .ok "http://a/b/c/;x" := by rw [resolveStr, rfc_base]; decide +kernel
example : resolveStr "http://a/b/c/d;p?q" "g;x" = .ok "http://a/b/c/g;x" := by rw [resolveStr, rfc_base]; decide +kernel
example : resolveStr "http://a/b/c/d;p?q" "g;x?y#s" = .ok "http://a/b/c/g;x?y#s" := by rw [resolveStr, rfc_base]; decide +kernel
example : resolveStr "http://a/b/c/d;p?q" "" = .ok "http://a/b/c/d;p?q" := by rw [resolveStr, rfc_base]; decide +kernel
example : resolveStr "http://a/b/c/d;p?q" "." = .ok "http://a/b/c/" := by rw [resolveStr, rfc_base]; decide +kernel
example : resolveStr "http://a/b/c/d;p?q" "./" = .ok "http://a/b/c/" := by rw [resolveStr, rfc_base]; decide +kernel
example : resolveStr "http://a/b/c/d;p?q" ".." = .ok "http://a/b/" := by rw [resolveStr, rfc_base]; decide +kernel
example : resolveStr "http://a/b/c/d;p?q" "../" = .ok "http://a/b/" := by rw [resolveStr, rfc_base]; decide +kernel
example : resolveStr "http://a/b/c/d;p?q" "../g" = .ok "http://a/b/g" := by rw [resolveStr, rfc_base]; decide +kernel
example : resolveStr "http://a/b/c/d;p?q" "../.." = .ok "http://a/" := by rw [resolveStr, rfc_base]; decide +kernel
example : resolveStr "http://a/b/c/d;p?q" "../../" = .ok "http://a/" := by rw [resolveStr, rfc_base]; decide +kernel
example : resolveStr "http://a/b/c/d;p?q" "../../g" = .ok "http://a/g" := by rw [resolveStr, rfc_base]; decide +kernel

/-- §5.4.2 abnormal examples -/
example : resolveStr "http://a/b/c/d;p?q" "../../../g" = .ok "http://a/g" := by rw [resolveStr, rfc_base]; decide +kernel
example : resolveStr "http://a/b/c/d;p?q" "../../../../g" = .ok "http://a/g" := by rw [resolveStr, rfc_base]; decide +kernel
example : resolveStr "http://a/b/c/d;p?q" "/./g" = .ok "http://a/g" := by rw [resolveStr, rfc_base]; decide +kernel
example : resolveStr "http://a/b/c/d;p?q" "/../g" = .ok "http://a/g" := by rw [resolveStr, rfc_base]; decide +kernel
example : resolveStr "http://a/b/c/d;p?q" "g." = .ok "http://a/b/c/g." := by rw [resolveStr, rfc_base]; decide +kernel
example : resolveStr "http://a/b/c/d;p?q" ".g" = .ok "http://a/b/c/.g" := by rw [resolveStr, rfc_base]; decide +kernel
example : resolveStr "http://a/b/c/d;p?q" "g.." = .ok "http://a/b/c/g.." := by rw [resolveStr, rfc_base]; decide +kernel
example : resolveStr "http://a/b/c/d;p?q" "..g" = .ok "http://a/b/c/..g" := by rw [resolveStr, rfc_base]; decide +kernel
example : resolveStr "http://a/b/c/d;p?q" "./../g" = .ok "http://a/b/g" := by rw [resolveStr, rfc_base]; decide +kernel
example : resolveStr "http://a/b/c/d;p?q" "./g/." = .ok "http://a/b/c/g/" := by rw [resolveStr, rfc_base]; decide +kernel
example : resolveStr "http://a/b/c/d;p?q" "g/./h" = .ok "http://a/b/c/g/h" := by rw [resolveStr, rfc_base]; decide +kernel
example : resolveStr "http://a/b/c/d;p?q" "g/../h" = .ok "http://a/b/c/h" := by rw [resolveStr, rfc_base]; decide +kernel
example : resolveStr "http://a/b/c/d;p?q" "g;x=1/./y" = .ok "http://a/b/c/g;x=1/y" := by rw [resolveStr, rfc_base]; decide +kernel
example : resolveStr "http://a/b/c/d;p?q" "g;x=1/../y" = .ok "http://a/b/c/y" := by rw [resolveStr, rfc_base]; decide +kernel
example : resolveStr "http://a/b/c/d;p?q" "g?y/./x" = .ok "http://a/b/c/g?y/./x" := by rw [resolveStr, rfc_base]; decide +kernel
example : resolveStr "http://a/b/c/d;p?q" "g?y/../x" = .ok "http://a/b/c/g?y/../x" := by rw [resolveStr, rfc_base]; decide +kernel
example : resolveStr "http://a/b/c/d;p?q" "g#s/./x" = .ok "http://a/b/c/g#s/./x" := by rw [resolveStr, rfc_base]; decide +kernel
example : resolveStr "http://a/b/c/d;p?q" "g#s/../x" = .ok "http://a/b/c/g#s/../x" := by rw [resolveStr, rfc_base]; decide +kernel
/-- strict parsers keep the scheme-only reference -/
example : resolveStr "http://a/b/c/d;p?q" "http:g" = .ok "http:g" := by rw [resolveStr, rfc_base]; decide +kernel

end rfc3986_examples

end JSV.C03
