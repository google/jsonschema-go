/-
  C09 — JSON accepted by an inferred schema decodes.  Property theorems only
  (helper lemmas: JSV/Proofs/Inf*.lean; the model of encoding/json on the fragment — `decodable`, the
  decoder with DisallowUnknownFields — is JSV/Spec/EncJson.lean).

  Vocabulary: as in C04; `EncJson.decodable T j`: json.Decoder with DisallowUnknownFields accepts `j` for `T`
  (null everywhere, integers integral and within the kind's range, arrays of any length, objects with known
  keys only — exact or case-insensitive match); `EncJson.PlainInts j`: every integer-valued number of `j`
  lies within int64 (the schema states no bound for int / int64 and no maximum for uint / uint64 / uintptr).

  With embedded struct fields (last section; helper lemmas: JSV/Proofs/InfEmbTight.lean): `Go.forTypeE` is the model
  of `ForType` (JSV/Model/InferEmb.lean), `EncJsonEmb.decodableE` the decoder with DisallowUnknownFields over
  encoding/json's `typeFields` (JSV/Spec/EncJsonEmb.lean).
-/
import JSV.Proofs.InfTight
import JSV.Proofs.InfNamed
import JSV.Proofs.InfEmbTight
import JSV.Proofs.InfEmbNamed
import JSV.Props.C04
import JSV.Props.C16
namespace JSV.C09
open JSV Go EncJson Spec

/-! ## the kind table against the value ranges of the Go kinds -/

/-- for every sized integer kind the schema's minimum / maximum are exactly the ends of the value range -/
theorem int_bounds_tight :
    ∀ k, k ∈ sizedKinds → ∃ lo hi, kindEntry k = some ("integer", some lo, some hi) ∧
      minValue k = some lo ∧ maxValue k = some hi := by
  intro k hk
  obtain ⟨lo, hi, hr, hke⟩ := sized_rows k hk
  exact ⟨lo, hi, hke, by rw [minValue, hr]; rfl, by rw [maxValue, hr]; rfl⟩

/-- for every integer kind: a stated bound is the exact end of the range; an unstated one is an end of
    int64 / at least the end of int64 (which is where `PlainInts` takes over) -/
theorem int_bounds_tight_all (k : String) (lo hi : Int) (h : intRange k = some (lo, hi)) :
    ∃ mn mx, kindEntry k = some ("integer", mn, mx) ∧ (mn = some lo ∨ (mn = none ∧ lo = -9223372036854775808)) ∧
      (mx = some hi ∨ (mx = none ∧ 9223372036854775807 ≤ hi)) :=
  int_table_tight h

/-- **main (fragment)**: a document that the schema returned by `ForType` accepts is one the decoder accepts
    for the type (`Json.WF j`, distinct keys, is not needed) -/
theorem infer_tight (opts : IOpts) (fuel : Nat) (T : GoType) (st : Store) (id : NodeId) (st' : Store)
    (re : String → String → Bool) (hdom : InDomain T = true)
    (h : forType opts fuel T st = .ok (some id, st')) (j : Json) (hp : PlainInts j = true)
    (fuel' : Nat) (hv : Spec.valid (specEnvNoRefs st' re) fuel' id j = some true) :
    decodable T j = true := by
  obtain ⟨id', hid, hm⟩ := inferFuel_models opts fuel T [] st (some id) st' hdom h
  cases hid
  exact Models.tight (re := re) T false id hm hdom fuel' [] j hp (valid_iff_isSome.2 hv)

/-- contrapositive: what does not decode is not accepted -/
theorem not_decodable_rejected (opts : IOpts) (fuel : Nat) (T : GoType) (st : Store) (id : NodeId) (st' : Store)
    (re : String → String → Bool) (hdom : InDomain T = true)
    (h : forType opts fuel T st = .ok (some id, st')) (j : Json) (hp : PlainInts j = true)
    (hnd : decodable T j = false) (fuel' : Nat) :
    Spec.valid (specEnvNoRefs st' re) fuel' id j ≠ some true := by
  intro hv
  rw [infer_tight opts fuel T st id st' re hdom h j hp fuel' hv] at hnd
  cases hnd

/-! ## the five mutation classes -/

/-- (1) a missing always-written field is rejected (the decoder would accept: this one is the schema's own) -/
theorem missing_required_rejected (opts : IOpts) (fuel : Nat) (fields : List (String × String × GoType)) (st : Store)
    (id : NodeId) (st' : Store) (re : String → String → Bool) (hdom : InDomain (.struct fields) = true)
    (h : forType opts fuel (.struct fields) st = .ok (some id, st'))
    (kvs : List (String × Json)) (k : String) (hk : k ∈ alwaysNames fields) (hmiss : Json.lookup k kvs = none)
    (fuel' : Nat) :
    Spec.valid (specEnvNoRefs st' re) fuel' id (.obj kvs) ≠ some true := by
  intro hv
  obtain ⟨id', hid, hm⟩ := inferFuel_models opts fuel _ [] st (some id) st' hdom h
  cases hid
  have := Models.required (re := re) hm (valid_iff_isSome.2 hv) k hk
  rw [hmiss] at this
  cases this

/-- (2) an undeclared property is rejected: a key that is no field's JSON name, exactly or case-insensitively -/
theorem undeclared_property_rejected (opts : IOpts) (fuel : Nat) (fields : List (String × String × GoType)) (st : Store)
    (id : NodeId) (st' : Store) (re : String → String → Bool) (hdom : InDomain (.struct fields) = true)
    (h : forType opts fuel (.struct fields) st = .ok (some id, st'))
    (kvs : List (String × Json)) (hp : PlainInts (.obj kvs) = true) (k : String) (v : Json) (hkv : (k, v) ∈ kvs)
    (hexact : decodableExact fields k v = none) (hfold : decodableFold fields k v = none) (fuel' : Nat) :
    Spec.valid (specEnvNoRefs st' re) fuel' id (.obj kvs) ≠ some true := by
  refine not_decodable_rejected opts fuel _ st id st' re hdom h _ hp ?_ fuel'
  simp only [decodable]
  cases hall : kvs.all fun p =>
      match decodableExact fields p.1 p.2 with
      | some b => b
      | none => (decodableFold fields p.1 p.2).getD false with
  | false => rfl
  | true =>
    have := List.all_eq_true.1 hall (k, v) hkv
    simp [hexact, hfold] at this

/-- (3) a wrong JSON type is rejected: e.g. anything but `null` or an array for a slice or array type,
    anything but `null` or an object for a map or struct type, and for the basic kinds whatever
    `decodableBasic` refuses (a string for a bool, a fraction for an integer, …) -/
theorem wrong_type_rejected (opts : IOpts) (fuel : Nat) (T : GoType) (st : Store) (id : NodeId) (st' : Store)
    (re : String → String → Bool) (hdom : InDomain T = true)
    (h : forType opts fuel T st = .ok (some id, st')) (fuel' : Nat) :
    (∀ e b, T = .slice e → Spec.valid (specEnvNoRefs st' re) fuel' id (.bool b) ≠ some true) ∧
    (∀ e s, T = .slice e → Spec.valid (specEnvNoRefs st' re) fuel' id (.str s) ≠ some true) ∧
    (∀ e kvs, T = .slice e → PlainInts (.obj kvs) = true → Spec.valid (specEnvNoRefs st' re) fuel' id (.obj kvs) ≠ some true) ∧
    (∀ fs xs, T = .struct fs → PlainInts (.arr xs) = true → Spec.valid (specEnvNoRefs st' re) fuel' id (.arr xs) ≠ some true) ∧
    (∀ fs s, T = .struct fs → Spec.valid (specEnvNoRefs st' re) fuel' id (.str s) ≠ some true) ∧
    (∀ s, T = .basic "Bool" → Spec.valid (specEnvNoRefs st' re) fuel' id (.str s) ≠ some true) ∧
    (∀ b, T = .basic "String" → Spec.valid (specEnvNoRefs st' re) fuel' id (.bool b) ≠ some true) := by
  refine ⟨?_, ?_, ?_, ?_, ?_, ?_, ?_⟩
  · rintro e b rfl
    exact not_decodable_rejected opts fuel _ st id st' re hdom h _ rfl (by simp [decodable]) fuel'
  · rintro e s rfl
    exact not_decodable_rejected opts fuel _ st id st' re hdom h _ rfl (by simp [decodable]) fuel'
  · rintro e kvs rfl hp
    exact not_decodable_rejected opts fuel _ st id st' re hdom h _ hp (by simp [decodable]) fuel'
  · rintro fs xs rfl hp
    exact not_decodable_rejected opts fuel _ st id st' re hdom h _ hp (by simp [decodable]) fuel'
  · rintro fs s rfl
    exact not_decodable_rejected opts fuel _ st id st' re hdom h _ rfl (by simp [decodable]) fuel'
  · rintro s rfl
    exact not_decodable_rejected opts fuel _ st id st' re hdom h _ rfl (by simp [decodable, decodableBasic]) fuel'
  · rintro b rfl
    exact not_decodable_rejected opts fuel _ st id st' re hdom h _ rfl (by simp [decodable, decodableBasic]) fuel'

/-- (4) an integer outside the range of its kind is rejected (within int64: beyond it int / int64 / uint* have
    no schema bound, see `PlainInts`) -/
theorem out_of_range_rejected (opts : IOpts) (fuel : Nat) (kind : String) (lo hi : Int) (st : Store) (id : NodeId)
    (st' : Store) (re : String → String → Bool) (hdom : InDomain (.basic kind) = true)
    (hr : intRange kind = some (lo, hi)) (h : forType opts fuel (.basic kind) st = .ok (some id, st'))
    (i : Int) (hi64 : -9223372036854775808 ≤ i ∧ i ≤ 9223372036854775807) (hout : i < lo ∨ hi < i) (fuel' : Nat) :
    Spec.valid (specEnvNoRefs st' re) fuel' id (.num (i : Rat)) ≠ some true := by
  have hkind : kind ∈ intKinds := mem_intKinds_of_intRange hr
  obtain ⟨h1, h2⟩ := not_float_of_int hkind
  refine not_decodable_rejected opts fuel _ st id st' re hdom h _ ?_ ?_ fuel'
  · simp only [PlainInts, Rat.den_intCast, bne_self_eq_false, Bool.false_or, Bool.and_eq_true, decide_eq_true_eq]
    exact ⟨Rat.intCast_le_intCast.2 hi64.1, Rat.intCast_le_intCast.2 hi64.2⟩
  · simp only [decodable, decodableBasic, h1, h2, hr, Bool.false_or, Rat.den_intCast, beq_self_eq_true, Bool.true_and]
    rcases hout with hlt | hlt
    · have : ¬ ((lo : Rat) ≤ (i : Rat)) := fun hle => by
        have := Rat.intCast_le_intCast.1 hle
        omega
      simp [this]
    · have : ¬ ((i : Rat) ≤ (hi : Rat)) := fun hle => by
        have := Rat.intCast_le_intCast.1 hle
        omega
      simp [this]

/-- (5) a Go array `[n]T` only accepts arrays of length `n` (the decoder would accept any length: this one is
    the schema's own) -/
theorem wrong_array_length_rejected (opts : IOpts) (fuel : Nat) (len : Nat) (e : GoType) (st : Store)
    (id : NodeId) (st' : Store) (re : String → String → Bool) (hdom : InDomain (.array len e) = true)
    (h : forType opts fuel (.array len e) st = .ok (some id, st')) (xs : List Json) (hlen : xs.length ≠ len)
    (fuel' : Nat) :
    Spec.valid (specEnvNoRefs st' re) fuel' id (.arr xs) ≠ some true := by
  intro hv
  obtain ⟨id', hid, hm⟩ := inferFuel_models opts fuel _ [] st (some id) st' hdom h
  cases hid
  exact hlen (Models.arrayLen (re := re) hm (valid_iff_isSome.2 hv))

/-! ## declared (named) types

  `EncJson.InDomainN`: `InDomain` with declared types; `EncJson.NamedOk opts [] [] T`: the declared types of `T` are
  transparent for `forType` (none has an entry in the type table, no name occurs twice along a path; C09's domain has no
  marshaler types, hence the empty list); the strict decoder treats a declared type like its underlying type
  (`C04.encJson_named_conservative`).  Helper lemmas: JSV/Proofs/InfNamed.lean (`forType_erase`). -/

theorem strEntries_nil (schemas : List (String × NodeId)) (st : Store) : StrEntries schemas [] st :=
  fun _ hn => nomatch hn

/-- **main, with declared types**: a document that the schema returned by `ForType` accepts is one the decoder accepts
    for the type -/
theorem infer_tight_named (opts : IOpts) (fuel : Nat) (T : GoType) (st : Store) (id : NodeId) (st' : Store)
    (re : String → String → Bool) (hdom : InDomainN T = true) (hok : NamedOk opts [] [] T = true)
    (h : forType opts fuel T st = .ok (some id, st')) (j : Json) (hp : PlainInts j = true)
    (fuel' : Nat) (hv : Spec.valid (specEnvNoRefs st' re) fuel' id j = some true) :
    decodable T j = true := by
  rw [forType_erase opts [] fuel T st (strEntries_nil _ _) hok] at h
  rw [← decodable_erase]
  exact infer_tight opts fuel (erase T) st id st' re (by rw [← inDomainN_eq_erase]; exact hdom) h j hp fuel' hv

/-- contrapositive: what does not decode is not accepted -/
theorem not_decodable_rejected_named (opts : IOpts) (fuel : Nat) (T : GoType) (st : Store) (id : NodeId) (st' : Store)
    (re : String → String → Bool) (hdom : InDomainN T = true) (hok : NamedOk opts [] [] T = true)
    (h : forType opts fuel T st = .ok (some id, st')) (j : Json) (hp : PlainInts j = true)
    (hnd : decodable T j = false) (fuel' : Nat) :
    Spec.valid (specEnvNoRefs st' re) fuel' id j ≠ some true := by
  intro hv
  rw [infer_tight_named opts fuel T st id st' re hdom hok h j hp fuel' hv] at hnd
  cases hnd

/-- (1) a missing always-written field of a declared struct type `type N struct {…}` is rejected -/
theorem missing_required_rejected_named (opts : IOpts) (fuel : Nat) (nm : String)
    (fields : List (String × String × GoType)) (st : Store) (id : NodeId) (st' : Store) (re : String → String → Bool)
    (hdom : InDomainN (.named nm (.struct fields)) = true) (hok : NamedOk opts [] [] (.named nm (.struct fields)) = true)
    (h : forType opts fuel (.named nm (.struct fields)) st = .ok (some id, st'))
    (kvs : List (String × Json)) (k : String) (hk : k ∈ alwaysNames fields) (hmiss : Json.lookup k kvs = none)
    (fuel' : Nat) :
    Spec.valid (specEnvNoRefs st' re) fuel' id (.obj kvs) ≠ some true := by
  rw [forType_erase opts [] fuel _ st (strEntries_nil _ _) hok] at h
  rw [inDomainN_eq_erase] at hdom
  simp only [erase] at h hdom
  exact missing_required_rejected opts fuel (eraseFields fields) st id st' re hdom h kvs k
    (by rw [alwaysNames_erase]; exact hk) hmiss fuel'

/-- (2) an undeclared property is rejected: a key that is no field's JSON name, exactly or case-insensitively -/
theorem undeclared_property_rejected_named (opts : IOpts) (fuel : Nat) (nm : String)
    (fields : List (String × String × GoType)) (st : Store) (id : NodeId) (st' : Store) (re : String → String → Bool)
    (hdom : InDomainN (.named nm (.struct fields)) = true) (hok : NamedOk opts [] [] (.named nm (.struct fields)) = true)
    (h : forType opts fuel (.named nm (.struct fields)) st = .ok (some id, st'))
    (kvs : List (String × Json)) (hp : PlainInts (.obj kvs) = true) (k : String) (v : Json) (hkv : (k, v) ∈ kvs)
    (hexact : decodableExact fields k v = none) (hfold : decodableFold fields k v = none) (fuel' : Nat) :
    Spec.valid (specEnvNoRefs st' re) fuel' id (.obj kvs) ≠ some true := by
  rw [forType_erase opts [] fuel _ st (strEntries_nil _ _) hok] at h
  rw [inDomainN_eq_erase] at hdom
  simp only [erase] at h hdom
  exact undeclared_property_rejected opts fuel (eraseFields fields) st id st' re hdom h kvs hp k v hkv
    (by rw [decodableExact_erase]; exact hexact) (by rw [decodableFold_erase]; exact hfold) fuel'

/-- (3) a wrong JSON type is rejected, for declared slice, struct and scalar types -/
theorem wrong_type_rejected_named (opts : IOpts) (fuel : Nat) (T : GoType) (st : Store) (id : NodeId) (st' : Store)
    (re : String → String → Bool) (hdom : InDomainN T = true) (hok : NamedOk opts [] [] T = true)
    (h : forType opts fuel T st = .ok (some id, st')) (fuel' : Nat) :
    (∀ nm e b, T = .named nm (.slice e) → Spec.valid (specEnvNoRefs st' re) fuel' id (.bool b) ≠ some true) ∧
    (∀ nm e s, T = .named nm (.slice e) → Spec.valid (specEnvNoRefs st' re) fuel' id (.str s) ≠ some true) ∧
    (∀ nm fs xs, T = .named nm (.struct fs) → PlainInts (.arr xs) = true →
      Spec.valid (specEnvNoRefs st' re) fuel' id (.arr xs) ≠ some true) ∧
    (∀ nm fs s, T = .named nm (.struct fs) → Spec.valid (specEnvNoRefs st' re) fuel' id (.str s) ≠ some true) ∧
    (∀ nm s, T = .named nm (.basic "Bool") → Spec.valid (specEnvNoRefs st' re) fuel' id (.str s) ≠ some true) ∧
    (∀ nm b, T = .named nm (.basic "String") → Spec.valid (specEnvNoRefs st' re) fuel' id (.bool b) ≠ some true) := by
  refine ⟨?_, ?_, ?_, ?_, ?_, ?_⟩
  · rintro nm e b rfl
    exact not_decodable_rejected_named opts fuel _ st id st' re hdom hok h _ rfl (by simp [decodable]) fuel'
  · rintro nm e s rfl
    exact not_decodable_rejected_named opts fuel _ st id st' re hdom hok h _ rfl (by simp [decodable]) fuel'
  · rintro nm fs xs rfl hp
    exact not_decodable_rejected_named opts fuel _ st id st' re hdom hok h _ hp (by simp [decodable]) fuel'
  · rintro nm fs s rfl
    exact not_decodable_rejected_named opts fuel _ st id st' re hdom hok h _ rfl (by simp [decodable]) fuel'
  · rintro nm s rfl
    exact not_decodable_rejected_named opts fuel _ st id st' re hdom hok h _ rfl (by simp [decodable, decodableBasic]) fuel'
  · rintro nm b rfl
    exact not_decodable_rejected_named opts fuel _ st id st' re hdom hok h _ rfl (by simp [decodable, decodableBasic]) fuel'

/-- (4) an integer outside the range of the kind of a declared integer type (`type Level int8`) is rejected -/
theorem out_of_range_rejected_named (opts : IOpts) (fuel : Nat) (nm kind : String) (lo hi : Int) (st : Store) (id : NodeId)
    (st' : Store) (re : String → String → Bool) (hdom : InDomainN (.named nm (.basic kind)) = true)
    (hok : NamedOk opts [] [] (.named nm (.basic kind)) = true)
    (hr : intRange kind = some (lo, hi)) (h : forType opts fuel (.named nm (.basic kind)) st = .ok (some id, st'))
    (i : Int) (hi64 : -9223372036854775808 ≤ i ∧ i ≤ 9223372036854775807) (hout : i < lo ∨ hi < i) (fuel' : Nat) :
    Spec.valid (specEnvNoRefs st' re) fuel' id (.num (i : Rat)) ≠ some true := by
  rw [forType_erase opts [] fuel _ st (strEntries_nil _ _) hok] at h
  rw [inDomainN_eq_erase] at hdom
  simp only [erase] at h hdom
  exact out_of_range_rejected opts fuel kind lo hi st id st' re hdom hr h i hi64 hout fuel'

/-- (5) a declared array type `type V [n]T` only accepts arrays of length `n` -/
theorem wrong_array_length_rejected_named (opts : IOpts) (fuel : Nat) (nm : String) (len : Nat) (e : GoType) (st : Store)
    (id : NodeId) (st' : Store) (re : String → String → Bool) (hdom : InDomainN (.named nm (.array len e)) = true)
    (hok : NamedOk opts [] [] (.named nm (.array len e)) = true)
    (h : forType opts fuel (.named nm (.array len e)) st = .ok (some id, st')) (xs : List Json) (hlen : xs.length ≠ len)
    (fuel' : Nat) :
    Spec.valid (specEnvNoRefs st' re) fuel' id (.arr xs) ≠ some true := by
  rw [forType_erase opts [] fuel _ st (strEntries_nil _ _) hok] at h
  rw [inDomainN_eq_erase] at hdom
  simp only [erase] at h hdom
  exact wrong_array_length_rejected opts fuel len (erase e) st id st' re hdom h xs hlen fuel'

/-! ## labelled tests: the statements evaluated on concrete data -/

/-- `[2]bool`: length 1 and 3 rejected, length 2 accepted, `null` rejected (no pointer) -/
example : (match forType {} 3 (.array 2 (.basic "Bool")) #[] with
    | .ok (some id, st') =>
      [Spec.valid (specEnvNoRefs st') 2 id (.arr [.bool true]),
       Spec.valid (specEnvNoRefs st') 2 id (.arr [.bool true, .bool false]),
       Spec.valid (specEnvNoRefs st') 2 id (.arr [.bool true, .bool false, .bool true]),
       Spec.valid (specEnvNoRefs st') 2 id .null]
    | _ => []) = [some false, some true, some false, some false] := by decide +kernel

/-- `map[string]*uint8`: -1 and 256 rejected, 255 and null accepted -/
example : (match forType {} 3 (.map "String" (.ptr (.basic "Uint8"))) #[] with
    | .ok (some id, st') =>
      [Spec.valid (specEnvNoRefs st') 2 id (.obj [("a", .num (-1))]),
       Spec.valid (specEnvNoRefs st') 2 id (.obj [("a", .num 256)]),
       Spec.valid (specEnvNoRefs st') 2 id (.obj [("a", .num 255), ("b", .null)]),
       Spec.valid (specEnvNoRefs st') 2 id (.obj [("a", .str "x")])]
    | _ => []) = [some false, some false, some true, some false] := by decide +kernel

example : decodable (.map "String" (.ptr (.basic "Uint8"))) (.obj [("a", .num 255), ("b", .null)]) = true := by decide
example : decodable (.map "String" (.ptr (.basic "Uint8"))) (.obj [("a", .num 256)]) = false := by decide
example : PlainInts (.obj [("a", .num 255), ("b", .null)]) = true := by decide

/-! ### declared types: the hypotheses are satisfiable, the statements discriminate -/

/-- `type Level int8`, `type IDs []Level` -/
def idsT : GoType := .named "IDs" (.slice (.named "Level" (.basic "Int8")))

example : InDomainN idsT = true ∧ NamedOk {} [] [] idsT = true := by decide

/-- `[127]` and `null` accepted, `[128]` and `"x"` rejected -/
example : (match forType {} 3 idsT #[] with
    | .ok (some id, st') =>
      [Spec.valid (specEnvNoRefs st') 2 id (.arr [.num 127]), Spec.valid (specEnvNoRefs st') 2 id (.arr [.num 128]),
       Spec.valid (specEnvNoRefs st') 2 id .null, Spec.valid (specEnvNoRefs st') 2 id (.str "x")]
    | _ => []) = [some true, some false, some true, some false] := by decide +kernel

/-- … which is what the decoder says -/
example : [decodable idsT (.arr [.num 127]), decodable idsT (.arr [.num 128]), decodable idsT .null,
    decodable idsT (.str "x")] = [true, false, true, false] := by decide

/-- `infer_tight_named` / `not_decodable_rejected_named` applied -/
example (id : NodeId) (st' : Store) (h : forType {} 3 idsT #[] = .ok (some id, st')) :
    (Spec.valid (specEnvNoRefs st') 2 id (.arr [.num 127]) = some true → decodable idsT (.arr [.num 127]) = true) ∧
    Spec.valid (specEnvNoRefs st') 2 id (.arr [.num 128]) ≠ some true :=
  ⟨infer_tight_named {} 3 idsT #[] id st' (fun _ _ => false) (by decide +kernel) (by decide +kernel) h _ (by decide +kernel) 2,
   not_decodable_rejected_named {} 3 idsT #[] id st' (fun _ _ => false) (by decide +kernel) (by decide +kernel) h _ (by decide +kernel) (by decide +kernel) 2⟩

/-- `type Level int8` itself: 128 is out of range (`out_of_range_rejected_named`) -/
example (id : NodeId) (st' : Store) (h : forType {} 2 (.named "Level" (.basic "Int8")) #[] = .ok (some id, st')) :
    Spec.valid (specEnvNoRefs st') 1 id (.num ((128 : Int) : Rat)) ≠ some true :=
  out_of_range_rejected_named {} 2 "Level" "Int8" (-128) 127 #[] id st' (fun _ _ => false) (by decide) (by decide) rfl h 128
    (by decide) (Or.inr (by decide)) 1

/-! ## embedded struct fields (`forTypeE`; the strict decoder: `EncJsonEmb.decodableE`) -/

open EncJsonEmb in
/-- **main, with embedded fields (partial)**: for a type of the domain `InDomainE` — `InDomain` plus embedded fields
    that are untagged exported declared struct types, by value or by pointer, such that within every tree of embedded
    structs the JSON name of a field is determined by its Go name and vice versa and no Go name occurs twice at one
    depth (`namesOk`) — a document that the schema returned by `ForType` accepts is one that json.Decoder with
    DisallowUnknownFields accepts for the type: its keys are JSON names of `typeFields` (the promoted fields included)
    and every member decodes into the dominant field of that name.

    `hno` (`EmbNotInTable`): no embedded field, at any level of `T`, is of a type with a TypeSchemas entry (as in
    `C04.infer_soundE_partial`; with an override the properties of the override replace the promoted ones, and the
    decoder knows nothing of them).

    Partial, what is missing: types outside `InDomainE`: D14 (a JSON name shared by two Go names), D16 (tagged /
    non-struct / unexported embedded fields); declared types in non-embedded positions are in
    `infer_tightE_named_partial`. -/
theorem infer_tightE_partial (opts : IOpts) (fuel : Nat) (T : GoTypeE) (st : Store) (id : NodeId) (st' : Store)
    (re : String → String → Bool) (hno : EmbNotInTable opts T) (hdom : InDomainE T = true)
    (h : forTypeE opts fuel T st = .ok (some id, st')) (j : Json) (hp : PlainInts j = true)
    (fuel' : Nat) (hv : Spec.valid (specEnvNoRefs st' re) fuel' id j = some true) :
    decodableE T j = true := by
  obtain ⟨id', hid, hm⟩ := inferFuelE_models opts fuel T [] st (some id) st' hdom hno h
  cases hid
  exact tightE (re := re) T hdom false id hm fuel' [] j hp (valid_iff_isSome.2 hv)

open EncJsonEmb in
/-- contrapositive: what does not decode is not accepted (same domain, partial in the same sense) -/
theorem not_decodable_rejectedE_partial (opts : IOpts) (fuel : Nat) (T : GoTypeE) (st : Store) (id : NodeId) (st' : Store)
    (re : String → String → Bool) (hno : EmbNotInTable opts T) (hdom : InDomainE T = true)
    (h : forTypeE opts fuel T st = .ok (some id, st')) (j : Json) (hp : PlainInts j = true)
    (hnd : decodableE T j = false) (fuel' : Nat) :
    Spec.valid (specEnvNoRefs st' re) fuel' id j ≠ some true := by
  intro hv
  rw [infer_tightE_partial opts fuel T st id st' re hno hdom h j hp fuel' hv] at hnd
  cases hnd

open EncJsonEmb in
/-- **main, with embedded fields and declared types (partial)**: as `infer_tightE_partial`, with declared types in
    NON-embedded positions anywhere in `T` (`InDomainEN`: the type with these replaced by their underlying types is in
    `InDomainE`; `NamedOkE opts [] T`: none has an entry in the type table, no name twice along a path; see
    `C04.infer_soundE_named_partial`); the strict decoder treats a declared type like its underlying type.
    Partial in the same sense as `infer_tightE_partial`. -/
theorem infer_tightE_named_partial (opts : IOpts) (fuel : Nat) (T : GoTypeE) (st : Store) (id : NodeId) (st' : Store)
    (re : String → String → Bool) (hno : EmbNotInTable opts T) (hdom : InDomainEN T = true)
    (hok : NamedOkE opts [] T = true)
    (h : forTypeE opts fuel T st = .ok (some id, st')) (j : Json) (hp : PlainInts j = true)
    (fuel' : Nat) (hv : Spec.valid (specEnvNoRefs st' re) fuel' id j = some true) :
    decodableE T j = true := by
  rw [forTypeE_erase opts fuel T st hok] at h
  rw [← decodableE_erase]
  exact infer_tightE_partial opts fuel (eraseE T) st id st' re (embNotInTable_erase opts T hno) hdom h j hp fuel' hv

open EncJsonEmb in
/-- contrapositive: what does not decode is not accepted (same domain, partial in the same sense) -/
theorem not_decodable_rejectedE_named_partial (opts : IOpts) (fuel : Nat) (T : GoTypeE) (st : Store) (id : NodeId)
    (st' : Store) (re : String → String → Bool) (hno : EmbNotInTable opts T) (hdom : InDomainEN T = true)
    (hok : NamedOkE opts [] T = true)
    (h : forTypeE opts fuel T st = .ok (some id, st')) (j : Json) (hp : PlainInts j = true)
    (hnd : decodableE T j = false) (fuel' : Nat) :
    Spec.valid (specEnvNoRefs st' re) fuel' id j ≠ some true := by
  intro hv
  rw [infer_tightE_named_partial opts fuel T st id st' re hno hdom hok h j hp fuel' hv] at hnd
  cases hnd

open EncJsonEmb in
/-- (1) an object that lacks an always-written field of `typeFields` — a promoted one included — is rejected (the
    decoder would accept: this one is the schema's own).  Same domain as `infer_tightE_partial`. -/
theorem missing_required_rejectedE (opts : IOpts) (fuel : Nat) (fields : List (FieldE GoTypeE)) (st : Store)
    (id : NodeId) (st' : Store) (re : String → String → Bool) (hno : EmbNotInTable opts (.struct fields))
    (hdom : InDomainE (.struct fields) = true)
    (h : forTypeE opts fuel (.struct fields) st = .ok (some id, st'))
    (kvs : List (String × Json)) (k : String) (hk : k ∈ alwaysFieldNames fields) (hmiss : Json.lookup k kvs = none)
    (fuel' : Nat) :
    Spec.valid (specEnvNoRefs st' re) fuel' id (.obj kvs) ≠ some true := by
  intro hv
  obtain ⟨id', hid, hm⟩ := inferFuelE_models opts fuel _ [] st (some id) st' hdom hno h
  cases hid
  have := requiredE (re := re) hdom hm (valid_iff_isSome.2 hv) k hk
  rw [hmiss] at this
  cases this

open EncJsonEmb in
/-- (2) an undeclared property is rejected: a key that is the JSON name of no dominant field of the tree of embedded
    structs, exactly or case-insensitively.  Same domain as `infer_tightE_partial`. -/
theorem undeclared_property_rejectedE (opts : IOpts) (fuel : Nat) (fields : List (FieldE GoTypeE)) (st : Store)
    (id : NodeId) (st' : Store) (re : String → String → Bool) (hno : EmbNotInTable opts (.struct fields))
    (hdom : InDomainE (.struct fields) = true)
    (h : forTypeE opts fuel (.struct fields) st = .ok (some id, st'))
    (kvs : List (String × Json)) (hp : PlainInts (.obj kvs) = true) (k : String) (v : Json) (hkv : (k, v) ∈ kvs)
    (hexact : decodableFindE (candidates [] 0 fields) (fun n k => n == k) [] 0 fields k v = none)
    (hfold : decodableFindE (candidates [] 0 fields) foldEq [] 0 fields k v = none) (fuel' : Nat) :
    Spec.valid (specEnvNoRefs st' re) fuel' id (.obj kvs) ≠ some true := by
  refine not_decodable_rejectedE_partial opts fuel _ st id st' re hno hdom h _ hp ?_ fuel'
  simp only [decodableE]
  cases hall : kvs.all fun p =>
      match decodableFindE (candidates [] 0 fields) (fun n k => n == k) [] 0 fields p.1 p.2 with
      | some b => b
      | none => (decodableFindE (candidates [] 0 fields) foldEq [] 0 fields p.1 p.2).getD false with
  | false => rfl
  | true =>
    have := List.all_eq_true.1 hall (k, v) hkv
    simp [hexact, hfold] at this

/-! ### the hypotheses are satisfiable, the statements discriminate (labelled tests)

  `struct{ Inner; A int "json:\"a\"" }` with `type Inner struct { X int "json:\"x\""; Y string "json:\"y,omitempty\"" }`
  (`C04.embedValT`).  `tagLookup` splits the tag with `String.splitOn`, which the kernel does not evaluate: what the tag
  parser returns for each tag is a hypothesis (the parser is specified in C16: `fieldJSONInfo_named`, …). -/

section WitnessesE
open EncJsonEmb
variable (tI tX tY tA : String)
  (hI : tagLookup "json" tI = none)
  (hX : fieldJSONInfo "X" tX = { name := "x" }) (hY : fieldJSONInfo "Y" tY = { name := "y", omitempty := true })
  (hA : fieldJSONInfo "A" tA = { name := "a" })
  (dX : tagLookup "jsonschema" tX = none) (dY : tagLookup "jsonschema" tY = none) (dA : tagLookup "jsonschema" tA = none)

include hX hY hA dX dY dA in
/-- `ForType` succeeds on the type: the hypothesis `h` of the theorems is satisfiable -/
theorem embedVal_infers : ∃ id st', forTypeE {} 3 (C04.embedValT tI tX tY tA) #[] = .ok (some id, st') := by
  simp [C04.embedValT, C04.fld, C04.emb, forTypeE, inferFuelE, inferStepE, stripPtrsE, typeNameE, visibleFields, allFields,
    embFields, isVisible, structLoopE, fieldStepE, fieldJSONInfoE, underSkip, overrideOf, addFieldE, hX, hY, hA, dX, dY, dA,
    Res.bind_ok, C16.kindEntry_Int, C16.kindEntry_String, Store.alloc, Store.get?, addNull, dedupKeepLast]

include hI hX hY hA in
/-- the always-written names of the type: the promoted `x` and the outer `a` -/
theorem embedVal_always : alwaysFieldNames [C04.emb "Inner" tI (.named "Inner" (.struct [C04.fld "X" tX (.basic "Int"),
      C04.fld "Y" tY (.basic "String")])), C04.fld "A" tA (.basic "Int")] = ["x", "a"] := by
  have hIo := (fieldJSONInfo_untagged (g := "Inner") (tag := tI) (by rw [hI]; rfl))
  simp [C04.fld, C04.emb, alwaysFieldNames, typeFields, candidates, embCandidates, classify, mkTField, isDominant,
    dominates, isStructE, derefE, hIo.1, hIo.2, hX, hY, hA]

include hI hX hY hA in
/-- accepted, hence decodes: `{"x":1,"a":2}` (accepted by `C04.infer_soundE_partial`: it is the encoding of
    `{Inner: {X: 1, Y: ""}, A: 2}`); `infer_tightE_partial` applied -/
theorem embedVal_accepted_decodes (id : NodeId) (st' : Store) (h : forTypeE {} 3 (C04.embedValT tI tX tY tA) #[] = .ok (some id, st')) :
    Spec.valid (specEnvNoRefs st') 4 id (.obj [("x", .num 1), ("a", .num 2)]) = some true ∧
    decodableE (C04.embedValT tI tX tY tA) (.obj [("x", .num 1), ("a", .num 2)]) = true := by
  have hnt := (embNotInTable_of_empty (opts := {}) (fun _ => rfl)).1 (C04.embedValT tI tX tY tA)
  have hd := C04.embedVal_inDomain tI tX tY tA hI hX hY hA
  have hv := C04.embedVal_accepted tI tX tY tA hI hX hY hA id st' h
  exact ⟨hv, infer_tightE_partial {} 3 _ #[] id st' (fun _ _ => false) hnt hd h _ (by decide +kernel) 4 hv⟩

include hI hX hY hA in
/-- … the same verdict of the decoder, evaluated: `x` is found through the embedded struct -/
example : decodableE (C04.embedValT tI tX tY tA) (.obj [("x", .num 1), ("a", .num 2)]) = true := by
  have hIo := (fieldJSONInfo_untagged (g := "Inner") (tag := tI) (by rw [hI]; rfl))
  simp [C04.embedValT, C04.fld, C04.emb, decodableE, decodableFindE, decodableEmbFindE, candidates, embCandidates, classify,
    mkTField, isDominant, dominates, isStructE, derefE, hIo.1, hIo.2, hX, hY, hA, decodableBasic, intRange]
  exact ⟨Or.inr ⟨by decide +kernel, by decide +kernel⟩, Or.inr ⟨by decide +kernel, by decide +kernel⟩⟩

include hI hX hY hA in
/-- rejected, an unknown key: `{"x":1,"a":2,"z":3}` (`undeclared_property_rejectedE`), at every fuel -/
theorem embedVal_unknown_key_rejected (id : NodeId) (st' : Store) (h : forTypeE {} 3 (C04.embedValT tI tX tY tA) #[] = .ok (some id, st')) (fuel' : Nat) :
    Spec.valid (specEnvNoRefs st') fuel' id (.obj [("x", .num 1), ("a", .num 2), ("z", .num 3)]) ≠ some true := by
  have hIo := (fieldJSONInfo_untagged (g := "Inner") (tag := tI) (by rw [hI]; rfl))
  have hnt := (embNotInTable_of_empty (opts := {}) (fun _ => rfl)).1 (C04.embedValT tI tX tY tA)
  have hd := C04.embedVal_inDomain tI tX tY tA hI hX hY hA
  have fx : foldEq "x" "z" = false := by decide +kernel
  have fy : foldEq "y" "z" = false := by decide +kernel
  have fa : foldEq "a" "z" = false := by decide +kernel
  refine undeclared_property_rejectedE {} 3 _ #[] id st' (fun _ _ => false) hnt hd h _ (by decide +kernel) "z" (.num 3)
    (by simp) ?_ ?_ fuel'
  · simp [C04.fld, C04.emb, decodableFindE, decodableEmbFindE, classify, isStructE, derefE, hIo.1, hIo.2, hX, hY, hA]
  · simp [C04.fld, C04.emb, decodableFindE, decodableEmbFindE, classify, isStructE, derefE, hIo.1, hIo.2, hX, hY, hA,
      fx, fy, fa]

include hI hX hY hA in
/-- rejected, a missing required promoted field: `{"a":2}` lacks `x` of the embedded `Inner`
    (`missing_required_rejectedE`) — although the decoder accepts it -/
theorem embedVal_missing_promoted_rejected (id : NodeId) (st' : Store) (h : forTypeE {} 3 (C04.embedValT tI tX tY tA) #[] = .ok (some id, st')) (fuel' : Nat) :
    Spec.valid (specEnvNoRefs st') fuel' id (.obj [("a", .num 2)]) ≠ some true ∧
    decodableE (C04.embedValT tI tX tY tA) (.obj [("a", .num 2)]) = true := by
  have hIo := (fieldJSONInfo_untagged (g := "Inner") (tag := tI) (by rw [hI]; rfl))
  have hnt := (embNotInTable_of_empty (opts := {}) (fun _ => rfl)).1 (C04.embedValT tI tX tY tA)
  have hd := C04.embedVal_inDomain tI tX tY tA hI hX hY hA
  refine ⟨missing_required_rejectedE {} 3 _ #[] id st' (fun _ _ => false) hnt hd h _ "x" ?_ (by simp [Json.lookup]) fuel', ?_⟩
  · rw [embedVal_always tI tX tY tA hI hX hY hA]
    simp
  · simp [C04.embedValT, C04.fld, C04.emb, decodableE, decodableFindE, decodableEmbFindE, candidates, embCandidates, classify,
      mkTField, isDominant, dominates, isStructE, derefE, hIo.1, hIo.2, hX, hY, hA, decodableBasic, intRange]
    exact Or.inr ⟨by decide +kernel, by decide +kernel⟩

include hI hX hY hA dX dY dA in
/-- all of it about the schema `ForType` actually returns for the type -/
example : ∃ id st', forTypeE {} 3 (C04.embedValT tI tX tY tA) #[] = .ok (some id, st') ∧
    Spec.valid (specEnvNoRefs st') 4 id (.obj [("x", .num 1), ("a", .num 2)]) = some true ∧
    (∀ fuel', Spec.valid (specEnvNoRefs st') fuel' id (.obj [("x", .num 1), ("a", .num 2), ("z", .num 3)]) ≠ some true) ∧
    (∀ fuel', Spec.valid (specEnvNoRefs st') fuel' id (.obj [("a", .num 2)]) ≠ some true) := by
  obtain ⟨id, st', h⟩ := embedVal_infers tI tX tY tA hX hY hA dX dY dA
  exact ⟨id, st', h, (embedVal_accepted_decodes tI tX tY tA hI hX hY hA id st' h).1,
    fun fuel' => embedVal_unknown_key_rejected tI tX tY tA hI hX hY hA id st' h fuel',
    fun fuel' => (embedVal_missing_promoted_rejected tI tX tY tA hI hX hY hA id st' h fuel').1⟩

end WitnessesE

/-- `infer_tightE_named_partial` applied to `C04.embedNamedT` (`struct{ Inner; A Celsius }`, `Inner{ X Count; Y string }`):
    the document `{"x":1,"a":20}`, accepted by the schema (`C04.infer_soundE_named_partial`), decodes -/
example (tI tX tY tA : String) (hI : tagLookup "json" tI = none)
    (hX : fieldJSONInfo "X" tX = { name := "x" }) (hY : fieldJSONInfo "Y" tY = { name := "y", omitempty := true })
    (hA : fieldJSONInfo "A" tA = { name := "a" }) (id : NodeId) (st' : Store)
    (h : forTypeE {} 4 (C04.embedNamedT tI tX tY tA) #[] = .ok (some id, st'))
    (hv : Spec.valid (specEnvNoRefs st') 5 id (.obj [("x", .num 1), ("a", .num 20)]) = some true) :
    EncJsonEmb.decodableE (C04.embedNamedT tI tX tY tA) (.obj [("x", .num 1), ("a", .num 20)]) = true :=
  infer_tightE_named_partial {} 4 _ #[] id st' (fun _ _ => false)
    ((Go.embNotInTable_of_empty (opts := {}) (fun _ => rfl)).1 _)
    (C04.embedNamed_inDomain tI tX tY tA hI hX hY hA) (C04.embedNamed_namedOk tI tX tY tA) h _ (by decide) 5 hv

end JSV.C09
