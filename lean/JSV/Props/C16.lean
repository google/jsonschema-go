/-
  C16 — `For` is deterministic and isolating.  Property theorems only (helper lemmas: the JSV/Proofs imports below;
  the encoding/json side of the statements — JSON names, always-written names — is JSV/Spec/EncJson.lean).

  `Go.forType opts fuel T st` is the model of `ForType`: every `new(Schema)` and every `CloneSchemas`
  allocates in the store `st`; the result is the id of the schema and the new store.
  `opts.schemas` is the type table (initial entries and `ForOptions.TypeSchemas`), whose schemas live in `st`.
-/
import JSV.Proofs.InfEqns
import JSV.Proofs.InfNamed
import JSV.Proofs.InfEmbCons
import JSV.Proofs.InfEmbDom
import JSV.Proofs.InfEmbWalk
import JSV.Proofs.InfEmbNamed
namespace JSV.C16
open JSV Go EncJson

/-- the result is a function of `(opts, fuel, T, st)`: there is no other input (no map iteration, no
    global state; the GODEBUG setting is the field `opts.nullForSlices`) -/
theorem forType_deterministic (opts : IOpts) (fuel : Nat) (T : GoType) (st : Store)
    (r₁ r₂ : Res (Option NodeId × Store))
    (h₁ : forType opts fuel T st = r₁) (h₂ : forType opts fuel T st = r₂) : r₁ = r₂ :=
  h₁.symm.trans h₂

/-- nothing that exists is modified: the type table (`TypeSchemas`) and every earlier result are untouched -/
theorem forType_store_extends (opts : IOpts) (fuel : Nat) (T : GoType) (st : Store) (r : Option NodeId) (st' : Store)
    (h : forType opts fuel T st = .ok (r, st')) :
    st.size ≤ st'.size ∧ ∀ i, i < st.size → st'.get? i = st.get? i :=
  (inferFuel_inv opts fuel _ _ _ _ _ h).1

/-- the result is fresh: its root is a new `*Schema` and so is every `*Schema` reachable from it; no Schema
    object is shared with an earlier result or with the type table (table entries are cloned) -/
theorem forType_fresh (opts : IOpts) (fuel : Nat) (T : GoType) (st : Store) (id : NodeId) (st' : Store)
    (h : forType opts fuel T st = .ok (some id, st')) :
    st.size ≤ id ∧ ∀ b, Go.Reach st' id b → st.size ≤ b ∧ st.get? b = none :=
  (inferFuel_inv opts fuel _ _ _ _ _ h).fresh

/-- the same for the model's own traversal `Go.reachable` -/
theorem forType_fresh_reachable (opts : IOpts) (fuel : Nat) (T : GoType) (st : Store) (id : NodeId) (st' : Store)
    (h : forType opts fuel T st = .ok (some id, st')) (f : Nat) :
    ∀ b, b ∈ Go.reachable st' f [id] → st.size ≤ b ∧ st.get? b = none :=
  (inferFuel_inv opts fuel _ _ _ _ _ h).fresh_reachable f

/-- in particular no schema of the type table is part of the result -/
theorem forType_disjoint_from_table (opts : IOpts) (fuel : Nat) (T : GoType) (st : Store) (id : NodeId) (st' : Store)
    (h : forType opts fuel T st = .ok (some id, st')) (nm : String) (sid : NodeId) (n : Node)
    (_hs : Json.lookup nm opts.schemas = some sid) (hn : st.get? sid = some n) :
    ¬ Go.Reach st' id sid :=
  (inferFuel_inv opts fuel _ _ _ _ _ h).not_reach_old hn

/-- two successive calls give disjoint results: no node of the second result existed when the first call
    returned (so none is a node of the first result), the first result's nodes are unchanged -/
theorem forType_twice_disjoint (opts₁ opts₂ : IOpts) (f₁ f₂ : Nat) (T₁ T₂ : GoType) (st : Store)
    (id₁ id₂ : NodeId) (st₁ st₂ : Store)
    (h₁ : forType opts₁ f₁ T₁ st = .ok (some id₁, st₁)) (h₂ : forType opts₂ f₂ T₂ st₁ = .ok (some id₂, st₂)) :
    id₁ < id₂ ∧ (∀ b, Go.Reach st₂ id₂ b → st₁.get? b = none) ∧ ∀ i, i < st₁.size → st₂.get? i = st₁.get? i :=
  (inferFuel_inv opts₁ f₁ _ _ _ _ _ h₁).twice (inferFuel_inv opts₂ f₂ _ _ _ _ _ h₂)


/-- `if allowNull && s.Type != "" { s.Types = ["null", s.Type]; s.Type = "" }` -/
theorem pointer_adds_null (n : Node) (h : n.type ≠ "") :
    addNull true n = { n with types := some ["null", n.type], type := "" } := by
  unfold addNull
  simp [h]

/-- no `null` without a pointer -/
theorem no_pointer_no_null (n : Node) : addNull false n = n := addNull_false n

/-- … for a pointer to a basic kind with a type keyword: the schema is the kind's schema with
    `types = ["null", t]` -/
theorem pointer_adds_null_basic (opts : IOpts) (fuel : Nat) (kind ty : String) (mn mx : Option Int) (st : Store)
    (hk : kindEntry kind = some (ty, mn, mx)) (hty : ty ≠ "") :
    forType opts (fuel + 1) (.ptr (.basic kind)) st =
      .ok (some st.size, st.push { basicNode ty mn mx with types := some ["null", ty], type := "" }) := by
  show inferStep opts (inferFuel opts fuel) (.ptr (.basic kind)) [] st = _
  rw [inferStep_basic (kind := kind) (an := true) rfl, hk]
  simp only
  rw [pointer_adds_null _ (by exact hty)]
  rfl

/-- `**T` is treated as `*T` -/
theorem pointer_depth_irrelevant (opts : IOpts) (fuel : Nat) (T : GoType) (st : Store) :
    forType opts fuel (.ptr (.ptr T)) st = forType opts fuel (.ptr T) st := by
  cases fuel with
  | zero => rfl
  | succ fuel => rfl

/-- slices get `["null","array"]` unless the GODEBUG setting says otherwise -/
theorem slice_adds_null (opts : IOpts) (fuel : Nat) (e : GoType) (st : Store) (id : NodeId) (st' : Store)
    (h : forType opts (fuel + 1) (.slice e) st = .ok (some id, st')) :
    ∃ eid, st'.get? id = some (if opts.nullForSlices then { types := some ["null", "array"], items := some eid }
                               else { type := "array", items := some eid }) := by
  change inferStep opts (inferFuel opts fuel) (.slice e) [] st = _ at h
  rw [inferStep_slice (e := e) (an := false) rfl] at h
  obtain ⟨⟨es, st1⟩, _, h⟩ := Res.bind_eq_ok h
  cases es with
  | none => cases h
  | some eid =>
    cases h
    exact ⟨eid, by rw [addNull_false]; exact get?_push_size _ _⟩

/-- the struct-field loop: `propertyOrder` receives the JSON names of the fields that are not `json:"-"`, in
    declaration order; `required` those among them whose tag has neither omitempty nor omitzero; the keys
    of `properties` are these names.  (`NeverDrops`: no field is skipped for an invalid type, which is the
    case without IgnoreInvalidTypes.) -/
theorem structLoop_spec (rec : IRec) (seen : List String) (fields : List (String × String × GoType))
    (n : Node) (st : Store) (n' : Node) (st' : Store)
    (hnd : NeverDrops rec seen fields) (h : structLoop rec seen fields n st = .ok (n', st')) :
    n'.propertyOrder.getD [] = n.propertyOrder.getD [] ++ jsonNames fields ∧
    n'.required.getD [] = n.required.getD [] ++ alwaysNames fields ∧
    ∀ k, k ∈ (n'.properties.getD []).map (·.1) ↔ (k ∈ (n.properties.getD []).map (·.1) ∨ k ∈ jsonNames fields) :=
  let ⟨h1, h2, h3, _⟩ := structLoop_lists fields hnd h
  ⟨h1, h2, h3⟩

/-- the schema of a struct type -/
theorem struct_schema (opts : IOpts) (fuel : Nat) (fields : List (String × String × GoType)) (st : Store)
    (id : NodeId) (st' : Store) (hi : opts.ignore = false)
    (h : forType opts (fuel + 1) (.struct fields) st = .ok (some id, st')) :
    ∃ n, st'.get? id = some n ∧ n.type = "object" ∧
      n.required.getD [] = alwaysNames fields ∧
      (∀ k, k ∈ (n.properties.getD []).map (·.1) ↔ k ∈ jsonNames fields) ∧
      (nodup (jsonNames fields) = true → n.propertyOrder.getD [] = jsonNames fields) :=
  inferStep_struct_schema hi h

/-- a field's JSON name is required iff its tag has neither omitempty nor omitzero (distinct JSON names) -/
theorem required_iff_not_omit (opts : IOpts) (fuel : Nat) (fields : List (String × String × GoType)) (st : Store)
    (id : NodeId) (st' : Store) (hi : opts.ignore = false) (hd : nodup (jsonNames fields) = true)
    (h : forType opts (fuel + 1) (.struct fields) st = .ok (some id, st'))
    (f : String × String × GoType) (hf : f ∈ fields) (ho : (fieldJSONInfo f.1 f.2.1).omitted = false) :
    ∃ n, st'.get? id = some n ∧
      ((fieldJSONInfo f.1 f.2.1).name ∈ n.required.getD [] ↔
        ((fieldJSONInfo f.1 f.2.1).omitempty = false ∧ (fieldJSONInfo f.1 f.2.1).omitzero = false)) := by
  obtain ⟨n, hn, _, hr, _⟩ := struct_schema opts fuel fields st id st' hi h
  exact ⟨n, hn, by rw [hr]; exact mem_alwaysNames_iff hd hf ho⟩

/-- for distinct JSON names `propertyOrder` is the list of JSON names of the non-omitted fields in
    declaration order, and the keys of `properties` are the same names -/
theorem propertyOrder_is_field_order (opts : IOpts) (fuel : Nat) (fields : List (String × String × GoType))
    (st : Store) (id : NodeId) (st' : Store) (hi : opts.ignore = false) (hd : nodup (jsonNames fields) = true)
    (h : forType opts (fuel + 1) (.struct fields) st = .ok (some id, st')) :
    ∃ n, st'.get? id = some n ∧ n.propertyOrder.getD [] = jsonNames fields ∧
      ∀ k, k ∈ (n.properties.getD []).map (·.1) ↔ k ∈ jsonNames fields := by
  obtain ⟨n, hn, _, _, hp, hpo⟩ := struct_schema opts fuel fields st id st' hi h
  exact ⟨n, hn, hpo hd, hp⟩

/-- the cycle check: a named type that is being expanded is an error -/
theorem recursive_type_errors (opts : IOpts) (rec : IRec) (nm : String) (u : GoType) (seen : List String) (st : Store)
    (h : seen.contains nm = true) :
    inferStep opts rec (.named nm u) seen st = .err ∧ inferStep opts rec (.ref nm) seen st = .err ∧
    inferStep opts rec (.ptr (.named nm u)) seen st = .err ∧ inferStep opts rec (.ptr (.ref nm)) seen st = .err :=
  ⟨inferStep_seen (t := .named nm u) (an := false) rfl rfl h, inferStep_seen (t := .ref nm) (an := false) rfl rfl h,
   inferStep_seen (t := .named nm u) (an := true) rfl rfl h, inferStep_seen (t := .ref nm) (an := true) rfl rfl h⟩

/-- `type T []T` (not in the type table) is an error -/
theorem recursive_slice_errors (opts : IOpts) (fuel : Nat) (nm : String) (st : Store)
    (hs : Json.lookup nm opts.schemas = none) :
    forType opts (fuel + 2) (.named nm (.slice (.ref nm))) st = .err ∧
    forType opts (fuel + 2) (.named nm (.slice (.ptr (.ref nm)))) st = .err := by
  constructor
  · show inferStep opts (inferFuel opts (fuel + 1)) (.named nm (.slice (.ref nm))) [] st = _
    rw [inferStep_named_transparent (an := false) rfl rfl hs rfl, inferStep_slice (an := false) rfl]
    show Res.bind (inferStep opts (inferFuel opts fuel) (.ref nm) [nm] st) _ = _
    rw [inferStep_seen (t := .ref nm) (nm := nm) (an := false) rfl rfl (by simp)]
    rfl
  · show inferStep opts (inferFuel opts (fuel + 1)) (.named nm (.slice (.ptr (.ref nm)))) [] st = _
    rw [inferStep_named_transparent (an := false) rfl rfl hs rfl, inferStep_slice (an := false) rfl]
    show Res.bind (inferStep opts (inferFuel opts fuel) (.ptr (.ref nm)) [nm] st) _ = _
    rw [inferStep_seen (t := .ref nm) (nm := nm) (an := true) rfl rfl (by simp)]
    rfl

/-- `type T struct { F *T; … }` (not in the type table, `F` not `json:"-"`) is an error -/
theorem recursive_struct_errors (opts : IOpts) (fuel : Nat) (nm goName tag : String)
    (rest : List (String × String × GoType)) (st : Store)
    (hs : Json.lookup nm opts.schemas = none) (ho : (fieldJSONInfo goName tag).omitted = false) :
    forType opts (fuel + 2) (.named nm (.struct ((goName, tag, .ptr (.ref nm)) :: rest))) st = .err ∧
    forType opts (fuel + 2) (.ptr (.named nm (.struct ((goName, tag, .ptr (.ref nm)) :: rest)))) st = .err := by
  have key : ∀ s n, structLoop (inferFuel opts (fuel + 1)) [nm] ((goName, tag, .ptr (.ref nm)) :: rest) n s = .err := by
    intro s n
    simp only [structLoop, ho, Bool.false_eq_true, if_false]
    show Res.bind (inferStep opts (inferFuel opts fuel) (.ptr (.ref nm)) [nm] s) _ = _
    rw [inferStep_seen (t := .ref nm) (nm := nm) (an := true) rfl rfl (by simp)]
    rfl
  constructor
  · show inferStep opts (inferFuel opts (fuel + 1)) (.named nm (.struct _)) [] st = _
    rw [inferStep_named_transparent (an := false) rfl rfl hs rfl, inferStep_struct (an := false) rfl, key]
    rfl
  · show inferStep opts (inferFuel opts (fuel + 1)) (.ptr (.named nm (.struct _))) [] st = _
    rw [inferStep_named_transparent (an := true) rfl rfl hs rfl, inferStep_struct (an := true) rfl, key]
    rfl

/-- a kind without a table entry (func, chan, complex, …): an error, or dropped with IgnoreInvalidTypes -/
theorem invalid_kind_errors_or_dropped (opts : IOpts) (fuel : Nat) (kind : String) (st : Store)
    (hk : kindEntry kind = none) :
    forType opts (fuel + 1) (.basic kind) st = (if opts.ignore then .ok (none, st) else .err) ∧
    forType opts (fuel + 1) (.ptr (.basic kind)) st = (if opts.ignore then .ok (none, st) else .err) := by
  constructor
  · show inferStep opts (inferFuel opts fuel) (.basic kind) [] st = _
    rw [inferStep_basic (kind := kind) (an := false) rfl, hk]
  · show inferStep opts (inferFuel opts fuel) (.ptr (.basic kind)) [] st = _
    rw [inferStep_basic (kind := kind) (an := true) rfl, hk]

/-- … which is the case of these kinds -/
theorem invalid_kinds :
    kindEntry "Func" = none ∧ kindEntry "Chan" = none ∧ kindEntry "Complex64" = none ∧
    kindEntry "Complex128" = none ∧ kindEntry "UnsafePointer" = none ∧ kindEntry "Invalid" = none := by
  decide +kernel

/-- a map whose key kind is not string likewise -/
theorem invalid_map_key_errors_or_dropped (opts : IOpts) (fuel : Nat) (keyKind : String) (e : GoType) (st : Store)
    (hk : keyKind ≠ "String") :
    forType opts (fuel + 1) (.map keyKind e) st = (if opts.ignore then .ok (none, st) else .err) := by
  show inferStep opts (inferFuel opts fuel) (.map keyKind e) [] st = _
  rw [inferStep_map (keyKind := keyKind) (e := e) (an := false) rfl]
  simp [hk]

/-- a struct field of invalid type is skipped with IgnoreInvalidTypes (and an error without) -/
theorem invalid_field_dropped (rec : IRec) (seen : List String) (goName tag : String) (ft : GoType)
    (rest : List (String × String × GoType)) (n : Node) (st st1 : Store)
    (ho : (fieldJSONInfo goName tag).omitted = false) (hr : rec ft seen st = .ok (none, st1)) :
    structLoop rec seen ((goName, tag, ft) :: rest) n st = structLoop rec seen rest (ensureProps n) st1 := by
  simp only [structLoop, ho, Bool.false_eq_true, if_false, hr, Res.bind_ok]
  rfl

/-- a named type with an entry in the type table yields a clone of the entry, whatever its underlying
    type; for a pointer to it `null` is added to the clone (never to the entry) -/
theorem typeTable_substituted (opts : IOpts) (fuel : Nat) (nm : String) (u : GoType) (seen : List String) (st : Store)
    (sid : NodeId) (hs : Json.lookup nm opts.schemas = some sid) (hseen : seen.contains nm = false) :
    inferFuel opts (fuel + 1) (.named nm u) seen st =
      (Res.bind (clone st sid) fun r =>
        match r.2.get? r.1 with
        | none => .panic
        | some cn => .ok (some r.1, r.2.set! r.1 cn)) ∧
    inferFuel opts (fuel + 1) (.ptr (.named nm u)) seen st =
      (Res.bind (clone st sid) fun r =>
        match r.2.get? r.1 with
        | none => .panic
        | some cn => .ok (some r.1, r.2.set! r.1 (tableNull opts.nullForSlices cn))) := by
  constructor
  · show inferStep opts (inferFuel opts fuel) (.named nm u) seen st = _
    rw [inferStep_table (t := .named nm u) (an := false) rfl rfl hseen hs]
    simp only [Bool.and_false]
    rfl
  · show inferStep opts (inferFuel opts fuel) (.ptr (.named nm u)) seen st = _
    rw [inferStep_table (t := .named nm u) (an := true) rfl rfl hseen hs]
    simp only [Bool.and_true]
    rfl

/-- … hence independent of the underlying structure -/
theorem typeTable_ignores_structure (opts : IOpts) (fuel : Nat) (nm : String) (u u' : GoType) (seen : List String)
    (st : Store) (sid : NodeId) (hs : Json.lookup nm opts.schemas = some sid) (hseen : seen.contains nm = false) :
    inferFuel opts (fuel + 1) (.named nm u) seen st = inferFuel opts (fuel + 1) (.named nm u') seen st := by
  rw [(typeTable_substituted opts fuel nm u seen st sid hs hseen).1,
      (typeTable_substituted opts fuel nm u' seen st sid hs hseen).1]

/-- … and the clone is fresh: its root is a new id, the entry itself is unchanged -/
theorem typeTable_clone_fresh (opts : IOpts) (fuel : Nat) (nm : String) (u : GoType) (st : Store)
    (sid : NodeId) (hs : Json.lookup nm opts.schemas = some sid) (id : NodeId) (st' : Store)
    (h : forType opts (fuel + 1) (.named nm u) st = .ok (some id, st')) :
    ∃ stc cn, clone st sid = .ok (id, stc) ∧ stc.get? id = some cn ∧ st'.get? id = some cn ∧
      st.size ≤ id ∧ st'.get? sid = st.get? sid := by
  have hext := forType_store_extends _ _ _ _ _ _ h
  have hfr := forType_fresh _ _ _ _ _ _ h
  change inferFuel opts (fuel + 1) (.named nm u) [] st = _ at h
  rw [(typeTable_substituted opts fuel nm u [] st sid hs rfl).1] at h
  obtain ⟨⟨cid, stc⟩, hc, h⟩ := Res.bind_eq_ok h
  simp only at h
  split at h
  · cases h
  · rename_i cn hcn
    cases h
    refine ⟨stc, cn, hc, hcn, get?_set!_self _ (lt_size_of_get? hcn), hfr.1, ?_⟩
    by_cases hlt : sid < st.size
    · exact hext.2 sid hlt
    · -- a nil entry: clone returns it unchanged, and it is no node
      have hnone : st.get? sid = none := get?_eq_none_iff.2 (Nat.le_of_not_lt hlt)
      have := cloneStep_none (rec := cloneFuel (st.size + 1)) hnone
      have hc' : clone st sid = .ok (sid, st) := this
      rw [hc'] at hc
      cases hc
      rw [hnone] at hcn
      cases hcn

/-! ## declared (named) types without a type-table entry

  `EncJson.erase T`: `T` with every declared type replaced by its underlying type; `EncJson.NamedOk opts strs [] T`
  (decidable): every declared type of `T` that is not one of the marshaler types `strs` has no entry in the type table,
  an underlying type that is a basic kind, slice, array, map or struct, and no name occurs twice along a root-to-leaf
  path; the marshaler types `strs` have the entry `{"type":"string"}` (`EncJson.StrEntries`) and are written
  `.named n (.basic "String")`.  Helper lemmas: JSV/Proofs/InfNamed.lean. -/

/-- a declared type that is not in the type table and not being expanded is treated like its underlying type: the
    only effect is that its name is entered into `seen` (for a pointer to it `null` is added as for the underlying
    type) -/
theorem named_pushes_seen (opts : IOpts) (fuel : Nat) (nm : String) (u : GoType) (seen : List String) (st : Store)
    (hs : Json.lookup nm opts.schemas = none) (hseen : seen.contains nm = false) (hsh : namedShape u = true) :
    inferFuel opts (fuel + 1) (.named nm u) seen st = inferFuel opts (fuel + 1) u (nm :: seen) st ∧
    inferFuel opts (fuel + 1) (.ptr (.named nm u)) seen st = inferFuel opts (fuel + 1) (.ptr u) (nm :: seen) st :=
  ⟨inferStep_named_transparent (t0 := .named nm u) (an := false) rfl hseen hs hsh,
   inferStep_named_transparent (t0 := .ptr (.named nm u)) (an := true) rfl hseen hs hsh⟩

/-- **declared types are transparent**: on a type whose declared types are transparent (`NamedOk`) `ForType` is
    `ForType` on the erased type — the same outcome, the same schema, the same store; for a marshaler type of the table
    (entry `{"type":"string"}`) the clone of the entry is the schema of the kind `string` -/
theorem forType_named_transparent (opts : IOpts) (strs : List String) (fuel : Nat) (T : GoType) (st : Store)
    (hst : StrEntries opts.schemas strs st) (hok : NamedOk opts strs [] T = true) :
    forType opts fuel T st = forType opts fuel (erase T) st :=
  forType_erase opts strs fuel T st hst hok

/-- the schema of a declared struct type `type N struct {…}` without a type-table entry (whatever the field types) -/
theorem struct_schema_named (opts : IOpts) (fuel : Nat) (nm : String) (fields : List (String × String × GoType))
    (st : Store) (id : NodeId) (st' : Store) (hi : opts.ignore = false) (hs : Json.lookup nm opts.schemas = none)
    (h : forType opts (fuel + 1) (.named nm (.struct fields)) st = .ok (some id, st')) :
    ∃ n, st'.get? id = some n ∧ n.type = "object" ∧
      n.required.getD [] = alwaysNames fields ∧
      (∀ k, k ∈ (n.properties.getD []).map (·.1) ↔ k ∈ jsonNames fields) ∧
      (nodup (jsonNames fields) = true → n.propertyOrder.getD [] = jsonNames fields) := by
  change inferFuel opts (fuel + 1) (.named nm (.struct fields)) [] st = _ at h
  rw [(named_pushes_seen opts fuel nm (.struct fields) [] st hs rfl rfl).1] at h
  exact inferStep_struct_schema hi h

/-- … a field's JSON name is required iff its tag has neither omitempty nor omitzero (distinct JSON names) -/
theorem required_iff_not_omit_named (opts : IOpts) (fuel : Nat) (nm : String) (fields : List (String × String × GoType))
    (st : Store) (id : NodeId) (st' : Store) (hi : opts.ignore = false) (hs : Json.lookup nm opts.schemas = none)
    (hd : nodup (jsonNames fields) = true)
    (h : forType opts (fuel + 1) (.named nm (.struct fields)) st = .ok (some id, st'))
    (f : String × String × GoType) (hf : f ∈ fields) (ho : (fieldJSONInfo f.1 f.2.1).omitted = false) :
    ∃ n, st'.get? id = some n ∧
      ((fieldJSONInfo f.1 f.2.1).name ∈ n.required.getD [] ↔
        ((fieldJSONInfo f.1 f.2.1).omitempty = false ∧ (fieldJSONInfo f.1 f.2.1).omitzero = false)) := by
  obtain ⟨n, hn, _, hr, _⟩ := struct_schema_named opts fuel nm fields st id st' hi hs h
  exact ⟨n, hn, by rw [hr]; exact mem_alwaysNames_iff hd hf ho⟩

/-- … `propertyOrder` is the list of JSON names of the non-omitted fields in declaration order, and the keys of
    `properties` are the same names (distinct JSON names) -/
theorem propertyOrder_is_field_order_named (opts : IOpts) (fuel : Nat) (nm : String)
    (fields : List (String × String × GoType)) (st : Store) (id : NodeId) (st' : Store) (hi : opts.ignore = false)
    (hs : Json.lookup nm opts.schemas = none) (hd : nodup (jsonNames fields) = true)
    (h : forType opts (fuel + 1) (.named nm (.struct fields)) st = .ok (some id, st')) :
    ∃ n, st'.get? id = some n ∧ n.propertyOrder.getD [] = jsonNames fields ∧
      ∀ k, k ∈ (n.properties.getD []).map (·.1) ↔ k ∈ jsonNames fields := by
  obtain ⟨n, hn, _, _, hp, hpo⟩ := struct_schema_named opts fuel nm fields st id st' hi hs h
  exact ⟨n, hn, hpo hd, hp⟩

/-- no `json` key in the tag: the Go field name, nothing omitted -/
theorem fieldJSONInfo_no_tag (goName tag : String) (h : tagLookup "json" tag = none) :
    (fieldJSONInfo goName tag).name = goName ∧ (fieldJSONInfo goName tag).omitted = false ∧
    (fieldJSONInfo goName tag).omitempty = false ∧ (fieldJSONInfo goName tag).omitzero = false := by
  unfold fieldJSONInfo
  rw [h]
  exact ⟨rfl, rfl, rfl, rfl⟩

/-- `json:"-"` : omitted -/
theorem fieldJSONInfo_dash (goName tag t : String) (h : tagLookup "json" tag = some t) (hp : t.splitOn "," = ["-"]) :
    (fieldJSONInfo goName tag).omitted = true := by
  unfold fieldJSONInfo
  rw [h]
  simp [hp]

/-- `json:"-,"` : the field is named "-" -/
theorem fieldJSONInfo_dash_comma (goName tag t : String) (h : tagLookup "json" tag = some t)
    (hp : t.splitOn "," = ["-", ""]) :
    (fieldJSONInfo goName tag).name = "-" ∧ (fieldJSONInfo goName tag).omitted = false ∧
    (fieldJSONInfo goName tag).omitempty = false ∧ (fieldJSONInfo goName tag).omitzero = false := by
  unfold fieldJSONInfo
  rw [h]
  simp [hp]

/-- `json:"n"`, `json:"n,omitempty"`, `json:"n,omitzero"`, `json:"n,omitempty,omitzero"`, … -/
theorem fieldJSONInfo_named (goName tag t nm : String) (opts : List String) (h : tagLookup "json" tag = some t)
    (hp : t.splitOn "," = nm :: opts) (hn : nm ≠ "") (hd : nm ≠ "-") :
    (fieldJSONInfo goName tag).name = nm ∧ (fieldJSONInfo goName tag).omitted = false ∧
    (fieldJSONInfo goName tag).omitempty = opts.contains "omitempty" ∧
    (fieldJSONInfo goName tag).omitzero = opts.contains "omitzero" := by
  unfold fieldJSONInfo
  rw [h]
  simp [hp, hn, hd]

/-- `json:",omitempty"` : the Go field name with the options -/
theorem fieldJSONInfo_unnamed (goName tag t : String) (opts : List String) (h : tagLookup "json" tag = some t)
    (hp : t.splitOn "," = "" :: opts) :
    (fieldJSONInfo goName tag).name = goName ∧ (fieldJSONInfo goName tag).omitted = false ∧
    (fieldJSONInfo goName tag).omitempty = opts.contains "omitempty" ∧
    (fieldJSONInfo goName tag).omitzero = opts.contains "omitzero" := by
  unfold fieldJSONInfo
  rw [h]
  simp [hp]

/-! ## The hypotheses are satisfiable on non-trivial data (labelled tests) -/

/-- `*[]int8`: two fresh nodes, the root is the last one; `null` comes from the slice rule -/
example : (match forType {} 3 (.ptr (.slice (.basic "Int8"))) #[] with
    | .ok (some id, st') => (id, st'.size) | _ => (0, 0)) = (1, 2) := by decide

example : (match forType {} 3 (.ptr (.slice (.basic "Int8"))) #[] with
    | .ok (some id, st') => (st'.get? id).map (·.types) | _ => none) = some (some ["null", "array"]) := by decide

/-- `*string`: `types = ["null","string"]` (an instance of `pointer_adds_null_basic`) -/
example : (match forType {} 2 (.ptr (.basic "String")) #[] with
    | .ok (some id, st') => (st'.get? id).map (fun n => (n.type, n.types)) | _ => none)
      = some ("", some ["null", "string"]) := by decide +kernel

/-- `func()` : an error, or dropped -/
example : forType {} 3 (.basic "Func") #[] = .err := by rfl
example : (forType { ignore := true } 3 (.slice (.basic "Chan")) #[]).isOk = true := by decide

/-- the type table: `time.Time` ↦ schema 0; the result is the clone 1, whatever the struct looks like, and
    schema 0 is still there (`typeTable_substituted`, `typeTable_clone_fresh`) -/
example : (match forType { schemas := [("time.Time", 0)] } 2
      (.named "time.Time" (.struct [("wall", "", .basic "Uint64")])) #[{ type := "string", format := "date-time" }] with
    | .ok (some id, st') => (id, st'.size, (st'.get? id).map (·.format), (st'.get? 0).map (·.format))
    | _ => (0, 0, none, none)) = (1, 2, some "date-time", some "date-time") := by decide +kernel

/-- `type L []L` -/
example : forType {} 5 (.named "L" (.slice (.ref "L"))) #[] = .err :=
  (recursive_slice_errors {} 3 "L" #[] rfl).1

/-- `type Level int8; type IDs []Level`: the schema of `[]int8` (`forType_named_transparent` applied) -/
example : forType {} 3 (.named "IDs" (.slice (.named "Level" (.basic "Int8")))) #[] =
    forType {} 3 (.slice (.basic "Int8")) #[] :=
  forType_named_transparent {} [] 3 _ #[] (fun _ h => nomatch h) (by decide)

/-- … evaluated: two nodes, `null` from the slice rule, integer items -/
example : (match forType {} 3 (.named "IDs" (.slice (.named "Level" (.basic "Int8")))) #[] with
    | .ok (some id, st') => (id, st'.size, (st'.get? id).map (·.types), (st'.get? 0).map (·.type))
    | _ => (0, 0, none, none)) = (1, 2, some (some ["null", "array"]), some "integer") := by decide +kernel

/-- the same declared type at two sibling positions is fine (`seen` is path-local) … -/
example : NamedOk {} [] [] (.struct [("A", "", .named "P" (.basic "Int")), ("B", "", .slice (.named "P" (.basic "Int")))])
    = true := by decide

/-- … twice along one path it is the cycle check's business -/
example : NamedOk {} [] [] (.named "P" (.slice (.named "P" (.basic "Int")))) = false := by decide

/-! ## embedded struct fields (`forTypeE`, JSV/Model/InferEmb.lean; encoding/json side: JSV/Spec/EncJsonEmb.lean)

  `Go.forTypeE opts fuel T st` is the model of `ForType` on the type language with embedded fields `GoTypeE`
  (helper lemmas: JSV/Proofs/InfStruct.lean, InfStep.lean, InfEmbCons.lean, InfEmbNames.lean, InfEmbDom.lean). -/

open EncJsonEmb in
/-- determinism: the result is a function of `(opts, fuel, T, st)` -/
theorem forTypeE_deterministic (opts : IOpts) (fuel : Nat) (T : GoTypeE) (st : Store)
    (r₁ r₂ : Res (Option NodeId × Store))
    (h₁ : forTypeE opts fuel T st = r₁) (h₂ : forTypeE opts fuel T st = r₂) : r₁ = r₂ :=
  h₁.symm.trans h₂

/-- nothing that exists is modified: the type table (`TypeSchemas`, including the overrides of embedded types, whose
    properties are cloned) and every earlier result are untouched -/
theorem forTypeE_store_extends (opts : IOpts) (fuel : Nat) (T : GoTypeE) (st : Store) (r : Option NodeId) (st' : Store)
    (h : forTypeE opts fuel T st = .ok (r, st')) :
    st.size ≤ st'.size ∧ ∀ i, i < st.size → st'.get? i = st.get? i :=
  (inferFuelE_inv opts fuel _ _ _ _ _ h).1

/-- the result is fresh: every `*Schema` reachable from it was allocated after the call started; none is shared with
    an earlier result or with the type table -/
theorem forTypeE_fresh (opts : IOpts) (fuel : Nat) (T : GoTypeE) (st : Store) (id : NodeId) (st' : Store)
    (h : forTypeE opts fuel T st = .ok (some id, st')) :
    st.size ≤ id ∧ ∀ b, Go.Reach st' id b → st.size ≤ b ∧ st.get? b = none :=
  (inferFuelE_inv opts fuel _ _ _ _ _ h).fresh

/-- the same for the model's own traversal `Go.reachable` -/
theorem forTypeE_fresh_reachable (opts : IOpts) (fuel : Nat) (T : GoTypeE) (st : Store) (id : NodeId) (st' : Store)
    (h : forTypeE opts fuel T st = .ok (some id, st')) (f : Nat) :
    ∀ b, b ∈ Go.reachable st' f [id] → st.size ≤ b ∧ st.get? b = none :=
  (inferFuelE_inv opts fuel _ _ _ _ _ h).fresh_reachable f

/-- no schema of the type table — in particular no override of an embedded type and none of its properties — is
    part of the result -/
theorem forTypeE_disjoint_from_table (opts : IOpts) (fuel : Nat) (T : GoTypeE) (st : Store) (id : NodeId) (st' : Store)
    (h : forTypeE opts fuel T st = .ok (some id, st')) (sid : NodeId) (n : Node) (hn : st.get? sid = some n) :
    ¬ Go.Reach st' id sid :=
  (inferFuelE_inv opts fuel _ _ _ _ _ h).not_reach_old hn

/-- two successive calls give disjoint results -/
theorem forTypeE_twice_disjoint (opts₁ opts₂ : IOpts) (f₁ f₂ : Nat) (T₁ T₂ : GoTypeE) (st : Store)
    (id₁ id₂ : NodeId) (st₁ st₂ : Store)
    (h₁ : forTypeE opts₁ f₁ T₁ st = .ok (some id₁, st₁)) (h₂ : forTypeE opts₂ f₂ T₂ st₁ = .ok (some id₂, st₂)) :
    id₁ < id₂ ∧ (∀ b, Go.Reach st₂ id₂ b → st₁.get? b = none) ∧ ∀ i, i < st₁.size → st₂.get? i = st₁.get? i :=
  (inferFuelE_inv opts₁ f₁ _ _ _ _ _ h₁).twice (inferFuelE_inv opts₂ f₂ _ _ _ _ _ h₂)

/-- **conservativity**: on a type without embedded fields (`GoType.toE`: every field exported, none embedded) whose
    structs have pairwise distinct Go field names (`DistinctNames`; the compiler and reflect.StructOf refuse anything
    else) `forTypeE` is `forType`: the same outcome, the same schema, the same store -/
theorem forTypeE_conservative (opts : IOpts) (fuel : Nat) (T : GoType) (st : Store) (hd : DistinctNames T = true) :
    forTypeE opts fuel T.toE st = forType opts fuel T st :=
  inferFuelE_toE opts fuel T [] st hd

open EncJsonEmb in
/-- **declared types in non-embedded positions are transparent** for `forTypeE` as well: on a type whose declared types
    are transparent (`NamedOkE`: no entry in the type table, no name twice along a path; the declared types of embedded
    fields are not constrained) `ForType` is `ForType` on the type with these declared types replaced by their underlying
    types (`eraseE`; the types of embedded fields keep their names) — the same outcome, the same schema, the same store -/
theorem forTypeE_named_transparent (opts : IOpts) (fuel : Nat) (T : GoTypeE) (st : Store)
    (hok : NamedOkE opts [] T = true) : forTypeE opts fuel T st = forTypeE opts fuel (eraseE T) st :=
  forTypeE_erase opts fuel T st hok

/-- … the hypothesis is needed: two fields of one Go name at one depth hide each other in reflect.VisibleFields -/
example : (visibleFields (fieldsToE [("A", "", .basic "Int"), ("A", "", .basic "Int")])).length = 0 := by decide

open EncJsonEmb in
/-- **properties = encoding/json's fields (partial)**.  For a struct type of the domain `InDomainE` — embedded fields
    are untagged exported declared struct types, by value or by pointer; within the whole tree of embedded structs the
    JSON name of a field is determined by its Go name and vice versa, and no Go name occurs twice at one depth
    (`namesOk`), so that Go's selector shadowing and encoding/json's dominance coincide; field types as in
    `EncJson.InDomain` — none of whose embedded types has a TypeSchemas entry (`NoOverride`):
    `propertyOrder` is the list of JSON names of `EncJsonEmb.typeFields`, in the same order (the order json.Marshal
    emits), the keys of `properties` are the same names, and `required` lists, in order, those without omitempty /
    omitzero.

    Partial, what is missing: (1) types outside `InDomainE` — a JSON name shared by two Go names is the known
    finding D14 (see the witness below), tagged or non-struct or unexported embedded fields are D16; (2) declared
    types in non-embedded positions: these are in `properties_eq_encjson_named_partial`; (3) overrides of embedded
    types: the full statement would add the override's property names (sorted, where absent) at the position of the
    embedded field and drop the promoted fields below it:
      propertyOrder = dedupKeepLast (the names entered by `structLoopE` field by field)
    which `structLoopE` computes but no theorem here states. -/
theorem properties_eq_encjson_partial (opts : IOpts) (fuel : Nat) (fields : List (FieldE GoTypeE)) (st : Store)
    (id : NodeId) (st' : Store) (hdom : InDomainE (.struct fields) = true)
    (hno : NoOverride opts (visibleFields fields))
    (h : forTypeE opts (fuel + 1) (.struct fields) st = .ok (some id, st')) :
    ∃ n, st'.get? id = some n ∧ n.type = "object" ∧
      n.propertyOrder.getD [] = fieldNames fields ∧
      (∀ k, k ∈ (n.properties.getD []).map (·.1) ↔ k ∈ fieldNames fields) ∧
      n.required.getD [] = alwaysFieldNames fields := by
  change inferStepE opts (inferFuelE opts fuel) (.struct fields) [] st = _ at h
  obtain ⟨id', n, hid, hn, h1, h2, h3, h4⟩ :=
    inferStepE_struct_names (inferFuelE_some opts fuel) (t0 := .struct fields) (an := false) rfl hdom hno h
  cases hid
  rw [addNull_false] at hn
  exact ⟨n, hn, h1, h2, h3, h4⟩

open EncJsonEmb in
/-- **properties = encoding/json's fields, with declared types in non-embedded positions (partial)**: as
    `properties_eq_encjson_partial`, for a struct whose field types (at any depth, those of the fields of embedded structs
    included) may be declared types without a type-table entry (`InDomainEN`, `NamedOkE`, see
    `C04.infer_soundE_named_partial`): the names, their order and `required` are those of `typeFields` of the struct
    itself — encoding/json's field list does not depend on whether a field's type is declared.  Partial in the same sense
    as `properties_eq_encjson_partial`. -/
theorem properties_eq_encjson_named_partial (opts : IOpts) (fuel : Nat) (fields : List (FieldE GoTypeE)) (st : Store)
    (id : NodeId) (st' : Store) (hdom : InDomainEN (.struct fields) = true)
    (hok : NamedOkE opts [] (.struct fields) = true) (hno : NoOverride opts (visibleFields fields))
    (h : forTypeE opts (fuel + 1) (.struct fields) st = .ok (some id, st')) :
    ∃ n, st'.get? id = some n ∧ n.type = "object" ∧
      n.propertyOrder.getD [] = fieldNames fields ∧
      (∀ k, k ∈ (n.properties.getD []).map (·.1) ↔ k ∈ fieldNames fields) ∧
      n.required.getD [] = alwaysFieldNames fields := by
  rw [forTypeE_erase opts (fuel + 1) _ st hok] at h
  have hdom' : InDomainE (.struct (eraseFieldsE fields)) = true := hdom
  obtain ⟨n, hn, h1, h2, h3, h4⟩ := properties_eq_encjson_partial opts fuel (eraseFieldsE fields) st id st' hdom'
    (noOverride_erase hno) h
  rw [(fieldNames_erase fields).1] at h2 h3
  rw [(fieldNames_erase fields).2] at h4
  exact ⟨n, hn, h1, h2, h3, h4⟩

open EncJsonEmb in
/-- … in particular `required`, as a set, is the set of fields without omitempty / omitzero -/
theorem required_iff_not_omit_partial (opts : IOpts) (fuel : Nat) (fields : List (FieldE GoTypeE)) (st : Store)
    (id : NodeId) (st' : Store) (hdom : InDomainE (.struct fields) = true)
    (hno : NoOverride opts (visibleFields fields))
    (h : forTypeE opts (fuel + 1) (.struct fields) st = .ok (some id, st')) :
    ∃ n, st'.get? id = some n ∧
      ∀ k, k ∈ n.required.getD [] ↔ ∃ f, f ∈ typeFields fields ∧ f.name = k ∧ f.omitempty = false ∧ f.omitzero = false := by
  obtain ⟨n, hn, _, _, _, hr⟩ := properties_eq_encjson_partial opts fuel fields st id st' hdom hno h
  refine ⟨n, hn, fun k => ?_⟩
  rw [hr]
  unfold alwaysFieldNames
  simp only [List.mem_map, List.mem_filter, Bool.and_eq_true, Bool.not_eq_true']
  constructor
  · rintro ⟨f, ⟨hf, he, hz⟩, rfl⟩
    exact ⟨f, hf, rfl, he, hz⟩
  · rintro ⟨f, hf, rfl, he, hz⟩
    exact ⟨f, ⟨hf, he, hz⟩, rfl⟩

/-! ### witnesses for embedded fields

  `tagLookup` splits the tag with `String.splitOn`, which the kernel does not evaluate (well-founded recursion): a
  witness over concrete tags takes what the tag parser returns for each tag as a hypothesis (`Parses`; the parser
  itself is specified above: `fieldJSONInfo_named`, `fieldJSONInfo_no_tag`, …) and evaluates everything else. -/

/-- what the tag parser says about one field tag: `fieldJSONInfo`, no `jsonschema` key, the name part of the `json` tag -/
structure Parses (goName tag : String) (info : JsonInfo) (tagName : String) : Prop where
  info : fieldJSONInfo goName tag = info
  desc : tagLookup "jsonschema" tag = none
  tagName : EncJsonEmb.jsonTagName tag = tagName

theorem kindEntry_Int : kindEntry "Int" = some ("integer", none, none) := by decide
theorem kindEntry_String : kindEntry "String" = some ("string", none, none) := kind_rows.2.1

def fld (g tag : String) (t : GoTypeE) : FieldE GoTypeE :=
  { goName := g, tag := tag, exported := true, embedded := false, type := t }
def emb (g tag : String) (t : GoTypeE) : FieldE GoTypeE :=
  { goName := g, tag := tag, exported := true, embedded := true, type := t }

/-- `PropertyOrder`, `Required`, and `Properties` as (name, type keyword) of a result -/
def summary (r : Res (Option NodeId × Store)) : Option (List String × List String × List (String × String)) :=
  match r with
  | .ok (some id, st') => (st'.get? id).map fun n =>
      (n.propertyOrder.getD [], n.required.getD [],
       (n.properties.getD []).map fun p => (p.1, ((st'.get? p.2).map (·.type)).getD "?"))
  | _ => none

section Witnesses
open EncJsonEmb
variable (tI tX tY tA tM : String)
  (hI : Parses "Inner" tI { name := "Inner" } "")                            -- the embedded field: no tag
  (hX : Parses "X" tX { name := "x" } "x")                                   -- X int `json:"x"`
  (hY : Parses "Y" tY { name := "y", omitempty := true } "y")                -- Y string `json:"y,omitempty"`
  (hA : Parses "A" tA { name := "a" } "a")                                   -- A int `json:"a"`
include hI hX hY hA

/-- `type Inner struct { X int "json:\"x\""; Y string "json:\"y,omitempty\"" }` -/
def innerT (tX tY : String) : GoTypeE := .named "Inner" (.struct [fld "X" tX (.basic "Int"), fld "Y" tY (.basic "String")])

/-- `struct{ Inner; A int "json:\"a\"" }`: properties x, y, a in that order, required [x, a] -/
example : summary (forTypeE {} 3 (.struct [emb "Inner" tI (innerT tX tY), fld "A" tA (.basic "Int")]) #[]) =
    some (["x", "y", "a"], ["x", "a"], [("x", "integer"), ("y", "string"), ("a", "integer")]) := by
  simp [summary, innerT, fld, emb, forTypeE, inferFuelE, inferStepE, stripPtrsE, typeNameE, visibleFields, allFields, embFields,
    isVisible, structLoopE, fieldStepE, fieldJSONInfoE, underSkip, overrideOf, addFieldE, hX.info, hY.info, hA.info, hX.desc,
    hY.desc, hA.desc, Res.bind_ok, kindEntry_Int, kindEntry_String, Store.alloc, Store.get?, addNull, dedupKeepLast]

/-- … which is what encoding/json emits -/
example : fieldNames [emb "Inner" tI (innerT tX tY), fld "A" tA (.basic "Int")] = ["x", "y", "a"] ∧
    alwaysFieldNames [emb "Inner" tI (innerT tX tY), fld "A" tA (.basic "Int")] = ["x", "a"] := by
  simp [innerT, fld, emb, fieldNames, alwaysFieldNames, typeFields, candidates, embCandidates, classify, mkTField, isDominant,
    dominates, isStructE, derefE, hI.info, hI.tagName, hX.info, hX.tagName, hY.info, hY.tagName, hA.info, hA.tagName]

/-- shadowing: `struct{ X string "json:\"x\""; Inner }` — the outer `X`, declared before the embedded struct,
    hides `Inner.X`: `x` is the string -/
example : summary (forTypeE {} 3 (.struct [fld "X" tX (.basic "String"), emb "Inner" tI (innerT tX tY)]) #[]) =
    some (["x", "y"], ["x"], [("x", "string"), ("y", "string")]) := by
  simp [summary, innerT, fld, emb, forTypeE, inferFuelE, inferStepE, stripPtrsE, typeNameE, visibleFields, allFields, embFields,
    isVisible, structLoopE, fieldStepE, fieldJSONInfoE, underSkip, overrideOf, addFieldE, hX.info, hY.info, hX.desc,
    hY.desc, Res.bind_ok, kindEntry_String, Store.alloc, Store.get?, addNull, dedupKeepLast]

example : (typeFields [fld "X" tX (.basic "String"), emb "Inner" tI (innerT tX tY)]).map (fun f => (f.name, f.index)) =
    [("x", [0]), ("y", [1, 1])] := by
  simp [innerT, fld, emb, typeFields, candidates, embCandidates, classify, mkTField, isDominant,
    dominates, isStructE, derefE, hI.info, hI.tagName, hX.info, hX.tagName, hY.info, hY.tagName]

/-- the known finding D14, as the model (= the code) behaves: `struct{ Y string "json:\"x\""; Inner }`.  The Go
    name `Y` hides `Inner.Y`; `Inner.X` is visible (no other `X`) and is entered under the JSON name `x` after the
    outer field: `x` becomes the integer of `Inner.X`, and `x` is listed twice in `required` … -/
example (tY' : String) (hY' : Parses "Y" tY' { name := "x" } "x") :
    summary (forTypeE {} 3 (.struct [fld "Y" tY' (.basic "String"), emb "Inner" tI (innerT tX tY)]) #[]) =
    some (["x"], ["x", "x"], [("x", "integer")]) := by
  simp [summary, innerT, fld, emb, forTypeE, inferFuelE, inferStepE, stripPtrsE, typeNameE, visibleFields, allFields, embFields,
    isVisible, structLoopE, fieldStepE, fieldJSONInfoE, underSkip, overrideOf, addFieldE, hX.info, hY'.info, hX.desc,
    hY'.desc, Res.bind_ok, kindEntry_Int, kindEntry_String, Store.alloc, Store.get?, addNull, dedupKeepLast]

/-- … while encoding/json keeps the shallower field, the string `Y`, under `x`, and `Inner.Y` under `y` -/
example (tY' : String) (hY' : Parses "Y" tY' { name := "x" } "x") :
    (typeFields [fld "Y" tY' (.basic "String"), emb "Inner" tI (innerT tX tY)]).map (fun f => (f.name, f.index)) =
    [("x", [0]), ("y", [1, 1])] := by
  simp [innerT, fld, emb, typeFields, candidates, embCandidates, classify, mkTField, isDominant,
    dominates, isStructE, derefE, hI.info, hI.tagName, hX.info, hX.tagName, hY.info, hY.tagName, hY'.info, hY'.tagName]

end Witnesses

/-- the clone of the override's property `q` (made when the store already holds the two nodes of
    `additionalProperties: false`) -/
theorem clone_override_q :
    clone #[{ type := "object", properties := some [("q", 1)] }, { type := "boolean" }, emptyNode,
        { emptyNode with not := some 2 }] 1 =
      .ok (4, #[{ type := "object", properties := some [("q", 1)] }, { type := "boolean" }, emptyNode,
        { emptyNode with not := some 2 }, { type := "boolean" }]) := by rfl

/-- a TypeSchemas override of an embedded type two levels down: `Outer{ Mid; O int "json:\"o\"" }`,
    `Mid{ Inner; M int "json:\"m\"" }`, TypeSchemas[Inner] = `{"type":"object","properties":{"q":{"type":"boolean"}}}`
    (schema 0; its property is schema 1).  The override's property `q` (a clone: a new schema) replaces `Inner`'s
    promoted fields `x`, `y`, whatever their tags; the intermediate struct's own field `m` and the outer `o` stay. -/
example (tI tMid tX tY tM tO : String)
    (hM : Parses "M" tM { name := "m" } "m") (hO : Parses "O" tO { name := "o" } "o") :
    summary (forTypeE { schemas := [("Inner", 0)] } 3
      (.struct [emb "Mid" tMid (.named "Mid" (.struct [emb "Inner" tI (innerT tX tY), fld "M" tM (.basic "Int")])),
                fld "O" tO (.basic "Int")])
      #[{ type := "object", properties := some [("q", 1)] }, { type := "boolean" }]) =
    some (["q", "m", "o"], ["m", "o"], [("q", "boolean"), ("m", "integer"), ("o", "integer")]) := by
  have hov : overrideOnlyTypeProps { type := "object", properties := some [("q", 1)] } = true := by decide +kernel
  simp [summary, innerT, fld, emb, forTypeE, inferFuelE, inferStepE, stripPtrsE, typeNameE, visibleFields, allFields, embFields,
    isVisible, structLoopE, fieldStepE, fieldJSONInfoE, underSkip, overrideOf, addFieldE, hM.info, hO.info, hM.desc,
    hO.desc, Res.bind_ok, kindEntry_Int, Store.alloc, Store.get?, addNull, dedupKeepLast, insertOverrideProps, sortByKey,
    insertSorted, hov, clone_override_q]

/-- … an override that is not of type "object", or that has a keyword other than `type` and `properties`, is an error -/
example (tI tX tY : String) :
    forTypeE { schemas := [("Inner", 0)] } 3 (.struct [emb "Inner" tI (innerT tX tY)]) #[{ type := "string" }] = .err ∧
    forTypeE { schemas := [("Inner", 0)] } 3 (.struct [emb "Inner" tI (innerT tX tY)])
      #[{ type := "object", required := some ["q"] }] = .err := by
  have hov : overrideOnlyTypeProps { type := "object", required := some ["q"] } = false := by decide +kernel
  constructor <;>
  simp [innerT, fld, emb, forTypeE, inferFuelE, inferStepE, stripPtrsE, typeNameE, visibleFields, allFields, embFields,
    isVisible, structLoopE, overrideOf, Store.alloc, Store.get?, hov]

/-- … and a pointer type is never a key of the table: for an embedded `*Inner` the entry of `Inner` is not consulted -/
example (tI tX tY : String) (hX : Parses "X" tX { name := "x" } "x") (hY : Parses "Y" tY { name := "y", omitempty := true } "y") :
    summary (forTypeE { schemas := [("Inner", 0)] } 3 (.struct [emb "Inner" tI (.ptr (innerT tX tY))]) #[{ type := "string" }]) =
    some (["x", "y"], ["x"], [("x", "integer"), ("y", "string")]) := by
  simp [summary, innerT, fld, emb, forTypeE, inferFuelE, inferStepE, stripPtrsE, typeNameE, visibleFields, allFields, embFields,
    isVisible, structLoopE, fieldStepE, fieldJSONInfoE, underSkip, overrideOf, addFieldE, hX.info, hY.info, hX.desc,
    hY.desc, Res.bind_ok, kindEntry_Int, kindEntry_String, Store.alloc, Store.get?, addNull, dedupKeepLast]

/-! ### `visibleFields` against reflect's walker

  `visibleFields` (the specification: the shallowest field of a name, if it is alone at its depth) and
  `visibleFieldsWalk` (reflect's implementation: `byName`, cleared names) give the same fields in the same order
  (`visibleFieldsWalk_eq` below, for every tree); evaluated on
  trees with promotion, shadowing, equal-depth ambiguity, three-way conflicts, a deeper field met before a shallower
  one, a cancelled pair followed by deeper and shallower fields, and a hidden anonymous field whose fields are still
  walked.  (No tag is parsed here, so the examples are closed terms.) -/

/-- an exported field `g int` -/
def wf (g : String) : FieldE GoTypeE := { goName := g, tag := "", exported := true, embedded := false, type := .basic "Int" }
/-- an embedded struct `g`, by value or by pointer -/
def we (g : String) (fs : List (FieldE GoTypeE)) (ptr : Bool := false) : FieldE GoTypeE :=
  { goName := g, tag := "", exported := true, embedded := true,
    type := if ptr then .ptr (.named g (.struct fs)) else .named g (.struct fs) }

def walkExamples : List (List (FieldE GoTypeE)) :=
  [[we "Inner" [wf "X", wf "Y"], wf "A"],
   [wf "X", we "Inner" [wf "X", wf "Y"] true],
   [we "A" [wf "X", wf "P"], we "B" [wf "X", wf "Q"]],
   [we "A" [wf "X"], we "B" [wf "X"] true, we "C" [wf "X"]],
   [we "A" [we "D" [wf "X", wf "Z"]], we "B" [wf "X"], wf "Z"],
   [we "A" [wf "X"], we "B" [wf "X"], we "C" [we "D" [wf "X"]], wf "X"],
   [we "A" [we "B" [wf "Y"]], we "B" [wf "Z"]]]

example : walkExamples.all (fun fs => (visibleFields fs).map (·.index) == (visibleFieldsWalk fs).map (·.index)) = true := by
  decide +kernel

/-- **reflect's walker computes the visible fields**: the algorithm of `reflect.VisibleFields` (`visibleFieldsWalk`:
    per name the entry that currently wins, `byName`; an entry that loses, or that meets another field of its name at
    its own depth, has its name cleared; the cleared entries are dropped at the end) returns exactly the fields that the
    declarative `visibleFields` keeps (the shallowest field of a name, if it is alone at its depth), in the same order —
    on every struct tree: no hypothesis on the names is needed.  (Helper lemmas: JSV/Proofs/InfEmbWalk.lean; what makes
    the walker right although it only ever looks at the *last* entry of a name: the entries of one name are strictly
    decreasing in depth and all but the last are cleared; the indices of the walk are pairwise distinct.)  The type
    language has no recursive embedding (`type T struct { *T }`), so the walker's `visiting` set has no counterpart. -/
theorem visibleFieldsWalk_eq (fields : List (FieldE GoTypeE)) : visibleFieldsWalk fields = visibleFields fields := by
  have h := foldl_walkStep_visible (allFields [] 0 fields) [] []
    ⟨(fun _ h => nomatch h), (fun _ h => nomatch h), List.Pairwise.nil⟩ rfl
    (by rw [List.nil_append]; exact (allFields_index_pairwise fields [] 0).2)
  rw [List.nil_append] at h
  exact h

/-- e.g. the last one: the anonymous `B` of depth 2 is hidden by the `B` of depth 1, its field `Y` is promoted all the same -/
example : (visibleFields [we "A" [we "B" [wf "Y"]], we "B" [wf "Z"]]).map (fun f => (f.goName, f.index)) =
    [("A", [0]), ("Y", [0, 0, 0]), ("B", [1]), ("Z", [1, 0])] := by decide +kernel

end JSV.C16
