/-
  C20 — (*Schema).CloneSchemas: the clone is a fresh, structurally identical copy and the original is
  untouched.  Property theorems only (helper lemmas: JSV/Proofs/MshClone.lean, MshNode.lean, MshFacts.lean).

  Vocabulary (defined in JSV/Proofs/MshClone.lean):
  * `Go.Reach st a b`   : `b` is reachable from `a` through `Node.children` (the model's everyChild).
  * `Go.Good B st d a`  : the unfolding of `a` in `st` ends within depth `d` (hence it is acyclic — every
    tree accepted by checkStructure is), where the nil pointers stored inside slices / maps are ids `≥ B`.
    `B` is any bound on the size of the stores involved (the model's nil id is 10^9), so that a nil
    pointer stays nil while the clone allocates.  `Go.goodB` (JSV/Proofs/MshNode.lean) is a checker for it.
  * `Iso.refFree st d a` (JSV/Proofs/IsoTrees.lean): the unfolding of `a` ends within depth `d` and no schema object of
    it has a `$ref` or a `$dynamicRef` (decidable).
  * `Go.RIso.*` (JSV/Proofs/ResSim.lean, ResIso*.lean): Resolve commutes with a renaming of schema node ids (`resolve_rel`);
    `NoDocs env`: the resolution is self-contained (no Loader, or a Loader that hands out no document);
    `specOf st rs reMatch`: the Spec environment read off a store and the tables of a `Resolved`.
  Validation behaviour of the clone: `clone_validates_same` (trees with references, both sides resolved),
  `clone_validate_same` (the evaluator), `clone_resolves_iff`; the `*_partial` statements are for reference-free
  trees under ARBITRARY tables.
-/
import JSV.Proofs.MshNode
import JSV.Proofs.MshFacts
import JSV.Proofs.MshCloneOk
import JSV.Proofs.IsoTrees
import JSV.Proofs.ResIsoClone
import JSV.Proofs.ResIsoDocs
import JSV.Proofs.LoaderUniverse
namespace JSV.C20
open JSV Go

/-- frame: every node of the original store is still there, unchanged (CloneSchemas writes to no
    existing Schema) -/
theorem clone_store_extends (st : Store) (root c : NodeId) (st' : Store)
    (h : Go.clone st root = .ok (c, st')) :
    st.size ≤ st'.size ∧ ∀ i, i < st.size → st'.get? i = st.get? i :=
  Go.cloneFuel_ext _ h

/-- freshness: the clone's root is a new id and every id reachable from it in the new store is new:
    no Schema object is shared with the original (ids `≥ st.size` are no nodes of `st`) -/
theorem clone_fresh (st : Store) (root c : NodeId) (st' : Store)
    (h : Go.clone st root = .ok (c, st')) :
    st.size ≤ c ∧ ∀ b, Go.Reach st' c b → st.size ≤ b ∧ st.get? b = none := by
  have hf : Go.FreshAbove st.size st := by
    intro i n hi hn
    exact absurd (Go.lt_size_of_get? hn) (Nat.not_lt_of_le hi)
  have r := Go.cloneFuel_fresh st.size _ (Nat.le_refl _) h
  refine ⟨r.1, fun b hb => ?_⟩
  have hb' := Go.Reach.fresh (r.2 hf) hb r.1
  exact ⟨hb', Go.get?_eq_none_iff.2 hb'⟩

/-- the same, for the model's own traversal `Go.reachable` -/
theorem clone_fresh_reachable (st : Store) (root c : NodeId) (st' : Store)
    (h : Go.clone st root = .ok (c, st')) (fuel : Nat) :
    ∀ b, b ∈ Go.reachable st' fuel [c] → st.size ≤ b ∧ st.get? b = none := by
  intro b hb
  obtain ⟨a, ha, hr⟩ := Go.reachable_sound st' fuel [c] b hb
  cases List.mem_singleton.1 ha
  exact (clone_fresh st root c st' h).2 b hr

/-- nil.CloneSchemas() = nil, nothing is allocated -/
theorem clone_nil (st : Store) (root : NodeId) (h : st.get? root = none) :
    Go.clone st root = .ok (root, st) :=
  Go.cloneStep_none h

/-- the cloned root is a shallow copy: it equals the original node on every non-schema field
    (title, enum, required, extra, propertyOrder, …) -/
theorem clone_shallow_fields (st : Store) (root c : NodeId) (st' : Store) (n : Node)
    (hn : st.get? root = some n) (h : Go.clone st root = .ok (c, st')) :
    ∃ n', st'.get? c = some n' ∧
      { n' with
        defs := n.defs, additionalItems := n.additionalItems, additionalProperties := n.additionalProperties,
        allOf := n.allOf, anyOf := n.anyOf, contains := n.contains, contentSchema := n.contentSchema,
        definitions := n.definitions, dependencySchemas := n.dependencySchemas,
        dependentSchemas := n.dependentSchemas, else_ := n.else_, if_ := n.if_, items := n.items,
        itemsArray := n.itemsArray, not := n.not, oneOf := n.oneOf, patternProperties := n.patternProperties,
        prefixItems := n.prefixItems, properties := n.properties, propertyNames := n.propertyNames,
        then_ := n.then_, unevaluatedItems := n.unevaluatedItems,
        unevaluatedProperties := n.unevaluatedProperties } = n := by
  obtain ⟨fs', s', _, rfl, rfl⟩ := Go.cloneStep_some hn h
  exact ⟨_, Go.get?_push_size _ _, rfl⟩

/-- … and its schema-bearing fields have the same shape (nil / length / keys) as the original's -/
theorem clone_same_shape (st : Store) (root c : NodeId) (st' : Store) (n : Node)
    (hn : st.get? root = some n) (h : Go.clone st root = .ok (c, st')) :
    ∃ n', st'.get? c = some n' ∧
      Go.ListRel (Go.FieldRel fun _ _ => True) n.childFields n'.childFields := by
  obtain ⟨fs', s', h1, rfl, rfl⟩ := Go.cloneStep_some hn h
  have r := Go.cloneFields_inv
    (Go.cloneInv_ext (fun _ _ _ _ h' => Go.cloneFuel_ext _ h')) trivial (fun _ _ _ _ => trivial) h1
  refine ⟨_, Go.get?_push_size _ _, ?_⟩
  rw [Go.childFields_set r.2]
  exact r.2

/-- the clone marshals identically, with every amount of fuel.  Hypotheses: the original is acyclic
    (`Good … d root`, any depth `d`) and nil pointers inside slices / maps stay nil (`st'.size ≤ B`). -/
theorem clone_marshal_eq (B d : Nat) (st : Store) (root c : NodeId) (st' : Store)
    (hg : Go.Good B st d root) (h : Go.clone st root = .ok (c, st')) (hB : st'.size ≤ B) (f : Nat) :
    Go.marshalFuel st' f c = Go.marshalFuel st f root := by
  have hs := Go.cloneFuel_sim B st _ d (Go.Ext.refl st) hg h hB
  have hext := Go.cloneFuel_ext _ h
  exact (Go.Sim.marshal_eq (Nat.le_trans hext.1 hB) hB f d root c hs).symm

/-- … and the original still marshals as before in the new store (consequence of the frame) -/
theorem clone_original_marshal_unchanged (B d : Nat) (st : Store) (root c : NodeId) (st' : Store)
    (hg : Go.Good B st d root) (h : Go.clone st root = .ok (c, st')) (hB : st'.size ≤ B) (f : Nat) :
    Go.marshalFuel st' f root = Go.marshalFuel st f root := by
  have hext := Go.cloneFuel_ext _ h
  exact (Go.Sim.marshal_eq (Nat.le_trans hext.1 hB) hB f d root root (Go.Sim.of_good hext d root hg)).symm

/-- fuel: on an acyclic subtree of depth ≤ k, fuel k+1 suffices — the clone does not run out of fuel,
    succeeds, and allocates exactly one node per visited node (`Go.cloneCount`, the size of the unfolding;
    for a tree: its number of nodes).  `B`: room for these allocations below the nil ids. -/
theorem clone_fuel_enough (B k : Nat) (st : Store) (root : NodeId)
    (hg : Go.Good B st k root) (hB : st.size + Go.cloneCount st k root ≤ B) :
    ∃ c st', Go.cloneFuel (k + 1) root st = .ok (c, st') ∧ st'.size = st.size + Go.cloneCount st k root := by
  obtain ⟨c, st', h, _, hs⟩ := Go.cloneFuel_ok B st k root st (Go.Ext.refl st) hg hB
  exact ⟨c, st', h, hs⟩

/-- the depth bound may always be raised (so any fuel above the depth works) -/
theorem good_mono (B d k : Nat) (st : Store) (root : NodeId) (hg : Go.Good B st d root) (hk : d ≤ k) :
    Go.Good B st k root := Go.Good.mono_le hg hk

/-- total correctness of `s.CloneSchemas()` with the model's default fuel, for an acyclic `root` whose
    depth is at most the number of nodes + 1 (every tree): the call succeeds, the original is untouched,
    and the clone marshals (json.Marshal, default fuel) to exactly what the original marshals to -/
theorem clone_total (B d : Nat) (st : Store) (root : NodeId)
    (hg : Go.Good B st d root) (hd : d ≤ st.size + 1)
    (hB : st.size + Go.cloneCount st (st.size + 1) root ≤ B) :
    ∃ c st', Go.clone st root = .ok (c, st') ∧ st'.size = st.size + Go.cloneCount st (st.size + 1) root ∧
      Go.marshal st' c = Go.marshal st root := by
  obtain ⟨c, st', h, hs⟩ := clone_fuel_enough B (st.size + 1) st root (Go.Good.mono_le hg hd) hB
  refine ⟨c, st', h, hs, ?_⟩
  have hB' : st'.size ≤ B := by rw [hs]; exact hB
  have hle : st.size ≤ B := Nat.le_trans (Nat.le_add_right _ _) hB
  show Go.marshalFuel st' (st'.size + 2) c = Go.marshalFuel st (st.size + 2) root
  rw [clone_marshal_eq B d st root c st' hg h hB' (st'.size + 2)]
  exact Go.marshalFuel_stable hle d root hg _ _ (by omega) (by omega)

/-- the tree hypothesis in the code's own terms: if checkStructure accepts `root` (every reachable pointer
    non-nil and met once — what Resolve checks), then `root` is `Good` for every `B`, so no size
    hypothesis is left: the clone marshals identically with every amount of fuel -/
theorem clone_marshal_eq_of_checkStructure (st : Store) (root c : NodeId) (st' : Store) (cfuel : Nat)
    (infos : List (NodeId × Go.Info)) (hc : Go.checkStructure st cfuel [(root, "")] [] = .ok infos)
    (h : Go.clone st root = .ok (c, st')) (f : Nat) :
    Go.marshalFuel st' f c = Go.marshalFuel st f root :=
  clone_marshal_eq st'.size st.size st root c st' (Go.good_of_checkStructure _ st cfuel root infos hc) h
    (Nat.le_refl _) f

/-- total correctness for trees: if checkStructure accepts `root`, CloneSchemas succeeds (default fuel),
    leaves the original untouched and returns a fresh tree with the same JSON text -/
theorem clone_total_of_checkStructure (st : Store) (root : NodeId) (cfuel : Nat)
    (infos : List (NodeId × Go.Info)) (hc : Go.checkStructure st cfuel [(root, "")] [] = .ok infos) :
    ∃ c st', Go.clone st root = .ok (c, st') ∧
      (∀ i, i < st.size → st'.get? i = st.get? i) ∧
      (∀ b, Go.Reach st' c b → st.size ≤ b) ∧
      Go.marshal st' c = Go.marshal st root := by
  obtain ⟨c, st', h, _, hm⟩ := clone_total (st.size + Go.cloneCount st (st.size + 1) root) st.size st root
    (Go.good_of_checkStructure _ st cfuel root infos hc) (Nat.le_succ _) (Nat.le_refl _)
  exact ⟨c, st', h, (clone_store_extends st root c st' h).2,
    fun b hb => ((clone_fresh st root c st' h).2 b hb).1, hm⟩

/-- `clone_validates_same_partial`.  For a REFERENCE-FREE acyclic `root` (`Iso.refFree st d root`: within depth `d` —
    nil pointers inside slices / maps allowed — no schema object below `root` has a `$ref` or a `$dynamicRef`; decidable)
    the clone means exactly what the original means: with ANY resolution tables on either side (`refTarget`, `dyn*`,
    `resource` of `env` and `env'` are arbitrary and may differ — they are never consulted, which is also why nothing
    is asked about `$id` / `$anchor` / `$dynamicAnchor`), the same draft and regexp matcher, every instance gets, with
    every amount of fuel, the same Spec result (undefined / invalid / valid with the same evaluated properties and items)
    * from the clone `c` in the new store as from `root` in the old store, and
    * from `root` in the new store as from `root` in the old store (the original is untouched).
    Proof: `Go.cloneFuel_sim` gives the simulation `Go.Sim` between the two subtrees (node by node `Go.NodeRel`: a
    shallow copy whose schema-valued fields have the same shape and related members); it is an `Iso.EnvSim`, and
    validity is invariant under a renaming of node ids (`Iso.evalFuel_sim`).
    PARTIAL: trees that contain `$ref` / `$dynamicRef` are not covered by THIS statement (arbitrary, unrelated tables).
    Their meaning depends on the resolution tables, which `Resolve` computes separately for the clone (by URI, from
    `$id` / `$anchor` / paths); for them see `clone_validates_same` below: `Resolve` of the clone yields tables related
    to those of the original (`Go.RIso.resolve_rel`), and then `Iso.evalFuel_sim` applies. -/
theorem clone_validates_same_partial (B d : Nat) (st : Store) (root c : NodeId) (st' : Store)
    (hg : Go.Good B st d root) (hfree : Iso.refFree st d root = true)
    (h : Go.clone st root = .ok (c, st')) (hB : st'.size ≤ B)
    (env env' : Spec.Env) (hd : env.draft = env'.draft) (hre : env.reMatch = env'.reMatch) (fuel : Nat) (j : Json) :
    Spec.evalFuel { env' with st := st' } fuel [] c j = Spec.evalFuel { env with st := st } fuel [] root j ∧
    Spec.evalFuel { env' with st := st' } fuel [] root j = Spec.evalFuel { env with st := st } fuel [] root j := by
  have hext := Go.cloneFuel_ext _ h
  have hs : st.size ≤ B := Nat.le_trans hext.1 hB
  have hE := Iso.cloneR_envSim hs hB env env' hd hre
  have h1 : Go.Sim B st st' d root c := Go.cloneFuel_sim B st _ d (Go.Ext.refl st) hg h hB
  have h2 : Go.Sim B st st' d root root := Go.Sim.of_good hext d root hg
  exact ⟨(Iso.evalFuel_sim hE fuel .nil ⟨d, hfree, h1⟩ j).symm, (Iso.evalFuel_sim hE fuel .nil ⟨d, hfree, h2⟩ j).symm⟩

/-- the same in the code's own terms: a reference-free tree that checkStructure accepts is cloned successfully, and the
    clone validates exactly like the original (PARTIAL as above: no `$ref` / `$dynamicRef` in the tree) -/
theorem clone_validates_same_of_checkStructure_partial (st : Store) (root : NodeId) (cfuel : Nat)
    (infos : List (NodeId × Go.Info)) (hc : Go.checkStructure st cfuel [(root, "")] [] = .ok infos)
    (hfree : Iso.refFree st st.size root = true)
    (env env' : Spec.Env) (hd : env.draft = env'.draft) (hre : env.reMatch = env'.reMatch) :
    ∃ c st', Go.clone st root = .ok (c, st') ∧ ∀ fuel j,
      Spec.evalFuel { env' with st := st' } fuel [] c j = Spec.evalFuel { env with st := st } fuel [] root j := by
  obtain ⟨c, st', h, -, -, -⟩ := clone_total_of_checkStructure st root cfuel infos hc
  exact ⟨c, st', h, fun fuel j => (clone_validates_same_partial st'.size st.size st root c st'
    (Go.good_of_checkStructure _ st cfuel root infos hc) hfree h (Nat.le_refl _) env env' hd hre fuel j).1⟩

/-- … and for the evaluator itself (`Go.validateFuel`, through `C01.validate_refines_spec`): on two resolved
    environments — `env₁` over the original store, `env₂` over the store after cloning, well formed as `Resolve` leaves
    them (`EnvWF`, `StoreWF`), same draft and regexp matcher, otherwise unrelated — ONE Spec result governs the run on
    `root` and the run on the clone `c`: wherever the Spec decides, both return an error or both succeed with
    annotations denoting the same evaluated sets.  PARTIAL: reference-free trees only, as above. -/
theorem clone_validate_same_partial (B d : Nat) (root c : NodeId) (env₁ env₂ : Go.VEnv)
    (hg : Go.Good B env₁.st d root) (hfree : Iso.refFree env₁.st d root = true)
    (h : Go.clone env₁.st root = .ok (c, env₂.st)) (hB : env₂.st.size ≤ B)
    (hwf₁ : Refine.EnvWF env₁) (hwf₂ : Refine.EnvWF env₂) (hst₁ : Refine.StoreWF env₁.st)
    (hst₂ : Refine.StoreWF env₂.st) (hd : env₁.draft = env₂.draft) (hre : env₁.reMatch = env₂.reMatch)
    (fuel : Nat) (j : Json) (hj : Json.WF j = true) :
    Refine.Rel j (Spec.evalFuel (Refine.specEnvOf env₁) fuel [] root j)
        (Go.validateFuel env₁ fuel [] (GoVal.ofJson j) root) ∧
      Refine.Rel j (Spec.evalFuel (Refine.specEnvOf env₁) fuel [] root j)
        (Go.validateFuel env₂ fuel [] (GoVal.ofJson j) c) := by
  have hext := Go.cloneFuel_ext _ h
  have hs : env₁.st.size ≤ B := Nat.le_trans hext.1 hB
  have hE : Iso.EnvSim (Iso.CloneR B env₁.st env₂.st) (Refine.specEnvOf env₁) (Refine.specEnvOf env₂) :=
    Iso.cloneR_envSim hs hB (Refine.specEnvOf env₁) (Refine.specEnvOf env₂) hd hre
  have h1 : Go.Sim B env₁.st env₂.st d root c := Go.cloneFuel_sim B env₁.st _ d (Go.Ext.refl _) hg h hB
  exact Iso.validate_iso env₁ env₂ hwf₁ hwf₂ hst₁ hst₂ hE fuel .nil (fun _ hx => nomatch hx) (fun _ hx => nomatch hx)
    ⟨d, hfree, h1⟩ j hj

/-- what the resolution theorems need of a clone made below `B ≤ 10^9`: the two stores are related tree by tree
    (`CloneS`: copies up to renaming), the roots are, and the nil id is no node of either -/
theorem clone_frame {B d : Nat} {st st' : Store} {root c : NodeId} (hg : Go.Good B st d root)
    (h : Go.clone st root = .ok (c, st')) (hB : st'.size ≤ B) (hBn : B ≤ Go.nilId) :
    Go.RIso.TreeSim (Go.RIso.CloneS B st st') st st' ∧ Go.RIso.CloneS B st st' root c ∧
      Store.get? st Go.nilId = none ∧ Store.get? st' Go.nilId = none := by
  have hs : st.size ≤ B := Nat.le_trans (Go.cloneFuel_ext _ h).1 hB
  exact ⟨Go.RIso.cloneS_treeSim hs hB, ⟨d, Go.cloneFuel_sim B st _ d (Go.Ext.refl st) hg h hB⟩,
    Go.get?_eq_none_iff.2 (Nat.le_trans hs hBn), Go.get?_eq_none_iff.2 (Nat.le_trans hB hBn)⟩

/-- the frame: the original resolved in the store AFTER cloning means what it meant before -/
theorem clone_original_resolves_same (B d : Nat) (st : Store) (root c : NodeId) (st' : Store)
    (hg : Go.Good B st d root) (h : Go.clone st root = .ok (c, st')) (hB : st'.size ≤ B) (hBn : B ≤ 1000000000)
    (env : Go.Env) (hnd : Go.RIso.NoDocs env) (fuel : Nat) (base : String) (rs rs' : Go.Resolved)
    (h₁ : Go.resolve { env with st := st } fuel root base = .ok rs)
    (h₂ : Go.resolve { env with st := st' } fuel root base = .ok rs') :
    rs.draft = rs'.draft ∧ rs.log = rs'.log ∧
      ∀ (reMatch : String → String → Bool) (vfuel : Nat) (j : Json),
        Spec.evalFuel (Go.RIso.specOf st' rs' reMatch) vfuel [] root j =
          Spec.evalFuel (Go.RIso.specOf st rs reMatch) vfuel [] root j := by
  have hext := Go.cloneFuel_ext _ h
  have hs : st.size ≤ B := Nat.le_trans hext.1 hB
  have hsim : Go.Sim B st st' d root root := Go.Sim.of_good hext d root hg
  obtain ⟨e1, e2, e3⟩ := Go.RIso.trees_validate_same (env₁ := { env with st := st }) (env₂ := { env with st := st' })
    (Go.RIso.cloneS_treeSim hs hB) rfl rfl rfl hnd
    (Go.get?_eq_none_iff.2 (Nat.le_trans hs hBn)) (Go.get?_eq_none_iff.2 (Nat.le_trans hB hBn))
    (r₁ := root) (r₂ := root) ⟨d, hsim⟩ fuel base h₁ h₂
  exact ⟨e1, e2, fun reMatch vfuel j => (e3 reMatch vfuel j).symm⟩

/-- the clone of a tree is a tree: if checkStructure accepts `root`, it accepts the clone of `root` (with some amount
    of fuel), and every schema it registers for the clone is a new node.  (`CloneSchemas` allocates one fresh node per
    visit, so the clone of a DAG is a tree too; the converse fails — see the DAG example at the end of this file.) -/
theorem clone_is_tree (st : Store) (root c : NodeId) (st' : Store) (f : Nat) (fresh : List (NodeId × Go.Info))
    (hcs : Go.checkStructure st f [(root, "")] [] = .ok fresh) (h : Go.clone st root = .ok (c, st')) :
    ∃ f' fresh', Go.checkStructure st' f' [(c, "")] [] = .ok fresh' ∧
      ∀ k, k ∈ fresh'.map (·.1) → st.size ≤ k ∧ k < st'.size :=
  Go.RIso.clone_checkStructure st root c st' "" f fresh hcs h

/-- `clone_validates_same_docs`: validation behaviour of the clone, documents fetched through the Loader included.  The
    Loader universe is shared: `L` is a set of schemas (ids, nil ones included) that contains the root of every document
    the Loader hands out, is closed under the schema-valued fields, lies in the store before cloning (or is nil: `≥ 10^9`),
    and is disjoint from the tree of `root`.  If `Resolve` of `root` returns normally — references into Loader documents,
    and from Loader documents back into the root document, included — then `root.CloneSchemas()` succeeds, `Resolve` of
    the clone against the same Loader returns normally with the same draft and the same Loader log (the same URIs fetched
    in the same order), and every instance gets the same Spec result from the clone as from the original.
    Proof: the clone is a tree (`clone_is_tree`), it is a copy of the original node by node (`Go.cloneFuel_sim`),
    Resolve commutes with the renaming of node ids between two such trees next to a shared Loader universe
    (`Go.RIso.resolve_rel`, `resolve_trees_docs`), and validity is invariant under a renaming of node ids along related
    tables (`Iso.evalFuel_sim`). -/
theorem clone_validates_same_docs (st : Store) (root : NodeId) (env : Go.Env) (L : NodeId → Prop)
    (hLst : ∀ a, L a → a < st.size ∨ 1000000000 ≤ a)
    (hLcl : ∀ a n, L a → st.get? a = some n → ∀ f, f ∈ n.childFields → ∀ x, x ∈ f.ids → L x)
    (hLroots : ∀ t key l, env.loader = some t → Json.lookup key t = some (.doc l) → L l)
    (hLdis : ∀ fresh, Go.checkStructure st (st.size + 2) [(root, "")] [] = .ok fresh → ∀ a, L a → a ∉ fresh.map (·.1))
    (hroom : st.size + Go.cloneCount st (st.size + 1) root ≤ 1000000000)
    (fuel : Nat) (base : String) (rs : Go.Resolved)
    (h₁ : Go.resolve { env with st := st } fuel root base = .ok rs) :
    ∃ c st' rs', Go.clone st root = .ok (c, st') ∧
      Go.resolve { env with st := st' } fuel c base = .ok rs' ∧ rs.draft = rs'.draft ∧ rs.log = rs'.log ∧
      ∀ (reMatch : String → String → Bool) (vfuel : Nat) (j : Json),
        Spec.evalFuel (Go.RIso.specOf st' rs' reMatch) vfuel [] c j =
          Spec.evalFuel (Go.RIso.specOf st rs reMatch) vfuel [] root j := by
  obtain ⟨fresh, hcs⟩ := Go.RIso.resolve_ok_cs { env with st := st } fuel root base rs h₁
  have hg : ∀ B, Go.Good B st st.size root := fun B => Go.good_of_checkStructure B st _ root fresh hcs
  obtain ⟨c, st', h, hsz, -⟩ := clone_total (st.size + Go.cloneCount st (st.size + 1) root) st.size st root
    (hg _) (Nat.le_succ _) (Nat.le_refl _)
  obtain ⟨f', fresh', hcs', hiv⟩ := clone_is_tree st root c st' _ fresh hcs h
  have hBn : st'.size ≤ 1000000000 := by rw [hsz]; exact hroom
  have hext := Go.cloneFuel_ext _ h
  have hs : st.size ≤ st'.size := hext.1
  obtain ⟨hTS, hS, hn₁, hn₂⟩ := clone_frame (hg st'.size) h (Nat.le_refl _) hBn
  have hL : Go.RIso.DocsOK { env with st := st } { env with st := st' } L := by
    refine ⟨?_, hLcl, hLroots⟩
    intro a ha
    show st.get? a = st'.get? a
    rcases hLst a ha with hlt | hge
    · exact (hext.2 a hlt).symm
    · rw [Go.get?_eq_none_iff.2 (Nat.le_trans (Nat.le_trans hs hBn) hge),
        Go.get?_eq_none_iff.2 (Nat.le_trans hBn hge)]
  obtain ⟨rs', h₂, e1, e2, e3⟩ := Go.RIso.resolve_trees_docs (env₁ := { env with st := st })
    (env₂ := { env with st := st' }) hTS rfl rfl rfl hn₁ hn₂ (r₁ := root) (r₂ := c) hS hL fuel base h₁ hcs' hLdis
    (fun a ha hm => by
      have := hiv a hm
      rcases hLst a ha with hlt | hge
      · exact absurd hlt (Nat.not_lt.2 this.1)
      · exact absurd (Nat.lt_of_lt_of_le this.2 hBn) (Nat.not_lt.2 hge))
  exact ⟨c, st', rs', h, h₂, e1, e2, fun reMatch vfuel j => (e3 reMatch vfuel j).symm⟩

/-- **`clone_validates_same`** (C20, validation behaviour, no carve-out on references).  Let `Resolve` of `root` return
    normally (self-contained resolution — no Loader, or a Loader that hands out no document, `Go.RIso.NoDocs`; the store
    leaves room for the copies below the model's nil id 10^9).  Then `root.CloneSchemas()` succeeds, `Resolve` of the clone
    — same options, same base URI — returns normally as well, with the same draft and the same Loader log, and every
    instance gets from the clone, with every amount of fuel, exactly the Spec result it gets from the original
    (undefined / invalid / valid with the same evaluated properties and items): whatever `$ref`, `$dynamicRef`, `$id`,
    `$anchor`, `$dynamicAnchor`, `$defs` the tree contains.
    The case of `clone_validates_same_docs` in which the Loader hands out no document. -/
theorem clone_validates_same (st : Store) (root : NodeId) (env : Go.Env) (hnd : Go.RIso.NoDocs env)
    (hroom : st.size + Go.cloneCount st (st.size + 1) root ≤ 1000000000)
    (fuel : Nat) (base : String) (rs : Go.Resolved)
    (h₁ : Go.resolve { env with st := st } fuel root base = .ok rs) :
    ∃ c st' rs', Go.clone st root = .ok (c, st') ∧
      Go.resolve { env with st := st' } fuel c base = .ok rs' ∧ rs.draft = rs'.draft ∧ rs.log = rs'.log ∧
      ∀ (reMatch : String → String → Bool) (vfuel : Nat) (j : Json),
        Spec.evalFuel (Go.RIso.specOf st' rs' reMatch) vfuel [] c j =
          Spec.evalFuel (Go.RIso.specOf st rs reMatch) vfuel [] root j :=
  clone_validates_same_docs st root env (fun _ => False) (fun _ h => h.elim) (fun _ _ h => h.elim) hnd
    (fun _ _ _ h => h.elim) hroom fuel base rs h₁

/-- `clone_validate_same`: … and for the evaluator itself (`Go.validateFuel`, through `C01.validate_refines_spec`), trees
    with references included.  The original is resolved in the store before cloning (`rs`), the clone in the store after
    (`rs'`).  `v₁`, `v₂`: the environments `Validate` runs on — the drafts of `rs` / `rs'`; info tables and stores that
    agree with those of `rs` / `rs'` and with `st` / `st'` on the schemas `rs` / `rs'` know (elsewhere arbitrary: the
    evaluation never gets there — so `v₂` may also carry records for the original, which lives in `st'` too); the same
    regexp matcher; well formed as `Resolve` leaves them (`EnvWF`, `StoreWF`).  ONE Spec result governs the run on `root`
    and the run on the clone `c`: wherever the Spec decides, both return an error or both succeed with annotations
    denoting the same evaluated sets. -/
theorem clone_validate_same (B d : Nat) (st : Store) (root c : NodeId) (st' : Store)
    (hg : Go.Good B st d root) (h : Go.clone st root = .ok (c, st')) (hB : st'.size ≤ B) (hBn : B ≤ 1000000000)
    (env : Go.Env) (hnd : Go.RIso.NoDocs env) (fuel : Nat) (base : String) (rs rs' : Go.Resolved)
    (h₁ : Go.resolve { env with st := st } fuel root base = .ok rs)
    (h₂ : Go.resolve { env with st := st' } fuel c base = .ok rs') (v₁ v₂ : Go.VEnv)
    (hi₁ : ∀ a, (Go.lookupNat a rs.infos).isSome = true → v₁.info? a = Go.lookupNat a rs.infos)
    (hi₂ : ∀ b, (Go.lookupNat b rs'.infos).isSome = true → v₂.info? b = Go.lookupNat b rs'.infos)
    (hd₁ : v₁.draft = rs.draft) (hd₂ : v₂.draft = rs'.draft)
    (hs₁ : ∀ a, (Go.lookupNat a rs.infos).isSome = true → v₁.st.get? a = st.get? a)
    (hs₂ : ∀ b, (Go.lookupNat b rs'.infos).isSome = true → v₂.st.get? b = st'.get? b)
    (hrm : v₁.reMatch = v₂.reMatch) (hwf₁ : Refine.EnvWF v₁) (hwf₂ : Refine.EnvWF v₂)
    (hst₁ : Refine.StoreWF v₁.st) (hst₂ : Refine.StoreWF v₂.st) (vfuel : Nat) (j : Json) (hj : Json.WF j = true) :
    Refine.Rel j (Spec.evalFuel (Refine.specEnvOf v₁) vfuel [] root j)
        (Go.validateFuel v₁ vfuel [] (GoVal.ofJson j) root) ∧
      Refine.Rel j (Spec.evalFuel (Refine.specEnvOf v₁) vfuel [] root j)
        (Go.validateFuel v₂ vfuel [] (GoVal.ofJson j) c) := by
  obtain ⟨hTS, hS, hn₁, hn₂⟩ := clone_frame hg h hB hBn
  exact Go.RIso.trees_validate_iso (env₁ := { env with st := st }) (env₂ := { env with st := st' })
    hTS rfl rfl rfl hnd hn₁ hn₂ (r₁ := root) (r₂ := c) hS fuel base h₁ h₂ v₁ v₂ hi₁ hi₂ hd₁ hd₂ hs₁ hs₂ hrm hwf₁ hwf₂
    hst₁ hst₂ vfuel j hj

/-- `clone_resolves_iff`: for a TREE (checkStructure accepts `root`) `Resolve` of the original and `Resolve` of the clone
    — same options, base URI, fuel; self-contained resolution — fail together or succeed together.  (For a DAG they do
    not: the original is refused, the clone resolves; the DAG example at the end of this file.) -/
theorem clone_resolves_iff (st : Store) (root : NodeId) (env : Go.Env) (hnd : Go.RIso.NoDocs env)
    (hroom : st.size + Go.cloneCount st (st.size + 1) root ≤ 1000000000) (fuel : Nat) (base : String)
    (f : Nat) (fresh : List (NodeId × Go.Info)) (hcs : Go.checkStructure st f [(root, "")] [] = .ok fresh) :
    ∃ c st', Go.clone st root = .ok (c, st') ∧
      (Go.resolve { env with st := st } fuel root base).isOk = (Go.resolve { env with st := st' } fuel c base).isOk := by
  have hg : ∀ B, Go.Good B st st.size root := fun B => Go.good_of_checkStructure B st _ root fresh hcs
  obtain ⟨c, st', h, hsz, -⟩ := clone_total (st.size + Go.cloneCount st (st.size + 1) root) st.size st root
    (hg _) (Nat.le_succ _) (Nat.le_refl _)
  obtain ⟨f', fresh', hcs', -⟩ := clone_is_tree st root c st' _ fresh hcs h
  have hBn : st'.size ≤ 1000000000 := by rw [hsz]; exact hroom
  obtain ⟨hTS, hS, hn₁, hn₂⟩ := clone_frame (hg st'.size) h (Nat.le_refl _) hBn
  refine ⟨c, st', h, ?_⟩
  cases h₁ : Go.resolve { env with st := st } fuel root base with
  | ok rs =>
    obtain ⟨R, rs', h₂, -⟩ := Go.RIso.resolve_trees (env₁ := { env with st := st }) (env₂ := { env with st := st' })
      hTS rfl rfl rfl hnd hn₁ hn₂ (r₁ := root) (r₂ := c) hS fuel base h₁ hcs'
    rw [h₂]
    rfl
  | fuel | panic | err =>
    cases h₂ : Go.resolve { env with st := st' } fuel c base with
    | ok rs' =>
      obtain ⟨R, rs, h₁', -⟩ := Go.RIso.resolve_trees (env₁ := { env with st := st' }) (env₂ := { env with st := st })
        hTS.flip rfl rfl rfl hnd hn₂ hn₁ (r₁ := c) (r₂ := root) hS fuel base h₂ hcs
      rw [h₁] at h₁'
      cases h₁'
    | fuel | panic | err => rfl

/-- the 23 fields cloneStep rewrites are exactly the Schema-typed fields of the Go struct: every field
    whose Go type mentions `Schema` has type `*Schema`, `[]*Schema` or `map[string]*Schema`; there are 23
    of them, as many as `Node.childFields` (12 + 5 + 6 by kind); and the JSON names agree -/
theorem childFields_cover_generated :
    ((Generated.schemaFields.filter fun f => Go.mentionsSchema f.2.1).all fun f =>
        f.2.1 == "*Schema" || f.2.1 == "[]*Schema" || f.2.1 == "map[string]*Schema") = true ∧
    (Generated.schemaFields.filter fun f => Go.mentionsSchema f.2.1).length = 23 ∧
    (Node.childFields {}).length = 23 ∧
    (Generated.schemaFields.filter fun f => f.2.1 == "*Schema").length
      = ((Node.childFields {}).filter fun f => match f with | .one _ _ => true | _ => false).length ∧
    (Generated.schemaFields.filter fun f => f.2.1 == "[]*Schema").length
      = ((Node.childFields {}).filter fun f => match f with | .many _ _ => true | _ => false).length ∧
    (Generated.schemaFields.filter fun f => f.2.1 == "map[string]*Schema").length
      = ((Node.childFields {}).filter fun f => match f with | .keyed _ _ => true | _ => false).length ∧
    -- tagged Schema-typed fields: the JSON name and the kind are those of `childFields`
    ((Generated.schemaFields.filter fun f => Go.mentionsSchema f.2.1 && f.2.2.1 != "-").all fun f =>
        (Node.childFields {}).any fun cf => match cf with
          | .one k _ => k == f.2.2.1 && f.2.1 == "*Schema"
          | .many k _ => k == f.2.2.1 && f.2.1 == "[]*Schema"
          | .keyed k _ => k == f.2.2.1 && f.2.1 == "map[string]*Schema") = true ∧
    -- the three `-`-tagged ones are written through the wrapper struct
    ((Generated.schemaFields.filter fun f => Go.mentionsSchema f.2.1 && f.2.2.1 == "-").map (·.1))
      = ["DependencySchemas", "Items", "ItemsArray"] := by
  decide +kernel

/-! ## The hypotheses are satisfiable on non-trivial data -/

/-- root 0: allOf [1, 2], properties {b ↦ 3, a ↦ 1 (shared with allOf: a DAG)}, $defs with a nil entry -/
def exStore : Store := #[
  { title := "root", allOf := some [1, 2], properties := some [("b", 3), ("a", 1)],
    defs := some [("z", Go.nilId)], required := some ["a"], propertyOrder := some ["b"] },
  { type := "string", minLength := some 1 },
  { not := some 3, extra := some [("x-note", .str "hi")] },
  { enum := some [.num 1, .null] }]

theorem exStore_good : Go.Good Go.nilId exStore 3 0 := Go.goodB_sound _ _ _ _ (by decide +kernel)

example : Go.Good Go.nilId exStore 3 0 := exStore_good

/-- the clone of `exStore` from 0: 6 new nodes (node 1 and node 3 are reached twice, so they are copied
    twice), the clone's root is the last one allocated -/
example : (match Go.clone exStore 0 with | .ok (c, st') => (c, st'.size) | _ => (0, 0)) = (9, 10) := by decide +kernel

/-- `clone_marshal_eq` applied -/
example (st' : Store) (c : NodeId) (h : Go.clone exStore 0 = .ok (c, st')) (hB : st'.size ≤ Go.nilId) (f : Nat) :
    Go.marshalFuel st' f c = Go.marshalFuel exStore f 0 :=
  clone_marshal_eq Go.nilId 3 exStore 0 c st' exStore_good h hB f

/-- … and with the hypothesis `h` discharged by `clone_total`: the whole statement on `exStore` -/
example (f : Nat) :
    ∃ c st', Go.clone exStore 0 = .ok (c, st') ∧ Go.marshalFuel st' f c = Go.marshalFuel exStore f 0 := by
  obtain ⟨c, st', h, hs, -⟩ := clone_total Go.nilId 3 exStore 0 exStore_good (by decide +kernel) (by decide +kernel)
  exact ⟨c, st', h, clone_marshal_eq Go.nilId 3 exStore 0 c st' exStore_good h (by rw [hs]; decide +kernel) f⟩

/-- `clone_total` applied to `exStore` (depth 3, 6 visited nodes) -/
example : ∃ c st', Go.clone exStore 0 = .ok (c, st') ∧ st'.size = 4 + 6 ∧ Go.marshal st' c = Go.marshal exStore 0 :=
  clone_total Go.nilId 3 exStore 0 exStore_good (by decide +kernel) (by decide +kernel)

/-- `clone_total_of_checkStructure` applied: a tree (no sharing, no nil) accepted by checkStructure -/
def exTree : Store := #[
  { title := "root", allOf := some [1, 2], properties := some [("b", 3)], required := some ["b"] },
  { type := "string", minLength := some 1 },
  { not := some 4, extra := some [("x-note", .str "hi")] },
  { enum := some [.num 1, .null] },
  {}]
example : (Go.checkStructure exTree 7 [(0, "")] []).isOk = true := by decide +kernel

theorem exTree_accepted : ∃ infos, Go.checkStructure exTree 7 [(0, "")] [] = .ok infos :=
  Res.isOk_iff.1 (by decide +kernel)

example : ∃ c st', Go.clone exTree 0 = .ok (c, st') ∧ (∀ i, i < exTree.size → st'.get? i = exTree.get? i) ∧
      (∀ b, Go.Reach st' c b → exTree.size ≤ b) ∧ Go.marshal st' c = Go.marshal exTree 0 := by
  obtain ⟨infos, hc⟩ := exTree_accepted
  exact clone_total_of_checkStructure exTree 0 7 infos hc

/-! ### `clone_validates_same_partial` is not vacuous -/

/-- `exTree` and `exStore` (a DAG with a nil `$defs` entry) are reference-free -/
example : Iso.refFree exTree exTree.size 0 = true := by decide +kernel
example : Iso.refFree exStore 3 0 = true := by decide +kernel
/-- … a `$ref` anywhere below the root is seen -/
example : Iso.refFree #[{ allOf := some [1] }, { not := some 2 }, { ref := "#" }] 3 0 = false := by decide +kernel

/-- `clone_validates_same_of_checkStructure_partial` applied to `exTree`: whatever the tables, the clone gives every
    instance the result the original gives -/
example (env : Spec.Env) : ∃ c st', Go.clone exTree 0 = .ok (c, st') ∧ ∀ fuel j,
      Spec.evalFuel { env with st := st' } fuel [] c j = Spec.evalFuel { env with st := exTree } fuel [] 0 j := by
  obtain ⟨infos, hc⟩ := exTree_accepted
  exact clone_validates_same_of_checkStructure_partial exTree 0 7 infos hc (by decide +kernel) env env rfl rfl

/-- `clone_validates_same_partial` applied to the DAG `exStore` (nil entry in `$defs`, nodes 1 and 3 shared) -/
example (env : Spec.Env) (st' : Store) (c : NodeId) (h : Go.clone exStore 0 = .ok (c, st')) (hB : st'.size ≤ Go.nilId)
    (fuel : Nat) (j : Json) :
    Spec.evalFuel { env with st := st' } fuel [] c j = Spec.evalFuel { env with st := exStore } fuel [] 0 j :=
  (clone_validates_same_partial Go.nilId 3 exStore 0 c st' exStore_good (by decide +kernel) h hB
    env env rfl rfl fuel j).1

/-- … and these results are defined and not all the same -/
def exSpecEnv (st : Store) : Spec.Env :=
  { st := st, draft := .d2020, refTarget := fun _ => none, dynInitial := fun _ => none, dynName := fun _ => "",
    resource := fun _ => none, dynDecl := fun _ _ => none, reMatch := fun _ _ => false }
example : Spec.valid (exSpecEnv exStore) 3 0 (.str "x") = some true := by decide +kernel
example : Spec.valid (exSpecEnv exStore) 3 0 (.str "") = some false := by decide +kernel
example : Spec.valid (exSpecEnv exStore) 3 0 (.obj []) = some false := by decide +kernel

/-! ### `clone_validates_same` is not vacuous: a tree WITH `$ref` (by pointer and by `$anchor`), `$dynamicRef`,
  `$dynamicAnchor`, `$id` -/

def exRefTree : Store := #[
  { id := "http://a/root.json", type := "object", ref := "#/$defs/len", dynamicRef := "#d", allOf := some [4],
    properties := some [("a", 1)], defs := some [("len", 2), ("pos", 3)], required := some ["a"] },   -- 0
  { type := "string" },                                                                              -- 1
  { minProperties := some 1, dynamicAnchor := "d" },                                                  -- 2
  { anchor := "pos", maxProperties := some 2 },                                                       -- 3
  { ref := "#pos" }]                                                                                  -- 4
def exRefEnv : Go.Env := { st := exRefTree, reOk := fun _ => true, loader := none }

theorem exRefEnv_noDocs : Go.RIso.NoDocs exRefEnv := fun _ _ _ h => nomatch h

/-- `clone_validate_same` applied: `v₁` = what `Resolve` of the original leaves; `v₂` = the store after cloning with the
    tables of the clone's `Resolved` followed by those of the original's (so that every object of the store has a
    record, `EnvWF`).  The well-formedness checks are evaluated. -/
def exV₁ (rs : Go.Resolved) : Go.VEnv := Go.RIso.venvOf exRefTree rs (fun _ _ => false) (fun _ => 0)
def exV₂ (st' : Store) (rs rs' : Go.Resolved) : Go.VEnv :=
  { st := st', draft := rs'.draft, infos := rs'.infos ++ rs.infos, reMatch := fun _ _ => false, hash := fun _ => 0 }

def exRefChecks : Bool :=
  match Go.clone exRefTree 0 with
  | .ok (c, st') =>
    match Go.resolve exRefEnv 1 0 "", Go.resolve { exRefEnv with st := st' } 1 c "" with
    | .ok rs, .ok rs' =>
      Refine.infoTotalB (exV₁ rs) && Refine.baseTotalB (exV₁ rs) && Refine.infoTotalB (exV₂ st' rs rs') &&
        Refine.baseTotalB (exV₂ st' rs rs') && Refine.storeWFB exRefTree && Refine.storeWFB st' &&
        decide (st'.size ≤ 1000000000)
    | _, _ => false
  | _ => false

/-- Everything the examples below evaluate on `exRefTree`, in one statement: what `Resolve` records for it, three
    verdicts, and — last conjunct, read through `exRef_back` — the clone, its resolution and the seven checks.  The
    clone and the two resolutions are evaluated once.  `exRefChecks` is a conjunct beside the seven checks it consists
    of, so these are evaluated a second time: getting either form from the other by rewriting costs more (a rewrite with
    one closed resolution in a statement that holds the other makes the elaborator evaluate both to tell them apart). -/
theorem exRef_facts :
    (((Go.resolve exRefEnv 1 0 "").bind fun rs => .ok (rs.infos.map fun (e : NodeId × Go.Info) =>
        (e.1, e.2.resolvedRef, e.2.resolvedDynamicRef))) =
      .ok [(0, some 2, some 2), (2, none, none), (3, none, none), (4, some 3, none), (1, none, none)]) ∧
    (((Go.resolve exRefEnv 1 0 "").bind fun rs => .ok (((Go.lookupNat 0 rs.infos).map Go.Info.anchors).getD [] |>.map
        fun (a : String × Go.AnchorInfo) => (a.1, a.2.schema, a.2.dynamic))) =
      .ok [("d", 2, true), ("pos", 3, false)]) ∧
    ((match Go.resolve exRefEnv 1 0 "" with
      | .ok rs =>
        [Spec.valid (Go.RIso.specOf exRefTree rs fun _ _ => false) 4 0 (.obj [("a", .str "x")]),
         Spec.valid (Go.RIso.specOf exRefTree rs fun _ _ => false) 4 0 (.obj [("a", .str "x"), ("b", .null), ("c", .null)]),
         Spec.valid (Go.RIso.specOf exRefTree rs fun _ _ => false) 4 0 (.obj [("a", .num 1)])]
      | _ => []) = [some true, some false, some false]) ∧
    (((Go.clone exRefTree 0).bind fun r => (Go.resolve exRefEnv 1 0 "").bind fun rs =>
        (Go.resolve { exRefEnv with st := r.2 } 1 r.1 "").bind fun rs' => .ok
          ((rs'.infos.map fun (e : NodeId × Go.Info) => (e.1, e.2.resolvedRef, e.2.resolvedDynamicRef)) ==
              [(9, some 5, some 5), (5, none, none), (6, none, none), (7, some 6, none), (8, none, none)] &&
            ((((Go.lookupNat r.1 rs'.infos).map Go.Info.anchors).getD [] |>.map
              fun (a : String × Go.AnchorInfo) => (a.1, a.2.schema, a.2.dynamic)) == [("d", 5, true), ("pos", 6, false)] &&
            (Refine.infoTotalB (exV₁ rs) && (Refine.baseTotalB (exV₁ rs) && (Refine.infoTotalB (exV₂ r.2 rs rs') &&
              (Refine.baseTotalB (exV₂ r.2 rs rs') && (Refine.storeWFB exRefTree && (Refine.storeWFB r.2 &&
              (decide (r.2.size ≤ 1000000000) && exRefChecks)))))))))) = .ok true) := by
  decide +kernel

/-- what Resolve records for the original: (schema, `$ref` target, `$dynamicRef` target), and the anchors of the root
    resource -/
example : ((Go.resolve exRefEnv 1 0 "").bind fun rs => .ok (rs.infos.map fun (e : NodeId × Go.Info) =>
      (e.1, e.2.resolvedRef, e.2.resolvedDynamicRef))) =
    .ok [(0, some 2, some 2), (2, none, none), (3, none, none), (4, some 3, none), (1, none, none)] :=
  exRef_facts.1
example : ((Go.resolve exRefEnv 1 0 "").bind fun rs => .ok (((Go.lookupNat 0 rs.infos).map Go.Info.anchors).getD [] |>.map
      fun (a : String × Go.AnchorInfo) => (a.1, a.2.schema, a.2.dynamic))) =
    .ok [("d", 2, true), ("pos", 3, false)] :=
  exRef_facts.2.1

theorem exRef_back : ∃ c st' rs rs', Go.clone exRefTree 0 = .ok (c, st') ∧ Go.resolve exRefEnv 1 0 "" = .ok rs ∧
    Go.resolve { exRefEnv with st := st' } 1 c "" = .ok rs' ∧
    (rs'.infos.map fun (e : NodeId × Go.Info) => (e.1, e.2.resolvedRef, e.2.resolvedDynamicRef)) =
      [(9, some 5, some 5), (5, none, none), (6, none, none), (7, some 6, none), (8, none, none)] ∧
    (((Go.lookupNat c rs'.infos).map Go.Info.anchors).getD [] |>.map
        fun (a : String × Go.AnchorInfo) => (a.1, a.2.schema, a.2.dynamic)) = [("d", 5, true), ("pos", 6, false)] ∧
    Refine.infoTotalB (exV₁ rs) = true ∧ Refine.baseTotalB (exV₁ rs) = true ∧
    Refine.infoTotalB (exV₂ st' rs rs') = true ∧ Refine.baseTotalB (exV₂ st' rs rs') = true ∧
    Refine.storeWFB exRefTree = true ∧ Refine.storeWFB st' = true ∧ st'.size ≤ 1000000000 ∧ exRefChecks = true := by
  have h := exRef_facts.2.2.2
  obtain ⟨⟨c, st'⟩, hc, h⟩ := Res.bind_eq_ok h
  obtain ⟨rs, hr, h⟩ := Res.bind_eq_ok h
  obtain ⟨rs', hr', h⟩ := Res.bind_eq_ok h
  simp only [Res.ok.injEq, Bool.and_eq_true, beq_iff_eq, decide_eq_true_eq] at h
  exact ⟨c, st', rs, rs', hc, hr, hr', h⟩

/-- … and for the clone (root 9, copies 5 … 8), resolved on its own: the same tables up to the renaming -/
example : (match Go.clone exRefTree 0 with
    | .ok (c, st') => (Go.resolve { exRefEnv with st := st' } 1 c "").bind fun rs =>
        .ok (rs.infos.map fun (e : NodeId × Go.Info) => (e.1, e.2.resolvedRef, e.2.resolvedDynamicRef))
    | _ => .err) =
    .ok [(9, some 5, some 5), (5, none, none), (6, none, none), (7, some 6, none), (8, none, none)] := by
  obtain ⟨c, st', rs, rs', hc, -, hr', hi, -⟩ := exRef_back
  rw [hc]; dsimp only
  rw [hr', Res.bind_ok, hi]
example : (match Go.clone exRefTree 0 with
    | .ok (c, st') => (Go.resolve { exRefEnv with st := st' } 1 c "").bind fun rs =>
        .ok (((Go.lookupNat c rs.infos).map Go.Info.anchors).getD [] |>.map
          fun (a : String × Go.AnchorInfo) => (a.1, a.2.schema, a.2.dynamic))
    | _ => .err) =
    .ok [("d", 5, true), ("pos", 6, false)] := by
  obtain ⟨c, st', rs, rs', hc, -, hr', -, ha, -⟩ := exRef_back
  rw [hc]; dsimp only
  rw [hr', Res.bind_ok, ha]

/-- `clone_validates_same` applied: the clone resolves, and validates every instance like the original -/
example : ∃ c st' rs rs', Go.clone exRefTree 0 = .ok (c, st') ∧ Go.resolve exRefEnv 1 0 "" = .ok rs ∧
    Go.resolve { exRefEnv with st := st' } 1 c "" = .ok rs' ∧
    ∀ (reMatch : String → String → Bool) (vfuel : Nat) (j : Json),
      Spec.evalFuel (Go.RIso.specOf st' rs' reMatch) vfuel [] c j =
        Spec.evalFuel (Go.RIso.specOf exRefTree rs reMatch) vfuel [] 0 j := by
  obtain ⟨rs, hr, -⟩ := Res.bind_eq_ok exRef_facts.1
  obtain ⟨c, st', rs', h, h₂, -, -, e⟩ :=
    clone_validates_same exRefTree 0 exRefEnv exRefEnv_noDocs (by decide +kernel) 1 "" rs hr
  exact ⟨c, st', rs, rs', h, hr, h₂, e⟩

/-- … and these results are defined, use the references, and are not all the same: `{"a":"x"}` is valid; three
    properties violate `maxProperties` behind `allOf → $ref: "#pos"`; a number under "a" violates `properties` -/
example : (match Go.resolve exRefEnv 1 0 "" with
    | .ok rs =>
      [Spec.valid (Go.RIso.specOf exRefTree rs fun _ _ => false) 4 0 (.obj [("a", .str "x")]),
       Spec.valid (Go.RIso.specOf exRefTree rs fun _ _ => false) 4 0 (.obj [("a", .str "x"), ("b", .null), ("c", .null)]),
       Spec.valid (Go.RIso.specOf exRefTree rs fun _ _ => false) 4 0 (.obj [("a", .num 1)])]
    | _ => []) = [some true, some false, some false] :=
  exRef_facts.2.2.1

theorem exRefChecks_ok : exRefChecks = true := by
  obtain ⟨_, _, _, _, -, -, -, -, -, -, -, -, -, -, -, -, h⟩ := exRef_back
  exact h

example (vfuel : Nat) (j : Json) (hj : Json.WF j = true) :
    ∃ c st' rs rs', Go.clone exRefTree 0 = .ok (c, st') ∧ Go.resolve exRefEnv 1 0 "" = .ok rs ∧
      Go.resolve { exRefEnv with st := st' } 1 c "" = .ok rs' ∧
      Refine.Rel j (Spec.evalFuel (Refine.specEnvOf (exV₁ rs)) vfuel [] 0 j)
        (Go.validateFuel (exV₁ rs) vfuel [] (GoVal.ofJson j) 0) ∧
      Refine.Rel j (Spec.evalFuel (Refine.specEnvOf (exV₁ rs)) vfuel [] 0 j)
        (Go.validateFuel (exV₂ st' rs rs') vfuel [] (GoVal.ofJson j) c) := by
  obtain ⟨c, st', rs, rs', hc, hr, hr', -, -, k1, k2, k3, k4, k5, k6, k7, -⟩ := exRef_back
  obtain ⟨fresh, hcs⟩ := Go.RIso.resolve_ok_cs exRefEnv 1 0 "" rs hr
  refine ⟨c, st', rs, rs', hc, hr, hr', ?_⟩
  exact clone_validate_same st'.size exRefTree.size exRefTree 0 c st'
    (Go.good_of_checkStructure _ exRefTree _ 0 fresh hcs) hc (Nat.le_refl _) k7 exRefEnv
    exRefEnv_noDocs 1 "" rs rs' hr hr' (exV₁ rs) (exV₂ st' rs rs') (fun _ _ => rfl)
    (fun b hb => by
      show Go.lookupNat b (rs'.infos ++ rs.infos) = Go.lookupNat b rs'.infos
      rw [Go.lookupNat_append]
      cases e : Go.lookupNat b rs'.infos with
      | none => rw [e] at hb; cases hb
      | some i => rfl)
    rfl rfl (fun _ _ => rfl) (fun _ _ => rfl) rfl
    (Refine.EnvWF_of_checks _ k1 k2 (fun _ _ _ => rfl)) (Refine.EnvWF_of_checks _ k3 k4 (fun _ _ _ => rfl))
    (Refine.StoreWF_of_check _ k5) (Refine.StoreWF_of_check _ k6) vfuel j hj

/-! ### `clone_validates_same_docs` is not vacuous: a root document with two references INTO a Loader document (by
  pointer and by `$anchor`); the Loader is called once on either side -/

def exDocStore : Store := #[
  { id := "http://a/root.json", allOf := some [1], properties := some [("p", 2)] },   -- 0
  { ref := "other.json#/$defs/x" },                                                    -- 1
  { ref := "other.json#tag" },                                                         -- 2
  { defs := some [("x", 4), ("y", 5)] },                                               -- 3: http://a/other.json
  { type := "string" },                                                                -- 4
  { anchor := "tag", minLength := some 2 }]                                            -- 5
def exDocEnv : Go.Env :=
  { st := exDocStore, reOk := fun _ => true, loader := some [("http://a/other.json", .doc 3)] }
/-- the schemas of the Loader universe -/
def exDocL (a : NodeId) : Prop := a ∈ [3, 4, 5]

/-- what the examples below read off the resolution of `exDocStore`, evaluated once -/
theorem exDoc_facts :
    (((Go.resolve exDocEnv 2 0 "").bind fun rs => .ok (rs.log, rs.infos.map fun (e : NodeId × Go.Info) =>
        (e.1, e.2.resolvedRef))) =
      .ok (["http://a/other.json"], [(0, none), (1, some 4), (2, some 5), (3, none), (4, none), (5, none)])) ∧
    Go.loaderUniverseB exDocStore exDocEnv.loader 0 [3, 4, 5] = true ∧
    ((match Go.resolve exDocEnv 2 0 "" with
      | .ok rs =>
        [Spec.valid (Go.RIso.specOf exDocStore rs fun _ _ => false) 4 0 (.str "xy"),
         Spec.valid (Go.RIso.specOf exDocStore rs fun _ _ => false) 4 0 (.num 1)]
      | _ => []) = [some true, some false]) := by
  decide +kernel

example : ((Go.resolve exDocEnv 2 0 "").bind fun rs => .ok (rs.log, rs.infos.map fun (e : NodeId × Go.Info) =>
      (e.1, e.2.resolvedRef))) =
    .ok (["http://a/other.json"], [(0, none), (1, some 4), (2, some 5), (3, none), (4, none), (5, none)]) :=
  exDoc_facts.1

example : ∃ c st' rs rs', Go.clone exDocStore 0 = .ok (c, st') ∧ Go.resolve exDocEnv 2 0 "" = .ok rs ∧
    Go.resolve { exDocEnv with st := st' } 2 c "" = .ok rs' ∧ rs.log = rs'.log ∧
    ∀ (reMatch : String → String → Bool) (vfuel : Nat) (j : Json),
      Spec.evalFuel (Go.RIso.specOf st' rs' reMatch) vfuel [] c j =
        Spec.evalFuel (Go.RIso.specOf exDocStore rs reMatch) vfuel [] 0 j := by
  obtain ⟨rs, hr, -⟩ := Res.bind_eq_ok exDoc_facts.1
  obtain ⟨h1, h2, h3, h4⟩ := Go.loaderUniverse_of_check exDocStore exDocEnv.loader 0 [3, 4, 5] exDoc_facts.2.1
  obtain ⟨c, st', rs', h, h₂, -, e2, e⟩ := clone_validates_same_docs exDocStore 0 exDocEnv exDocL h1 h2 h3 h4
    (by decide +kernel) 2 "" rs hr
  exact ⟨c, st', rs, rs', h, hr, h₂, e2, e⟩

/-- … and the verdicts go through the Loader document: a string of length 2 is valid, a number is not -/
example : (match Go.resolve exDocEnv 2 0 "" with
    | .ok rs =>
      [Spec.valid (Go.RIso.specOf exDocStore rs fun _ _ => false) 4 0 (.str "xy"),
       Spec.valid (Go.RIso.specOf exDocStore rs fun _ _ => false) 4 0 (.num 1)]
    | _ => []) = [some true, some false] :=
  exDoc_facts.2.2

/-- the converse direction fails, and must: a DAG (schema 1 is shared) is refused by Resolve
    ("do not form a tree"), its clone is a tree and resolves -/
example : (Go.resolve { exRefEnv with st := #[{ allOf := some [1, 1] }, { type := "string" }] } 1 0 "").verdict =
      some false ∧
    (match Go.clone #[{ allOf := some [1, 1] }, { type := "string" }] 0 with
      | .ok (c, st') => (Go.resolve { exRefEnv with st := st' } 1 c "").isOk
      | _ => false) = true := by
  constructor <;> decide +kernel

/-- why `st'.size ≤ B` is assumed: a "nil" id that the clone's own allocations reach stops being nil.
    Here node 0 has `not := some 1` with 1 dangling (nil); the clone is allocated at id 1 and its `not`
    field is still `some 1`: the clone is cyclic, the original marshals to {"not":null}.
    (Unrealisable in Go: the model's nil inside fields is `none`, inside slices / maps `nilId = 10^9`.) -/
example :
    Go.clone #[{ not := some 1 }] 0 = .ok (1, #[{ not := some 1 }, { not := some 1 }]) ∧
    Go.marshal #[{ not := some 1 }] 0 = .ok (.obj [("not", .null)]) ∧
    Go.marshal #[{ not := some 1 }, { not := some 1 }] 1 = .fuel :=
  ⟨by rfl, by rfl, by rfl⟩

end JSV.C20
