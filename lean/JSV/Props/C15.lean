/-
  C15 — ApplyDefaults only extends the instance; validateDefaults.

  Definitions used (JSV/Proofs/Dfl.lean, DflLaws.lean):
    `Extends a b`  the Spec relation "b extends a": scalars and arrays equal; every member of an object of `a` is found in `b`
                   under the same key with an extended value (structurally recursive Prop on Json)
    `ExtP a b`     the positional, stronger form (meaningful without well-formedness): members stay in place, in order, with
                   extended values; new members are appended
    `PropsNodup st`  the property names of every schema object are pairwise distinct (keys of a Go map)
-/
import JSV.Proofs.Dfl
import JSV.Proofs.DflLaws
import JSV.Props.C01
namespace JSV.C15
open JSV Go Json Refine

/-- positional form, no hypothesis on the instance: the members of every object keep their place, order and key and
    are extended themselves; everything else is unchanged; new members are appended -/
theorem applyDefaults_extends_pos (env : VEnv) (fuel : Nat) (id : NodeId) (inst out : Json) :
    Go.applyDefaultsFuel env fuel id inst = .ok out → ExtP inst out :=
  applyDefaultsFuel_ext env fuel id inst out

/-- **extends**: present values untouched, objects only gain keys -/
theorem applyDefaults_extends (env : VEnv) (fuel : Nat) (id : NodeId) (inst out : Json) :
    Go.applyDefaultsFuel env fuel id inst = .ok out → Json.WF inst = true → Extends inst out :=
  fun h hw => Extends_of_ExtP inst out hw (applyDefaultsFuel_ext env fuel id inst out h)

/-- at the entry point (*Resolved).ApplyDefaults -/
theorem applyDefaults_extends_root (env : VEnv) (root : NodeId) (inst out : Json) :
    Go.applyDefaults env root inst = .ok out → Json.WF inst = true → Extends inst out :=
  applyDefaults_extends env _ root inst out

/-- the key order of an object is kept; new keys come last -/
theorem applyDefaults_keys (env : VEnv) (fuel : Nat) (id : NodeId) (kvs : List (String × Json)) (out : Json) :
    Go.applyDefaultsFuel env fuel id (.obj kvs) = .ok out →
    ∃ kvs' added, out = .obj kvs' ∧ keys kvs' = keys kvs ++ added := by
  intro h
  obtain ⟨kvs', rfl, h'⟩ := ExtP_obj.1 (applyDefaultsFuel_ext env fuel id _ _ h)
  obtain ⟨added, ha⟩ := ExtPObj_keys h'
  exact ⟨kvs', added, rfl, ha⟩

/-- reading the relation: a member present before is present after, under the same key, extended -/
theorem extends_lookup (kx ky : List (String × Json)) (k : String) (v : Json) :
    Extends (.obj kx) (.obj ky) → (k, v) ∈ kx → ∃ v', Json.lookup k ky = some v' ∧ Extends v v' := by
  intro h hm
  obtain ⟨ky', he, h'⟩ := Extends_obj.1 h
  cases he
  exact ExtendsObj_iff.1 h' k v hm

/-- reading the relation: anything that is not an object is unchanged -/
theorem extends_nonobject (a b : Json) (h : a.isObj = false) : Extends a b ↔ b = a := Extends_nonobj h

theorem never_fills_required (env : VEnv) (fuel : Nat) (id : NodeId) (n : Node) (p : String)
    (kvs kvs' : List (String × Json)) :
    env.st.get? id = some n → p ∈ n.required.getD [] → (Json.lookup p kvs).isNone = true →
    Go.applyDefaultsFuel env fuel id (.obj kvs) = .ok (.obj kvs') → (Json.lookup p kvs').isNone = true := by
  intro hn hp hl h
  obtain ⟨_, n', _, _, hn', he, hloop⟩ := applyDefaultsFuel_obj_ok h
  cases he
  rw [hn] at hn'
  cases hn'
  simp [defaultsLoop_required env.st _ _ p hp _ _ _ hloop (by simpa using hl)]

theorem applyDefaults_nonobject (env : VEnv) (fuel : Nat) (id : NodeId) (n : Node) (i : Info) (inst : Json) :
    env.st.get? id = some n → env.info? id = some i → inst.isObj = false →
    Go.applyDefaultsFuel env (fuel + 1) id inst = .ok inst :=
  fun hn hi ho => applyDefaultsStep_ok.2 ⟨n, i, hn, hi, Or.inr ⟨ho, rfl⟩⟩

/-- whenever the call returns at all on a non-object, it returns the instance -/
theorem applyDefaults_nonobject' (env : VEnv) (fuel : Nat) (id : NodeId) (inst out : Json) :
    inst.isObj = false → Go.applyDefaultsFuel env fuel id inst = .ok out → out = inst :=
  fun ho h => (ExtP_nonobj ho).1 (applyDefaultsFuel_ext env fuel id inst out h)

/-- definition level: validateDefaults succeeds iff the root exists with a supported `$schema`, no schema of the tree uses
    `$dynamicRef` — under 2020-12 (`env.draft = .d2020`): under draft-07 it is an unknown keyword and is not refused —
    and every default validates against its own schema -/
theorem validateDefaults_iff (env : VEnv) (supported : List String) (fuel : Nat) (root : NodeId) :
    Go.validateDefaults env supported fuel root = .ok () ↔
      (∃ rn, env.st.get? root = some rn ∧ supported.contains rn.schema = true) ∧
      (∀ id ∈ allNodes env.st (env.st.size + 2) [root], ∀ n, env.st.get? id = some n →
        env.draft = .d2020 → n.dynamicRef = "") ∧
      (∀ id ∈ allNodes env.st (env.st.size + 2) [root], ∀ n d, env.st.get? id = some n → n.default = some d →
        (validateFuel env fuel [] (GoVal.ofJson d) id).isOk = true) := by
  unfold Go.validateDefaults
  cases hr : env.st.get? root with
  | none => simp
  | some rn =>
    simp only [Option.some.injEq, exists_eq_left']
    by_cases hs : supported.contains rn.schema = true
    · simp only [hs, Bool.not_true, Bool.false_eq_true, if_false, true_and]
      rw [validateDefaultsLoop_iff]
      constructor
      · intro h
        refine ⟨fun id hid n hn => ?_, fun id hid n d hn hd => ?_⟩
        · obtain ⟨n', hn', h1, _⟩ := h id hid
          rw [hn] at hn'; cases hn'; exact h1
        · obtain ⟨n', hn', _, h2⟩ := h id hid
          rw [hn] at hn'; cases hn'; exact h2 d hd
      · rintro ⟨h1, h2⟩ id hid
        have hex := Go.allNodes_store env.st _ _ id hid
        cases hn : env.st.get? id with
        | none => rw [hn] at hex; cases hex
        | some n => exact ⟨n, rfl, h1 id hid n hn, fun d hd => h2 id hid n d hn hd⟩
    · have : supported.contains rn.schema = false := by simpa using hs
      simp only [this, Bool.not_false, if_true]
      constructor
      · intro h; cases h
      · rintro ⟨h, _⟩; cases h

/-- a default validates (evaluator) iff the Spec says it is valid, whenever the Spec decides -/
theorem default_ok_iff_valid (env : VEnv) (hwf : EnvWF env) (hst : StoreWF env.st) (fuel : Nat) (id : NodeId) (d : Json)
    (hd : Json.WF d = true) (b : Bool) (hs : Spec.valid (specEnvOf env) fuel id d = some b) :
    (validateFuel env fuel [] (GoVal.ofJson d) id).isOk = b := by
  have hv := Laws.go_valid env hwf hst fuel id d hd b hs
  cases h : validateFuel env fuel [] (GoVal.ofJson d) id <;> rw [h] at hv <;> cases hv <;> rfl

/-- Spec level: under a well-formed environment, when the defaults are well-formed JSON and the Spec decides each of them,
    validateDefaults succeeds iff there is no `$dynamicRef` (2020-12 only; draft-07 ignores the keyword) and every default
    is valid against its schema -/
theorem validateDefaults_spec (env : VEnv) (hwf : EnvWF env) (hst : StoreWF env.st) (supported : List String) (fuel : Nat)
    (root : NodeId) (rn : Node) (hroot : env.st.get? root = some rn) (hsup : supported.contains rn.schema = true)
    (hdec : ∀ id ∈ allNodes env.st (env.st.size + 2) [root], ∀ n d, env.st.get? id = some n → n.default = some d →
      Json.WF d = true ∧ (Spec.valid (specEnvOf env) fuel id d).isSome = true) :
    Go.validateDefaults env supported fuel root = .ok () ↔
      (∀ id ∈ allNodes env.st (env.st.size + 2) [root], ∀ n, env.st.get? id = some n →
        env.draft = .d2020 → n.dynamicRef = "") ∧
      (∀ id ∈ allNodes env.st (env.st.size + 2) [root], ∀ n d, env.st.get? id = some n → n.default = some d →
        Spec.valid (specEnvOf env) fuel id d = some true) := by
  rw [validateDefaults_iff]
  constructor
  · rintro ⟨_, h1, h2⟩
    refine ⟨h1, fun id hid n d hn hd => ?_⟩
    obtain ⟨hw, hs⟩ := hdec id hid n d hn hd
    cases hv : Spec.valid (specEnvOf env) fuel id d with
    | none => rw [hv] at hs; cases hs
    | some b =>
      have := default_ok_iff_valid env hwf hst fuel id d hw b hv
      rw [h2 id hid n d hn hd] at this
      rw [← this]
  · rintro ⟨h1, h2⟩
    refine ⟨⟨rn, hroot, hsup⟩, h1, fun id hid n d hn hd => ?_⟩
    obtain ⟨hw, _⟩ := hdec id hid n d hn hd
    exact default_ok_iff_valid env hwf hst fuel id d hw true (h2 id hid n d hn hd)

/-! ## hasDefaults: defaults on required properties do not count (finding D12) -/

/-- the predicate unfolds to: a default here, or a NON-REQUIRED property whose schema has defaults -/
theorem hasDefaults_unfold (st : Store) (id : NodeId) :
    hasDefaults st id = true →
    ∃ n, st.get? id = some n ∧ (n.default.isSome = true ∨
      ∃ p c, (p, c) ∈ n.properties.getD [] ∧ (n.required.getD []).contains p = false ∧ hasDefaults st c = true) := by
  intro h
  unfold hasDefaults at h
  rw [hasDefaultsFuel] at h
  cases hn : st.get? id with
  | none => rw [hn] at h; simp at h
  | some n =>
    rw [hn] at h
    refine ⟨n, rfl, ?_⟩
    simp only [Bool.or_eq_true, List.any_eq_true, Bool.and_eq_true] at h
    rcases h with h | ⟨⟨p, c⟩, hx, h1, h2⟩
    · exact Or.inl h
    · refine Or.inr ⟨p, c, hx, by simpa using h1, ?_⟩
      exact hasDefaultsFuel_mono st _ _ h2

/-- **sound**: when `hasDefaults sub` holds and `sub` has no default of its own (the situation in which applyDefaults
    creates `{}` for a missing property and recurses), the recursion returns a NON-EMPTY object: no empty object is ever
    materialised -/
theorem hasDefaults_sound (env : VEnv) (fuel : Nat) (sub : NodeId) (sn : Node) (out : Json) :
    hasDefaults env.st sub = true → env.st.get? sub = some sn → sn.default = none →
    Go.applyDefaultsFuel env fuel sub (.obj []) = .ok out → ∃ kvs, out = .obj kvs ∧ kvs ≠ [] := by
  intro hh hsn hd h
  obtain ⟨_, n, kvs', _, hn, rfl, hl⟩ := applyDefaultsFuel_obj_ok h
  refine ⟨kvs', rfl, defaultsLoop_nonempty _ _ _ _ _ _ hl (Or.inr ?_)⟩
  obtain ⟨n', hn', hc⟩ := hasDefaults_unfold _ _ hh
  rw [hn] at hn' hsn
  cases hn'
  cases hsn
  rcases hc with hc | hc
  · rw [hd] at hc; cases hc
  · exact hc

/-- every key that one applyDefaults call adds to an object is a declared, non-required property of the schema, and its
    value is either an extension (`ExtP`) of the default declared by that property's schema, or — when that schema has no
    default but `hasDefaults` — a non-empty object -/
theorem inserted_is_declared (env : VEnv) (fuel : Nat) (id : NodeId) (n : Node) (kvs : List (String × Json)) (out : Json) :
    Go.applyDefaultsFuel env fuel id (.obj kvs) = .ok out → env.st.get? id = some n →
    ∃ kvs', out = .obj kvs' ∧ ∀ k v', Json.lookup k kvs = none → Json.lookup k kvs' = some v' →
      ∃ sub sn, (k, sub) ∈ n.properties.getD [] ∧ (n.required.getD []).contains k = false ∧ env.st.get? sub = some sn ∧
        ((∃ d, sn.default = some d ∧ ExtP d v') ∨
         (sn.default = none ∧ hasDefaults env.st sub = true ∧ ∃ o, v' = .obj o ∧ o ≠ [])) := by
  intro h hn
  obtain ⟨f, n', kvs', _, hn', rfl, hloop⟩ := applyDefaultsFuel_obj_ok h
  rw [hn] at hn'
  cases hn'
  exact ⟨kvs', rfl, defaultsLoop_inserted env.st _ _ (applyDefaultsFuel_ext env f) (hasDefaults_sound env f) _ _ _ hloop⟩

/-- applying twice = applying once: whenever the first application returns (with any fuel: so in particular for
    tree-shaped / guarded property schemas with enough fuel), the second, with the same fuel, returns its input.
    `PropsNodup`: property names are distinct within each schema object. -/
theorem applyDefaults_idem (env : VEnv) (hst : PropsNodup env.st) (fuel : Nat) (id : NodeId) (inst out : Json) :
    Go.applyDefaultsFuel env fuel id inst = .ok out → Go.applyDefaultsFuel env fuel id out = .ok out := by
  induction fuel generalizing id inst out with
  | zero => intro h; simp [applyDefaultsFuel] at h
  | succ fuel ih =>
    intro h
    obtain ⟨n, i, hn, hi, ⟨kvs, kvs', rfl, hl, rfl⟩ | ⟨ho, rfl⟩⟩ := applyDefaultsStep_ok.1 h
    · exact applyDefaultsStep_ok.2 ⟨n, i, hn, hi,
        Or.inl ⟨kvs', kvs', rfl, defaultsLoop_idem env.st _ _ ih _ _ _ (hst id n hn) hl, rfl⟩⟩
    · exact h

theorem applyDefaults_fuel_stable (env : VEnv) (f f' : Nat) (hle : f ≤ f') (id : NodeId) (inst out : Json) :
    Go.applyDefaultsFuel env f id inst = .ok out → Go.applyDefaultsFuel env f' id inst = .ok out := by
  intro h
  induction hle with
  | refl => exact h
  | step _ ih => exact applyDefaultsFuel_mono env _ id inst out ih

/-- the same at the entry point (whose fuel depends on the size of the instance) -/
theorem applyDefaults_idem_root (env : VEnv) (hst : PropsNodup env.st) (root : NodeId) (inst out : Json) :
    Go.applyDefaults env root inst = .ok out → Go.applyDefaults env root out = .ok out := by
  intro h
  unfold Go.applyDefaults at h ⊢
  have hsz := size_le_of_ExtP _ _ (applyDefaultsFuel_ext env _ root inst out h)
  exact applyDefaults_fuel_stable env _ _ (by omega) root out out (applyDefaults_idem env hst _ root inst out h)

/-! ## the hypotheses are satisfiable: a concrete schema

`{"properties":{"a":{"default":1,"type":"integer"},"b":{"properties":{"c":{"default":"x"}}},"r":{"default":5},
                "e":{"properties":{"q":{"default":0}},"required":["q"]}},"required":["r"]}` -/

def exStore : Store := #[
  { properties := some [("a", 1), ("b", 2), ("r", 4), ("e", 5)], required := some ["r"] },
  { default := some (.num 1), type := "integer" },
  { properties := some [("c", 3)] },
  { default := some (.str "x") },
  { default := some (.num 5) },
  { properties := some [("q", 6)], required := some ["q"] },
  { default := some (.num 0) } ]

def exInfos : List (NodeId × Info) :=
  [(0, { path := "root", base := some 0 }), (1, { path := "/properties/a", base := some 0 }),
   (2, { path := "/properties/b", base := some 0 }), (3, { path := "/properties/b/properties/c", base := some 0 }),
   (4, { path := "/properties/r", base := some 0 }), (5, { path := "/properties/e", base := some 0 }),
   (6, { path := "/properties/e/properties/q", base := some 0 })]

def exEnv : VEnv :=
  { st := exStore, draft := .d2020, infos := exInfos, reMatch := fun _ _ => false, hash := fun _ => 0 }

theorem exEnv_wf : EnvWF exEnv := EnvWF_of_checks exEnv (by decide) (by decide) (fun _ _ _ => rfl)
theorem exEnv_store : StoreWF exEnv.st := StoreWF_of_check _ (by decide)

/-- the result check used by the examples (Json has no decidable equality; `eqv` is value equality) -/
def okEqv (r : Res Json) (expected : Json) : Bool :=
  match r with
  | .ok j => Json.eqv j expected && Json.eqv expected j
  | _ => false

/-- `{}` ↦ `{"a":1,"b":{"c":"x"}}`: the required `r` is not filled, `e` (whose only default sits on a required property)
    is not materialised as `{}` -/
example : okEqv (Go.applyDefaults exEnv 0 (.obj [])) (.obj [("a", .num 1), ("b", .obj [("c", .str "x")])]) = true := by
  decide +kernel
/-- present values are untouched, new keys come last -/
example : okEqv (Go.applyDefaults exEnv 0 (.obj [("z", .arr []), ("a", .str "no")]))
    (.obj [("z", .arr []), ("a", .str "no"), ("b", .obj [("c", .str "x")])]) = true := by decide +kernel
/-- applying again changes nothing -/
example : okEqv (Go.applyDefaults exEnv 0 (.obj [("a", .num 1), ("b", .obj [("c", .str "x")])]))
    (.obj [("a", .num 1), ("b", .obj [("c", .str "x")])]) = true := by decide +kernel
example : Go.hasDefaults exStore 2 = true ∧ Go.hasDefaults exStore 5 = false ∧ Go.hasDefaults exStore 0 = true := by
  decide +kernel
example : Go.validateDefaults exEnv [""] 3 0 = .ok () := by decide +kernel
example : (Go.applyDefaults exEnv 0 (.num 3)).isOk = true := by decide +kernel

/-- the hypotheses of `validateDefaults_spec` hold on the example: every default is well-formed and decided by the Spec -/
theorem exEnv_defaults_decided :
    ∀ id ∈ allNodes exEnv.st (exEnv.st.size + 2) [0], ∀ n d, exEnv.st.get? id = some n → n.default = some d →
      Json.WF d = true ∧ (Spec.valid (specEnvOf exEnv) 3 id d).isSome = true := by
  intro id hid n d hn hd
  have hc : ((allNodes exEnv.st (exEnv.st.size + 2) [0]).all fun id =>
      match exEnv.st.get? id with
      | some n => (match n.default with
        | some d => Json.WF d && (Spec.valid (specEnvOf exEnv) 3 id d).isSome
        | none => true)
      | none => true) = true := by decide +kernel
  have := List.all_eq_true.1 hc id hid
  rw [hn] at this
  simp only [hd, Bool.and_eq_true] at this
  exact this

example : Go.validateDefaults exEnv [""] 3 0 = .ok () ↔
    (∀ id ∈ allNodes exEnv.st (exEnv.st.size + 2) [0], ∀ n, exEnv.st.get? id = some n →
      exEnv.draft = .d2020 → n.dynamicRef = "") ∧
    (∀ id ∈ allNodes exEnv.st (exEnv.st.size + 2) [0], ∀ n d, exEnv.st.get? id = some n → n.default = some d →
      Spec.valid (specEnvOf exEnv) 3 id d = some true) :=
  validateDefaults_spec exEnv exEnv_wf exEnv_store [""] 3 0 _ rfl (by decide) exEnv_defaults_decided

/-- property names are distinct in the example store (hypothesis of `applyDefaults_idem`) -/
example : PropsNodup exStore := by
  intro id n hn
  have hc : (exStore.toList.all fun n => Json.nodupKeys ((n.properties.getD []).map (·.1))) = true := by decide +kernel
  have hmem : n ∈ exStore.toList := Array.mem_toList_iff.2 (Array.mem_of_getElem? hn)
  exact Json.nodupKeys_iff.1 (List.all_eq_true.1 hc n hmem)

end JSV.C15
