/-
  C12 — the hash law for hashValue and the correctness of the uniqueItems block.
  Property theorems only (helper lemmas: JSV/Proofs/Equal.lean).
-/
import JSV.Proofs.Equal
namespace JSV.C12
open JSV GoVal

/-- hash law: equal values write the same byte stream (so any seeded hash of the stream agrees) -/
theorem hash_law (x y : GoVal) (jx jy : Json)
    (hx : GoVal.denote x = some jx) (hy : GoVal.denote y = some jy)
    (wx : Json.WF jx = true) (wy : Json.WF jy = true) :
    Json.eqv jx jy = true → Go.hashEnc x = Go.hashEnc y := by
  intro h
  rw [Go.hashEnc_eq x jx hx, Go.hashEnc_eq y jy hy, Json.enc_eq_of_eqv jx jy wx wy h]

/-- hashEnc never panics on JSON values -/
theorem hashEnc_ok (x : GoVal) (j : Json) (hx : GoVal.denote x = some j) :
    ∃ bs, Go.hashEnc x = .ok bs :=
  ⟨Json.enc j, Go.hashEnc_eq x j hx⟩

/-- uniqueItems = pairwise distinctness, for EVERY hash function that respects equality.
    (`hw`: the items are well-formed JSON values — needed because the Go loop evaluates
    `equalValue x_j x_i` for `i < j` while `Spec.distinct` evaluates `eqv x_i x_j`, and `eqv` is
    symmetric only on objects without duplicate keys.) -/
theorem unique_correct (hash : GoVal → UInt64) (items : List GoVal) (js : List Json)
    (hd : GoVal.denoteList items = some js) (hw : Json.wfList js = true)
    (hh : ∀ x y, x ∈ items → y ∈ items → Go.equalValue x y = .ok true → hash x = hash y) :
    Go.uniqueItems hash items = if Spec.distinct js then .ok () else .err :=
  Go.uniqueItems_eq hash items js hd hw hh

/-- in particular for hash = H ∘ hashEnc for an arbitrary H (every maphash seed) -/
theorem unique_correct_seeded (H : List UInt8 → UInt64) (items : List GoVal) (js : List Json)
    (hd : GoVal.denoteList items = some js) (hw : Json.wfList js = true) :
    Go.uniqueItems (fun v => match Go.hashEnc v with | .ok bs => H bs | _ => 0) items
      = if Spec.distinct js then .ok () else .err := by
  apply unique_correct _ items js hd hw
  intro x y hx hy he
  obtain ⟨jx, hjx, dx⟩ := GoVal.denote_of_mem_list hd x hx
  obtain ⟨jy, hjy, dy⟩ := GoVal.denote_of_mem_list hd y hy
  have wx := Json.wfList_iff.1 hw jx hjx
  have wy := Json.wfList_iff.1 hw jy hjy
  rw [Go.equalValue_eq x y jx jy dx dy] at he
  have hl := hash_law x y jx jy dx dy wx wy (Res.ok.inj he)
  simp only [hl]

/-! ## The hypotheses are satisfiable on non-trivial values -/

def exX : GoVal :=
  .map [("a", .iface (.list [.int 1, .ptr (.float (mkRat 3 2)), .invalid])), ("b", .str "x"),
        ("c", .jnum (some 2) "2.0")]
def exY : GoVal :=
  .ptr (.map [("c", .uint 2), ("b", .iface (.str "x")),
              ("a", .list [.float 1, .jnum (some (mkRat 6 4)) "1.50", .ptr .invalid])])
def exW : GoVal := .list [.str "1", .int 1, .bool true]
def exJX : Json := .obj [("a", .arr [.num 1, .num (mkRat 3 2), .null]), ("b", .str "x"), ("c", .num 2)]
def exJY : Json := .obj [("c", .num 2), ("b", .str "x"), ("a", .arr [.num 1, .num (mkRat 6 4), .null])]
def exJW : Json := .arr [.str "1", .num 1, .bool true]

example : GoVal.denote exX = some exJX := by rfl
example : GoVal.denote exY = some exJY := by rfl
example : Json.WF exJX = true := by decide
example : Json.WF exJY = true := by decide
example : Json.eqv exJX exJY = true := by decide
/-- `hash_law` applied: two representations with different key order, numeric kinds and wrapping -/
example : Go.hashEnc exX = Go.hashEnc exY :=
  hash_law exX exY exJX exJY rfl rfl (by decide) (by decide) (by decide)

example : GoVal.denoteList [exX, exW, exY] = some [exJX, exJW, exJY] := by rfl
example : Json.wfList [exJX, exJW, exJY] = true := by decide
example : Spec.distinct [exJX, exJW, exJY] = false := by decide
example : Spec.distinct [exJX, exJW] = true := by decide
/-- `unique_correct_seeded` applied, duplicate case: for every seed the loop reports the duplicate -/
example (H : List UInt8 → UInt64) :
    Go.uniqueItems (fun v => match Go.hashEnc v with | .ok bs => H bs | _ => 0) [exX, exW, exY] = .err :=
  unique_correct_seeded H [exX, exW, exY] [exJX, exJW, exJY] rfl (by decide)
example (H : List UInt8 → UInt64) :
    Go.uniqueItems (fun v => match Go.hashEnc v with | .ok bs => H bs | _ => 0) [exX, exW] = .ok () :=
  unique_correct_seeded H [exX, exW] [exJX, exJW] rfl (by decide)
/-- the hypothesis `hh` of `unique_correct` holds e.g. for a constant hash (all items in one bucket) -/
example : Go.uniqueItems (fun _ => 7) [exX, exW, exY] = .err :=
  unique_correct (fun _ => 7) [exX, exW, exY] [exJX, exJW, exJY] rfl (by decide) (fun _ _ _ _ _ => rfl)

/-- why `hw` is assumed in `unique_correct`: on (unrealisable) objects with a duplicate key `eqv` is not
    symmetric, the specification compares `eqv x₀ x₁`, the loop `equalValue x₁ x₀`. -/
example :
    GoVal.denoteList [.map [("a", .int 1), ("a", .int 1)], .map [("a", .int 1), ("b", .int 2)]]
      = some [.obj [("a", .num 1), ("a", .num 1)], .obj [("a", .num 1), ("b", .num 2)]] ∧
    Spec.distinct [.obj [("a", .num 1), ("a", .num 1)], .obj [("a", .num 1), ("b", .num 2)]] = false ∧
    Go.uniqueItems (fun _ => 0)
      [.map [("a", .int 1), ("a", .int 1)], .map [("a", .int 1), ("b", .int 2)]] = .ok () :=
  ⟨by rfl, by decide +kernel, by decide +kernel⟩

end JSV.C12
