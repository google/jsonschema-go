/-
  C05 — Marshal / Unmarshal round trip.  Property theorems only
  (helper lemmas: JSV/Proofs/MshNode.lean, MshRound.lean, MshFacts.lean).

  Proved here: boolean schemas round-trip; the emitted object never repeats a key; Extra round-trips;
  a non-nil `$vocabulary` is always written, the empty map as `{}` (`marshal_keeps_empty_vocabulary`);
  the table obligations over the generated struct description.  The scalar fragment of the full round
  trip is `roundtrip_scalar_fragment`; the round trip of whole schema trees (every keyword; no nil child) is
  `roundtrip_tree` (helper lemmas: JSV/Proofs/MshTree.lean); what is missing for the full statement: the section
  "What is missing for the full round trip" below.  The tree read back accepts the same instances: `roundtrip_tree_meaning_partial` (reference-free trees, any
  tables; helper lemmas: JSV/Proofs/IsoTrees.lean) and `roundtrip_tree_meaning_resolved` (trees with references, both sides
  resolved; helper lemmas: JSV/Proofs/ResIso*.lean, ResIsoNorm.lean — Resolve commutes with a renaming of node ids and
  does not see the normal forms; JSV/Proofs/MshIsTree.lean — what UnmarshalJSON allocates is a tree, `unmarshal_is_tree`).
-/
import JSV.Proofs.MshRound
import JSV.Proofs.MshScalar
import JSV.Proofs.MshFacts
import JSV.Proofs.MshTables
import JSV.Proofs.MshTree
import JSV.Proofs.IsoTrees
import JSV.Proofs.RefineCheck
import JSV.Proofs.ResIsoNorm
import JSV.Proofs.MshIsTree
import JSV.Proofs.ResIsoNormDocs
import JSV.Proofs.LoaderUniverse
namespace JSV.C05
open JSV Go

/-- `&Schema{}` is written as `true`, `&Schema{Not: &Schema{}}` as `false` -/
theorem marshal_empty :
    (∀ (st : Store) (rec : Go.MRec) (id : NodeId), st.get? id = some Go.emptyNode →
      Go.marshalStep st rec id = .ok (.bool true)) ∧
    (∀ (st : Store) (f : Nat) (id inner : NodeId),
      st.get? id = some { Go.emptyNode with not := some inner } → st.get? inner = some Go.emptyNode →
      Go.marshalFuel st (f + 2) id = .ok (.bool false)) ∧
    (∀ st : Store, Go.marshal (st.alloc Go.emptyNode).2 (st.alloc Go.emptyNode).1 = .ok (.bool true)) ∧
    (∀ st : Store, Go.marshal (Go.allocFalse st).2 (Go.allocFalse st).1 = .ok (.bool false)) := by
  refine ⟨Go.marshalStep_empty, ?_, Go.marshal_alloc_empty, Go.marshal_allocFalse⟩
  intro st f id inner h hi
  exact Go.marshalStep_false st _ id inner h hi (Go.marshalStep_empty st _ inner hi)

/-- `true` allocates the zero Schema, `false` the falseSchema() pair; marshal ∘ unmarshal is the identity
    on boolean schemas -/
theorem unmarshal_bool :
    (∀ st : Store, Go.unmarshal (.bool true) st = .ok (st.alloc Go.emptyNode)) ∧
    (∀ st : Store, Go.unmarshal (.bool false) st = .ok (Go.allocFalse st)) ∧
    (∀ (b : Bool) (st : Store) (id : NodeId) (st' : Store),
      Go.unmarshal (.bool b) st = .ok (id, st') → Go.marshal st' id = .ok (.bool b)) := by
  refine ⟨Go.unmarshal_true, Go.unmarshal_false, ?_⟩
  intro b st id st' h
  cases b with
  | true =>
    rw [Go.unmarshal_true] at h
    cases h
    exact Go.marshal_alloc_empty st
  | false =>
    rw [Go.unmarshal_false] at h
    have h' : Go.allocFalse st = (id, st') := Res.ok.inj h
    have := Go.marshal_allocFalse st
    rw [h'] at this
    exact this

/-- the keys of the emitted object are pairwise distinct (top level): the struct names are distinct, the
    Extra keys are distinct (a Go map) and marshalStructWithMap's check keeps the two apart -/
theorem marshal_no_duplicate_keys (st : Store) (rec : Go.MRec) (id : NodeId) (n : Node)
    (ms : List (String × Json)) (hn : st.get? id = some n)
    (hx : ((n.extra.getD []).map (·.1)).Nodup)
    (h : Go.marshalStep st rec id = .ok (.obj ms)) : (ms.map (·.1)).Nodup := by
  obtain ⟨-, h2, h⟩ := (marshalStep_ok hn).1 h
  refine (marshalNode_obj_keys h).nodup
    (List.nodup_append.2 ⟨emittedNames_nodup, (keys_mExtra_perm n).nodup_iff.2 hx, ?_⟩)
  intro a ha b hb hab
  subst hab
  obtain ⟨e, he, rfl⟩ := List.mem_map.1 ((keys_mExtra_perm n).mem_iff.1 hb)
  have : ((n.extra.getD []).any fun e => structNames.contains e.1) = true :=
    List.any_eq_true.2 ⟨e, he, List.contains_iff_mem.2 (emittedNames_sublist.subset ha)⟩
  rw [h2] at this
  cases this

/-- … and they come in the fixed order of the wrapper struct followed by Schema's declaration order,
    then the Extra keys (ascending) -/
theorem marshal_key_order (st : Store) (rec : Go.MRec) (id : NodeId) (n : Node)
    (ms : List (String × Json)) (hn : st.get? id = some n)
    (h : Go.marshalStep st rec id = .ok (.obj ms)) :
    (ms.map (·.1)).Sublist (Go.emittedNames ++ (Go.sortKV ((n.extra.getD []).map fun (k, v) => (k, Go.sortJson v))).map (·.1)) :=
  Go.marshalNode_obj_keys ((Go.marshalStep_ok hn).1 h).2.2

/-- an Extra key that collides with a struct name is an error (marshalStructWithMap) -/
theorem marshal_extra_collision_rejected (st : Store) (rec : Go.MRec) (id : NodeId) (n : Node)
    (hn : st.get? id = some n) (e : String × Json) (he : e ∈ n.extra.getD [])
    (hk : e.1 ∈ Go.structNames) : ∃ r, Go.marshalStep st rec id = r ∧ (r = .err) := by
  refine ⟨_, rfl, ?_⟩
  rw [Go.marshalStep_eq, hn]
  dsimp only
  by_cases h1 : (!Go.marshalChecksOk n) = true
  · rw [if_pos h1]
  · rw [if_neg h1, if_pos]
    rw [List.any_eq_true]
    exact ⟨e, he, by simpa using hk⟩

/-! ## `$vocabulary`: only nil is omitted

  `Vocabulary map[string]bool` carries `omitempty`, which alone would drop the EMPTY map as well as nil; but Resolve looks
  at the PRESENCE of the keyword (a schema with `$vocabulary` is refused unless `$schema` is the 2020-12 meta-schema), so
  a schema with an empty non-nil Vocabulary would be written as a document that, read back, resolves although the
  original is refused (finding D26).  MarshalJSON routes the field through its wrapper struct as an `any`, like
  `enum` / `anyOf` / `oneOf`: only nil is omitted.  The table fact that pins the wrapper field is
  `marshal_shadow_nil_only` below; the position of the member (after "oneOf", before "$id") is part of
  `name_tables_agree` / `marshal_key_order`. -/

/-- a non-nil Vocabulary is written, whatever its size: the output of MarshalJSON is an object with the member
    `"$vocabulary"`, whose value is the map with its keys in ascending order -/
theorem marshal_keeps_vocabulary (st : Store) (rec : Go.MRec) (id : NodeId) (n : Node) (vs : List (String × Bool))
    (j : Json) (hn : st.get? id = some n) (hv : n.vocabulary = some vs) (h : Go.marshalStep st rec id = .ok j) :
    ∃ ms, j = .obj ms ∧ ("$vocabulary", Json.obj (Go.sortKV (vs.map fun (k, b) => (k, Json.bool b)))) ∈ ms :=
  Go.marshalNode_vocab hv ((Go.marshalStep_ok hn).1 h).2.2

/-- **`marshal_keeps_empty_vocabulary`**: for every node with a non-nil EMPTY Vocabulary, whatever else it contains,
    MarshalJSON — one level (`Go.marshalStep`, any recursion) and the whole function (`Go.marshal`) — writes an object
    that has the member `"$vocabulary": {}` -/
theorem marshal_keeps_empty_vocabulary (st : Store) (id : NodeId) (n : Node) (j : Json)
    (hn : st.get? id = some n) (hv : n.vocabulary = some []) :
    (∀ rec : Go.MRec, Go.marshalStep st rec id = .ok j → ∃ ms, j = .obj ms ∧ ("$vocabulary", Json.obj []) ∈ ms) ∧
    (Go.marshal st id = .ok j → ∃ ms, j = .obj ms ∧ ("$vocabulary", Json.obj []) ∈ ms) :=
  ⟨fun rec h => marshal_keeps_vocabulary st rec id n [] j hn hv h,
   fun h => marshal_keeps_vocabulary st _ id n [] j hn hv h⟩

/-- a Schema whose only non-zero field is Extra (at least one entry; keys that are no keyword; values
    already in the form encoding/json writes, i.e. object keys sorted at every depth) is written as the
    object of its entries in ascending key order, and reading that object back gives a Schema whose only
    non-zero field is Extra with the same entries (as a map: up to order).
    H_D4 (`hf`): no Extra key is a case variant of a keyword — encoding/json would decode such a member into
    the keyword's field as well (known finding D4, which the model reproduces). -/
theorem extra_roundtrip (st : Store) (mrec : Go.MRec) (urec : Go.URec) (id : NodeId)
    (es : List (String × Json)) (st2 : Store)
    (hn : st.get? id = some { extra := some es }) (hne : es ≠ [])
    (hk : ∀ e, e ∈ es → e.1 ∉ Go.knownKeys) (hf : ∀ e, e ∈ es → Go.isFoldedKey e.1 = false)
    (hs : ∀ e, e ∈ es → Go.sortJson e.2 = e.2) :
    Go.marshalStep st mrec id = .ok (.obj (Go.sortKV es)) ∧
    Go.unmarshalStep urec (.obj (Go.sortKV es)) st2 = .ok (st2.alloc { extra := some (Go.sortKV es) }) ∧
    (Go.sortKV es).Perm es := by
  have hp := Go.sortKV_perm es
  refine ⟨?_, ?_, hp⟩
  · exact Go.marshalStep_extra st mrec id es hn hne
      (fun e he hc => hk e he ((Go.structNames_iff_knownKeys _).1 hc)) hs
  · apply Go.unmarshalStep_extra
    · intro h0
      rw [h0] at hp
      exact hne hp.symm.eq_nil
    · intro e he
      exact hk e (hp.mem_iff.1 he)
    · intro e he
      exact hf e (hp.mem_iff.1 he)

/-- The round trip `Unmarshal (Marshal s) ≅ s` restricted to Schemas without subschemas.
    For a Schema that populates only string / bool / number / integer / string-list keywords
    ($id $schema $ref $comment $anchor $dynamicAnchor $dynamicRef title description deprecated readOnly
    writeOnly type(string or list) multipleOf minimum maximum exclusiveMinimum exclusiveMaximum minLength
    maxLength pattern minItems maxItems uniqueItems minContains maxContains minProperties maxProperties
    required contentEncoding contentMediaType format) and Extra — every other field zero (first
    hypothesis) —, with `type` and `types` not both set (basicChecks), the integer keywords inside the
    int32 window of the `integer` helper, Extra keys that are no keyword and Extra values in the form
    encoding/json writes: whatever MarshalJSON writes, UnmarshalJSON reads back as the same Schema, except
    that `required: []` (non-nil, empty: omitted by omitempty) comes back as nil (`Go.normReq`) and Extra
    comes back with its entries in ascending key order — the same map — or nil if empty (`Go.normExtra`).
    `urec` / `mrec` are arbitrary: no subschema is visited.
    H_D4 (`hf`): no Extra key is a case variant of a keyword (e.g. "Title") — encoding/json would decode such
    a member into the keyword's field as well (known finding D4, which the model reproduces). -/
theorem roundtrip_scalar_fragment (st : Store) (mrec : Go.MRec) (urec : Go.URec) (id : NodeId) (st2 : Store)
    (j : Json) (n : Node)
    (hs : { n with defs := none, definitions := none, dependencySchemas := none, dependencyStrings := none,
                   vocabulary := none, default := none, examples := none, enum := none, const := none,
                   prefixItems := none, items := none, itemsArray := none, additionalItems := none,
                   contains := none, unevaluatedItems := none, dependentRequired := none, properties := none,
                   patternProperties := none, additionalProperties := none, propertyNames := none,
                   unevaluatedProperties := none, allOf := none, anyOf := none, oneOf := none, not := none,
                   if_ := none, then_ := none, else_ := none, dependentSchemas := none, contentSchema := none,
                   propertyOrder := none } = n)
    (hT : (n.type != "" && n.types.isSome) = false)
    (h1 : Go.InInt32 n.minLength) (h2 : Go.InInt32 n.maxLength) (h3 : Go.InInt32 n.minItems)
    (h4 : Go.InInt32 n.maxItems) (h5 : Go.InInt32 n.minContains) (h6 : Go.InInt32 n.maxContains)
    (h7 : Go.InInt32 n.minProperties) (h8 : Go.InInt32 n.maxProperties)
    (hk : ∀ e, e ∈ n.extra.getD [] → e.1 ∉ Go.knownKeys)
    (hf : ∀ e, e ∈ n.extra.getD [] → Go.isFoldedKey e.1 = false)
    (hsj : ∀ e, e ∈ n.extra.getD [] → Go.sortJson e.2 = e.2)
    (hn : st.get? id = some n) (hj : Go.marshalStep st mrec id = .ok j) :
    Go.unmarshalStep urec j st2 =
      .ok (st2.alloc { n with required := Go.normReq n.required, extra := Go.normExtra n.extra }) :=
  Go.scalarOnly_roundtrip st mrec urec id st2 j n hs hT h1 h2 h3 h4 h5 h6 h7 h8 hk hf hsj hn hj

theorem normReq_eq (r : Option (List String)) (h : r ≠ some []) : Go.normReq r = r := by
  unfold Go.normReq
  split
  · rfl
  · next hx =>
    cases r with
    | none => rfl
    | some l =>
      cases l with
      | nil => exact absurd rfl h
      | cons x xs => exact absurd rfl (hx x xs)

theorem normExtra_perm (ex : Option (List (String × Json))) :
    ((Go.normExtra ex).getD []).Perm (ex.getD []) := by
  unfold Go.normExtra
  split
  · exact Go.sortKV_perm _
  · next hx =>
    cases ex with
    | none => exact List.Perm.refl _
    | some l =>
      cases l with
      | nil => exact List.Perm.refl _
      | cons e es => exact absurd rfl (hx e es)

/-- with `required` nil or non-empty and no Extra the Schema comes back exactly -/
theorem roundtrip_scalar_exact (st : Store) (mrec : Go.MRec) (urec : Go.URec) (id : NodeId) (st2 : Store)
    (j : Json) (n : Node) (hs : Go.ScalarOnly n)
    (hT : (n.type != "" && n.types.isSome) = false)
    (h1 : Go.InInt32 n.minLength) (h2 : Go.InInt32 n.maxLength) (h3 : Go.InInt32 n.minItems)
    (h4 : Go.InInt32 n.maxItems) (h5 : Go.InInt32 n.minContains) (h6 : Go.InInt32 n.maxContains)
    (h7 : Go.InInt32 n.minProperties) (h8 : Go.InInt32 n.maxProperties)
    (hr : n.required ≠ some []) (hx : n.extra = none)
    (hn : st.get? id = some n) (hj : Go.marshalStep st mrec id = .ok j) :
    Go.unmarshalStep urec j st2 = .ok (st2.alloc n) := by
  have h := Go.scalarOnly_roundtrip st mrec urec id st2 j n hs hT h1 h2 h3 h4 h5 h6 h7 h8
    (by rw [hx]; intro e he; cases he) (by rw [hx]; intro e he; cases he) (by rw [hx]; intro e he; cases he) hn hj
  rw [normReq_eq _ hr, hx] at h
  have e : ({ n with required := n.required, extra := Go.normExtra none } : Node) = n := by
    have : Go.normExtra none = n.extra := by rw [hx]; rfl
    rw [this]
  rw [e] at h
  exact h

/-- the int32 window is needed: MarshalJSON writes any `*int`, the `integer` helper of UnmarshalJSON
    rejects values outside int32 (so Marshal's output is not always accepted by Unmarshal) -/
example (mrec : Go.MRec) (urec : Go.URec) :
    Go.marshalStep #[{ minLength := some 2147483648 }] mrec 0 = .ok (.obj [("minLength", .num 2147483648)]) ∧
    Go.unmarshalStep urec (.obj [("minLength", .num 2147483648)]) #[] = .err :=
  ⟨by rfl, by rfl⟩

/-- `TreeWF st id`: the tree below `id` — through the schema-valued keywords (`Node.children`: not, if / then / else,
    items / itemsArray / prefixItems / additionalItems, contains, additionalProperties, propertyNames, unevaluated*,
    contentSchema, allOf / anyOf / oneOf, properties / patternProperties / $defs / definitions / dependentSchemas /
    dependencySchemas) — is finite and acyclic (at most `st.size` deep), has no nil child, and every node of it
    satisfies `Go.nodeOK` and `Go.nodeOrd`:
    * MarshalJSON's own checks pass (not both `type` and `types`, not both `$defs` and `definitions`, not both `items`
      and `itemsArray`, no duplicate in PropertyOrder, DependencySchemas and DependencyStrings disjoint), no Extra key
      is a struct name;
    * H_D4: no Extra key is a case variant of a keyword;
    * the values of Extra, `enum`, `const`, `examples` are in the form encoding/json writes a decoded `any`
      (`Go.jsonSorted`: object keys ascending at every depth) — `default` is raw bytes, no condition;
    * the eight integer keywords are inside the int32 window of the `integer` helper (`Go.int32B`);
    * (`Go.nodeOrd`, only needed for "marshals again to the same JSON") "properties" is written in ascending key
      order, i.e. PropertyOrder — `json:"-"`, never read back — does not reorder it, and DependencySchemas is
      enumerated in ascending key order (a representation choice: the list order of a map field is its iteration
      order, which does not influence what is written).
    Decidable: `by decide` on concrete stores. -/
def TreeWF (st : Store) (id : NodeId) : Prop := Go.treeAll Go.nodeWF st st.size id = true

instance (st : Store) (id : NodeId) : Decidable (TreeWF st id) :=
  inferInstanceAs (Decidable (Go.treeAll Go.nodeWF st st.size id = true))

/-- `roundtrip_tree`.  For a well-formed tree: whatever MarshalJSON writes for it, UnmarshalJSON reads back — into any
    store `st₂` — as a tree that is equal to the original up to the documented normal forms (`Go.TreeEq`, i.e.
    `Go.normNode` at every node: every keyword and every Extra entry kept;
    `required: []` ↦ nil (`Go.normReq`); Extra in ascending key order or nil if empty (`Go.normExtra`);
    `examples: []`, `prefixItems: []`, `allOf: []` and every empty map other than `$vocabulary` ↦ nil (omitempty;
    `Go.normJL`, `Go.normList`, `Go.normMap`, `Go.normKV`), while `anyOf: []` / `oneOf: []` / `enum: []` /
    `itemsArray: []` / `properties: {}` / `$vocabulary: {}` are kept (`Go.normVocab`: a non-nil Vocabulary comes back
    non-nil); every map in ascending key order; a nil list in DependencyStrings ↦ `[]` (`Go.normDepStrs`);
    "properties" in the order orderedProperties wrote it (`Go.propEntries`), PropertyOrder nil; every schema-valued
    keyword pointing to the rebuilt copy of its subtree — the boolean schemas `true` / `false` come back as
    `&Schema{}` / `&Schema{Not: &Schema{}}` whatever node was written as `true` / `false`),
    and marshaling the rebuilt tree gives the same JSON value again.
    Member kinds covered: all of them — the single-schema, schema-list and schema-map members including "properties"
    (orderedProperties), the "items" union and the draft-07 "dependencies" union; the scalar members, `type` (string
    or list), `required`, the `any`-typed members (enum, const, default, examples), `$vocabulary`,
    `dependentRequired` and Extra.  Excluded by `TreeWF`: nil children (a `null` in a schema position). -/
theorem roundtrip_tree (st : Store) (id : NodeId) (j : Json) (st₂ : Store)
    (hwf : TreeWF st id) (hj : Go.marshal st id = .ok j) :
    ∃ id' st₂', Go.unmarshal j st₂ = .ok (id', st₂') ∧ Go.TreeEq st st₂' (st.size + 2) id id' ∧
      Go.marshal st₂' id' = .ok j := by
  have hok : treeAll nodeOK st st.size id = true :=
    treeAll_imp (fun n hn => by simp only [nodeWF, Bool.and_eq_true] at hn; exact hn.1) hwf
  obtain ⟨id', st₂', hu, -, hte, hfull⟩ := roundtrip_tree_eq_core st st.size id j st₂ hok hj
  refine ⟨id', st₂', hu, hte, ?_⟩
  have h1 : marshalFuel st₂' (st.size + 2) id' = .ok j := by
    rw [← TreeEq.marshal_eq (st.size + 2) st.size (st.size + 2) id id' hwf hte]
    exact hj
  have hlt := hfull.lt_size
  show marshalFuel st₂' (st₂'.size + 2) id' = .ok j
  by_cases hle : st.size + 2 ≤ st₂'.size + 2
  · rw [marshalFuel_stable_full (st.size + 2) id' hte.full (st₂'.size + 2) (st.size + 2) hle (Nat.le_refl _)]
    exact h1
  · rw [marshalFuel_stable_full (id' + 1) id' hfull (st₂'.size + 2) (st.size + 2)
      (fuel_arith st.size st₂'.size id' hlt hle).1 (fuel_arith st.size st₂'.size id' hlt hle).2]
    exact h1

/-- the first half without the condition on the order of "properties": any depth bound `d`, only `Go.nodeOK` at
    every node; the old store is untouched (`Go.Ext`) -/
theorem roundtrip_tree_eq (st : Store) (d : Nat) (id : NodeId) (j : Json) (st₂ : Store)
    (hwf : Go.treeAll Go.nodeOK st d id = true) (hj : Go.marshal st id = .ok j) :
    ∃ id' st₂', Go.unmarshal j st₂ = .ok (id', st₂') ∧ Go.Ext st₂ st₂' ∧ Go.TreeEq st st₂' (st.size + 2) id id' := by
  obtain ⟨id', st₂', h1, h2, h3, -⟩ := Go.roundtrip_tree_eq_core st d id j st₂ hwf hj
  exact ⟨id', st₂', h1, h2, h3⟩

/-- what `Go.TreeEq` says at the root: both nodes exist and agree — up to `Go.normNode` — on every keyword that is
    not schema-valued (`setChildFields · []` erases the schema-valued ones) … -/
theorem treeEq_root {st st' : Store} {d : Nat} {a b : NodeId} (h : Go.TreeEq st st' d a b) :
    ∃ n n', st.get? a = some n ∧ st'.get? b = some n' ∧
      Go.setChildFields n' [] = Go.setChildFields (Go.normNode n) [] := by
  cases d with
  | zero => exact h.elim
  | succ d =>
    obtain ⟨n, n', ha, hb, fs', -, rfl⟩ := h
    exact ⟨n, _, ha, hb, rfl⟩

/-- … and the schema-valued keywords have the same shape and keys, with equal subtrees below them (`Go.NodeRel`) -/
theorem treeEq_children {st st' : Store} {d : Nat} {a b : NodeId} (h : Go.TreeEq st st' (d + 1) a b) :
    ∃ n n', st.get? a = some n ∧ st'.get? b = some n' ∧ Go.NodeRel (Go.TreeEq st st' d) (Go.normNode n) n' := h

/-- `$vocabulary` has no nil-vs-empty normal form: the node read back has a Vocabulary exactly when the original has
    one (the empty map comes back as the empty map), with the same entries in ascending key order -/
theorem treeEq_vocabulary {st st' : Store} {d : Nat} {a b : NodeId} (h : Go.TreeEq st st' d a b) :
    ∃ n n', st.get? a = some n ∧ st'.get? b = some n' ∧ n'.vocabulary = n.vocabulary.map Go.sortKV ∧
      n'.vocabulary.isSome = n.vocabulary.isSome ∧ (n.vocabulary = some [] → n'.vocabulary = some []) := by
  obtain ⟨n, n', ha, hb, e⟩ := treeEq_root h
  have ev : n'.vocabulary = n.vocabulary.map Go.sortKV := congrArg (·.vocabulary) e
  refine ⟨n, n', ha, hb, ev, ?_, fun h0 => ?_⟩
  · rw [ev]; cases n.vocabulary <;> rfl
  · rw [ev, h0]; rfl

/-- equal trees marshal identically, whatever the fuel (the second half of `roundtrip_tree`) -/
theorem treeEq_marshal {st st' : Store} (f d d' : Nat) (a b : NodeId)
    (hwf : Go.treeAll Go.nodeWF st d a = true) (h : Go.TreeEq st st' d' a b) :
    Go.marshalFuel st f a = Go.marshalFuel st' f b :=
  Go.TreeEq.marshal_eq f d d' a b hwf h

/-- every normal form of the round trip is invisible to the Spec (`Spec.evalStep`).  `Go.normNode` applied to EVERY schema
    object of a store — ids, resolution tables, dynamic scope unchanged — changes no result, except for the order in which
    evaluated property names are listed (`Inv.OutSim`: undefined together, invalid together, valid together with the same
    evaluated properties and items as sets).  Normal form by normal form (JSV/Proofs/IsoTrees.lean):
    * `required: []` ↦ nil, `allOf: []` / `prefixItems: []` ↦ nil, every empty map ↦ nil, a nil list in DependencyStrings
      ↦ `[]`, and the fields `evalStep` does not read (Extra, PropertyOrder, `examples`, `$vocabulary`, `$defs`,
      `definitions`): no result changes at all (`Iso.preNorm_invisible`, `Iso.evalFuel_map`);
    * "properties" in emission order: `evalStep` only looks properties up by name and orderedProperties keeps every
      lookup (`Iso.lookup_propEntries`): no result changes at all;
    * the other maps in ascending key order: this can change the ORDER of the evaluated-property list (`dependentSchemas`:
      example at the end of the file), never its members, never the verdict (`Inv.evalFuel_sim`, the lemma behind C14);
    * `true` / `false` coming back as `&Schema{}` / `&Schema{Not: &Schema{}}`: `Go.TreeEq` describes such a node like any
      other — what comes back is its `normNode` with the rebuilt children — so nothing separate is to be shown.
    So no normal form is observable by validation; there is no counterexample.
    `Refine.StoreWF st`: "properties" maps have distinct keys (Go maps); `Json.WF inst`: the instance has no duplicate key. -/
theorem normal_forms_invisible (env : Spec.Env) (st : Store) (hst : Refine.StoreWF st) (fuel : Nat) (scope : List NodeId)
    (s : NodeId) (inst : Json) (hinst : Json.WF inst = true) :
    Inv.OutSim (Spec.evalFuel { env with st := st } fuel scope s inst)
      (Spec.evalFuel { env with st := st.map Go.normNode } fuel scope s inst) := by
  rw [Iso.evalFuel_map env st Iso.preNorm Iso.preNorm_invisible fuel scope s inst,
    ← Iso.evalFuel_sim (Iso.envSim_map₂ env st Iso.midNorm Go.normNode Iso.midNorm_normNode) fuel
      (Go.ListRel.refl_eq scope) rfl inst]
  exact Inv.evalFuel_sim env (st.map Iso.preNorm) (st.map Iso.midNorm) (Iso.permStore_pre_mid st)
    (Iso.storeWF_preNorm hst) fuel scope s inst inst (Inv.permJson_refl inst) hinst

/-- `treeEq_meaning_partial`.  Two trees equal up to the normal forms (`Go.TreeEq`), the left one REFERENCE-FREE
    (`Go.treeAll Iso.noRefs st d a`: every schema object of the tree exists and has no `$ref` and no `$dynamicRef`;
    decidable), mean the same: with ANY resolution tables on either side (never consulted — hence nothing is asked about
    `$id` / `$anchor` / `$dynamicAnchor`), the same draft and regexp matcher, every instance gets Spec results that agree
    up to the order of the evaluated-property list, in particular the same verdict, with every amount of fuel.
    Proof: the normal forms are invisible (`normal_forms_invisible`), and validity is invariant under the renaming of node
    ids that `Go.TreeEq` describes (`Iso.evalFuel_sim`).
    PARTIAL: trees containing `$ref` / `$dynamicRef` are not covered by THIS statement (arbitrary, unrelated tables) —
    their meaning depends on what `Resolve` computes for each of the two trees; for them see `treeEq_resolves_partial` /
    `roundtrip_tree_meaning_resolved_partial` below (`Resolve` on both sides; the two resolutions are related, `Go.RIso.treeEq_resolves`). -/
theorem treeEq_meaning_partial {st st' : Store} {d : Nat} {a b : NodeId} (hte : Go.TreeEq st st' d a b)
    (hfree : Go.treeAll Iso.noRefs st d a = true) (hst : Refine.StoreWF st) (env env' : Spec.Env)
    (hd : env.draft = env'.draft) (hre : env.reMatch = env'.reMatch) (fuel : Nat) (inst : Json)
    (hinst : Json.WF inst = true) :
    Inv.OutSim (Spec.evalFuel { env with st := st } fuel [] a inst)
        (Spec.evalFuel { env' with st := st' } fuel [] b inst) ∧
      Spec.valid { env with st := st } fuel a inst = Spec.valid { env' with st := st' } fuel b inst := by
  have h := Iso.treeEq_meaning hte hfree hst env env' hd hre fuel inst hinst
  exact ⟨h, Inv.OutRel.verdict_eq h⟩

/-- `roundtrip_tree_meaning_partial`.  The tree `UnmarshalJSON` reads back from what `MarshalJSON` wrote accepts exactly
    the instances the original accepts — for a well-formed (`TreeWF`), REFERENCE-FREE tree (no `$ref`, no `$dynamicRef`
    below `id`; see `treeEq_meaning_partial`, also for what PARTIAL excludes: trees with references need `Resolve` on both
    sides). -/
theorem roundtrip_tree_meaning_partial (st : Store) (id : NodeId) (j : Json) (st₂ : Store)
    (hwf : TreeWF st id) (hj : Go.marshal st id = .ok j)
    (hfree : Go.treeAll Iso.noRefs st st.size id = true) (hst : Refine.StoreWF st)
    (env env' : Spec.Env) (hd : env.draft = env'.draft) (hre : env.reMatch = env'.reMatch) :
    ∃ id' st₂', Go.unmarshal j st₂ = .ok (id', st₂') ∧ ∀ fuel inst, Json.WF inst = true →
      Inv.OutSim (Spec.evalFuel { env with st := st } fuel [] id inst)
        (Spec.evalFuel { env' with st := st₂' } fuel [] id' inst) ∧
      Spec.valid { env with st := st } fuel id inst = Spec.valid { env' with st := st₂' } fuel id' inst := by
  obtain ⟨id', st₂', hu, hte, -⟩ := roundtrip_tree st id j st₂ hwf hj
  exact ⟨id', st₂', hu, fun fuel inst hinst =>
    treeEq_meaning_partial hte (Go.treeAll_mono (Go.treeAll_mono hfree)) hst env env' hd hre fuel inst hinst⟩

/-- … and for the evaluator itself (`Go.validateFuel`, through `C01.validate_refines_spec`): on two resolved environments
    over the two stores — well formed as `Resolve` leaves them, same draft and regexp matcher, otherwise unrelated —
    wherever the Spec decides, validating against the original and against the tree read back both fail or both succeed.
    PARTIAL: reference-free trees only. -/
theorem treeEq_validate_same_partial {d : Nat} {a b : NodeId} (env₁ env₂ : Go.VEnv)
    (hte : Go.TreeEq env₁.st env₂.st d a b) (hfree : Go.treeAll Iso.noRefs env₁.st d a = true)
    (hwf₁ : Refine.EnvWF env₁) (hwf₂ : Refine.EnvWF env₂) (hst₁ : Refine.StoreWF env₁.st)
    (hst₂ : Refine.StoreWF env₂.st) (hd : env₁.draft = env₂.draft) (hre : env₁.reMatch = env₂.reMatch)
    (fuel : Nat) (inst : Json) (hinst : Json.WF inst = true)
    (hdec : (Spec.evalFuel (Refine.specEnvOf env₁) fuel [] a inst).isSome = true) :
    (Go.validateFuel env₁ fuel [] (GoVal.ofJson inst) a = .err ∧
        Go.validateFuel env₂ fuel [] (GoVal.ofJson inst) b = .err) ∨
      ∃ a₁ a₂, Go.validateFuel env₁ fuel [] (GoVal.ofJson inst) a = .ok a₁ ∧
        Go.validateFuel env₂ fuel [] (GoVal.ofJson inst) b = .ok a₂ := by
  have h : Inv.OutSim (Spec.evalFuel (Refine.specEnvOf env₁) fuel [] a inst)
      (Spec.evalFuel (Refine.specEnvOf env₂) fuel [] b inst) :=
    Iso.treeEq_meaning hte hfree hst₁ (Refine.specEnvOf env₁) (Refine.specEnvOf env₂) hd hre fuel inst hinst
  exact Iso.same_verdict_of_outSim h (Refine.validate_refines_spec_root env₁ hwf₁ hst₁ fuel a inst hinst)
    (Refine.validate_refines_spec_root env₂ hwf₂ hst₂ fuel b inst hinst) hdec

/-- `treeEq_resolves_partial`: **Resolve commutes with the JSON round trip** (self-contained resolution: no Loader, or
    a Loader that hands out no document — `Go.RIso.NoDocs`).  `b` in `st'` is the tree read back from the well-formed
    tree below `a` in `st` (`Go.TreeEq`); the maps of `st` have distinct keys (`Go.RPerm.StoreKeysNodup`: they are Go
    maps; decidable, `Go.RPerm.keysNodupB`); both stores are smaller than the model's nil id 10^9.  If `Resolve` of `a`
    returns normally and checkStructure accepts `b`, then `Resolve` of `b` — same options, same base URI, same fuel —
    returns normally, with the same draft and the same Loader log, and every instance (without duplicate keys) gets Spec
    results from the two that agree up to the order in which evaluated property names are listed — in particular the same
    verdict — with every amount of fuel, whatever `$ref` / `$dynamicRef` / `$id` / `$anchor` / `$dynamicAnchor` the tree
    contains.  Every normal form of `Go.normNode` is invisible to Resolve: the nil-vs-empty ones and the fields it does
    not read (`Go.RIso.rnode_preNorm`; an empty `$defs` coming back as nil only REMOVES a reason for checkLocal to
    fail), the order of the maps (`resolve_perm_invariant`, C14), the rebuilt children (`Go.RIso.resolve_rel`, the
    simulation of the resolver along a renaming of node ids).
    DIRECTION.  The statement is directional (original resolves ⇒ tree read back resolves).  No normal form stands in
    the way of the converse: `$vocabulary` has no nil-vs-empty normal form (`Go.normVocab`, `treeEq_vocabulary`,
    `marshal_keeps_empty_vocabulary`; were the empty non-nil map dropped, the tree read back would lose a reason for
    checkLocal to fail — finding D26), and under the hypothesis `hwf` (MarshalJSON's basicChecks pass at every node, so
    not both `$defs` and `definitions`) checkLocal gives the same answer on a node and on its normal form.  What is
    left of the restriction does not come from a normal form: (a) the original may share a schema object between two positions (a DAG: refused by checkStructure,
    "do not form a tree") while the tree read back never does — the converse would need "checkStructure accepts `a`"
    as the mirror image of `hcs`; (b) the simulation lemma `Go.RIso.resolve_rel` is itself directional (`DirRel`,
    `RNode.localOk` is an implication), so the converse — expected to hold under (a) — is not proved here.
    PARTIAL in one respect: "checkStructure accepts `b`" — i.e. the tree read back is a tree, every JSON object having
    been decoded into a fresh `Schema` — is assumed here, for an arbitrary `st'` (for CloneSchemas the corresponding
    fact is `C20.clone_is_tree`).  When `b` does come out of UnmarshalJSON it is a theorem, `unmarshal_is_tree`, and
    the hypothesis is gone: `roundtrip_tree_resolves`, `roundtrip_tree_meaning_resolved`. -/
theorem treeEq_resolves_partial (st st' : Store) (env : Go.Env) (hnd : Go.RIso.NoDocs env)
    (hk : Go.RPerm.StoreKeysNodup st) (hs : st.size ≤ 1000000000) (hs' : st'.size ≤ 1000000000) {a b : NodeId} {d : Nat}
    (hte : Go.TreeEq st st' d a b) (hwf : Go.treeAll Go.nodeOK st d a = true) (fuel : Nat) (base : String)
    (rs : Go.Resolved) (h₁ : Go.resolve { env with st := st } fuel a base = .ok rs) (f' : Nat)
    (fresh' : List (NodeId × Go.Info)) (hcs : Go.checkStructure st' f' [(b, "")] [] = .ok fresh') :
    ∃ rs', Go.resolve { env with st := st' } fuel b base = .ok rs' ∧ rs.draft = rs'.draft ∧ rs.log = rs'.log ∧
      ∀ (reMatch : String → String → Bool) (vfuel : Nat) (inst : Json), Json.WF inst = true →
        Inv.OutSim (Spec.evalFuel (Go.RIso.specOf st rs reMatch) vfuel [] a inst)
            (Spec.evalFuel (Go.RIso.specOf st' rs' reMatch) vfuel [] b inst) ∧
          Spec.valid (Go.RIso.specOf st rs reMatch) vfuel a inst =
            Spec.valid (Go.RIso.specOf st' rs' reMatch) vfuel b inst := by
  obtain ⟨rs', h₂, e1, e2, e3⟩ := Go.RIso.treeEq_resolves st st' env hnd hk hs hs' hte
    (Go.treeAll_imp Go.RIso.orderOK_of_nodeOK hwf) fuel base h₁ hcs
  exact ⟨rs', h₂, e1, e2, fun reMatch vfuel inst hinst =>
    ⟨e3 reMatch vfuel inst hinst, Inv.OutRel.verdict_eq (e3 reMatch vfuel inst hinst)⟩⟩

/-- `unmarshal_tree_upto_nil`.  What UnmarshalJSON allocates is a tree, for EVERY JSON value `j` and every store: in the
    store where the nil elements of schema lists and schema maps are dropped (`Go.UTree.patch`: a `null` ELEMENT of
    `allOf`, `properties`, … is decoded into a nil pointer — the only thing checkStructure can object to), checkStructure
    accepts the schema read back, and every schema it registers is a node allocated by the call.  Covered: duplicate
    keys; a case variant of a keyword overwriting the field an earlier member has set (`Go.canonKey` / `Go.setMember`:
    the earlier subtree becomes unreachable); the "items" union (each form clears the other); "dependencies" (schema
    entries appended one by one, over several members too); boolean schemas (`false` is two nodes).
    Proof (JSV/Proofs/MshIsTree.lean): every call of the recursion returns a node whose subtree lies in the interval of
    ids `[size before, size after)`; the subtrees of two members occupy disjoint intervals. -/
theorem unmarshal_tree_upto_nil (j : Json) (st : Store) (id : NodeId) (st' : Store)
    (h : Go.unmarshal j st = .ok (id, st')) :
    Go.Ext st st' ∧ ∃ f' fresh', Go.checkStructure (Go.UTree.patch st') f' [(id, "")] [] = .ok fresh' ∧
      ∀ k, k ∈ fresh'.map (·.1) → st.size ≤ k ∧ k < st'.size := by
  obtain ⟨e, D, ⟨f, hf⟩, hi⟩ := Go.UTree.unmarshalFuel_tree (j.size + 1) j st id st' "" h
  exact ⟨e, f, D, hf, hi⟩

/-- **`unmarshal_is_tree`**.  If every schema below the one read back exists (`Go.Full`: no `null` element of a schema
    list or schema map was decoded into a nil pointer; `d` is any bound on the depth) and the store stays below the
    model's nil id 10^9, checkStructure accepts the schema read back — it is a tree: every schema below it is met
    once —, and every schema it registers is a node allocated by the call.  Any JSON value, any store (see
    `unmarshal_tree_upto_nil` for what that covers).  The counterpart of `C20.clone_is_tree`. -/
theorem unmarshal_is_tree (j : Json) (st : Store) (id : NodeId) (st' : Store) (d : Nat)
    (h : Go.unmarshal j st = .ok (id, st')) (hfull : Go.Full st' d id) (hsz : st'.size ≤ 1000000000) :
    ∃ f' fresh', Go.checkStructure st' f' [(id, "")] [] = .ok fresh' ∧
      ∀ k, k ∈ fresh'.map (·.1) → st.size ≤ k ∧ k < st'.size :=
  Go.UTree.unmarshal_checkStructure j st id st' "" d h hfull hsz

/-- the tree read back from what MarshalJSON wrote for a well-formed tree is a tree: checkStructure accepts it -/
theorem roundtrip_tree_is_tree (st : Store) (id : NodeId) (j : Json) (st₂ : Store) (id' : NodeId) (st₂' : Store)
    (hwf : TreeWF st id) (hj : Go.marshal st id = .ok j) (hu : Go.unmarshal j st₂ = .ok (id', st₂'))
    (hs' : st₂'.size ≤ 1000000000) :
    ∃ f' fresh', Go.checkStructure st₂' f' [(id', "")] [] = .ok fresh' ∧
      ∀ k, k ∈ fresh'.map (·.1) → st₂.size ≤ k ∧ k < st₂'.size := by
  obtain ⟨id'', st₂'', hu', hte, -⟩ := roundtrip_tree st id j st₂ hwf hj
  rw [hu] at hu'
  cases hu'
  exact unmarshal_is_tree j st₂ id' st₂' _ hu hte.full hs'

/-- **`roundtrip_tree_meaning_resolved_docs`**: the same WITH documents fetched through a Loader (no `NoDocs`).  The
    Loader universe is shared by both sides: `L` is a set of schemas (ids, nil ones included) that contains the root of
    every document the Loader hands out, is closed under the schema-valued fields, is disjoint from the tree of `id`
    (`hLdis`, as in `C20.clone_validates_same_docs`), and is also present, unchanged, in the store `st₂` the schema is
    read back into (`hLst₂`, `hLeq`: e.g. `st₂ = st`, the schema is read back into the heap it was written from, next
    to the Loader documents).  If `Resolve` of the original returns normally — references into Loader documents, and
    from Loader documents back into the root document, included — then `Resolve` of the tree read back against the same
    Loader returns normally with the same draft and the same Loader log (the same URIs fetched in the same order), and
    the two accept exactly the same instances.
    How the store-wide normalisation of `treeEq_resolves_partial` is avoided: the normal forms are applied to every schema
    OUTSIDE `L` only (`Go.RIso.mapOff`; JSV/Proofs/ResIsoNormDocs.lean), so the two sides still agree on the Loader
    universe; the tree of `id` lies outside `L`, in the set of schemas checkStructure registers for it. -/
theorem roundtrip_tree_meaning_resolved_docs (st : Store) (id : NodeId) (j : Json) (st₂ : Store) (id' : NodeId)
    (st₂' : Store) (hwf : TreeWF st id) (hj : Go.marshal st id = .ok j) (hu : Go.unmarshal j st₂ = .ok (id', st₂'))
    (hk : Go.RPerm.StoreKeysNodup st) (hs : st.size ≤ 1000000000) (hs' : st₂'.size ≤ 1000000000)
    (env : Go.Env) (L : NodeId → Prop)
    (hLst₂ : ∀ a, L a → a < st₂.size ∨ 1000000000 ≤ a) (hLeq : ∀ a, L a → st₂.get? a = st.get? a)
    (hLcl : ∀ a n, L a → st.get? a = some n → ∀ f, f ∈ n.childFields → ∀ x, x ∈ f.ids → L x)
    (hLroots : ∀ t key l, env.loader = some t → Json.lookup key t = some (.doc l) → L l)
    (hLdis : ∀ fresh, Go.checkStructure st (st.size + 2) [(id, "")] [] = .ok fresh → ∀ a, L a → a ∉ fresh.map (·.1))
    (fuel : Nat) (base : String) (rs : Go.Resolved)
    (h₁ : Go.resolve { env with st := st } fuel id base = .ok rs) :
    ∃ rs', Go.resolve { env with st := st₂' } fuel id' base = .ok rs' ∧ rs.draft = rs'.draft ∧ rs.log = rs'.log ∧
      ∀ (reMatch : String → String → Bool) (vfuel : Nat) (inst : Json), Json.WF inst = true →
        Inv.OutSim (Spec.evalFuel (Go.RIso.specOf st rs reMatch) vfuel [] id inst)
            (Spec.evalFuel (Go.RIso.specOf st₂' rs' reMatch) vfuel [] id' inst) ∧
          Spec.valid (Go.RIso.specOf st rs reMatch) vfuel id inst =
            Spec.valid (Go.RIso.specOf st₂' rs' reMatch) vfuel id' inst := by
  obtain ⟨id'', st₂'', hu', hte, -⟩ := roundtrip_tree st id j st₂ hwf hj
  rw [hu] at hu'
  cases hu'
  have hok : Go.treeAll Go.RIso.orderOK st (st.size + 2) id = true :=
    Go.treeAll_mono (Go.treeAll_mono (Go.treeAll_imp
      (fun n hn => by
        simp only [Go.nodeWF, Bool.and_eq_true] at hn
        exact Go.RIso.orderOK_of_nodeOK n hn.1) hwf))
  obtain ⟨hext, -⟩ := unmarshal_tree_upto_nil j st₂ id' st₂' hu
  obtain ⟨f', fresh', hcs', hiv⟩ := unmarshal_is_tree j st₂ id' st₂' _ hu hte.full hs'
  obtain ⟨fresh₀, hcs₀⟩ := Go.RIso.resolve_ok_cs { env with st := st } fuel id base rs h₁
  obtain ⟨rs', h₂, e1, e2, e3⟩ := Go.RIso.treeEq_resolves_docs st st₂' env L (fun x => x ∈ Go.RInv.ids fresh₀) hk hs hs'
    hte hok (Go.RInv.checkStructure_root_mem st _ id fresh₀ hcs₀)
    (fun x n hx hn c hc => Go.RInv.checkStructure_closed st _ _ _ _ hcs₀
      (fun _ hid => absurd hid (by simp [Go.RInv.ids])) x hx n hn c hc)
    (fun x hL hx => hLdis fresh₀ hcs₀ x hL hx)
    (fun x hL => by
      rcases hLst₂ x hL with hlt | hge
      · rw [hext.2 x hlt, hLeq x hL]
      · rw [Go.get?_eq_none_iff.2 (Nat.le_trans hs hge), Go.get?_eq_none_iff.2 (Nat.le_trans hs' hge)])
    hLcl hLroots fuel base h₁ hcs'
    (fun x hL hm => by
      have := hiv x hm
      rcases hLst₂ x hL with hlt | hge
      · exact absurd hlt (Nat.not_lt.2 this.1)
      · exact absurd (Nat.lt_of_lt_of_le this.2 hs') (Nat.not_lt.2 hge))
  exact ⟨rs', h₂, e1, e2, fun reMatch vfuel inst hinst =>
    ⟨e3 reMatch vfuel inst hinst, Inv.OutRel.verdict_eq (e3 reMatch vfuel inst hinst)⟩⟩

/-- **`roundtrip_tree_meaning_resolved`** (C05, no carve-out on references, no hypothesis on the tree read back).  For a
    well-formed tree (`TreeWF`) in a store whose maps have distinct keys: if `Resolve` of the original returns normally,
    `Resolve` of the tree read back returns normally, and the two — EACH RESOLVED ON ITS OWN — accept exactly the same
    instances: for every instance without duplicate keys, with every amount of fuel, Spec results that agree up to the
    order of the evaluated-property list, in particular the same verdict; trees with `$ref` / `$dynamicRef` / `$id` /
    `$anchor` / `$dynamicAnchor` included.
    Hypotheses: `TreeWF`; MarshalJSON wrote `j`; UnmarshalJSON read `j` back (into any store); `Resolve` of the original
    returns normally; the maps of the original store have distinct keys (they are Go maps); both stores below the
    model's nil id; self-contained resolution (`NoDocs`; lifted in `roundtrip_tree_meaning_resolved_docs`). -/
theorem roundtrip_tree_meaning_resolved (st : Store) (id : NodeId) (j : Json) (st₂ : Store) (id' : NodeId) (st₂' : Store)
    (hwf : TreeWF st id) (hj : Go.marshal st id = .ok j) (hu : Go.unmarshal j st₂ = .ok (id', st₂'))
    (hk : Go.RPerm.StoreKeysNodup st) (hs : st.size ≤ 1000000000) (hs' : st₂'.size ≤ 1000000000)
    (env : Go.Env) (hnd : Go.RIso.NoDocs env) (fuel : Nat) (base : String) (rs : Go.Resolved)
    (h₁ : Go.resolve { env with st := st } fuel id base = .ok rs) :
    ∃ rs', Go.resolve { env with st := st₂' } fuel id' base = .ok rs' ∧ rs.draft = rs'.draft ∧ rs.log = rs'.log ∧
      ∀ (reMatch : String → String → Bool) (vfuel : Nat) (inst : Json), Json.WF inst = true →
        Inv.OutSim (Spec.evalFuel (Go.RIso.specOf st rs reMatch) vfuel [] id inst)
            (Spec.evalFuel (Go.RIso.specOf st₂' rs' reMatch) vfuel [] id' inst) ∧
          Spec.valid (Go.RIso.specOf st rs reMatch) vfuel id inst =
            Spec.valid (Go.RIso.specOf st₂' rs' reMatch) vfuel id' inst :=
  roundtrip_tree_meaning_resolved_docs st id j st₂ id' st₂' hwf hj hu hk hs hs' env (fun _ => False)
    (fun _ h => h.elim) (fun _ h => h.elim) (fun _ _ h => h.elim) hnd (fun _ _ _ h => h.elim) fuel base rs h₁

/-- **`roundtrip_tree_resolves`** (C05): Resolve commutes with the JSON round trip.  For a well-formed tree (`TreeWF`)
    in a store whose maps have distinct keys: if `Resolve` of the original returns normally, then `Resolve` of the
    tree UnmarshalJSON reads back from what MarshalJSON wrote — same options, same base URI, same fuel; read back into
    any store `st₂`; stores below the nil id 10^9 — returns normally as well, with the same draft and the same Loader
    log.  No hypothesis on the tree read back: that it is a tree is `roundtrip_tree_is_tree`.
    Restriction left: self-contained resolution (`Go.RIso.NoDocs`: no Loader, or a Loader that hands out no document);
    with documents fetched through a Loader: `roundtrip_tree_meaning_resolved_docs`. -/
theorem roundtrip_tree_resolves (st : Store) (id : NodeId) (j : Json) (st₂ : Store) (id' : NodeId) (st₂' : Store)
    (hwf : TreeWF st id) (hj : Go.marshal st id = .ok j) (hu : Go.unmarshal j st₂ = .ok (id', st₂'))
    (hk : Go.RPerm.StoreKeysNodup st) (hs : st.size ≤ 1000000000) (hs' : st₂'.size ≤ 1000000000)
    (env : Go.Env) (hnd : Go.RIso.NoDocs env) (fuel : Nat) (base : String) (rs : Go.Resolved)
    (h₁ : Go.resolve { env with st := st } fuel id base = .ok rs) :
    ∃ rs', Go.resolve { env with st := st₂' } fuel id' base = .ok rs' ∧ rs.draft = rs'.draft ∧ rs.log = rs'.log := by
  obtain ⟨rs', h₂, e1, e2, -⟩ :=
    roundtrip_tree_meaning_resolved st id j st₂ id' st₂' hwf hj hu hk hs hs' env hnd fuel base rs h₁
  exact ⟨rs', h₂, e1, e2⟩

/-- **`roundtrip_tree_meaning_resolved_partial`** (C05, no carve-out on references).  For a well-formed tree (`TreeWF`)
    in a store whose maps have distinct keys: whatever MarshalJSON writes, UnmarshalJSON reads back — into any store
    `st₂` — as a tree `id'` such that, whenever the original and the tree read back are EACH RESOLVED ON ITS OWN (same
    options, same base URI, stores below the nil id), they have the same draft and Loader log and accept exactly the same
    instances (the same verdict; Spec results equal up to the order of the evaluated-property list), with every amount
    of fuel — trees with `$ref` / `$dynamicRef` / `$id` / `$anchor` / `$dynamicAnchor` included.
    PARTIAL: (i) self-contained resolution only (`NoDocs`); (ii) that `Resolve` of the tree read back does return
    normally when `Resolve` of the original does is a hypothesis here (`treeEq_resolves_partial` derives it from
    "checkStructure accepts the tree read back"); `roundtrip_tree_meaning_resolved` proves (ii)
    (`unmarshal_is_tree`: UnmarshalJSON decodes every JSON object into a fresh `Schema`). -/
theorem roundtrip_tree_meaning_resolved_partial (st : Store) (id : NodeId) (j : Json) (st₂ : Store)
    (hwf : TreeWF st id) (hj : Go.marshal st id = .ok j) (hk : Go.RPerm.StoreKeysNodup st)
    (hs : st.size ≤ 1000000000) (env : Go.Env) (hnd : Go.RIso.NoDocs env) :
    ∃ id' st₂', Go.unmarshal j st₂ = .ok (id', st₂') ∧
      ∀ (fuel : Nat) (base : String) (rs rs' : Go.Resolved), st₂'.size ≤ 1000000000 →
        Go.resolve { env with st := st } fuel id base = .ok rs →
        Go.resolve { env with st := st₂' } fuel id' base = .ok rs' →
        rs.draft = rs'.draft ∧ rs.log = rs'.log ∧
          ∀ (reMatch : String → String → Bool) (vfuel : Nat) (inst : Json), Json.WF inst = true →
            Inv.OutSim (Spec.evalFuel (Go.RIso.specOf st rs reMatch) vfuel [] id inst)
                (Spec.evalFuel (Go.RIso.specOf st₂' rs' reMatch) vfuel [] id' inst) ∧
              Spec.valid (Go.RIso.specOf st rs reMatch) vfuel id inst =
                Spec.valid (Go.RIso.specOf st₂' rs' reMatch) vfuel id' inst := by
  obtain ⟨id', st₂', hu, -, -⟩ := roundtrip_tree st id j st₂ hwf hj
  refine ⟨id', st₂', hu, fun fuel base rs rs' hs' h₁ h₂ => ?_⟩
  obtain ⟨rs'', h₂', e⟩ :=
    roundtrip_tree_meaning_resolved st id j st₂ id' st₂' hwf hj hu hk hs hs' env hnd fuel base rs h₁
  cases h₂.symm.trans h₂'
  exact e

/-! ### What is missing for the full round trip
  * `roundtrip_tree_meaning_resolved` (the two trees accept the same instances, references included) is proved for the two trees
    EACH RESOLVED ON ITS OWN: `Resolve` of the tree read back returns normally whenever `Resolve` of the original does
    (`roundtrip_tree_resolves`; that checkStructure accepts the tree read back is `unmarshal_is_tree` /
    `roundtrip_tree_is_tree`, derived from the model of UnmarshalJSON — the counterpart of `C20.clone_is_tree`);
    with documents fetched through a Loader: `roundtrip_tree_meaning_resolved_docs` (a Loader universe shared by both
    sides, present unchanged in the store the schema is read back into, disjoint from the tree); the statement is
    directional (original resolves ⇒ tree read back resolves; see `treeEq_resolves_partial`, DIRECTION);
    the evaluator-level corollary (`Go.validateFuel`) is stated for reference-free trees
    only (`treeEq_validate_same_partial`); `treeEq_marshal` is the corresponding statement for MarshalJSON;
  * nil children (`null` elements of schema lists / maps come back as nil pointers, a nil `*Schema` field that is
    set explicitly cannot be told from an absent one);
  * `any`-typed values (enum, const, examples, Extra) are covered in the form encoding/json writes (`Go.jsonSorted`);
    for other values the statement would be "equal up to the key order of nested objects" (`sortJson` idempotent);
  * PropertyOrder is not written at all (`json:"-"`), it never round-trips except through the order of
    "properties", which UnmarshalJSON does not read back: see the example below (`Go.nodeOrd`).
-/

/-- the JSON names given by struct tags are pairwise distinct -/
theorem tagged_names_distinct : Go.taggedNames.Nodup := by decide +kernel

/-- every tagged name is a key UnmarshalJSON knows and a name marshalStructWithMap protects -/
theorem tagged_names_known :
    (∀ k, k ∈ Go.taggedNames → k ∈ Go.knownKeys) ∧ (∀ k, k ∈ Go.taggedNames → k ∈ Go.structNames) :=
  Go.taggedNames_sub

/-- the two name tables of the model agree as sets, and the model's emission order is exactly the
    wrapper-struct names followed by the tagged names in declaration order -/
theorem name_tables_agree :
    (∀ k, k ∈ Go.structNames ↔ k ∈ Go.knownKeys) ∧
    Go.emittedNames =
      (Generated.marshalShadow.map Go.shadowName) ++
      Go.taggedNames.filter (fun k => !(Generated.marshalShadow.map Go.shadowName).contains k) := by
  refine ⟨Go.structNames_iff_knownKeys, ?_⟩
  have hn : Generated.marshalShadow.map Go.shadowName = (Generated.marshalShadow.map Go.shadowParts).map (·.2.1) := by
    rw [List.map_map]; rfl
  rw [Go.emittedNames_eq, hn, Go.marshalShadow_parts]
  decide +kernel

/-- the wrapper struct of MarshalJSON shadows four tagged `omitempty` fields by an `any` — Enum, AnyOf, OneOf and
    Vocabulary — so that for these only nil is omitted, not the empty slice / map; this is what
    `marshal_keeps_empty_vocabulary` and the `manyNonNil` / `enum` cases of the model rest on.  Without
    "Vocabulary:$vocabulary:any" in the generated table (finding D26) this obligation and `name_tables_agree` fail. -/
theorem marshal_shadow_nil_only :
    "Vocabulary:$vocabulary:any" ∈ Generated.marshalShadow ∧
    "Enum:enum:any" ∈ Generated.marshalShadow ∧ "AnyOf:anyOf:any" ∈ Generated.marshalShadow ∧
    "OneOf:oneOf:any" ∈ Generated.marshalShadow ∧
    (Generated.marshalShadow.filter fun s =>
        Go.taggedNames.contains (Go.shadowName s) && Go.shadowType s == "any").map Go.shadowGo
      = ["Enum", "AnyOf", "OneOf", "Vocabulary"] ∧
    (Generated.schemaFields.filter fun f => f.1 == "Vocabulary") = [("Vocabulary", "map[string]bool", "$vocabulary", true)] := by
  refine ⟨by decide, by decide, by decide, by decide, ?_, by decide +kernel⟩
  exact (Go.filter_map_parts Go.shadowParts (fun t => Go.taggedNames.contains t.2.1 && t.2.2 == "any") (·.1) _).trans
    (by rw [Go.marshalShadow_parts]; decide +kernel)

/-- the `-`-tagged fields are the three union pairs plus Extra and PropertyOrder; the names they are
    written under (type, items, dependencies) are exactly the untagged names of the wrapper structs of
    MarshalJSON and UnmarshalJSON, and exactly the known keys that are no tag -/
theorem dash_fields_are_wrapper_fields :
    (Generated.schemaFields.filter fun f => f.2.2.1 == "-").map (·.1)
      = ["DependencySchemas", "DependencyStrings", "Type", "Types", "Items", "ItemsArray", "Extra", "PropertyOrder"] ∧
    Go.knownKeys.filter (fun k => !Go.taggedNames.contains k) = ["type", "items", "dependencies"] ∧
    (Generated.marshalShadow.filter fun s => !Go.taggedNames.contains (Go.shadowName s)).map Go.shadowGo
      = ["Type", "Dependencies", "Items"] ∧
    (Generated.marshalShadow.filter fun s => !Go.taggedNames.contains (Go.shadowName s)).map Go.shadowName
      = ["type", "dependencies", "items"] ∧
    (Generated.unmarshalShadow.filter fun s => !Go.taggedNames.contains (Go.shadowName s)).map Go.shadowName
      = ["type", "dependencies", "items"] := by
  refine ⟨by decide +kernel, ?_, ?_, ?_, ?_⟩
  · rw [Go.knownKeys_eq, List.filter_append, Go.filter_not_contains_self, List.nil_append]
    decide +kernel
  · exact (Go.filter_map_parts Go.shadowParts (fun t => !Go.taggedNames.contains t.2.1) (·.1) _).trans
      (by rw [Go.marshalShadow_parts]; decide +kernel)
  · exact (Go.filter_map_parts Go.shadowParts (fun t => !Go.taggedNames.contains t.2.1) (·.2.1) _).trans
      (by rw [Go.marshalShadow_parts]; decide +kernel)
  · exact (Go.filter_map_parts Go.shadowParts (fun t => !Go.taggedNames.contains t.2.1) (·.2.1) _).trans
      (by rw [Go.unmarshalShadow_parts]; decide +kernel)

/-- the `*integer` fields of UnmarshalJSON's wrapper struct are the eight `*int` keywords of Schema … -/
theorem integer_shadow_fields :
    (Generated.unmarshalShadow.filter fun s => Go.shadowType s == "*integer").map Go.shadowName
      = ["minLength", "maxLength", "minItems", "maxItems", "minProperties", "maxProperties",
         "minContains", "maxContains"] ∧
    (∀ k, k ∈ (Generated.unmarshalShadow.filter fun s => Go.shadowType s == "*integer").map Go.shadowName →
          k ∈ (Generated.schemaFields.filter fun f => f.2.1 == "*int").map (·.2.2.1)) ∧
    (∀ k, k ∈ (Generated.schemaFields.filter fun f => f.2.1 == "*int").map (·.2.2.1) →
          k ∈ (Generated.unmarshalShadow.filter fun s => Go.shadowType s == "*integer").map Go.shadowName) := by
  have h : (Generated.unmarshalShadow.filter fun s => Go.shadowType s == "*integer").map Go.shadowName
      = ["minLength", "maxLength", "minItems", "maxItems", "minProperties", "maxProperties",
         "minContains", "maxContains"] :=
    (Go.filter_map_parts Go.shadowParts (fun t => t.2.2 == "*integer") (·.2.1) _).trans
      (by rw [Go.unmarshalShadow_parts]; decide +kernel)
  rw [h]
  decide +kernel

/-- … and these eight are the keys the model decodes with `decInteger` (the int32 window) -/
theorem integer_keywords_use_decInteger (rec : Go.URec) (n : Node) (st : Store) (v : Json) :
    Go.setField rec n st "minLength" v = Res.bind (Go.decInteger v) (fun q => .ok ({ n with minLength := q }, st)) ∧
    Go.setField rec n st "maxLength" v = Res.bind (Go.decInteger v) (fun q => .ok ({ n with maxLength := q }, st)) ∧
    Go.setField rec n st "minItems" v = Res.bind (Go.decInteger v) (fun q => .ok ({ n with minItems := q }, st)) ∧
    Go.setField rec n st "maxItems" v = Res.bind (Go.decInteger v) (fun q => .ok ({ n with maxItems := q }, st)) ∧
    Go.setField rec n st "minProperties" v = Res.bind (Go.decInteger v) (fun q => .ok ({ n with minProperties := q }, st)) ∧
    Go.setField rec n st "maxProperties" v = Res.bind (Go.decInteger v) (fun q => .ok ({ n with maxProperties := q }, st)) ∧
    Go.setField rec n st "minContains" v = Res.bind (Go.decInteger v) (fun q => .ok ({ n with minContains := q }, st)) ∧
    Go.setField rec n st "maxContains" v = Res.bind (Go.decInteger v) (fun q => .ok ({ n with maxContains := q }, st)) :=
  ⟨rfl, rfl, rfl, rfl, rfl, rfl, rfl, rfl⟩

/-! ## The hypotheses are satisfiable on non-trivial data -/

def exExtra : List (String × Json) :=
  [("x-b", .obj [("a", .num 1), ("b", .arr [.null])]), ("x-a", .str "v"), ("examplesX", .bool false)]

theorem exExtra_unknown : ∀ e, e ∈ exExtra → e.1 ∉ Go.knownKeys := by decide +kernel
theorem exExtra_unfolded : ∀ e, e ∈ exExtra → Go.isFoldedKey e.1 = false := by decide +kernel
theorem exExtra_sorted : ∀ e, e ∈ exExtra → Go.sortJson e.2 = e.2 := by
  intro e he
  simp only [exExtra, List.mem_cons, List.not_mem_nil, or_false] at he
  rcases he with rfl | rfl | rfl <;> rfl

example : exExtra ≠ [] := by decide
example : ∀ e, e ∈ exExtra → e.1 ∉ Go.knownKeys := exExtra_unknown
/-- H_D4 holds of them: none is a case variant of a keyword ("examplesX" is not one of "examples") -/
example : ∀ e, e ∈ exExtra → Go.isFoldedKey e.1 = false := exExtra_unfolded
/-- … and it is a real restriction: "Examples" is no keyword but a case variant of one -/
example : "Examples" ∉ Go.knownKeys ∧ Go.isFoldedKey "Examples" = true := by decide +kernel
example : ∀ e, e ∈ exExtra → Go.sortJson e.2 = e.2 := exExtra_sorted
/-- `extra_roundtrip` applied (marshal side) -/
example (rec : Go.MRec) :
    Go.marshalStep #[{ extra := some exExtra }] rec 0 =
      .ok (.obj [("examplesX", .bool false), ("x-a", .str "v"), ("x-b", .obj [("a", .num 1), ("b", .arr [.null])])]) :=
  (extra_roundtrip #[{ extra := some exExtra }] rec (fun _ _ => .fuel) 0 exExtra #[] rfl (by decide) exExtra_unknown
    exExtra_unfolded exExtra_sorted).1

/-- `marshal_no_duplicate_keys` on a node that uses struct fields, wrapper fields and Extra -/
example :
    Go.marshal #[{ type := "object", title := "t", required := some ["a"], properties := some [("a", 1)],
                   extra := some [("x-z", .num 1), ("x-a", .num 2)] }, {}] 0
      = .ok (.obj [("type", .str "object"), ("properties", .obj [("a", .bool true)]), ("title", .str "t"),
                   ("required", .arr [.str "a"]), ("x-a", .num 2), ("x-z", .num 1)]) := by rfl

def exScalar : Node :=
  { schema := "https://json-schema.org/draft/2020-12/schema", type := "string", title := "T",
    deprecated := true, multipleOf := some (mkRat 3 2), minLength := some 3, maxLength := some 2147483647,
    uniqueItems := true, required := some ["b", "a"], format := "date" }

example : Go.ScalarOnly exScalar := rfl
example : (exScalar.type != "" && exScalar.types.isSome) = false := by decide
example : Go.InInt32 exScalar.minLength := by intro i h; cases h; decide
example : Go.InInt32 exScalar.maxLength := by intro i h; cases h; decide
example : Go.InInt32 exScalar.minItems := by intro i h; cases h
/-- `roundtrip_scalar_exact` applied: what `exScalar` marshals to is read back as `exScalar` -/
example (mrec : Go.MRec) (urec : Go.URec) (st2 : Store) (j : Json)
    (hj : Go.marshalStep #[exScalar] mrec 0 = .ok j) :
    Go.unmarshalStep urec j st2 = .ok (st2.alloc exScalar) :=
  roundtrip_scalar_exact #[exScalar] mrec urec 0 st2 j exScalar rfl (by decide)
    (by intro i h; cases h; decide) (by intro i h; cases h; decide) (by intro i h; cases h)
    (by intro i h; cases h) (by intro i h; cases h) (by intro i h; cases h) (by intro i h; cases h)
    (by intro i h; cases h) (by decide) rfl rfl hj
/-- … and the hypothesis `hj` is inhabited: this is what it marshals to -/
example (mrec : Go.MRec) :
    Go.marshalStep #[exScalar] mrec 0 = .ok (.obj [("type", .str "string"),
      ("$schema", .str "https://json-schema.org/draft/2020-12/schema"), ("title", .str "T"),
      ("deprecated", .bool true), ("multipleOf", .num (mkRat 3 2)), ("minLength", .num 3),
      ("maxLength", .num 2147483647), ("uniqueItems", .bool true),
      ("required", .arr [.str "b", .str "a"]), ("format", .str "date")]) := by rfl
/-- `roundtrip_scalar_fragment` applied with Extra: the entries come back key-sorted -/
example (mrec : Go.MRec) (urec : Go.URec) (st2 : Store) (j : Json)
    (hj : Go.marshalStep #[{ exScalar with extra := some exExtra }] mrec 0 = .ok j) :
    Go.unmarshalStep urec j st2 = .ok (st2.alloc { exScalar with extra := some (Go.sortKV exExtra) }) :=
  roundtrip_scalar_fragment #[{ exScalar with extra := some exExtra }] mrec urec 0 st2 j
    { exScalar with extra := some exExtra } rfl (by decide +kernel)
    (by intro i h; cases h; decide +kernel) (by intro i h; cases h; decide +kernel) (by intro i h; cases h)
    (by intro i h; cases h) (by intro i h; cases h) (by intro i h; cases h) (by intro i h; cases h)
    (by intro i h; cases h) exExtra_unknown exExtra_unfolded exExtra_sorted rfl hj

/-- nil-vs-empty: `required: []` is omitted, the Schema is written as `true` and read back as `&Schema{}` -/
example (mrec : Go.MRec) (urec : Go.URec) (st2 : Store) :
    Go.marshalStep #[{ required := some [] }] mrec 0 = .ok (.bool true) ∧
    Go.unmarshalStep urec (.bool true) st2 = .ok (st2.alloc {}) := ⟨by rfl, by rfl⟩

/-! ### `roundtrip_tree` is not vacuous -/

/-- a tree with "properties" (two entries, listed out of order), "items", "allOf" (two members), the boolean
    subschema `false` (node 6 over node 7), an integer keyword and an Extra key -/
def exTree : Store := #[
  { type := "object", title := "T", minProperties := some 1, required := some ["b"],
    properties := some [("b", 1), ("a", 2)], items := some 3, allOf := some [4, 5],
    additionalProperties := some 6, extra := some [("x-note", .str "hi")] },
  { type := "string", minLength := some 2 },
  { types := some ["integer", "null"] },
  { type := "number" },
  { required := some ["a"] },
  { maxProperties := some 10 },
  { not := some 7 },
  {} ]

def exTreeJson : Json :=
  .obj [("type", .str "object"),
        ("properties", .obj [("a", .obj [("type", .arr [.str "integer", .str "null"])]),
                             ("b", .obj [("type", .str "string"), ("minLength", .num 2)])]),
        ("items", .obj [("type", .str "number")]),
        ("title", .str "T"), ("minProperties", .num 1), ("required", .arr [.str "b"]),
        ("additionalProperties", .bool false),
        ("allOf", .arr [.obj [("required", .arr [.str "a"])], .obj [("maxProperties", .num 10)]]),
        ("x-note", .str "hi")]

theorem exTree_wf : TreeWF exTree 0 := by decide +kernel

/-- what `exTree` is written as, evaluated once -/
theorem exTree_marshal : Go.marshal exTree 0 = .ok exTreeJson := by rfl

/-- the hypothesis `hj` is inhabited … -/
example : Go.marshal exTree 0 = .ok exTreeJson := exTree_marshal

/-- … and the theorem applies -/
example (st₂ : Store) :
    ∃ id' st₂', Go.unmarshal exTreeJson st₂ = .ok (id', st₂') ∧ Go.TreeEq exTree st₂' (exTree.size + 2) 0 id' ∧
      Go.marshal st₂' id' = .ok exTreeJson :=
  roundtrip_tree exTree 0 exTreeJson st₂ exTree_wf exTree_marshal

/-- the rebuilt tree, read into the empty store: children before parents, "properties" in ascending key order,
    `false` as `&Schema{Not: &Schema{}}` -/
example : Go.unmarshal exTreeJson #[] = .ok (7, #[
    { types := some ["integer", "null"] },
    { type := "string", minLength := some 2 },
    { type := "number" },
    {},
    { not := some 3 },
    { required := some ["a"] },
    { maxProperties := some 10 },
    { type := "object", title := "T", minProperties := some 1, required := some ["b"],
      properties := some [("a", 0), ("b", 1)], items := some 2, allOf := some [5, 6],
      additionalProperties := some 4, extra := some [("x-note", .str "hi")] }]) := by rfl

/-- `Go.nodeOrd` is needed for the second half: with PropertyOrder = ["b"] the members of "properties" are written
    b, a; PropertyOrder does not come back, so the rebuilt schema writes them a, b — the same JSON object, but not
    the same member order -/
example :
    Go.marshal #[{ properties := some [("a", 1), ("b", 2)], propertyOrder := some ["b"] }, {}, {}] 0 =
      .ok (.obj [("properties", .obj [("b", .bool true), ("a", .bool true)])]) ∧
    Go.unmarshal (.obj [("properties", .obj [("b", .bool true), ("a", .bool true)])]) #[] =
      .ok (2, #[{}, {}, { properties := some [("b", 0), ("a", 1)] }]) ∧
    Go.marshal #[{}, {}, { properties := some [("b", 0), ("a", 1)] }] 2 =
      .ok (.obj [("properties", .obj [("a", .bool true), ("b", .bool true)])]) := ⟨by rfl, by rfl, by rfl⟩

/-- a second tree: the draft-07 "dependencies" union (a schema and two string lists, one of them nil), the "items"
    array form, `$defs` listed out of order, `anyOf: []`, `prefixItems`, the `any`-typed keywords, `$vocabulary` and
    `dependentRequired` -/
def exTree2 : Store := #[
  { dependencySchemas := some [("z", 1)], dependencyStrings := some [("y", some ["a"]), ("x", none)],
    itemsArray := some [2, 3], defs := some [("q", 1), ("p", 2)], anyOf := some [], prefixItems := some [3],
    enum := some [.num 1, .obj [("a", .null), ("b", .arr [])]], const := some .null, default := some (.obj [("z", .num 0), ("a", .num 1)]),
    examples := some [.str "e"], vocabulary := some [("v2", false), ("v1", true)],
    dependentRequired := some [("k", some ["r"]), ("j", none)] },
  { type := "null" },
  { minimum := some 0 },
  {} ]

theorem exTree2_wf : TreeWF exTree2 0 := by decide +kernel

example : Go.marshal exTree2 0 = .ok (.obj [
    ("dependencies", .obj [("x", .arr []), ("y", .arr [.str "a"]), ("z", .obj [("type", .str "null")])]),
    ("items", .arr [.obj [("minimum", .num 0)], .bool true]),
    ("enum", .arr [.num 1, .obj [("a", .null), ("b", .arr [])]]),
    ("anyOf", .arr []),
    ("$vocabulary", .obj [("v1", .bool true), ("v2", .bool false)]),
    ("$defs", .obj [("p", .obj [("minimum", .num 0)]), ("q", .obj [("type", .str "null")])]),
    ("default", .obj [("z", .num 0), ("a", .num 1)]),
    ("examples", .arr [.str "e"]),
    ("const", .null),
    ("prefixItems", .arr [.bool true]),
    ("dependentRequired", .obj [("j", .null), ("k", .arr [.str "r"])])]) := by rfl

example (st₂ : Store) (j : Json) (hj : Go.marshal exTree2 0 = .ok j) :
    ∃ id' st₂', Go.unmarshal j st₂ = .ok (id', st₂') ∧ Go.TreeEq exTree2 st₂' (exTree2.size + 2) 0 id' ∧
      Go.marshal st₂' id' = .ok j :=
  roundtrip_tree exTree2 0 j st₂ exTree2_wf hj

/-! ### `roundtrip_tree_meaning_partial` is not vacuous -/

def exSpecEnv (st : Store) : Spec.Env :=
  { st := st, draft := .d2020, refTarget := fun _ => none, dynInitial := fun _ => none, dynName := fun _ => "",
    resource := fun _ => none, dynDecl := fun _ _ => none, reMatch := fun _ _ => false }

/-- `exTree` is reference-free and its "properties" maps have distinct keys -/
example : Go.treeAll Iso.noRefs exTree exTree.size 0 = true := by decide +kernel
example : Refine.StoreWF exTree := Refine.StoreWF_of_check _ (by decide)

/-- `roundtrip_tree_meaning_partial` applied to `exTree`, whatever the resolution tables -/
example (st₂ : Store) (env : Spec.Env) :
    ∃ id' st₂', Go.unmarshal exTreeJson st₂ = .ok (id', st₂') ∧ ∀ fuel inst, Json.WF inst = true →
      Inv.OutSim (Spec.evalFuel { env with st := exTree } fuel [] 0 inst)
        (Spec.evalFuel { env with st := st₂' } fuel [] id' inst) ∧
      Spec.valid { env with st := exTree } fuel 0 inst = Spec.valid { env with st := st₂' } fuel id' inst :=
  roundtrip_tree_meaning_partial exTree 0 exTreeJson st₂ exTree_wf exTree_marshal (by decide +kernel)
    (Refine.StoreWF_of_check _ (by decide +kernel)) env env rfl rfl

/-- … and these verdicts are defined and not all the same -/
example : Spec.valid (exSpecEnv exTree) 4 0 (.obj [("a", .num 1), ("b", .str "xy")]) = some true := by decide +kernel
example : Spec.valid (exSpecEnv exTree) 4 0 (.obj [("a", .num 1), ("b", .str "xy"), ("c", .null)]) = some false := by decide +kernel

/-! ### `roundtrip_tree_meaning_resolved_partial` is not vacuous: a tree WITH `$ref` (by pointer and by `$anchor`), `$dynamicRef`,
  `$dynamicAnchor`, `$id`; `$defs` is listed in descending key order, so it comes back reordered -/

def exRT : Store := #[
  { id := "http://a/root.json", type := "object", ref := "#/$defs/len", dynamicRef := "#d", allOf := some [4],
    properties := some [("a", 1)], defs := some [("pos", 3), ("len", 2)], required := some ["a"] },   -- 0
  { type := "string" },                                                                              -- 1
  { minProperties := some 1, dynamicAnchor := "d" },                                                  -- 2
  { anchor := "pos", maxProperties := some 2 },                                                       -- 3
  { ref := "#pos" }]                                                                                  -- 4
def exRTEnv : Go.Env := { st := exRT, reOk := fun _ => true, loader := none }

theorem exRT_wf : TreeWF exRT 0 := by decide +kernel
theorem exRT_keys : Go.RPerm.StoreKeysNodup exRT := Go.RPerm.storeKeysNodup_of_check _ (by decide)
theorem exRTEnv_noDocs : Go.RIso.NoDocs exRTEnv := fun _ _ _ h => nomatch h

/-- `Resolve` of `exRT`, computed once: it returns normally; what it records per schema (schema, `$ref` target,
    `$dynamicRef` target); three verdicts -/
theorem exRT_resolve : ∃ rs, Go.resolve exRTEnv 1 0 "" = .ok rs ∧
    (rs.infos.map fun (e : NodeId × Go.Info) => (e.1, e.2.resolvedRef, e.2.resolvedDynamicRef)) =
      [(0, some 2, some 2), (3, none, none), (2, none, none), (4, some 3, none), (1, none, none)] ∧
    [Spec.valid (Go.RIso.specOf exRT rs fun _ _ => false) 4 0 (.obj [("a", .str "x")]),
     Spec.valid (Go.RIso.specOf exRT rs fun _ _ => false) 4 0 (.obj [("a", .str "x"), ("b", .null), ("c", .null)]),
     Spec.valid (Go.RIso.specOf exRT rs fun _ _ => false) 4 0 (.obj [("a", .num 1)])] =
      [some true, some false, some false] := by
  have h : ((Go.resolve exRTEnv 1 0 "").bind fun rs => .ok
      ((rs.infos.map fun (e : NodeId × Go.Info) => (e.1, e.2.resolvedRef, e.2.resolvedDynamicRef)) ==
          [(0, some 2, some 2), (3, none, none), (2, none, none), (4, some 3, none), (1, none, none)] &&
        [Spec.valid (Go.RIso.specOf exRT rs fun _ _ => false) 4 0 (.obj [("a", .str "x")]),
         Spec.valid (Go.RIso.specOf exRT rs fun _ _ => false) 4 0 (.obj [("a", .str "x"), ("b", .null), ("c", .null)]),
         Spec.valid (Go.RIso.specOf exRT rs fun _ _ => false) 4 0 (.obj [("a", .num 1)])] ==
          [some true, some false, some false])) = .ok true := by decide +kernel
  obtain ⟨rs, hr, h⟩ := Res.bind_eq_ok h
  simp only [Res.ok.injEq, Bool.and_eq_true, beq_iff_eq] at h
  exact ⟨rs, hr, h⟩

/-- `exRT` written, read back into the empty store, checked and resolved there, computed once: the schemas
    checkStructure registers, and what `Resolve` records per schema -/
theorem exRT_back : ∃ j id' st' rs, Go.marshal exRT 0 = .ok j ∧ Go.unmarshal j #[] = .ok (id', st') ∧
    Go.resolve { exRTEnv with st := st' } 1 id' "" = .ok rs ∧ st'.size ≤ 1000000000 ∧
    ((Go.checkStructure st' (st'.size + 2) [(id', "")] []).bind fun fresh =>
      .ok (fresh.map fun (e : NodeId × Go.Info) => e.1)) = .ok [4, 1, 2, 3, 0] ∧
    (rs.infos.map fun (e : NodeId × Go.Info) => (e.1, e.2.resolvedRef, e.2.resolvedDynamicRef)) =
      [(4, some 1, some 1), (1, none, none), (2, none, none), (3, some 2, none), (0, none, none)] := by
  have h : ((Go.marshal exRT 0).bind fun j => (Go.unmarshal j #[]).bind fun r =>
      (Go.resolve { exRTEnv with st := r.2 } 1 r.1 "").bind fun rs => .ok
        (decide (r.2.size ≤ 1000000000) &&
          ((Go.checkStructure r.2 (r.2.size + 2) [(r.1, "")] []).bind fun fresh =>
            .ok (fresh.map fun (e : NodeId × Go.Info) => e.1)) == .ok [4, 1, 2, 3, 0] &&
          (rs.infos.map fun (e : NodeId × Go.Info) => (e.1, e.2.resolvedRef, e.2.resolvedDynamicRef)) ==
            [(4, some 1, some 1), (1, none, none), (2, none, none), (3, some 2, none), (0, none, none)])) =
      .ok true := by decide +kernel
  obtain ⟨j, hj, h⟩ := Res.bind_eq_ok h
  obtain ⟨⟨id', st'⟩, hu, h⟩ := Res.bind_eq_ok h
  obtain ⟨rs, hr, h⟩ := Res.bind_eq_ok h
  simp only [Res.ok.injEq, Bool.and_eq_true, beq_iff_eq, decide_eq_true_eq, and_assoc] at h
  exact ⟨j, id', st', rs, hj, hu, hr, h⟩

/-- the theorem applies … -/
example : ∃ j id' st₂', Go.marshal exRT 0 = .ok j ∧ Go.unmarshal j #[] = .ok (id', st₂') ∧
    ∀ (fuel : Nat) (base : String) (rs rs' : Go.Resolved), st₂'.size ≤ 1000000000 →
      Go.resolve exRTEnv fuel 0 base = .ok rs → Go.resolve { exRTEnv with st := st₂' } fuel id' base = .ok rs' →
      rs.draft = rs'.draft ∧ rs.log = rs'.log ∧
        ∀ (reMatch : String → String → Bool) (vfuel : Nat) (inst : Json), Json.WF inst = true →
          Inv.OutSim (Spec.evalFuel (Go.RIso.specOf exRT rs reMatch) vfuel [] 0 inst)
              (Spec.evalFuel (Go.RIso.specOf st₂' rs' reMatch) vfuel [] id' inst) ∧
            Spec.valid (Go.RIso.specOf exRT rs reMatch) vfuel 0 inst =
              Spec.valid (Go.RIso.specOf st₂' rs' reMatch) vfuel id' inst := by
  have hok : (Go.marshal exRT 0).isOk = true := by decide +kernel
  cases hj : Go.marshal exRT 0 with
  | ok j =>
    obtain ⟨id', st₂', hu, h⟩ := roundtrip_tree_meaning_resolved_partial exRT 0 j #[] exRT_wf hj exRT_keys (by decide) exRTEnv
      exRTEnv_noDocs
    exact ⟨j, id', st₂', rfl, hu, h⟩
  | fuel => rw [hj] at hok; cases hok
  | panic => rw [hj] at hok; cases hok
  | err => rw [hj] at hok; cases hok

/-- `roundtrip_tree_meaning_resolved` applies to it — no hypothesis on the tree read back is left: `Resolve` of the
    original returns normally (computed), hence `Resolve` of the tree read back does, and the two accept the same
    instances -/
example : ∃ j id' st₂' rs rs', Go.marshal exRT 0 = .ok j ∧ Go.unmarshal j #[] = .ok (id', st₂') ∧
    Go.resolve exRTEnv 1 0 "" = .ok rs ∧ Go.resolve { exRTEnv with st := st₂' } 1 id' "" = .ok rs' ∧
    rs.draft = rs'.draft ∧ rs.log = rs'.log ∧
      ∀ (reMatch : String → String → Bool) (vfuel : Nat) (inst : Json), Json.WF inst = true →
        Spec.valid (Go.RIso.specOf exRT rs reMatch) vfuel 0 inst =
          Spec.valid (Go.RIso.specOf st₂' rs' reMatch) vfuel id' inst := by
  obtain ⟨j, id', st₂', -, hj, hu, -, hs', -⟩ := exRT_back
  obtain ⟨rs, h₁, -⟩ := exRT_resolve
  obtain ⟨rs', h₂, e1, e2, e3⟩ := roundtrip_tree_meaning_resolved exRT 0 j #[] id' st₂' exRT_wf hj hu exRT_keys
    (by decide) hs' exRTEnv exRTEnv_noDocs 1 "" rs h₁
  exact ⟨j, id', st₂', rs, rs', hj, hu, h₁, h₂, e1, e2, fun reMatch vfuel inst hinst => (e3 reMatch vfuel inst hinst).2⟩

/-- checkStructure does accept the tree read back (`roundtrip_tree_is_tree`), and registers its five schemas, all new -/
example : (match Go.marshal exRT 0 with
    | .ok j => match Go.unmarshal j #[] with
      | .ok (id', st') => (Go.checkStructure st' (st'.size + 2) [(id', "")] []).bind fun fresh =>
            .ok (fresh.map fun (e : NodeId × Go.Info) => e.1)
      | _ => .err
    | _ => .err) = .ok [4, 1, 2, 3, 0] := by
  obtain ⟨j, id', st', -, hj, hu, -, -, hc, -⟩ := exRT_back
  rw [hj]; dsimp only
  rw [hu]; exact hc

/-- `unmarshal_tree_upto_nil` on a document no MarshalJSON writes: "Not" overwrites the field "not" has set (the first
    subtree, node 0, becomes garbage), "items" is given twice (the array form clears the schema form: node 1 becomes
    garbage), a `null` element of "allOf" is a nil pointer.  The schema read back (node 5) is a tree of the nodes
    2, 3, 4 — up to the nil element, which checkStructure refuses -/
theorem exOdd_unmarshal : Go.unmarshal (.obj [("not", .bool true), ("items", .obj []), ("Not", .bool true),
      ("items", .arr [.bool true, .obj []]), ("allOf", .arr [.null])]) #[] =
    .ok (5, #[{}, {}, {}, {}, {},
      { not := some 2, itemsArray := some [3, 4], allOf := some [1000000000], extra := some [("Not", .bool true)] }]) := by
  rfl

example : Go.unmarshal (.obj [("not", .bool true), ("items", .obj []), ("Not", .bool true),
      ("items", .arr [.bool true, .obj []]), ("allOf", .arr [.null])]) #[] =
    .ok (5, #[{}, {}, {}, {}, {},
      { not := some 2, itemsArray := some [3, 4], allOf := some [1000000000], extra := some [("Not", .bool true)] }]) :=
  exOdd_unmarshal

/-- … checkStructure refuses it because of the nil element only: without it (`Go.UTree.patch`) the four schemas are
    registered, each once (`unmarshal_tree_upto_nil`) -/
example : (match Go.unmarshal (.obj [("not", .bool true), ("items", .obj []), ("Not", .bool true),
      ("items", .arr [.bool true, .obj []]), ("allOf", .arr [.null])]) #[] with
    | .ok (id', st') =>
      ((Go.checkStructure st' (st'.size + 2) [(id', "")] []).isOk,
       (Go.checkStructure (Go.UTree.patch st') (st'.size + 2) [(id', "")] []).bind fun fresh =>
            .ok (fresh.map fun (e : NodeId × Go.Info) => e.1))
    | _ => (true, .err)) = (false, .ok [5, 3, 4, 2]) := by
  rw [exOdd_unmarshal]
  decide +kernel

/-- … both Resolve calls do return normally: the original records (schema, `$ref` target, `$dynamicRef` target) … -/
example : ((Go.resolve exRTEnv 1 0 "").bind fun rs => .ok (rs.infos.map fun (e : NodeId × Go.Info) =>
      (e.1, e.2.resolvedRef, e.2.resolvedDynamicRef))) =
    .ok [(0, some 2, some 2), (3, none, none), (2, none, none), (4, some 3, none), (1, none, none)] := by
  obtain ⟨rs, hr, hi, -⟩ := exRT_resolve
  rw [hr, Res.bind_ok, hi]

/-- … and the tree read back (root 4; "a" ↦ 0, len ↦ 1, pos ↦ 2, allOf[0] ↦ 3): the same tables up to the renaming -/
example : (match Go.marshal exRT 0 with
    | .ok j => match Go.unmarshal j #[] with
      | .ok (id', st') => (Go.resolve { exRTEnv with st := st' } 1 id' "").bind fun rs =>
          .ok (rs.infos.map fun (e : NodeId × Go.Info) => (e.1, e.2.resolvedRef, e.2.resolvedDynamicRef))
      | _ => .err
    | _ => .err) =
    .ok [(4, some 1, some 1), (1, none, none), (2, none, none), (3, some 2, none), (0, none, none)] := by
  obtain ⟨j, id', st', rs, hj, hu, hr, -, -, hi⟩ := exRT_back
  rw [hj]; dsimp only
  rw [hu]; dsimp only
  rw [hr, Res.bind_ok, hi]

/-- … and the verdicts are defined, use the references, and are not all the same -/
example : (match Go.resolve exRTEnv 1 0 "" with
    | .ok rs =>
      [Spec.valid (Go.RIso.specOf exRT rs fun _ _ => false) 4 0 (.obj [("a", .str "x")]),
       Spec.valid (Go.RIso.specOf exRT rs fun _ _ => false) 4 0 (.obj [("a", .str "x"), ("b", .null), ("c", .null)]),
       Spec.valid (Go.RIso.specOf exRT rs fun _ _ => false) 4 0 (.obj [("a", .num 1)])]
    | _ => []) = [some true, some false, some false] := by
  obtain ⟨rs, hr, -, hv⟩ := exRT_resolve
  rw [hr]; exact hv

/-! ### `roundtrip_tree_meaning_resolved_docs` is not vacuous: a root document with two references INTO a Loader
  document (by pointer and by `$anchor`), read back into the heap it was written from, next to the Loader document -/

def exDocRT : Store := #[
  { id := "http://a/root.json", allOf := some [1], properties := some [("p", 2)] },   -- 0
  { ref := "other.json#/$defs/x" },                                                    -- 1
  { ref := "other.json#tag" },                                                         -- 2
  { defs := some [("x", 4), ("y", 5)] },                                               -- 3: http://a/other.json
  { type := "string" },                                                                -- 4
  { anchor := "tag", minLength := some 2 }]                                            -- 5
def exDocRTEnv : Go.Env :=
  { st := exDocRT, reOk := fun _ => true, loader := some [("http://a/other.json", .doc 3)] }
/-- the schemas of the Loader universe -/
def exDocRTL (a : NodeId) : Prop := a ∈ [3, 4, 5]

theorem exDocRT_wf : TreeWF exDocRT 0 := by decide

/-- `exDocRT` written, read back into its own heap and resolved there, computed once: the Loader log, where the
    references land, two verdicts -/
theorem exDocRT_back : ∃ j id' st' rs, Go.marshal exDocRT 0 = .ok j ∧ Go.unmarshal j exDocRT = .ok (id', st') ∧
    Go.resolve { exDocRTEnv with st := st' } 2 id' "" = .ok rs ∧ st'.size ≤ 1000000000 ∧
    rs.log = ["http://a/other.json"] ∧
    (rs.infos.map fun (e : NodeId × Go.Info) => (e.1, e.2.resolvedRef)) =
      [(8, none), (7, some 4), (6, some 5), (3, none), (4, none), (5, none)] ∧
    [Spec.valid (Go.RIso.specOf st' rs fun _ _ => false) 4 id' (.str "xy"),
     Spec.valid (Go.RIso.specOf st' rs fun _ _ => false) 4 id' (.num 1)] = [some true, some false] := by
  have h : ((Go.marshal exDocRT 0).bind fun j => (Go.unmarshal j exDocRT).bind fun r =>
      (Go.resolve { exDocRTEnv with st := r.2 } 2 r.1 "").bind fun rs => .ok
        (decide (r.2.size ≤ 1000000000) && rs.log == ["http://a/other.json"] &&
          (rs.infos.map fun (e : NodeId × Go.Info) => (e.1, e.2.resolvedRef)) ==
            [(8, none), (7, some 4), (6, some 5), (3, none), (4, none), (5, none)] &&
          [Spec.valid (Go.RIso.specOf r.2 rs fun _ _ => false) 4 r.1 (.str "xy"),
           Spec.valid (Go.RIso.specOf r.2 rs fun _ _ => false) 4 r.1 (.num 1)] == [some true, some false])) =
      .ok true := by decide +kernel
  obtain ⟨j, hj, h⟩ := Res.bind_eq_ok h
  obtain ⟨⟨id', st'⟩, hu, h⟩ := Res.bind_eq_ok h
  obtain ⟨rs, hr, h⟩ := Res.bind_eq_ok h
  simp only [Res.ok.injEq, Bool.and_eq_true, beq_iff_eq, decide_eq_true_eq, and_assoc] at h
  exact ⟨j, id', st', rs, hj, hu, hr, h⟩

example : ∃ j id' st₂' rs rs', Go.marshal exDocRT 0 = .ok j ∧ Go.unmarshal j exDocRT = .ok (id', st₂') ∧
    Go.resolve exDocRTEnv 2 0 "" = .ok rs ∧ Go.resolve { exDocRTEnv with st := st₂' } 2 id' "" = .ok rs' ∧
    rs.log = rs'.log ∧
      ∀ (reMatch : String → String → Bool) (vfuel : Nat) (inst : Json), Json.WF inst = true →
        Spec.valid (Go.RIso.specOf exDocRT rs reMatch) vfuel 0 inst =
          Spec.valid (Go.RIso.specOf st₂' rs' reMatch) vfuel id' inst := by
  obtain ⟨j, id', st₂', -, hj, hu, -, hs', -⟩ := exDocRT_back
  obtain ⟨rs, h₁⟩ := Res.isOk_iff.1 (by decide +kernel : (Go.resolve exDocRTEnv 2 0 "").isOk = true)
  obtain ⟨h1, h2, h3, h4⟩ := Go.loaderUniverse_of_check exDocRT exDocRTEnv.loader 0 [3, 4, 5] (by decide +kernel)
  obtain ⟨rs', h₂, -, e2, e3⟩ := roundtrip_tree_meaning_resolved_docs exDocRT 0 j exDocRT id' st₂' exDocRT_wf hj hu
    (Go.RPerm.storeKeysNodup_of_check _ (by decide)) (by decide) hs' exDocRTEnv exDocRTL h1 (fun _ _ => rfl) h2 h3 h4
    2 "" rs h₁
  exact ⟨j, id', st₂', rs, rs', hj, hu, h₁, h₂, e2, fun reMatch vfuel inst hinst => (e3 reMatch vfuel inst hinst).2⟩

/-- … the Loader is called once on either side, and the references of the tree read back (root 8; "p" ↦ 6,
    allOf[0] ↦ 7: "properties" is written first) land in the Loader document … -/
example : (match Go.marshal exDocRT 0 with
    | .ok j => match Go.unmarshal j exDocRT with
      | .ok (id', st') => (Go.resolve { exDocRTEnv with st := st' } 2 id' "").bind fun rs =>
          .ok (rs.log, rs.infos.map fun (e : NodeId × Go.Info) => (e.1, e.2.resolvedRef))
      | _ => .err
    | _ => .err) =
    .ok (["http://a/other.json"], [(8, none), (7, some 4), (6, some 5), (3, none), (4, none), (5, none)]) := by
  obtain ⟨j, id', st', rs, hj, hu, hr, -, hl, hi, -⟩ := exDocRT_back
  rw [hj]; dsimp only
  rw [hu]; dsimp only
  rw [hr, Res.bind_ok, hl, hi]

/-- … and the verdicts go through it: a string of length 2 is valid, a number is not -/
example : (match Go.marshal exDocRT 0 with
    | .ok j => match Go.unmarshal j exDocRT with
      | .ok (id', st') => match Go.resolve { exDocRTEnv with st := st' } 2 id' "" with
        | .ok rs =>
          [Spec.valid (Go.RIso.specOf st' rs fun _ _ => false) 4 id' (.str "xy"),
           Spec.valid (Go.RIso.specOf st' rs fun _ _ => false) 4 id' (.num 1)]
        | _ => []
      | _ => []
    | _ => []) = [some true, some false] := by
  obtain ⟨j, id', st', rs, hj, hu, hr, -, -, -, hv⟩ := exDocRT_back
  rw [hj]; dsimp only
  rw [hu]; dsimp only
  rw [hr]; exact hv

/-- an EMPTY non-nil `Vocabulary` map (finding D26).  Beside a `$schema` other than 2020-12 it is refused by checkLocal.
    MarshalJSON writes `"$vocabulary": {}` (`marshal_keeps_empty_vocabulary`), UnmarshalJSON reads it back as the
    non-nil empty map — the round trip gives back `some []` exactly —, and Resolve refuses the tree read back as well.
    Were the member omitted, the tree read back — a well-formed tree — would resolve although the original is refused: a
    counterexample to the converse of `treeEq_resolves_partial` -/
example : TreeWF #[{ vocabulary := some [], type := "string" }] 0 ∧
    Go.marshal #[{ vocabulary := some [], type := "string" }] 0 =
      .ok (.obj [("type", .str "string"), ("$vocabulary", .obj [])]) ∧
    Go.unmarshal (.obj [("type", .str "string"), ("$vocabulary", .obj [])]) #[] =
      .ok (0, #[{ vocabulary := some [], type := "string" }]) ∧
    (Go.resolve { exRTEnv with st := #[{ vocabulary := some [], type := "string" }] } 1 0 "").verdict = some false ∧
    (match Go.marshal #[{ vocabulary := some [], type := "string" }] 0 with
      | .ok j => match Go.unmarshal j #[] with
        | .ok (id', st') => (Go.resolve { exRTEnv with st := st' } 1 id' "").verdict
        | _ => none
      | _ => none) = some false := by
  refine ⟨by decide +kernel, by rfl, by rfl, by decide +kernel, by decide +kernel⟩

/-- `marshal_keeps_empty_vocabulary` applied to that node … -/
example (j : Json) (hj : Go.marshal #[{ vocabulary := some [], type := "string" }] 0 = .ok j) :
    ∃ ms, j = .obj ms ∧ ("$vocabulary", Json.obj []) ∈ ms :=
  (marshal_keeps_empty_vocabulary #[{ vocabulary := some [], type := "string" }] 0 _ j rfl rfl).2 hj

/-- … and to a node that has nothing else: it is not written as `true` -/
example : Go.marshal #[{ vocabulary := some [] }] 0 = .ok (.obj [("$vocabulary", .obj [])]) ∧
    Go.unmarshal (.obj [("$vocabulary", .obj [])]) #[] = .ok (0, #[{ vocabulary := some [] }]) ∧
    Go.marshal #[{ vocabulary := none }] 0 = .ok (.bool true) := ⟨by rfl, by rfl, by rfl⟩

/-- `treeEq_vocabulary` through `roundtrip_tree`: the root read back has `some []` -/
example (st₂ : Store) (j : Json) (hj : Go.marshal #[{ vocabulary := some [], type := "string" }] 0 = .ok j) :
    ∃ id' st₂' n', Go.unmarshal j st₂ = .ok (id', st₂') ∧ st₂'.get? id' = some n' ∧ n'.vocabulary = some [] := by
  obtain ⟨id', st₂', hu, hte, -⟩ := roundtrip_tree _ 0 j st₂ (by decide) hj
  obtain ⟨n, n', ha, hb, -, -, h0⟩ := treeEq_vocabulary hte
  cases ha
  exact ⟨id', st₂', n', hu, hb, h0 rfl⟩

/-! why the results are compared up to the ORDER of the evaluated-property list (`Inv.OutSim`) and not by equality: the
    Spec lists evaluated property names in the order the keywords produce them, and `dependentSchemas` — a Go map, written
    in ascending key order — comes back sorted.  Below b ↦ {properties: {x}}, a ↦ {properties: {y}}: the original lists
    x, y; the tree read back lists y, x.  The same set, the same verdict. -/

def exDep : Store := #[
  { dependentSchemas := some [("b", 1), ("a", 2)] },
  { properties := some [("x", 3)] },
  { properties := some [("y", 3)] },
  {}]
def exDepBack : Store := #[
  {}, { properties := some [("y", 0)] }, {}, { properties := some [("x", 2)] },
  { dependentSchemas := some [("a", 1), ("b", 3)] }]
def exDepInst : Json := .obj [("a", .null), ("b", .null), ("x", .null), ("y", .null)]

/-- what `exDep` is written as, what is read back, and the two evaluated-property lists -/
example :
    Go.marshal exDep 0 = .ok (.obj [("dependentSchemas", .obj [
      ("a", .obj [("properties", .obj [("y", .bool true)])]),
      ("b", .obj [("properties", .obj [("x", .bool true)])])])]) ∧
    Go.unmarshal (.obj [("dependentSchemas", .obj [
      ("a", .obj [("properties", .obj [("y", .bool true)])]),
      ("b", .obj [("properties", .obj [("x", .bool true)])])])]) #[] = .ok (4, exDepBack) ∧
    (Spec.evalFuel (exSpecEnv exDep) 3 [] 0 exDepInst).map (·.map (·.props)) = some (some ["x", "y"]) ∧
    (Spec.evalFuel (exSpecEnv exDepBack) 3 [] 4 exDepInst).map (·.map (·.props)) = some (some ["y", "x"]) :=
  ⟨by rfl, by rfl, by decide +kernel, by decide +kernel⟩

end JSV.C05
