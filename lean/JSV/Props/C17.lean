/-
  C17 — every subschema is addressable by its JSON Pointer (json_pointer.go).
-/
import JSV.Proofs.UriEscape
import JSV.Proofs.PtrWalk
import JSV.Proofs.PtrCover
import JSV.Proofs.PtrPaths
namespace JSV.C17
open JSV Pointer

/-! ## The replacer tables are the ones of the Go source (regenerated facts) -/

theorem escapePairs_table : escapePairs = [(['~'],['~','0']), (['/'],['~','1'])] := escapePairs_eq
theorem unescapePairs_table : unescapePairs = [(['~','0'],['~']), (['~','1'],['/'])] := unescapePairs_eq

/-- the escaper acts character by character: `~` ↦ `~0`, `/` ↦ `~1` -/
theorem escape_chars (s : List Char) :
    replaceAll escapePairs s =
      s.flatMap (fun c => if c = '~' then ['~','0'] else if c = '/' then ['~','1'] else [c]) :=
  replaceAll_escape s

theorem unescape_escape (s : String) : unescapeSegment (escapeSegment s) = s :=
  unescapeSegment_escapeSegment s

theorem escape_no_slash (s : String) : '/' ∉ (escapeSegment s).toList := by
  rw [toList_escapeSegment]
  exact slash_not_mem_escChars _

/-- parseJSONPointer inverts the rendering of any list of reference tokens (including tokens that
    contain `~` and `/`, and the `contains '~'` shortcut of the parser) -/
theorem parse_render (segs : List String) : Pointer.parse (Pointer.render segs) = .ok segs :=
  Pointer.parse_render segs

/-! ## pointers inside URI fragments

A `$ref` carries a JSON Pointer in the fragment of a URI reference: `#` followed by the percent-encoding of the
pointer (net/url's escaping in fragment mode); url.Parse decodes it into the `Fragment` field, which is what
dereferenceJSONPointer receives. -/

/-- net/url: unescaping the escaping of any string gives the string back, in fragment, path and host mode
    (every Lean `String` is valid Unicode: its UTF-8 bytes decode to itself) -/
theorem pct_roundtrip (s : String) (m : Uri.Mode) : Uri.unescape (Uri.escape s m).toList = some s :=
  Uri.unescape_escape s m

theorem pct_roundtrip_fragment (s : String) : Uri.unescape (Uri.escape s .fragment).toList = some s :=
  pct_roundtrip s .fragment

theorem pct_roundtrip_path (s : String) : Uri.unescape (Uri.escape s .path).toList = some s :=
  pct_roundtrip s .path

/-- (*URL).setFragment: a fragment written as the escaping of `s` is read back as `s`, and no raw form is kept
    (the escaping is the default one) -/
theorem setFragment_escape (u : Uri.Url) (s : String) :
    Uri.setFragment u (Uri.escape s .fragment).toList = some { u with fragment := s, rawFragment := "" } :=
  Uri.setFragment_escape u s

/-- the same for (*URL).setPath -/
theorem setPath_escape (u : Uri.Url) (s : String) :
    Uri.setPath u (Uri.escape s .path).toList = some { u with path := s, rawPath := "" } :=
  Uri.setPath_escape u s

/-- url.Parse of a fragment-only reference -/
theorem parse_hash_escape (p : String) :
    Uri.parse ("#" ++ Uri.escape p .fragment) = .ok { fragment := p } :=
  Uri.parse_hash_escape p

/-- the pointer of any list of reference tokens, percent-encoded into a fragment-only reference, is parsed by
    url.Parse into a URL whose `Fragment` is the pointer, which parseJSONPointer splits into the tokens again -/
theorem pointer_fragment_roundtrip (segs : List String) :
    ∃ u, Uri.parse ("#" ++ Uri.escape (Pointer.render segs) .fragment) = .ok u ∧
      u.fragment = Pointer.render segs ∧ Pointer.parse u.fragment = .ok segs :=
  ⟨_, parse_hash_escape _, rfl, parse_render segs⟩

/-- … and (*URL).String writes that reference back -/
theorem pointer_fragment_toString (segs : List String) (h : segs ≠ []) :
    ∃ u, Uri.parse ("#" ++ Uri.escape (Pointer.render segs) .fragment) = .ok u ∧
      Uri.toString u = "#" ++ Uri.escape (Pointer.render segs) .fragment := by
  refine ⟨_, parse_hash_escape _, ?_⟩
  have hne : Pointer.render segs ≠ "" := fun e => h (render_eq_empty segs e)
  have hb : ((Pointer.render segs) != "") = true := by simpa using hne
  unfold Uri.toString Uri.escapedFragment Uri.escapedPath
  simp only [hb, if_true]
  rfl

theorem walk_append (st : Store) (strict : Bool) (cur : Cursor) (a b : List String) :
    walk st strict cur (a ++ b) = (walk st strict cur a).bind fun c => walk st strict c b :=
  Pointer.walk_append st strict cur a b

/-- one step reaches the designated child of a `*Schema` field (no side condition: when the single
    form of `items` is set, `items` means that schema) -/
theorem step_one (st : Store) (strict : Bool) (id : NodeId) (n : Node) (j : String) (c : NodeId)
    (hn : st.get? id = some n) (hf : ChildField.one j (some c) ∈ n.childFields) :
    step st strict (.node id) j = .ok (.node c) :=
  step_node st strict id n j _ hn (lookupField_one n j _ hf (Or.inr rfl))

/-- the canonical decimal numeral of an index in range selects that index (both index rules) -/
theorem arrayIndex_toString (strict : Bool) (i len : Nat) (h : i < len) :
    arrayIndex strict (toString i) len = some i :=
  Pointer.arrayIndex_toString strict i len h

/-- two steps reach element `i` of a `[]*Schema` field.  Side condition for the union field
    `items`: the array form is consulted only when the single form is nil. -/
theorem step_many (st : Store) (strict : Bool) (id : NodeId) (n : Node) (j : String)
    (cs : List NodeId) (i : Nat)
    (hn : st.get? id = some n) (hf : ChildField.many j (some cs) ∈ n.childFields)
    (hitems : j = "items" → n.items = none) (hi : i < cs.length) :
    walk st strict (.node id) [j, toString i] = .ok (.node cs[i]) := by
  rw [walk_cons, step_node st strict id n j _ hn (lookupField_many n j cs hf hitems), Res.bind_ok,
    walk_cons, step_nodes st strict cs i hi, Res.bind_ok, walk_nil]

/-- two steps reach the value under key `k` of a `map[string]*Schema` field (any key string) -/
theorem step_keyed (st : Store) (strict : Bool) (id : NodeId) (n : Node) (j : String)
    (kvs : List (String × NodeId)) (k : String) (c : NodeId)
    (hn : st.get? id = some n) (hf : ChildField.keyed j (some kvs) ∈ n.childFields)
    (hk : Json.lookup k kvs = some c) :
    walk st strict (.node id) [j, k] = .ok (.node c) := by
  rw [walk_cons, step_node st strict id n j _ hn (lookupField_keyed n j kvs hf), Res.bind_ok,
    walk_cons, step_nodeMap st strict kvs k c hk, Res.bind_ok, walk_nil]

/-- Composition: a chain of schema-bearing fields (`Pointer.Path`: constructors `one`, `many`,
    `keyed` with exactly the hypotheses of the three step theorems) from `root` to an existing
    schema `target` is located by the rendered pointer. -/
theorem deref_locates (st : Store) (strict : Bool) (root target : NodeId) (path : List String)
    (hp : Path st root path target) (hex : (st.get? target).isSome = true) :
    dereference st strict true root (render path) = .ok target :=
  dereference_path st strict root target path hp hex

/-- what `dereference` returns (repaired behaviour) is a schema that exists -/
theorem deref_ok_exists (st : Store) (strict : Bool) (root t : NodeId) (ptr : String)
    (h : dereference st strict true root ptr = .ok t) : (st.get? t).isSome = true :=
  dereference_ok_exists st strict root t ptr h

/-- a pointer whose walk ends at a nil `*Schema` is an error (`nilIsError = true`: the repaired
    behaviour) … -/
theorem deref_nil_is_error (st : Store) (strict : Bool) (root id : NodeId) (ptr : String)
    (segs : List String) (hp : Pointer.parse ptr = .ok segs)
    (hw : walk st strict (.node root) segs = .ok (.node id)) (hnil : st.get? id = none) :
    dereference st strict true root ptr = .err := by
  rw [dereference_of_walk st strict true root ptr segs _ hp hw]
  simp [finish, hnil]

/-- … whereas with `nilIsError = false` (the code before the repair) the nil pointer is returned as a success -/
theorem deref_nil_unrepaired (st : Store) (strict : Bool) (root id : NodeId) (ptr : String)
    (segs : List String) (hp : Pointer.parse ptr = .ok segs)
    (hw : walk st strict (.node root) segs = .ok (.node id)) :
    dereference st strict false root ptr = .ok id := by
  rw [dereference_of_walk st strict false root ptr segs _ hp hw]
  simp [finish]

/-- in particular: the pointer `/<keyword>` of an absent single-schema keyword is an error.
    (`1000000000` is the model's nil pointer: it must not be a node of the store.) -/
theorem deref_absent_keyword_is_error (st : Store) (strict : Bool) (id : NodeId) (n : Node) (j : String)
    (hn : st.get? id = some n) (hf : ChildField.one j none ∈ n.childFields)
    (hnil : st.get? 1000000000 = none) :
    dereference st strict true id (render [j]) = .err := by
  by_cases hj : j = "items"
  · subst hj
    have hitems : n.items = none := items_none_of_mem n hf
    rw [dereference_of_walk st strict true id _ ["items"] (.nodes (n.itemsArray.getD []))
      (Pointer.parse_render _)
      (by rw [walk_cons, step_node st strict id n _ _ hn (lookupField_items_nil n hitems)]; rfl)]
    rfl
  · exact deref_nil_is_error st strict id 1000000000 _ [j] (Pointer.parse_render _)
      (by rw [walk_cons, step_node st strict id n _ _ hn (lookupField_one n j _ hf (Or.inl hj))]; rfl) hnil

/-- strict (RFC 6901, repaired) index rule: the only token that selects element `i` is its
    canonical decimal numeral — no sign, no leading zero, not "-" -/
theorem arrayIndex_strict_digits (seg : String) (len i : Nat)
    (h : arrayIndex true seg len = some i) : seg = toString i ∧ i < len :=
  Pointer.arrayIndex_strict_digits seg len i h

/-- a walk that reaches a non-schema field never succeeds, whatever follows -/
theorem deref_dead (st : Store) (strict nie : Bool) (root : NodeId) (ptr : String) (a b : List String)
    (hp : Pointer.parse ptr = .ok (a ++ b)) (hw : walk st strict (.node root) a = .ok .dead) :
    dereference st strict nie root ptr = .err := by
  rw [dereference_eq, hp, Res.bind_ok, Pointer.walk_append, hw, Res.bind_ok]
  rcases walk_dead st strict b with h | h <;> rw [h] <;> rfl

/-- `type` is such a field -/
theorem step_type_dead (st : Store) (strict : Bool) (id : NodeId) (n : Node)
    (hn : st.get? id = some n) : step st strict (.node id) "type" = .ok .dead :=
  step_node st strict id n "type" .dead hn (by simp [lookupField])

/-- checkStructure (resolve.go) records a path string for every schema reachable from the root.
    That string is "root" for the root itself and otherwise a JSON Pointer that
    dereferenceJSONPointer resolves, from the root, to exactly that schema.
    Hypotheses on the visited schemas: basicChecks passed (only its `items` / `itemsArray` clause is
    used) and the association lists standing for Go maps have distinct keys. -/
theorem registered_schemas_addressable (st : Store) (fuel : Nat) (root : NodeId)
    (res : List (NodeId × Go.Info))
    (h : Go.checkStructure st fuel [(root, "")] [] = .ok res)
    (hbasic : ∀ e ∈ res, ∀ n, st.get? e.1 = some n → Go.basicChecksOk n = true)
    (hmaps : ∀ e ∈ res, ∀ n, st.get? e.1 = some n →
      ∀ j kvs, ChildField.keyed j (some kvs) ∈ n.childFields → (kvs.map (·.1)).Nodup) :
    ∀ e ∈ res, (e.1 = root ∧ e.2.path = "root") ∨
      dereference st true true root e.2.path = .ok e.1 :=
  checkStructure_addressable st fuel root res h
    (fun e he n hn => ⟨basicChecksOk_items n (hbasic e he n hn), hmaps e he n hn⟩)

/-- the path strings of checkStructure are renderings of reference-token lists: one level -/
theorem childEntries_are_pointers (st : Store) (a : NodeId) (n : Node) (p : List String)
    (hn : st.get? a = some n) (hitems : n.items = none ∨ n.itemsArray = none)
    (hmaps : ∀ j kvs, ChildField.keyed j (some kvs) ∈ n.childFields → (kvs.map (·.1)).Nodup)
    (c : NodeId) (q : String) (h : (c, q) ∈ Go.childEntries n (render p)) :
    ∃ p', Path st a p' c ∧ q = render (p ++ p') :=
  childEntries_spec st a n p hn ⟨hitems, hmaps⟩ c q h

/-- the schema-bearing fields of the Go struct and of the model are the same, up to order (one evaluation of the
    regenerated table) -/
theorem childShapes_perm : generatedChildShapes.Perm modelChildShapes := by decide +kernel

/-- every field of the Go struct whose type mentions `Schema` has one of the three shapes
    `*Schema`, `[]*Schema`, `map[string]*Schema`, and is a schema-bearing field of the model under its
    JSON name (`items` / `dependencies` for the `json:"-"` union fields), with the same shape.
    A new `map[string][]*Schema` field in schema.go would break this theorem. -/
theorem childFields_cover_generated :
    ∀ f ∈ Generated.schemaFields, mentionsSchema f.2.1 = true →
      (shapeOfGoType f.2.1).isSome = true ∧
      (shapeOfGoType f.2.1, pointerName f) ∈ modelChildShapes := by
  intro f hf hm
  have hmem : (shapeOfGoType f.2.1, pointerName f) ∈ modelChildShapes :=
    childShapes_perm.mem_iff.mp (List.mem_map.mpr ⟨f, List.mem_filter.mpr ⟨hf, hm⟩, rfl⟩)
  obtain ⟨c, _, hc⟩ := List.mem_map.mp hmem
  exact ⟨by rw [← (Prod.mk.inj hc).1]; rfl, hmem⟩

/-- conversely the model has no schema-bearing field that the Go struct lacks -/
theorem childFields_only_generated : ∀ e ∈ modelChildShapes, e ∈ generatedChildShapes :=
  fun _ he => childShapes_perm.mem_iff.mpr he

/-! ## The hypotheses are satisfiable on non-trivial data

Store for
`{"properties": {"a/b": {"items": [{}, {"not": {}}]}, "m~n": {}}, "type": "object"}`. -/

def exStore : Store := #[
  { properties := some [("a/b", 1), ("m~n", 2)], type := "object" },   -- 0
  { itemsArray := some [3, 4] },                                         -- 1
  {},                                                                    -- 2
  {},                                                                    -- 3
  { not := some 5 },                                                     -- 4
  {} ]                                                                   -- 5

example : Path exStore 0 ["properties", "a/b", "items", toString 1, "not"] 5 :=
  .keyed (n := exStore[0]) (kvs := [("a/b", 1), ("m~n", 2)]) (c := 1) rfl (by simp [Node.childFields, exStore]) rfl
    (.many (n := exStore[1]) (cs := [3, 4]) (i := 1) rfl (by simp [Node.childFields, exStore]) (fun _ => rfl) (by decide +kernel)
      (.one (n := exStore[4]) (c := 5) rfl (by simp [Node.childFields, exStore]) (.nil 5)))

example : render ["properties", "a/b", "items", "1", "not"] = "/properties/a~1b/items/1/not" := by decide +kernel
example : render ["properties", "m~n"] = "/properties/m~0n" := by decide +kernel
example : dereference exStore true true 0 "/properties/a~1b/items/1/not" = .ok 5 := by decide +kernel
example : dereference exStore true true 0 "/properties/m~0n" = .ok 2 := by decide +kernel
/-- absent keyword: error after the repair, nil "success" before -/
example : dereference exStore true true 0 "/properties/m~0n/not" = .err := by decide +kernel
example : dereference exStore true false 0 "/properties/m~0n/not" = .ok 1000000000 := by decide +kernel
/-- non-schema fields -/
example : dereference exStore true true 0 "/type" = .err := by decide
example : dereference exStore true true 0 "/type/0" = .err := by decide
/-- checkStructure on the example: five paths, each dereferences to its schema -/
example : (Go.checkStructure exStore 8 [(0, "")] []).bind (fun res => .ok (res.map fun e => (e.1, e.2.path))) =
    .ok [(0, "root"), (1, "/properties/a~1b"), (3, "/properties/a~1b/items/0"),
         (4, "/properties/a~1b/items/1"), (5, "/properties/a~1b/items/1/not"), (2, "/properties/m~0n")] := by
  decide +kernel
/-- the `items` side condition is needed: with both forms set (basicChecks rejects this schema) the path
    recorded for the array element does not lead to it -/
example :
    let st : Store := #[{ items := some 1, itemsArray := some [2] }, {}, {}]
    (Go.checkStructure st 5 [(0, "")] []).bind (fun res => .ok (res.map fun e => (e.1, e.2.path))) =
        .ok [(0, "root"), (1, "/items"), (2, "/items/0")] ∧
      dereference st true true 0 "/items/0" = .err ∧ Go.basicChecksOk st[0] = false := by
  decide +kernel
/-- pointers in fragments: `~`, `/` inside a token, characters net/url escapes, non-ASCII -/
example : Uri.escape (render ["$defs", "a b", "ü/%"]) .fragment = "/$defs/a%20b/%C3%BC~1%25" := by decide +kernel
example : (Uri.parse "#/$defs/a%20b/%C3%BC~1%25").bind (fun u => Pointer.parse u.fragment) = .ok ["$defs", "a b", "ü/%"] := by
  decide +kernel
/-- index rules: the unrepaired rule accepted a sign -/
example : arrayIndex true "+1" 2 = none := by decide
example : arrayIndex false "+1" 2 = some 1 := by decide
example : arrayIndex true "01" 2 = none := by decide
example : arrayIndex true "-" 2 = none := by decide
example : arrayIndex true "1" 2 = some 1 := by decide

end JSV.C17
