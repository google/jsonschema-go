/-
  C07 — annotations: what the evaluator's compressed annotation record stands for, that a failed
  subschema and `not` contribute nothing, and that `unevaluatedProperties` / `unevaluatedItems` are applied
  to exactly the complement of the evaluated set.  Property theorems only (proofs: JSV/Proofs/Refine*.lean; for the
  section "algebraic laws" — `child_locations_invisible`, `cousins_invisible` — JSV/Proofs/SpecLawsLoc.lean).
-/
import JSV.Props.C01
import JSV.Proofs.SpecLawsLoc
namespace JSV.C07
open JSV Go GoVal Refine

theorem validateFuel_zero (env : VEnv) (stack : List NodeId) (i : GoVal) (s : NodeId) :
    validateFuel env 0 stack i s = .fuel := rfl

/-! ## representation lemmas of the compressed record -/

theorem γ_merge_prop (a b : Anns) (k : String) : γprop (a.merge b) k = (γprop a k || γprop b k) :=
  γprop_merge a b k

theorem γ_merge_item (a b : Anns) (i : Nat) : γitem (a.merge b) i = (γitem a i || γitem b i) :=
  γitem_merge a b i

theorem γ_noteEndIndex (a : Anns) (e i : Nat) : γitem (a.noteEndIndex e) i = (γitem a i || decide (i < e)) :=
  γitem_noteEndIndex a e i

theorem γ_noteEndIndex_prop (a : Anns) (e : Nat) (k : String) : γprop (a.noteEndIndex e) k = γprop a k :=
  γprop_noteEndIndex a e k

theorem γ_noteIndex (a : Anns) (i' i : Nat) : γitem (a.noteIndex i') i = (γitem a i || decide (i = i')) :=
  γitem_noteIndex a i' i

theorem γ_noteIndex_prop (a : Anns) (i' : Nat) (k : String) : γprop (a.noteIndex i') k = γprop a k := rfl

theorem γ_noteProperties (a : Anns) (ps : List String) (k : String) :
    γprop (a.noteProperties ps) k = (γprop a k || ps.contains k) :=
  γprop_noteProperties a ps k

theorem γ_noteProperties_item (a : Anns) (ps : List String) (i : Nat) :
    γitem (a.noteProperties ps) i = γitem a i := rfl

theorem γ_empty (k : String) (i : Nat) : γprop {} k = false ∧ γitem {} i = false :=
  ⟨γprop_empty k, γitem_empty i⟩

/-- whenever the Spec says valid with evaluated sets `ev`, the evaluator returns annotations standing for
    exactly `ev` on the properties / items of the instance -/
theorem annotations_exact (env : VEnv) (hwf : EnvWF env) (hst : StoreWF env.st) (fuel : Nat) (s : NodeId) (j : Json)
    (hj : Json.WF j = true) (ev : Spec.Ev)
    (h : Spec.evalFuel (specEnvOf env) fuel [] s j = some (some ev)) :
    ∃ a, Go.validateFuel env fuel [] (GoVal.ofJson j) s = .ok a ∧
      (∀ k, k ∈ keysOf j → γprop a k = ev.props.contains k) ∧
      (∀ i, i < lenOf j → γitem a i = ev.items.contains i) :=
  Laws.go_anns env hwf hst fuel [] (fun _ h => nomatch h) s j hj ev h

/-- and an invalid schema yields an error: no annotations at all -/
theorem invalid_no_annotations (env : VEnv) (hwf : EnvWF env) (hst : StoreWF env.st) (fuel : Nat) (s : NodeId)
    (j : Json) (hj : Json.WF j = true) (h : Spec.evalFuel (specEnvOf env) fuel [] s j = some none) :
    Go.validateFuel env fuel [] (GoVal.ofJson j) s = .err :=
  Laws.go_err env hwf hst fuel [] (fun _ h => nomatch h) s j hj h

/-- Spec: `not` evaluates nothing -/
theorem not_contributes_nothing (sub : NodeId → Json → Spec.Out) (n : Node) (j : Json) (ev : Spec.Ev)
    (h : Spec.kwNot sub n j = some (some ev)) : ev.props = [] ∧ ev.items = [] := by
  unfold Spec.kwNot at h
  cases hn : n.not with
  | none => rw [hn] at h; simp only [Option.some.injEq] at h; subst h; exact ⟨rfl, rfl⟩
  | some t =>
    rw [hn] at h
    simp only [Option.map_eq_some_iff] at h
    obtain ⟨r, _, hr⟩ := h
    split at hr
    · cases hr
    · simp only [Option.some.injEq] at hr; subst hr; exact ⟨rfl, rfl⟩

/-- model: the `not` block never changes the annotations -/
theorem not_block_keeps_annotations (rec : Go.Rec) (stack : List NodeId) (n : Node) (inst : GoVal) (anns a : Anns)
    (h : bNot rec stack n inst anns = .ok a) : a = anns := by
  unfold bNot at h
  cases hn : n.not with
  | none => rw [hn] at h; exact (Res.ok.inj h).symm
  | some s =>
    rw [hn] at h
    simp only [tryValid] at h
    cases hr : rec stack inst s with
    | fuel => rw [hr] at h; simp at h
    | panic => rw [hr] at h; simp at h
    | err => rw [hr] at h; simp only [Res.bind_ok, Bool.false_eq_true, if_false] at h; exact (Res.ok.inj h).symm
    | ok a' => rw [hr] at h; simp at h

/-- Spec: an invalid branch adds nothing to the union over the valid branches (anyOf / oneOf) -/
theorem failed_subschema_contributes_nothing (rs1 rs2 : List Spec.R) :
    Spec.validUnion (rs1 ++ none :: rs2) = Spec.validUnion (rs1 ++ rs2) := by
  simp [Spec.validUnion]

/-- Spec: in a conjunction (allOf, the keywords of one schema object) an invalid member makes the whole
    invalid, so nothing is collected at all -/
theorem failed_conjunct_no_result (rs1 rs2 : List Spec.R) : Spec.conj (rs1 ++ none :: rs2) = none := by
  simp [Spec.conj]

/-- model: `valid(s, anns)` on a failing subschema leaves the annotations untouched -/
theorem failed_tryValid_keeps_annotations (rec : Go.Rec) (stack : List NodeId) (inst : GoVal) (s : NodeId)
    (anns : Anns) (c : Bool) (h : rec stack inst s = .err) :
    tryValid rec stack inst s anns c = .ok (false, anns) := by
  unfold tryValid; rw [h]

/-- model: an anyOf branch that fails is skipped without touching the annotations -/
theorem anyOf_failed_branch (rec : Go.Rec) (stack : List NodeId) (inst : GoVal) (s : NodeId) (ss : List NodeId)
    (anns : Anns) (nerr : Nat) (h : rec stack inst s = .err) :
    anyOfLoop rec stack inst (s :: ss) anns nerr = anyOfLoop rec stack inst ss anns (nerr + 1) := by
  simp [anyOfLoop, tryValid, h]

/-- through the refinement: a branch the Spec calls invalid is such a failing branch of the model -/
theorem spec_invalid_branch_keeps_annotations (env : VEnv) (hwf : EnvWF env) (hst : StoreWF env.st) (fuel : Nat)
    (stack : List NodeId) (hstack : ∀ x, x ∈ stack → (env.info? x).isSome = true) (s : NodeId) (j : Json)
    (hj : Json.WF j = true) (h : Spec.evalFuel (specEnvOf env) fuel stack s j = some none) (anns : Anns) (c : Bool) :
    tryValid (validateFuel env fuel) stack (GoVal.ofJson j) s anns c = .ok (false, anns) :=
  failed_tryValid_keeps_annotations _ _ _ _ _ _ (Laws.go_err env hwf hst fuel stack hstack s j hj h)

/-! ## unevaluatedProperties / unevaluatedItems see exactly the complement

The statements below are about the keyword functions and the evaluator's loops, for an arbitrary schema object.  One step of
the Spec applies the keyword functions to `Spec.vocab env.draft n`: under 2020-12 that is `n` itself (`C02.draft2020_vocab`),
under draft-07 the two keywords are unknown and absent (`C02.draft7_unevaluated`, finding D27) — so, read as statements about
validation, they are statements about 2020-12. -/

/-- Spec: the subschema is applied to the values of exactly the keys outside `ev.props` -/
theorem unevaluatedProps_spec (sub : NodeId → Json → Spec.Out) (n : Node) (kvs : List (String × Json)) (ev : Spec.Ev)
    (t : NodeId) (ht : n.unevaluatedProperties = some t) :
    Spec.kwUnevaluatedProps sub n (.obj kvs) ev =
      (Spec.sequence ((kvs.filter fun p => !ev.props.contains p.1).map fun p => sub t p.2)).map fun rs =>
        if Spec.allHold rs then some { props := kvs.map (·.1) } else none := by
  unfold Spec.kwUnevaluatedProps
  simp only [ht]

/-- model, given annotations that stand for `ev`: the loop calls the subschema on exactly those values, in order -/
theorem unevaluatedProps_exact (rec : Go.Rec) (stack : List NodeId) (u : NodeId) (anns : Anns)
    (kvs : List (String × Json)) (ev : Spec.Ev) (hm : AnnsMatch (.obj kvs) anns ev)
    (hall : anns.allProperties = false) :
    unevalPropsLoop rec stack u anns (GoVal.ofJsonObj kvs) =
      callLoop rec stack ((kvs.filter fun p => !ev.props.contains p.1).map fun p => (u, wrap p.2)) := by
  rw [unevalPropsLoop_eq, List.map_map, filter_unevalProps hm.1 hall]
  rfl

/-- when `allProperties` is already set nothing is left: every property of the instance is evaluated -/
theorem unevaluatedProps_none_left (anns : Anns) (kvs : List (String × Json)) (ev : Spec.Ev)
    (hm : AnnsMatch (.obj kvs) anns ev) (hall : anns.allProperties = true) :
    (kvs.filter fun p => !ev.props.contains p.1) = [] :=
  filter_unevalProps_nil hm.1 hall

/-- the same for unevaluatedItems -/
theorem unevaluatedItems_exact (rec : Go.Rec) (stack : List NodeId) (u : NodeId) (anns : Anns)
    (xs : List Json) (ev : Spec.Ev) (hm : AnnsMatch (.arr xs) anns ev) (hall : anns.allItems = false) :
    unevalItemsLoop rec stack u anns (GoVal.ofJsonList xs) 0 =
      callLoop rec stack (((xs.zip (List.range' 0 xs.length)).filter fun p => !ev.items.contains p.2).map
        fun p => (u, wrap p.1)) := by
  rw [ofJsonList_eq_wrap, unevalItemsLoop_eq, List.map_map, filter_unevalItems hm.2 hall]
  rfl

/-- a valid `unevaluatedProperties` marks every property of the instance as evaluated -/
theorem unevaluatedProps_marks_all (sub : NodeId → Json → Spec.Out) (n : Node) (kvs : List (String × Json))
    (ev e : Spec.Ev) (t : NodeId) (ht : n.unevaluatedProperties = some t)
    (h : Spec.kwUnevaluatedProps sub n (.obj kvs) ev = some (some e)) :
    ∀ k, k ∈ kvs.map (·.1) → e.props.contains k = true := by
  rw [unevaluatedProps_spec sub n kvs ev t ht] at h
  simp only [Option.map_eq_some_iff] at h
  obtain ⟨rs, _, hr⟩ := h
  split at hr
  · simp only [Option.some.injEq] at hr
    subst hr
    intro k hk
    simpa using hk
  · cases hr

/-! ## The hypotheses are satisfiable (environment of C01: allOf + properties + unevaluatedProperties:false) -/

open C01 in
/-- the Spec's answer on the valid instance: `a` is evaluated (by the allOf branch, and by unevaluatedProperties) -/
example : Spec.evalFuel (specEnvOf exEnv) 3 [] 0 exGood = some (some { props := ["a", "a"], items := [] }) := by rfl

open C01 in
example : ∃ a, Go.validateFuel exEnv 3 [] (GoVal.ofJson exGood) 0 = .ok a ∧
    (∀ k, k ∈ keysOf exGood → γprop a k = ["a", "a"].contains k) ∧
    (∀ i, i < lenOf exGood → γitem a i = ([] : List Nat).contains i) :=
  annotations_exact exEnv exEnv_wf exEnv_store 3 0 exGood (by decide +kernel) _ (by rfl)

open C01 in
example : Go.validateFuel exEnv 3 [] (GoVal.ofJson exBad) 0 = .err :=
  invalid_no_annotations exEnv exEnv_wf exEnv_store 3 0 exBad (by decide +kernel) (by rfl)

open C01 in
/-- the `false` subschema (`{"not":{}}`) on the value of `b`: `not` fails, the Spec says invalid, and
    `spec_invalid_branch_keeps_annotations` applies (stack = the root, which has a record) -/
example (anns : Anns) :
    tryValid (validateFuel exEnv 2) [0] (GoVal.ofJson .null) 3 anns true = .ok (false, anns) :=
  spec_invalid_branch_keeps_annotations exEnv exEnv_wf exEnv_store 2 [0] (by decide) 3 .null (by decide)
    (by rfl) anns true

open C01 in
/-- `not_contributes_nothing`: node 3 is `{"not":{}}`; on any instance the inner `{}` is valid so `not` fails;
    node 4 (`{}`) has no `not`, the keyword evaluates to the empty set -/
example : Spec.kwNot (Spec.evalFuel (specEnvOf exEnv) 1 [4]) {} .null = some (some {}) := by rfl
example : ({} : Spec.Ev).props = [] ∧ ({} : Spec.Ev).items = [] :=
  not_contributes_nothing (fun _ _ => none) {} .null {} (by rfl)

/-- `not_block_keeps_annotations`: a `not` whose subschema fails -/
example : bNot (fun _ _ _ => .err) [] { not := some 7 } .invalid { allItems := true } = .ok { allItems := true } := by
  rfl
example : ({ allItems := true } : Anns) = { allItems := true } :=
  not_block_keeps_annotations (fun _ _ _ => .err) [] { not := some 7 } .invalid { allItems := true } _ (by rfl)

/-- `failed_subschema_contributes_nothing` on three branches, the middle one invalid -/
example : Spec.validUnion [some { props := ["a"] }, none, some { props := ["b"] }]
    = Spec.validUnion [some { props := ["a"] }, some { props := ["b"] }] :=
  failed_subschema_contributes_nothing [some { props := ["a"] }] [some { props := ["b"] }]

/-- `unevaluatedProps_exact`: with `a` evaluated, the subschema is applied to the value of `b` only -/
example (rec : Go.Rec) :
    unevalPropsLoop rec [0] 3 { evaluatedProperties := ["a"] } (GoVal.ofJsonObj [("a", .str "x"), ("b", .null)])
      = callLoop rec [0] [(3, wrap .null)] :=
  unevaluatedProps_exact rec [0] 3 { evaluatedProperties := ["a"] } [("a", .str "x"), ("b", .null)]
    { props := ["a"] } (by constructor <;> intros <;> simp [γprop, γitem]) rfl

/-- `unevaluatedItems_exact`: prefix of length 1 evaluated, index 2 noted by `contains` -/
example (rec : Go.Rec) :
    unevalItemsLoop rec [0] 3 { endIndex := 1, evaluatedIndexes := [2] }
        (GoVal.ofJsonList [.null, .bool true, .str "x"]) 0
      = callLoop rec [0] [(3, wrap (.bool true))] :=
  unevaluatedItems_exact rec [0] 3 { endIndex := 1, evaluatedIndexes := [2] } [.null, .bool true, .str "x"]
    { items := [0, 2] }
    (by
      constructor
      · intros; simp [γprop]
      · intro i hi
        have : i < 3 := hi
        match i, this with
        | 0, _ => decide +kernel
        | 1, _ => decide +kernel
        | 2, _ => decide +kernel) rfl

example : γitem (({ endIndex := 2 } : Anns).merge { evaluatedIndexes := [5] }) 5 = true := by decide
example : γitem (({} : Anns).noteEndIndex 3) 2 = true ∧ γitem (({} : Anns).noteEndIndex 3) 3 = false := by decide
example : γprop (({} : Anns).noteProperties ["a"]) "a" = true ∧ γprop (({} : Anns).noteProperties ["a"]) "b" = false := by
  decide

/-! ## algebraic laws

The annotation halves of the laws of `C01` (double negation, `if` alone), and the two locality statements: evaluations at
child instance locations, and in subschemas applied there by a sibling branch ("cousins"), are invisible at this location. -/

section laws
variable (env : Spec.Env) (fuel : Nat) (scope : List NodeId) (s : NodeId) (n : Node) (j : Json)

/-- Spec: `not (not t)`, where valid, evaluates NOTHING — whatever `t` evaluated -/
theorem not_not_evaluates_nothing (m : NodeId) (nm : Node) (t : NodeId) (hn : env.st.get? s = some n)
    (hk : Laws.keywords n = { not := some m }) (hm : env.st.get? m = some nm) (hkm : Laws.keywords nm = { not := some t })
    (ev : Spec.Ev) (h : Spec.evalFuel env (fuel + 2) scope s j = some (some ev)) : ev.props = [] ∧ ev.items = [] := by
  rw [C01.not_not env fuel scope s n j m nm t hn hk hm hkm] at h
  obtain ⟨r, _, hr⟩ := Option.map_eq_some_iff.1 h
  obtain ⟨_, _, rfl⟩ := Option.map_eq_some_iff.1 hr
  exact ⟨rfl, rfl⟩

/-- Spec: `if` alone with a condition that holds evaluates what the condition evaluated -/
theorem if_alone_annotations (c : NodeId) (evc : Spec.Ev) (hn : env.st.get? s = some n)
    (hk : Laws.keywords n = { if_ := some c }) (hc : Spec.evalFuel env fuel (scope ++ [s]) c j = some (some evc)) :
    Spec.evalFuel env (fuel + 1) scope s j = some (some evc) := by
  rw [C01.if_alone env fuel scope s n j c hn hk, hc]; rfl

/-- Spec: `if` alone with a condition that fails is valid and evaluates nothing -/
theorem if_alone_failed_condition (c : NodeId) (hn : env.st.get? s = some n) (hk : Laws.keywords n = { if_ := some c })
    (hc : Spec.evalFuel env fuel (scope ++ [s]) c j = some none) :
    Spec.evalFuel env (fuel + 1) scope s j = some (some {}) := by
  rw [C01.if_alone env fuel scope s n j c hn hk, hc]; rfl

/-- **`child_locations_invisible`.**  The keywords that apply subschemas at child instance locations use of these
    applications the verdict only: erasing what they evaluated (`Laws.forget`) changes nothing — neither the verdict of
    the keyword nor what it reports as evaluated at this location -/
theorem child_locations_invisible (sub : NodeId → Json → Spec.Out) (ev : Spec.Ev) :
    Spec.kwProps env (fun t v => Laws.forget (sub t v)) n j = Spec.kwProps env sub n j ∧
    Spec.kwPropertyNames (fun t v => Laws.forget (sub t v)) n j = Spec.kwPropertyNames sub n j ∧
    Spec.kwItems env (fun t v => Laws.forget (sub t v)) n j = Spec.kwItems env sub n j ∧
    Spec.kwContains (fun t v => Laws.forget (sub t v)) n j = Spec.kwContains sub n j ∧
    Spec.kwUnevaluatedItems (fun t v => Laws.forget (sub t v)) n j ev = Spec.kwUnevaluatedItems sub n j ev ∧
    Spec.kwUnevaluatedProps (fun t v => Laws.forget (sub t v)) n j ev = Spec.kwUnevaluatedProps sub n j ev :=
  ⟨Laws.forget_calls (kwProps_calls env n j) sub, Laws.forget_calls (kwPropertyNames_calls n j) sub,
    Laws.forget_calls (kwItems_calls env n j) sub, Laws.forget_calls (kwContains_calls n j) sub,
    Laws.forget_calls (kwUnevaluatedItems_calls n j ev) sub, Laws.forget_calls (kwUnevaluatedProps_calls n j ev) sub⟩

/-- … concretely: a schema object whose only keyword is `properties`, valid on an object, evaluates exactly the members it
    names and no item, whatever its subschemas evaluated inside the member values -/
theorem properties_evaluates_names_only (ps : List (String × NodeId)) (kvs : List (String × Json)) (ev : Spec.Ev)
    (hn : env.st.get? s = some n) (hk : Laws.keywords n = { properties := some ps })
    (h : Spec.evalFuel env (fuel + 1) scope s (.obj kvs) = some (some ev)) :
    ev = { props := (kvs.filter fun p => (Json.lookup p.1 ps).isSome).map (·.1), items := [] } := by
  rw [Laws.evalFuel_succ_of env fuel scope s _ n _ hn hk] at h
  have h' := Laws.specBody_props env (Spec.evalFuel env fuel) scope s (.obj kvs) (some ps) none none
  rw [h'] at h
  exact Laws.kwProps_properties_only env _ ps kvs ev h

/-- one step of the Spec at the instance `j` under two families of recursive calls that agree at `j` itself and, at every
    other instance, on definedness and verdict: the same outcome, evaluated sets included -/
theorem step_sees_verdicts_elsewhere (rec rec' : Spec.Rec) (h : Laws.AgreeAt j rec rec') :
    Spec.evalStep env rec' scope s j = Spec.evalStep env rec scope s j :=
  Laws.evalStep_agree env rec rec' scope s j h

/-- **`cousins_invisible`.**  Every application of the Spec at `(s, j)` is one step over the recursive calls with the
    evaluated sets ERASED at every instance other than `j` (`Laws.eraseOff`).  The law holds for every schema object and
    every fuel, hence at every level of the in-place nesting (`allOf` / `anyOf` / `oneOf` / `if` / `$ref` …, applied to `j`
    itself and therefore not erased): whatever a subschema, a sibling branch or a subschema of a sibling branch evaluated
    at a child location is not visible to the `unevaluated*` of this schema object, nor in what it reports itself. -/
theorem cousins_invisible :
    Spec.evalFuel env (fuel + 1) scope s j = Spec.evalStep env (Laws.eraseOff j (Spec.evalFuel env fuel)) scope s j :=
  (Laws.evalStep_agree env (Spec.evalFuel env fuel) _ scope s j (Laws.eraseOff_agree j _)).symm

end laws

section laws_go
variable (env : VEnv) (hwf : EnvWF env) (hst : StoreWF env.st) (fuel : Nat) (stack : List NodeId)
  (hstack : ∀ x, x ∈ stack → (env.info? x).isSome = true) (s : NodeId) (n : Node) (j : Json) (hj : Json.WF j = true)
include hwf hst hstack hj

/-- evaluator: `not (not t)` returns annotations that mark nothing as evaluated -/
theorem not_not_drops_annotations (m : NodeId) (nm : Node) (t : NodeId) (hn : env.st.get? s = some n)
    (hk : Laws.keywords n = { not := some m }) (hm : env.st.get? m = some nm) (hkm : Laws.keywords nm = { not := some t })
    (hdef : (Spec.evalFuel (specEnvOf env) fuel (stack ++ [s] ++ [m]) t j).isSome = true) (a : Anns)
    (ha : Go.validateFuel env (fuel + 2) stack (GoVal.ofJson j) s = .ok a) :
    (∀ k, k ∈ keysOf j → γprop a k = false) ∧ (∀ i, i < lenOf j → γitem a i = false) := by
  have hl := C01.not_not (specEnvOf env) fuel stack s n j m nm t hn hk hm hkm
  obtain ⟨ev, hr, hm'⟩ := Laws.go_ok_inv env hwf hst _ stack hstack s j hj (by rw [hl, Option.isSome_map]; exact hdef) ha
  obtain ⟨hp, hi⟩ := not_not_evaluates_nothing (specEnvOf env) fuel stack s n j m nm t hn hk hm hkm ev hr
  exact ⟨fun k hk' => by rw [hm'.1 k hk', hp]; rfl, fun i hi' => by rw [hm'.2 i hi', hi]; rfl⟩

/-- evaluator: `if` alone whose condition holds returns annotations for the sets the condition's annotations stand for -/
theorem if_alone_annotations_go (c : NodeId) (evc : Spec.Ev) (hn : env.st.get? s = some n)
    (hk : Laws.keywords n = { if_ := some c })
    (hc : Spec.evalFuel (specEnvOf env) fuel (stack ++ [s]) c j = some (some evc)) :
    ∃ a ac, Go.validateFuel env (fuel + 1) stack (GoVal.ofJson j) s = .ok a ∧
      Go.validateFuel env fuel (stack ++ [s]) (GoVal.ofJson j) c = .ok ac ∧
      (∀ k, k ∈ keysOf j → γprop a k = γprop ac k) ∧ (∀ i, i < lenOf j → γitem a i = γitem ac i) := by
  have hs' := StackOK.snoc hwf hstack hn
  obtain ⟨a, ha, hm⟩ := Laws.go_anns env hwf hst _ _ hstack s j hj evc
    (if_alone_annotations (specEnvOf env) fuel stack s n j c evc hn hk hc)
  obtain ⟨ac, hac, hmc⟩ := Laws.go_anns env hwf hst _ _ hs' c j hj evc hc
  exact ⟨a, ac, ha, hac, fun k hk' => by rw [hm.1 k hk', hmc.1 k hk'], fun i hi => by rw [hm.2 i hi, hmc.2 i hi]⟩

/-- evaluator (`child_locations_invisible` through `annotations_exact`): a schema object whose only keyword is
    `properties` returns, on an object it accepts, annotations that mark as evaluated exactly the members named in
    `properties` — whatever the subschemas noted while validating the member values -/
theorem child_locations_invisible_go (ps : List (String × NodeId)) (kvs : List (String × Json))
    (hjo : j = .obj kvs) (hn : env.st.get? s = some n) (hk : Laws.keywords n = { properties := some ps })
    (hdef : (Spec.evalFuel (specEnvOf env) (fuel + 1) stack s j).isSome = true) (a : Anns)
    (ha : Go.validateFuel env (fuel + 1) stack (GoVal.ofJson j) s = .ok a) :
    ∀ k, k ∈ keysOf j → γprop a k = (Json.lookup k ps).isSome := by
  subst hjo
  obtain ⟨ev, hr, hm⟩ := Laws.go_ok_inv env hwf hst _ stack hstack s _ hj hdef ha
  have he := properties_evaluates_names_only (specEnvOf env) fuel stack s n ps kvs ev hn hk hr
  intro k hk'
  rw [hm.1 k hk', he]
  rw [Bool.eq_iff_iff]
  simp only [List.contains_iff_mem, List.mem_map, List.mem_filter]
  constructor
  · rintro ⟨p, ⟨_, hp⟩, rfl⟩; exact hp
  · intro hl
    obtain ⟨p, hp, rfl⟩ := List.mem_map.1 hk'
    exact ⟨p, ⟨hp, hl⟩, rfl⟩

/-- evaluator (`cousins_invisible` through `annotations_exact`): the annotations returned for `(s, j)` stand for the sets
    that one step of the Spec computes from recursive calls ERASED at every instance other than `j` -/
theorem cousins_invisible_go (ev : Spec.Ev)
    (h : Spec.evalStep (specEnvOf env) (Laws.eraseOff j (Spec.evalFuel (specEnvOf env) fuel)) stack s j = some (some ev)) :
    ∃ a, Go.validateFuel env (fuel + 1) stack (GoVal.ofJson j) s = .ok a ∧
      (∀ k, k ∈ keysOf j → γprop a k = ev.props.contains k) ∧ (∀ i, i < lenOf j → γitem a i = ev.items.contains i) := by
  rw [← cousins_invisible] at h
  exact Laws.go_anns env hwf hst _ _ hstack s j hj ev h

end laws_go

/-! ### the laws instantiated

`{"allOf": [{"properties": {"a": {"properties": {"b": {}}}}}], "unevaluatedProperties": false}`: the branch of the `allOf`
evaluates `a` at this location; the subschema it applies to the value of `a` evaluates `b` THERE.  On
`{"a": {"b": 1}, "b": 2}` the member `b` of the root is therefore unevaluated, and rejected. -/

def cousinStore : Store := #[
  { allOf := some [1], unevaluatedProperties := some 4 },
  { properties := some [("a", 2)] },
  { properties := some [("b", 3)] },
  {},
  { not := some 3 } ]

def cousinEnv : VEnv :=
  { st := cousinStore, draft := .d2020, infos := (List.range cousinStore.size).map fun i => (i, { base := some 0 }),
    reMatch := fun _ _ => false, hash := fun _ => 0 }

theorem cousinEnv_wf : EnvWF cousinEnv := EnvWF_of_checks cousinEnv (by decide) (by decide) (fun _ _ _ => rfl)
theorem cousinEnv_store : StoreWF cousinEnv.st := StoreWF_of_check _ (by decide)

def cousinBad : Json := .obj [("a", .obj [("b", .num 1)]), ("b", .num 2)]
def cousinGood : Json := .obj [("a", .obj [("b", .num 1)])]

/-- the branch (node 1) evaluates `a` only, although the subschema under `a` evaluated `b` -/
example : Spec.evalFuel (specEnvOf cousinEnv) 3 [0] 1 cousinBad = some (some { props := ["a"] }) := by rfl
example : Spec.evalFuel (specEnvOf cousinEnv) 2 [0, 1] 2 (.obj [("b", .num 1)]) = some (some { props := ["b"] }) := by rfl
example : Spec.evalFuel (specEnvOf cousinEnv) 3 [0] 1 cousinBad
    = some (some { props := (([("a", Json.obj [("b", .num 1)]), ("b", .num 2)] : List (String × Json)).filter
        fun p => (Json.lookup p.1 [("a", 2)]).isSome).map (·.1), items := [] }) :=
  congrArg (fun e => some (some e))
    (properties_evaluates_names_only (specEnvOf cousinEnv) 2 [0] 1 _ [("a", 2)] _ _ rfl rfl (by rfl))
/-- hence the root rejects `{"a": {"b": 1}, "b": 2}` and accepts `{"a": {"b": 1}}` -/
example : (Spec.evalFuel (specEnvOf cousinEnv) 4 [] 0 cousinBad).map (·.isSome) = some false := by decide
example : (Spec.evalFuel (specEnvOf cousinEnv) 4 [] 0 cousinGood).map (·.isSome) = some true := by decide
example : (Go.validateFuel cousinEnv 4 [] (GoVal.ofJson cousinBad) 0).verdict = some false := by decide
example : (Go.validateFuel cousinEnv 4 [] (GoVal.ofJson cousinGood) 0).verdict = some true := by decide
example : Spec.evalFuel (specEnvOf cousinEnv) 4 [] 0 cousinBad
    = Spec.evalStep (specEnvOf cousinEnv) (Laws.eraseOff cousinBad (Spec.evalFuel (specEnvOf cousinEnv) 3)) [] 0 cousinBad :=
  cousins_invisible _ 3 [] 0 cousinBad
/-- `child_locations_invisible_go`: the annotations of the branch mark `a`, not `b` -/
example (a : Anns) (ha : Go.validateFuel cousinEnv 3 [0] (GoVal.ofJson cousinBad) 1 = .ok a) :
    γprop a "a" = true ∧ γprop a "b" = false :=
  have h := child_locations_invisible_go cousinEnv cousinEnv_wf cousinEnv_store 2 [0] (by decide +kernel) 1 _ cousinBad (by decide +kernel)
    [("a", 2)] _ rfl rfl rfl (by decide +kernel) a ha
  ⟨h "a" (by decide +kernel), h "b" (by decide +kernel)⟩
example : (Go.validateFuel cousinEnv 3 [0] (GoVal.ofJson cousinBad) 1).isOk = true := by decide

/-- `not (not s)` and `if s` on the nodes of `C01.lawStore` -/
example : ({} : Spec.Ev).props = [] ∧ ({} : Spec.Ev).items = [] :=
  not_not_evaluates_nothing (specEnvOf C01.lawEnv) 2 [] 10 _ C01.lawGood 11 _ 2 rfl rfl rfl rfl {} (by rfl)
example (a : Anns) (ha : Go.validateFuel C01.lawEnv 4 [] (GoVal.ofJson C01.lawGood) 10 = .ok a) : γprop a "a" = false :=
  (not_not_drops_annotations C01.lawEnv C01.lawEnv_wf C01.lawEnv_store 2 [] (fun _ h => nomatch h) 10 _ C01.lawGood
    (by decide +kernel) 11 _ 2 rfl rfl rfl rfl (by decide +kernel) a ha).1 "a" (by decide +kernel)
example : Spec.evalFuel (specEnvOf C01.lawEnv) 3 [] 16 C01.lawGood = some (some { props := ["a"] }) :=
  if_alone_annotations (specEnvOf C01.lawEnv) 2 [] 16 _ C01.lawGood 2 _ rfl rfl (by rfl)
example : Spec.evalFuel (specEnvOf C01.lawEnv) 3 [] 16 C01.lawBad = some (some {}) :=
  if_alone_failed_condition (specEnvOf C01.lawEnv) 2 [] 16 _ C01.lawBad 2 rfl rfl (by rfl)
example : ∃ a ac, Go.validateFuel C01.lawEnv 3 [] (GoVal.ofJson C01.lawGood) 16 = .ok a ∧
    Go.validateFuel C01.lawEnv 2 [16] (GoVal.ofJson C01.lawGood) 2 = .ok ac ∧
    (∀ k, k ∈ keysOf C01.lawGood → γprop a k = γprop ac k) ∧ (∀ i, i < lenOf C01.lawGood → γitem a i = γitem ac i) :=
  if_alone_annotations_go C01.lawEnv C01.lawEnv_wf C01.lawEnv_store 2 [] (fun _ h => nomatch h) 16 _ C01.lawGood
    (by decide +kernel) 2 _ rfl rfl (by rfl)

end JSV.C07
