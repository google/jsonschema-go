/-
  C10 — totality and "no panic".  (Lean functions are total, so termination of the model is free; the content is
  that the modelled computations end in a value or an error — never in `.panic`, and never in `.fuel` when the fuel
  the entry points supply is used.)

  `NoPF r` (JSV/Proofs/NoPF.lean) := r ≠ .panic ∧ r ≠ .fuel.
-/
import JSV.Proofs.Tot
import JSV.Proofs.TotUnmarshal
import JSV.Proofs.TotFacts
import JSV.Proofs.TotInfer
import JSV.Proofs.InfEqns
import JSV.Proofs.ResNoPanic
import JSV.Proofs.ResNoFuel
import JSV.Props.C01
import JSV.Props.C08
import JSV.Props.C11
import JSV.Props.C12
namespace JSV.C10
open JSV Go Refine

/-- every parsed JSON value: UnmarshalJSON returns a schema or an error; the fuel `j.size + 1` of the entry point suffices -/
theorem unmarshal_no_panic (j : Json) (st : Store) : Go.unmarshal j st ≠ .panic ∧ Go.unmarshal j st ≠ .fuel :=
  unmarshalFuel_NoPF (j.size + 1) j st (Nat.le_succ _)

/-- any fuel ≥ the size of the document suffices -/
theorem unmarshalFuel_no_panic (fuel : Nat) (j : Json) (st : Store) (h : j.size ≤ fuel) :
    Go.unmarshalFuel fuel j st ≠ .panic ∧ Go.unmarshalFuel fuel j st ≠ .fuel :=
  unmarshalFuel_NoPF fuel j st h

/-- also on shared / cyclic graphs: each step either errs or records a NEW id, so `st.size + 1` steps suffice
    (a fortiori the `st.size + 2` resolver.resolve supplies: `resolveDocStep`) -/
theorem checkStructure_no_fuel (st : Store) (fuel : Nat) (root : NodeId) (h : fuel ≥ st.size + 1) :
    checkStructure st fuel [(root, "")] [] ≠ .fuel :=
  checkStructure_no_fuel_gen st fuel _ [] ⟨List.nodup_nil, fun _ h => nomatch h⟩ (by simpa using h)

theorem checkStructure_no_fuel' (st : Store) (fuel : Nat) (root : NodeId) (h : fuel ≥ st.size + 2) :
    checkStructure st fuel [(root, "")] [] ≠ .fuel :=
  checkStructure_no_fuel st fuel root (by omega)

theorem checkStructure_no_panic (st : Store) (fuel : Nat) (work : List (NodeId × String)) (acc : List (NodeId × Info)) :
    checkStructure st fuel work acc ≠ .panic :=
  checkStructure_no_panic_gen st fuel work acc

/-- on success the recorded ids are pairwise distinct and all exist in the store -/
theorem checkStructure_tree (st : Store) (fuel : Nat) (root : NodeId) (infos : List (NodeId × Info)) :
    checkStructure st fuel [(root, "")] [] = .ok infos →
      (infos.map (·.1)).Nodup ∧ ∀ id ∈ infos.map (·.1), (st.get? id).isSome = true :=
  fun h => checkStructure_accOK st fuel _ [] infos h ⟨List.nodup_nil, fun _ h => nomatch h⟩

/-! ## Schema.Resolve

`Go.resolve` is the whole of `(*Schema).Resolve` (without ValidateDefaults): checkStructure, checkLocal, resolveURIs,
resolveRefs with the Loader and the `loaded` cache.  The `.panic` outcomes of the model are the nil map entries / nil
pointers of the Go code (`rs.resolvedInfos[s]` for a schema the Resolved does not know, `info.base == nil`,
`baseInfo.uri == nil`, a nil child met by `Schema.all`). -/

/-- `Resolve` returns a Resolved or an error — never a panic — for every store (shared / cyclic / dangling child
    pointers, malformed `$id` / `$ref`), every loader table (errors, nil documents, ill-formed documents, documents
    that refer back, one document under several URIs), every base URI and every fuel, PROVIDED that documents with
    different roots share no schema object (`docsDisjoint`: the model's stated assumption "fresh nodes per loader
    document"; decidable, and trivially true without loader documents).

    The hypothesis cannot be dropped: see `resolve_panic_reachable` below. -/
theorem resolve_no_panic_partial (env : Go.Env) (fuel : Nat) (root : NodeId) (base : String)
    (h : Go.RTot.docsDisjoint env root = true) : Go.resolve env fuel root base ≠ .panic :=
  Go.RTot.resolve_ne_panic env fuel root base h

/-- no hypothesis is needed without a Loader -/
theorem resolve_no_panic_no_loader (env : Go.Env) (fuel : Nat) (root : NodeId) (base : String)
    (h : env.loader = none) : Go.resolve env fuel root base ≠ .panic :=
  resolve_no_panic_partial env fuel root base (Go.RTot.docsDisjoint_noloader env root h)

/-- `Resolve` terminates: fuel above the number of entries of the loader table is never exhausted — whatever the store
    and the table (no hypothesis).  Reference cycles between documents end because every document is entered in the
    `loaded` cache before its references are followed, so every recursive call caches a new URI of the table; inside
    one document, checkStructure and resolveURIs meet every schema once. -/
theorem resolve_no_fuel (env : Go.Env) (fuel : Nat) (root : NodeId) (base : String)
    (h : fuel ≥ (env.loader.getD []).length + 1) : Go.resolve env fuel root base ≠ .fuel :=
  Go.RTot.resolve_ne_fuel env fuel root base h

theorem resolve_total_partial (env : Go.Env) (fuel : Nat) (root : NodeId) (base : String)
    (hd : Go.RTot.docsDisjoint env root = true) (hf : fuel ≥ (env.loader.getD []).length + 1) :
    Go.resolve env fuel root base = .err ∨ ∃ rs, Go.resolve env fuel root base = .ok rs :=
  Go.RTot.resolve_total env fuel root base hd hf

/-! ### a reachable `.panic` of the model

The model keeps ONE info record per schema object (`RState.infos`), Go one per (Resolved, schema).  When a loader
document shares a schema object with the root, resolveURIs of the loader document overwrites the `base` of the shared
schema; if moreover the Resolved that merged the loader document's records is replaced (its root is loaded a second
time under another URI), the root's Resolved never learns the new base, and `resolveRef` on the shared schema reads
`rs.resolvedInfos[base]` = nil.  In Go the root's Resolved has its own record for the shared schema (the merge does not
overwrite), so this is a defect of the model's "one table" simplification outside its stated assumption, not of resolve.go.

  root 0 = {allOf: [1, 2]},  1 = {$ref: "http://a/y"},  2 = {$ref: "#"}            (resolved under http://a/r)
  y    3 = {allOf: [4, 5]},  4 = {$ref: "x"},           5 = {$ref: "http://b/y"}   (served for http://a/y AND http://b/y)
  x    6 = {not: 2}          — shares schema 2 with the root                      (served for http://a/x)
  w    7 = {}                                                                     (served for http://b/x)
-/

def pxStore : Store := #[
  { allOf := some [1, 2] },
  { ref := "http://a/y" },
  { ref := "#" },
  { allOf := some [4, 5] },
  { ref := "x" },
  { ref := "http://b/y" },
  { not := some 2 },
  { } ]

def pxEnv : Go.Env :=
  { st := pxStore, reOk := fun _ => true,
    loader := some [("http://a/y", .doc 3), ("http://a/x", .doc 6), ("http://b/y", .doc 3), ("http://b/x", .doc 7)] }

theorem resolve_panic_reachable : Go.resolve pxEnv 5 0 "http://a/r" = .panic := by
  have h : (match Go.resolve pxEnv 5 0 "http://a/r" with
      | .panic => true
      | _ => false) = true := by decide +kernel
  cases hr : Go.resolve pxEnv 5 0 "http://a/r" with
  | panic => rfl
  | ok _ => rw [hr] at h; cases h
  | err => rw [hr] at h; cases h
  | fuel => rw [hr] at h; cases h

/-- so the unconditional statement is false in the model -/
theorem resolve_no_panic_false :
    ¬ ∀ (env : Go.Env) (fuel : Nat) (root : NodeId) (base : String), Go.resolve env fuel root base ≠ .panic :=
  fun H => H pxEnv 5 0 "http://a/r" resolve_panic_reachable

/-- the hypothesis of `resolve_no_panic_partial` is what fails: documents 0 and 6 share schema 2 -/
example : Go.RTot.docsDisjoint pxEnv 0 = false := by decide +kernel
example : Go.RTot.docNodes pxEnv 0 = [0, 1, 2] ∧ Go.RTot.docNodes pxEnv 6 = [6, 2] := by decide +kernel

/-! ### non-vacuity: cyclic documents, nil documents

A = `{"$ref": "http://x/b.json"}`, B = `{"$ref": "http://x/a.json"}`; the Loader serves both. -/

def cyStore : Store := #[{ ref := "http://x/b.json" }, { ref := "http://x/a.json" }]

def cyEnv : Go.Env :=
  { st := cyStore, reOk := fun _ => true,
    loader := some [("http://x/a.json", .doc 0), ("http://x/b.json", .doc 1)] }

/-- the four resolutions of `cyEnv` below (under its own URI and under none, with enough fuel and with one unit
    less), in one evaluation -/
theorem cy_facts :
    ((Go.resolve cyEnv 3 0 "http://x/a.json").bind fun rs =>
      .ok (rs.log, rs.infos.map fun e => (e.1, e.2.resolvedRef))) =
    .ok (["http://x/b.json"], [(0, some 1), (1, some 0)]) ∧
    ((Go.resolve cyEnv 1 0 "http://x/a.json").bind fun rs => .ok rs.log) = .fuel ∧
    ((Go.resolve cyEnv 3 0 "").bind fun rs => .ok rs.log) = .ok ["http://x/b.json", "http://x/a.json"] ∧
    ((Go.resolve cyEnv 2 0 "").bind fun rs => .ok rs.log) = .fuel := by decide +kernel

example : Go.RTot.docsDisjoint cyEnv 0 = true := by decide +kernel
/-- A resolved under its own URI: A → B → (A: cached); the stated fuel (2 table entries + 1) gives a value -/
example : ((Go.resolve cyEnv 3 0 "http://x/a.json").bind fun rs =>
      .ok (rs.log, rs.infos.map fun e => (e.1, e.2.resolvedRef))) =
    .ok (["http://x/b.json"], [(0, some 1), (1, some 0)]) := cy_facts.1
example : ((Go.resolve cyEnv 1 0 "http://x/a.json").bind fun rs => .ok rs.log) = .fuel := cy_facts.2.1
/-- A resolved under no URI: A → B → A (now as http://x/a.json) → (B: cached): three nested calls, so the bound
    "table entries + 1" of `resolve_no_fuel` is attained — fuel 2 is not enough -/
example : ((Go.resolve cyEnv 3 0 "").bind fun rs => .ok rs.log) = .ok ["http://x/b.json", "http://x/a.json"] :=
  cy_facts.2.2.1
example : ((Go.resolve cyEnv 2 0 "").bind fun rs => .ok rs.log) = .fuel := cy_facts.2.2.2
example : Go.resolve cyEnv 3 0 "" = .err ∨ ∃ rs, Go.resolve cyEnv 3 0 "" = .ok rs :=
  resolve_total_partial cyEnv 3 0 "" (by decide +kernel) (by decide)

/-- a Loader that returns (nil, nil): an error, not a nil dereference -/
def nilEnv : Go.Env :=
  { st := cyStore, reOk := fun _ => true, loader := some [("http://x/b.json", .nilDoc)] }

example : (Go.resolve nilEnv 2 0 "").verdict = some false := by decide +kernel
example : Go.RTot.docsDisjoint nilEnv 0 = true := by decide +kernel
/-- a Loader that fails, a missing Loader, a dangling child pointer (nil subschema), a malformed `$ref`: errors -/
example : (Go.resolve { nilEnv with loader := some [("http://x/b.json", .fail)] } 2 0 "").verdict = some false := by
  decide +kernel
example : (Go.resolve { nilEnv with loader := none } 1 0 "").verdict = some false := by decide +kernel
example : (Go.resolve { nilEnv with st := #[{ not := some 7 }] } 1 0 "").verdict = some false := by decide +kernel
example : (Go.resolve { nilEnv with st := #[{ ref := "http://[::1" }] } 1 0 "").verdict = some false := by
  decide +kernel

theorem equalValue_no_panic (x y : GoVal) (jx jy : Json) (hx : GoVal.denote x = some jx) (hy : GoVal.denote y = some jy) :
    Go.equalValue x y ≠ .panic ∧ Go.equalValue x y ≠ .fuel := by
  rw [C11.equal_iff x y jx jy hx hy]; exact NoPF_ok _

theorem hashEnc_no_panic (x : GoVal) (j : Json) (hx : GoVal.denote x = some j) :
    Go.hashEnc x ≠ .panic ∧ Go.hashEnc x ≠ .fuel := by
  obtain ⟨bs, h⟩ := C12.hashEnc_ok x j hx
  rw [h]; exact NoPF_ok _

/-- under a well-formed environment, with a stack whose schemas have resolution records, on ANY Go representation of a
    well-formed JSON instance: whenever the Spec decides (with this fuel), the evaluator neither panics nor runs out of fuel.
    Partial: says nothing when the Spec does not decide (unguarded recursion). -/
theorem validate_no_panic_partial (env : VEnv) (hwf : EnvWF env) (hst : StoreWF env.st) (fuel : Nat) (stack : List NodeId)
    (hstack : ∀ x, x ∈ stack → (env.info? x).isSome = true) (s : NodeId) (g : GoVal) (j : Json)
    (hg : GoVal.denote g = some j) (hj : Json.WF j = true)
    (hs : (Spec.evalFuel (specEnvOf env) fuel stack s j).isSome = true) :
    Go.validateFuel env fuel stack g s ≠ .panic ∧ Go.validateFuel env fuel stack g s ≠ .fuel := by
  rw [C08.validate_repr env hwf.hash_respects fuel stack s g j hg hj]
  have hrel := C01.validate_refines_spec env hwf hst fuel stack hstack s j hj
  cases he : Spec.evalFuel (specEnvOf env) fuel stack s j with
  | none => rw [he] at hs; cases hs
  | some r =>
    rw [he] at hrel
    cases r with
    | none => simp only [Rel] at hrel; rw [hrel]; exact NoPF_err
    | some ev => obtain ⟨a, ha, _⟩ := hrel; rw [ha]; exact NoPF_ok _

/-- at the entry point -/
theorem validate_entry_no_panic_partial (env : VEnv) (hwf : EnvWF env) (hst : StoreWF env.st) (supported : List String)
    (fuel : Nat) (root : NodeId) (rn : Node) (hroot : env.st.get? root = some rn) (g : GoVal) (j : Json)
    (hg : GoVal.denote g = some j) (hj : Json.WF j = true)
    (hs : (Spec.valid (specEnvOf env) fuel root j).isSome = true) :
    Go.validate env supported fuel root g ≠ .panic ∧ Go.validate env supported fuel root g ≠ .fuel := by
  unfold Go.validate
  rw [hroot]
  simp only []
  split
  · exact NoPF_err
  · refine NoPF_bind (validate_no_panic_partial env hwf hst fuel [] (fun _ h => nomatch h) root g j hg hj ?_) fun _ _ => NoPF_ok _
    unfold Spec.valid at hs
    cases he : Spec.evalFuel (specEnvOf env) fuel [] root j with
    | none => rw [he] at hs; cases hs
    | some r => rfl

/-- **no panic, no hang on guarded schemas**: for a ranked, closed environment (`Go.ranked`: the rank certificate of
    "recursion only through instance-descending keywords"; `Go.closed`: complete resolution tables), every schema of the
    store, ANY Go representation `g` of a well-formed instance `j`, and fuel `(depth j + 1) * (maxRank env + 1)`, the
    evaluator neither panics nor runs out of fuel.  No hypothesis on the Spec is left (`C01.spec_defined` discharges it). -/
theorem validate_no_panic_ranked (env : VEnv) (hwf : EnvWF env) (hst : StoreWF env.st)
    (hr : ranked env = true) (hc : closed env = true) (fuel : Nat) (stack : List NodeId)
    (hstack : ∀ x, x ∈ stack → (env.info? x).isSome = true) (s : NodeId) (hs : s < env.st.size) (g : GoVal) (j : Json)
    (hg : GoVal.denote g = some j) (hj : Json.WF j = true)
    (hf : (Json.depth j + 1) * (maxRank env + 1) ≤ fuel) :
    Go.validateFuel env fuel stack g s ≠ .panic ∧ Go.validateFuel env fuel stack g s ≠ .fuel :=
  validate_no_panic_partial env hwf hst fuel stack hstack s g j hg hj (C01.spec_defined env hr hc fuel stack s j hs hf)

/-- the same with the cycle search `guarded` as the hypothesis, and the bound that only mentions the size of the store -/
theorem validate_no_panic_of_guarded (env : VEnv) (hwf : EnvWF env) (hst : StoreWF env.st)
    (hg : guarded env = true) (hc : closed env = true) (fuel : Nat) (stack : List NodeId)
    (hstack : ∀ x, x ∈ stack → (env.info? x).isSome = true) (s : NodeId) (hs : s < env.st.size) (g : GoVal) (j : Json)
    (hg' : GoVal.denote g = some j) (hj : Json.WF j = true)
    (hf : (Json.depth j + 1) * (env.st.size + 2) ≤ fuel) :
    Go.validateFuel env fuel stack g s ≠ .panic ∧ Go.validateFuel env fuel stack g s ≠ .fuel :=
  validate_no_panic_partial env hwf hst fuel stack hstack s g j hg' hj
    (C01.spec_defined_size env ((C01.guarded_iff_ranked env hc).1 hg) hc fuel stack s j hs hf)

/-- with the bound that only mentions the size of the store -/
theorem validate_no_panic_ranked_size (env : VEnv) (hwf : EnvWF env) (hst : StoreWF env.st)
    (hr : ranked env = true) (hc : closed env = true) (fuel : Nat) (stack : List NodeId)
    (hstack : ∀ x, x ∈ stack → (env.info? x).isSome = true) (s : NodeId) (hs : s < env.st.size) (g : GoVal) (j : Json)
    (hg : GoVal.denote g = some j) (hj : Json.WF j = true)
    (hf : (Json.depth j + 1) * (env.st.size + 2) ≤ fuel) :
    Go.validateFuel env fuel stack g s ≠ .panic ∧ Go.validateFuel env fuel stack g s ≠ .fuel :=
  validate_no_panic_partial env hwf hst fuel stack hstack s g j hg hj
    (C01.spec_defined_size env hr hc fuel stack s j hs hf)

/-- at the entry point -/
theorem validate_entry_no_panic_ranked (env : VEnv) (hwf : EnvWF env) (hst : StoreWF env.st)
    (hr : ranked env = true) (hc : closed env = true) (supported : List String)
    (fuel : Nat) (root : NodeId) (rn : Node) (hroot : env.st.get? root = some rn) (g : GoVal) (j : Json)
    (hg : GoVal.denote g = some j) (hj : Json.WF j = true)
    (hf : (Json.depth j + 1) * (maxRank env + 1) ≤ fuel) :
    Go.validate env supported fuel root g ≠ .panic ∧ Go.validate env supported fuel root g ≠ .fuel := by
  apply validate_entry_no_panic_partial env hwf hst supported fuel root rn hroot g j hg hj
  obtain ⟨b, hb⟩ := C01.valid_defined env hr hc fuel root j (Array.getElem?_eq_some_iff.1 hroot).1 hf
  rw [hb]
  rfl

/-- every schema object has an info record (`EnvWF.info_total`) and the `properties` children exist ⇒ no panic -/
theorem applyDefaults_no_panic (env : VEnv) (hwf : EnvWF env)
    (hprops : ∀ s n, env.st.get? s = some n → ∀ p c, (p, c) ∈ n.properties.getD [] → (env.st.get? c).isSome = true)
    (fuel : Nat) (id : NodeId) (inst : Json) (hid : (env.st.get? id).isSome = true) :
    Go.applyDefaultsFuel env fuel id inst ≠ .panic :=
  applyDefaultsFuel_NoP env hwf.info_total hprops fuel id inst hid

/-- and when `properties` edges decrease some rank (a tree: its height), fuel above the rank of the root suffices,
    whatever the instance and the defaults -/
theorem applyDefaults_no_fuel (env : VEnv) (rank : NodeId → Nat)
    (hrank : ∀ s n, env.st.get? s = some n → ∀ p c, (p, c) ∈ n.properties.getD [] → rank c < rank s)
    (fuel : Nat) (id : NodeId) (inst : Json) (h : rank id < fuel) :
    Go.applyDefaultsFuel env fuel id inst ≠ .fuel := by
  induction fuel generalizing id inst with
  | zero => omega
  | succ fuel ih =>
    simp only [applyDefaultsFuel, applyDefaultsStep]
    split
    · simp
    · next n hn =>
      split
      · simp
      · split
        · have := defaultsLoop_NoFuel env.st (applyDefaultsFuel env fuel) (n.required.getD []) (n.properties.getD [])
            ‹_› (fun p c hm x => ih c x (by have := hrank id n hn p c hm; omega))
          cases hl : defaultsLoop env.st (applyDefaultsFuel env fuel) (n.required.getD []) (n.properties.getD []) ‹_› with
          | ok v => simp
          | err => simp
          | panic => simp
          | fuel => exact absurd hl this
        · simp

/-- the cycle check: one step of forType on (pointers to) a named type — or a back reference `.ref name` to one — whose name
    is already in `seen` returns an error; it makes no recursive call (the result does not depend on `rec`) -/
theorem forType_cycle_detected (opts : IOpts) (rec : IRec) (t0 : GoType) (seen : List String) (st : Store) (nm : String) :
    typeName (stripPtrs t0).1 = some nm → seen.contains nm = true → inferStep opts rec t0 seen st = .err :=
  fun h1 h2 => Go.inferStep_seen rfl h1 h2

theorem forType_cycle_detected_ref (opts : IOpts) (rec : IRec) (name : String) (seen : List String) (st : Store) :
    seen.contains name = true → inferStep opts rec (.ref name) seen st = .err :=
  forType_cycle_detected opts rec (.ref name) seen st name rfl

theorem forType_cycle_detected_named (opts : IOpts) (rec : IRec) (name : String) (u : GoType) (seen : List String) (st : Store) :
    seen.contains name = true → inferStep opts rec (.named name u) seen st = .err :=
  forType_cycle_detected opts rec (.named name u) seen st name rfl

/-- fuel: a type whose nesting depth (`depth`: slices, arrays, maps, struct fields count; pointers and the step
    named → underlying do not) is at most the fuel never runs out of fuel, provided cloning the type-table entries does not
    (`hs`; vacuous for an empty table) -/
theorem forType_no_fuel (opts : IOpts)
    (hs : ∀ nm sid st, Json.lookup nm opts.schemas = some sid → clone st sid ≠ .fuel)
    (fuel : Nat) (t : GoType) (st : Store) (h : depth t ≤ fuel) : Go.forType opts fuel t st ≠ .fuel :=
  inferFuel_NoFuel opts hs fuel t [] st h

theorem forType_no_fuel_empty_table (opts : IOpts) (hs : opts.schemas = [])
    (fuel : Nat) (t : GoType) (st : Store) (h : depth t ≤ fuel) : Go.forType opts fuel t st ≠ .fuel :=
  forType_no_fuel opts (fun nm sid st hl => by rw [hs] at hl; cases hl) fuel t st h

/-- dereferenceJSONPointer has no panic / fuel outcome -/
theorem pointer_no_panic (st : Store) (strict nilIsError : Bool) (root : NodeId) (sptr : String) :
    Pointer.dereference st strict nilIsError root sptr ≠ .panic ∧ Pointer.dereference st strict nilIsError root sptr ≠ .fuel :=
  dereference_NoPF st strict nilIsError root sptr

/-- a new panic(...) / assert(...) in the package breaks this obligation -/
theorem panic_sites_fact : Generated.panicSites = expectedPanicSites := by decide +kernel

example : (Go.unmarshal (.obj [("type", .num 3)]) #[]).verdict = some false := by decide +kernel
example : (Go.unmarshal (.obj [("items", .arr [.bool true, .null]), ("x", .null)]) #[]).isOk = true := by decide +kernel
/-- a cyclic store: node 0 is its own `not` child; checkStructure stops with an error after 2 steps -/
example : (checkStructure #[{ not := some 0 }] 2 [(0, "")] []).verdict = some false := by decide +kernel
example : (checkStructure #[{ not := some 1 }, {}] 3 [(0, "")] []).isOk = true := by decide +kernel
/-- `type T []*T`: the back reference is refused (an error, not unbounded recursion), with any fuel ≥ 2 -/
example : (Go.forType {} 2 (.named "T" (.slice (.ptr (.ref "T")))) #[]).verdict = some false := by decide +kernel
example : (Go.forType {} 50 (.named "T" (.slice (.ptr (.ref "T")))) #[]).verdict = some false := by decide +kernel
example : depth (.named "P" (.map "String" (.slice (.ptr (.basic "Int"))))) = 3 := by decide +kernel
example : (Go.forType {} 3 (.named "P" (.map "String" (.slice (.ptr (.basic "Int"))))) #[]).isOk = true := by
  decide +kernel
example : (Go.forType {} 2 (.named "P" (.map "String" (.slice (.ptr (.basic "Int"))))) #[]).verdict = none := by
  decide +kernel
/-- the hypotheses of `validate_no_panic_partial` hold on the environment of C01 -/
example : Go.validateFuel C01.exEnv 3 [] (GoVal.ofJson C01.exGood) 0 ≠ .panic ∧
    Go.validateFuel C01.exEnv 3 [] (GoVal.ofJson C01.exGood) 0 ≠ .fuel :=
  validate_no_panic_partial C01.exEnv C01.exEnv_wf C01.exEnv_store 3 [] (fun _ h => nomatch h) 0 _ C01.exGood
    (denote_ofJson _) (by decide) (by decide)

/-- `validate_no_panic_ranked` on the recursive list schema of C01: nothing about the Spec is assumed -/
example : Go.validateFuel C01.listEnv 8 [] (GoVal.ofJson C01.listBad) 0 ≠ .panic ∧
    Go.validateFuel C01.listEnv 8 [] (GoVal.ofJson C01.listBad) 0 ≠ .fuel :=
  validate_no_panic_ranked C01.listEnv C01.listEnv_wf C01.listEnv_store (by decide) (by decide) 8 []
    (fun _ h => nomatch h) 0 (by decide) _ C01.listBad (denote_ofJson _) (by decide) (by decide)

end JSV.C10
