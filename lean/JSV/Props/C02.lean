/-
  C02 — draft selection: which `$schema` values select draft-07, which are refused, and what changes under draft-07
  (`$ref` siblings ignored, array-form `items` / `additionalItems`, `dependencies`; `minContains`, `maxContains`,
  `unevaluatedItems`, `unevaluatedProperties` unknown — finding D27, repaired; `$dynamicRef` unknown, to Resolve too —
  finding D28, repaired).
-/
import JSV.Proofs.InvLater
import JSV.Proofs.ResDraft
import JSV.Proofs.ResLater
import JSV.Proofs.DflLaws
import JSV.Props.C01
import JSV.Proofs.SpecLawsScope
namespace JSV.C02
open JSV Go GoVal Refine

/-- draft-07 semantics are selected exactly by the two draft-07 meta-schema URIs -/
theorem detectDraft_spec (env : Go.Env) (hd : env.draft7URIs = Generated.detectDraft7) (str : String) :
    Go.detectDraft env str = .d7 ↔ str ∈ Generated.detectDraft7 := by
  unfold Go.detectDraft
  rw [hd]
  by_cases h : str ∈ Generated.detectDraft7
  · simp [h]
  · simp [h]

/-- everything else (including the empty string and unknown URIs) gets draft 2020-12 semantics -/
theorem detectDraft_2020 (env : Go.Env) (hd : env.draft7URIs = Generated.detectDraft7) (str : String) :
    Go.detectDraft env str = .d2020 ↔ str ∉ Generated.detectDraft7 := by
  rw [← detectDraft_spec env hd str]
  cases Go.detectDraft env str <;> simp

/-- ties the model to the source: the list `detectDraft` compares against, regenerated from the Go code -/
theorem draft7_uris_fact :
    Generated.detectDraft7 = ["http://json-schema.org/draft-07/schema#", "https://json-schema.org/draft-07/schema#"] :=
  rfl

/-- … which are the two draft-07 constants of the package -/
theorem draft7_uris_are_consts :
    Generated.detectDraft7.map some =
      [Json.lookup "draft7SchemaVersion" (Generated.stringConsts.map fun p => (p.1, p.2)),
       Json.lookup "draft7SecSchemaVersion" (Generated.stringConsts.map fun p => (p.1, p.2))] := by
  decide +kernel

theorem supported_versions_fact :
    Generated.supportedVersions = ["", "http://json-schema.org/draft-07/schema#",
      "https://json-schema.org/draft-07/schema#", "https://json-schema.org/draft/2020-12/schema"] :=
  rfl

/-- every URI that selects draft-07 is a supported version, and so are the 2020-12 URI and "no $schema" -/
theorem detected_are_supported :
    (Generated.detectDraft7 ++ Generated.detectDraft2020 ++ [""]).all (Generated.supportedVersions.contains ·) = true := by
  decide +kernel

/-- the defaults of the model's resolver environment are the regenerated lists -/
theorem env_defaults (st : Store) (reOk : String → Bool) (loader : Option (List (String × LoaderResult))) :
    ({ st := st, reOk := reOk, loader := loader } : Go.Env).draft7URIs = Generated.detectDraft7 ∧
    ({ st := st, reOk := reOk, loader := loader } : Go.Env).supported = Generated.supportedVersions :=
  ⟨rfl, rfl⟩

/-- a root whose `$schema` is not a supported version is refused, for every instance, before any evaluation -/
theorem unsupported_refused (env : VEnv) (supported : List String) (fuel : Nat) (root : NodeId) (rn : Node)
    (hroot : env.st.get? root = some rn) (hsup : rn.schema ∉ supported) :
    ∀ inst, Go.validate env supported fuel root inst = .err := by
  intro inst
  exact C01.unsupported_schema env supported fuel root inst rn hroot (by simpa using hsup)

/-- a supported `$schema` is never the reason of a refusal: the result is that of the evaluation -/
theorem supported_not_refused (env : VEnv) (supported : List String) (fuel : Nat) (root : NodeId) (rn : Node)
    (hroot : env.st.get? root = some rn) (hsup : rn.schema ∈ supported) (inst : GoVal) :
    Go.validate env supported fuel root inst = Res.bind (Go.validateFuel env fuel [] inst root) fun _ => .ok () := by
  unfold Go.validate
  rw [hroot]
  have : supported.contains rn.schema = true := by simpa using hsup
  simp only [this, Bool.not_true, Bool.false_eq_true, if_false]

/-- with the package's list: exactly "", the two draft-07 URIs and the 2020-12 URI pass -/
theorem supported_iff (s : String) :
    s ∈ Generated.supportedVersions ↔
      s = "" ∨ s = "http://json-schema.org/draft-07/schema#" ∨ s = "https://json-schema.org/draft-07/schema#" ∨
      s = "https://json-schema.org/draft/2020-12/schema" := by
  simp [Generated.supportedVersions]

/-- Spec: under draft-07 a schema object with `$ref` is valid iff its target is; nothing else of the object is looked
    at and no annotation comes back -/
theorem ref_siblings_ignored7 (env : Spec.Env) (rec : Spec.Rec) (scope : List NodeId) (s : NodeId) (n : Node) (j : Json)
    (hd : env.draft = .d7) (hn : env.st.get? s = some n) (hr : n.ref ≠ "") :
    Spec.evalStep env rec scope s j = (Spec.kwRef env (rec (scope ++ [s])) s n j).map (·.map fun _ => {}) :=
  (Inv.evalStep_get hn rec scope j).trans (Inv.specBody_d7ref env rec scope s j (by simp [hd, hr]))

/-- … which depends on the target only: any two objects with a `$ref` at this place get the same result -/
theorem ref_siblings_ignored7_target (env : Spec.Env) (rec : Spec.Rec) (scope : List NodeId) (s : NodeId) (n : Node)
    (j : Json) (hd : env.draft = .d7) (hn : env.st.get? s = some n) (hr : n.ref ≠ "") :
    Spec.evalStep env rec scope s j =
      Option.map (fun (r : Spec.R) => r.map fun _ => ({} : Spec.Ev))
        (match env.refTarget s with
         | some t => rec (scope ++ [s]) t j
         | none => none) := by
  rw [ref_siblings_ignored7 env rec scope s n j hd hn hr]
  unfold Spec.kwRef Spec.inPlace
  have h1 : (n.ref != "") = true := by simp [hr]
  simp only [h1, if_true]
  cases env.refTarget s <;> rfl

/-- the same for the evaluator: with draft-07, a `$ref` and the resolution record present, one call is exactly the
    call on the target, with empty annotations (hypotheses = the prologue's panic conditions excluded) -/
theorem ref_siblings_ignored7_model (env : VEnv) (hd : env.draft = .d7) (rec : Go.Rec) (stack : List NodeId)
    (inst : GoVal) (s : NodeId) (n : Node) (i : Info) (t : NodeId) (hn : env.st.get? s = some n) (hr : n.ref ≠ "")
    (hi : env.info? s = some i) (ht : i.resolvedRef = some t) :
    Go.validateStep env rec stack inst s = (rec (stack ++ [s]) (GoVal.strip inst) t).bind fun _ => .ok {} :=
  Inv.validateStep_ref7 env hd rec stack inst s n i t hn hr hi ht

/-- hence replacing the object by the bare `{"$ref": …}` changes nothing -/
theorem ref_siblings_ignored7_model_bare (env : VEnv) (hd : env.draft = .d7) (rec : Go.Rec) (stack : List NodeId)
    (inst : GoVal) (s : NodeId) (n : Node) (i : Info) (t : NodeId) (hn : env.st.get? s = some n) (hr : n.ref ≠ "")
    (hi : env.info? s = some i) (ht : i.resolvedRef = some t) (st' : Store)
    (hn' : st'.get? s = some { ref := n.ref }) :
    Go.validateStep { env with st := st' } rec stack inst s = Go.validateStep env rec stack inst s := by
  rw [ref_siblings_ignored7_model env hd rec stack inst s n i t hn hr hi ht,
      ref_siblings_ignored7_model { env with st := st' } hd rec stack inst s { ref := n.ref } i t hn' hr hi ht]

/-- draft-07 arrays: array-form `items` with `additionalItems`, else single-schema `items`; `prefixItems` is not read -/
theorem draft7_array_shape (env : Spec.Env) (n : Node) (hd : env.draft = .d7) :
    Spec.arrayShape env n = (match n.itemsArray with
      | some ia => (ia, n.additionalItems)
      | none => ([], n.items)) ∧
    ∀ p, Spec.arrayShape env { n with prefixItems := p } = Spec.arrayShape env n := by
  unfold Spec.arrayShape
  rw [hd]
  exact ⟨rfl, fun _ => rfl⟩

/-- 2020-12 arrays: `prefixItems` then `items`; array-form `items` and `additionalItems` are not read -/
theorem draft2020_array_shape (env : Spec.Env) (n : Node) (hd : env.draft = .d2020) :
    Spec.arrayShape env n = (n.prefixItems.getD [], n.items) ∧
    ∀ ia ai, Spec.arrayShape env { n with itemsArray := ia, additionalItems := ai } = Spec.arrayShape env n := by
  unfold Spec.arrayShape
  rw [hd]
  exact ⟨rfl, fun _ _ => rfl⟩

/-- draft-07 `dependencies`: the string form feeds the required-check, the schema form the in-place applicator;
    dependentRequired / dependentSchemas are not read -/
theorem draft7_dependencies (env : Spec.Env) (sub : NodeId → Json → Spec.Out) (n : Node) (j : Json) (hd : env.draft = .d7) :
    (∀ dr, Spec.objectLimitsOk env { n with dependentRequired := dr } j = Spec.objectLimitsOk env n j) ∧
    (∀ ds, Spec.kwDependentSchemas env sub { n with dependentSchemas := ds } j = Spec.kwDependentSchemas env sub n j) ∧
    (∀ kvs, j = .obj kvs → Spec.kwDependentSchemas env sub n j =
      (Spec.sequence (((n.dependencySchemas.getD []).filter fun (k, _) => (Json.lookup k kvs).isSome).map
        fun (_, t) => sub t j)).map Spec.conj) := by
  refine ⟨fun dr => ?_, fun ds => ?_, fun kvs hj => ?_⟩
  · unfold Spec.objectLimitsOk; rw [hd]
  · unfold Spec.kwDependentSchemas; rw [hd]
  · subst hj; unfold Spec.kwDependentSchemas; rw [hd]

theorem draft2020_dependencies (env : Spec.Env) (sub : NodeId → Json → Spec.Out) (n : Node) (j : Json)
    (hd : env.draft = .d2020) :
    (∀ dr, Spec.objectLimitsOk env { n with dependencyStrings := dr } j = Spec.objectLimitsOk env n j) ∧
    (∀ ds, Spec.kwDependentSchemas env sub { n with dependencySchemas := ds } j = Spec.kwDependentSchemas env sub n j) := by
  refine ⟨fun dr => ?_, fun ds => ?_⟩
  · unfold Spec.objectLimitsOk; rw [hd]
  · unfold Spec.kwDependentSchemas; rw [hd]

/-- the evaluator under draft-07 never reads prefixItems, dependentRequired, dependentSchemas … -/
theorem draft7_model_ignores (env : VEnv) (hd : env.draft = .d7) : ∀ fuel stack i s,
    Go.validateFuel { env with st := env.st.map Inv.erase2020only } fuel stack i s = Go.validateFuel env fuel stack i s :=
  Inv.validateFuel_map_view env Inv.erase2020only .d7 hd Inv.view_erase2020only

/-- … and under 2020-12 never reads array-form items, additionalItems, dependencies -/
theorem draft2020_model_ignores (env : VEnv) (hd : env.draft = .d2020) : ∀ fuel stack i s,
    Go.validateFuel { env with st := env.st.map Inv.erase7only } fuel stack i s = Go.validateFuel env fuel stack i s :=
  Inv.validateFuel_map_view env Inv.erase7only .d2020 hd Inv.view_erase7only

/-! ## draft-07: the keywords of later drafts are unknown keywords (finding D27, repaired)

`minContains`, `maxContains`, `unevaluatedItems`, `unevaluatedProperties` (all introduced by 2019-09) do not exist in
draft-07: a draft-07 validator ignores them as it ignores any unknown keyword.  `(*state).validate` tests `st.rs.draft`
before reading each of the four, and the Spec evaluates the schema object restricted to the vocabulary of the draft
(`Spec.vocab`).  `contains` itself is draft-07: at least one item matches. -/

/-- the draft-07 vocabulary has none of the four (nor `$dynamicRef`, finding D28 below); the 2020-12 vocabulary is the
    whole schema object -/
theorem vocab_spec (n : Node) :
    (Spec.vocab .d7 n).minContains = none ∧ (Spec.vocab .d7 n).maxContains = none ∧
    (Spec.vocab .d7 n).unevaluatedItems = none ∧ (Spec.vocab .d7 n).unevaluatedProperties = none ∧
    (Spec.vocab .d7 n).dynamicRef = "" ∧
    Spec.vocab .d7 n = Inv.eraseLater n ∧ Spec.vocab .d2020 n = n :=
  ⟨rfl, rfl, rfl, rfl, rfl, rfl, rfl⟩

/-- Spec, draft-07: `contains` asks for at least one matching item and evaluates the matching ones — whatever
    `minContains` / `maxContains` say -/
theorem draft7_contains (sub : NodeId → Json → Spec.Out) (n : Node) (xs : List Json) (c : NodeId)
    (hc : n.contains = some c) :
    Spec.kwContains sub (Spec.vocab .d7 n) (.arr xs) =
      (Spec.sequence (xs.map fun x => sub c x)).map fun rs =>
        if 1 ≤ ((rs.zip (Spec.indices xs.length)).filterMap fun (r, i) => if r.isSome then some i else none).length
        then some { items := (rs.zip (Spec.indices xs.length)).filterMap fun (r, i) => if r.isSome then some i else none }
        else none := by
  unfold Spec.kwContains
  simp only [vocab_contains, hc, vocab_d7_minContains, vocab_d7_maxContains, Bool.and_true, decide_eq_true_eq]
  congr 1
  funext rs
  congr 1
  apply propext
  omega

/-- Spec, draft-07: `unevaluatedItems` / `unevaluatedProperties` assert nothing and evaluate nothing -/
theorem draft7_unevaluated (sub : NodeId → Json → Spec.Out) (n : Node) (j : Json) (ev : Spec.Ev) :
    Spec.kwUnevaluatedItems sub (Spec.vocab .d7 n) j ev = some (some {}) ∧
    Spec.kwUnevaluatedProps sub (Spec.vocab .d7 n) j ev = some (some {}) := by
  unfold Spec.kwUnevaluatedItems Spec.kwUnevaluatedProps
  cases j <;> simp

/-- the evaluator, draft-07: the two `unevaluated*` blocks return at once, `bArrayLimits` checks `minItems` /
    `maxItems` only, `bContains` does not look at `minContains` -/
theorem draft7_model_blocks (rec : Go.Rec) (stack : List NodeId) (n : Node) (xs : List GoVal)
    (kvs : List (String × GoVal)) (anns : Anns) (cnt : Nat) :
    bUnevaluatedItems .d7 rec stack n xs anns = .ok anns ∧
    bUnevaluatedProps .d7 rec stack n kvs anns = .ok anns ∧
    bArrayLimits .d7 n xs cnt = bArrayLimits .d7 { n with minContains := none, maxContains := none } xs cnt ∧
    bContains .d7 rec stack n xs anns = bContains .d7 rec stack { n with minContains := none } xs anns := by
  refine ⟨rfl, rfl, ?_, ?_⟩
  · unfold bArrayLimits; simp
  · unfold bContains; simp

/-- **Draft-07 ignores the keywords of later drafts.**  With the draft-07 `$schema`, erasing `minContains`,
    `maxContains`, `unevaluatedItems`, `unevaluatedProperties` and `$dynamicRef` (`Inv.eraseLater` clears the five; for
    Schema.Resolve see `draft7_ignores_dynamicRef`) from every schema object of the store changes no
    outcome — of the Spec (definedness, verdict, evaluated sets; every fuel, scope, schema, instance) nor of the
    evaluator (verdict, annotations, panic, fuel; every stack, Go value, schema). -/
theorem draft7_ignores_later_keywords (env : VEnv) (hd : env.draft = .d7) :
    (∀ fuel scope s j,
      Spec.evalFuel (specEnvOf { env with st := env.st.map Inv.eraseLater }) fuel scope s j
        = Spec.evalFuel (specEnvOf env) fuel scope s j) ∧
    (∀ fuel stack i s,
      Go.validateFuel { env with st := env.st.map Inv.eraseLater } fuel stack i s
        = Go.validateFuel env fuel stack i s) :=
  have g := Inv.validate_map_view env Inv.eraseLater .d7 hd Inv.view_eraseLater (fun _ => rfl)
  ⟨g.1, g.2.1⟩

/-- the Spec half for an arbitrary Spec environment -/
theorem draft7_ignores_later_keywords_spec (env : Spec.Env) (hd : env.draft = .d7) : ∀ fuel scope s j,
    Spec.evalFuel { env with st := env.st.map Inv.eraseLater } fuel scope s j = Spec.evalFuel env fuel scope s j :=
  Inv.evalFuel_map_view env Inv.eraseLater .d7 hd Inv.view_eraseLater

/-- … and at the entry point `(*Resolved).Validate` (the `$schema` test reads none of the five) -/
theorem draft7_ignores_later_keywords_entry (env : VEnv) (hd : env.draft = .d7) (supported : List String) (fuel : Nat)
    (root : NodeId) (inst : GoVal) :
    Go.validate { env with st := env.st.map Inv.eraseLater } supported fuel root inst
      = Go.validate env supported fuel root inst :=
  (Inv.validate_map_view env Inv.eraseLater .d7 hd Inv.view_eraseLater (fun _ => rfl)).2.2 supported fuel root inst

/-! ## draft-07: `$dynamicRef` is an unknown keyword, to Resolve too (finding D28, repaired)

`$dynamicRef` / `$dynamicAnchor` were introduced by 2020-12.  resolveURIs registers `$dynamicAnchor` under 2020-12 only;
resolveRefs tests `rs.draft` (the draft of the document the schema belongs to) before resolving a `$dynamicRef`,
`(*state).validate` tests `st.rs.draft` and that the reference was resolved (a draft-07 document loaded by a 2020-12
one), validateDefaults refuses it under 2020-12 only; the Spec blanks it in the draft-07 vocabulary (`Spec.vocab`).  So
`{"$schema": draft-07, "$dynamicRef": "#/definitions/x", "definitions": {"x": {"type": "string"}}}` accepts `1`, and
`{"$schema": draft-07, "$dynamicRef": "#nosuch"}` resolves (the witness documents below). -/

/-- the evaluator and validateDefaults, draft-07: the `$dynamicRef` block applies nothing, whatever the tables hold -/
theorem draft7_dynamicRef_block (env : VEnv) (hd : env.draft = .d7) (rec : Go.Rec) (stack : List NodeId) (n : Node)
    (info : Option Info) (inst : GoVal) (anns : Anns) :
    bDynamicRef env rec stack n info inst anns = .ok anns :=
  bDynamicRef_d7 env hd rec stack n info inst anns

/-- the evaluator, 2020-12: a `$dynamicRef` that Resolve left unresolved (its document is a draft-07 document loaded by
    this 2020-12 one) is skipped: the assertion "DynamicRef not resolved properly" is not reached -/
theorem unresolved_dynamicRef_skipped (env : VEnv) (rec : Go.Rec) (stack : List NodeId) (n : Node) (i : Info)
    (hi : i.resolvedDynamicRef = none) (inst : GoVal) (anns : Anns) :
    bDynamicRef env rec stack n (some i) inst anns = .ok anns := by
  unfold bDynamicRef
  split
  · simp only [hi]
  · rfl

/-- **Draft-07 ignores `$dynamicRef`.**  Erasing `$dynamicRef` from every schema object of the store changes
    * no outcome of Schema.Resolve (`Go.resolve`: the same success / error / panic / fuel, the same tables — none of which
      holds an entry for a `$dynamicRef` — and the same Loader calls), when the top document is read under draft-07 and
      every Loader document declares no `$schema` or a draft-07 one (`LoaderDeclares`: a loaded 2020-12 document keeps its
      `$dynamicRef`s, which Resolve resolves);
    * no outcome of the Spec, nor of the evaluator, under the draft-07 `$schema` (every fuel, scope / stack, schema,
      instance). -/
theorem draft7_ignores_dynamicRef :
    (∀ (renv : Go.Env), RDraft.LoaderDeclares renv .d7 → ∀ fuel root base, Spec.topDraft renv root = .d7 →
      Go.resolve { renv with st := renv.st.map Inv.eraseDynRef } fuel root base = Go.resolve renv fuel root base) ∧
    (∀ (env : VEnv), env.draft = .d7 →
      (∀ fuel scope s j,
        Spec.evalFuel (specEnvOf { env with st := env.st.map Inv.eraseDynRef }) fuel scope s j
          = Spec.evalFuel (specEnvOf env) fuel scope s j) ∧
      (∀ fuel stack i s,
        Go.validateFuel { env with st := env.st.map Inv.eraseDynRef } fuel stack i s
          = Go.validateFuel env fuel stack i s)) :=
  ⟨fun renv hload fuel root base htop =>
     RLater.resolve_map_of RLater.sameForResolve_eraseDynRef renv hload fuel root base htop,
   fun env hd =>
     have g := Inv.validate_map_view env Inv.eraseDynRef .d7 hd Inv.view_eraseDynRef (fun _ => rfl)
     ⟨g.1, g.2.1⟩⟩

/-- a self-contained document (no Loader): the hypothesis on the Loader is void -/
theorem draft7_ignores_dynamicRef_noloader (renv : Go.Env) (hl : renv.loader = none) (fuel : Nat) (root : NodeId)
    (base : String) (htop : Spec.topDraft renv root = .d7) :
    Go.resolve { renv with st := renv.st.map Inv.eraseDynRef } fuel root base = Go.resolve renv fuel root base :=
  draft7_ignores_dynamicRef.1 renv (by intro tbl k r h; rw [hl] at h; cases h) fuel root base htop

/-- … hence under draft-07 Resolve records nothing for `$dynamicRef`: after a successful Resolve of a self-contained
    draft-07 document, whether a `$dynamicRef` designates anything is immaterial (`C03.dangling_ref_is_error` asks for
    `topDraft = .d2020`), and validateDefaults does not refuse it (`C15.validateDefaults_iff`). -/
theorem draft7_validateDefaults_ignores_dynamicRef (env : VEnv) (hd : env.draft = .d7) (fuel : Nat) (ids : List NodeId) :
    Go.validateDefaultsLoop env fuel ids = .ok () ↔
      ∀ id ∈ ids, ∃ n, env.st.get? id = some n ∧
        ∀ d, n.default = some d → (validateFuel env fuel [] (GoVal.ofJson d) id).isOk = true := by
  rw [C15.validateDefaultsLoop_iff]
  constructor
  · intro h id hid
    obtain ⟨n, hn, _, h2⟩ := h id hid
    exact ⟨n, hn, h2⟩
  · intro h id hid
    obtain ⟨n, hn, h2⟩ := h id hid
    exact ⟨n, hn, (fun h20 => by rw [hd] at h20; cases h20), h2⟩

/-- under 2020-12 the Spec reads the whole schema object -/
theorem draft2020_vocab (env : Spec.Env) (hd : env.draft = .d2020) (n : Node) : Spec.vocab env.draft n = n := by
  rw [hd]; rfl

/-! ## each draft sees only its own vocabulary

The two statements above (`draft7_model_ignores` / `draft7_ignores_later_keywords`) put together and completed: to a
validation under draft-07 EVERY keyword that only 2020-12 defines is an unknown keyword, and to a validation under 2020-12
every draft-07-only keyword is.  What the code does, keyword by keyword (`vocabularyOf` below classifies every field
of the Go struct):

* evaluator and Spec, draft-07: `prefixItems`, `dependentRequired`, `dependentSchemas`, `minContains`, `maxContains`,
  `unevaluatedItems`, `unevaluatedProperties`, `$dynamicRef` are not read (`st.rs.draft` is tested before each);
  `$anchor` and `$dynamicAnchor` are read by no evaluation under either draft (the evaluator reads the `anchors` table
  Resolve built, which has entries for them under 2020-12 only: `draft7_resolve_ignores_anchors`);
* evaluator and Spec, 2020-12: `dependencies` (both forms), array-form `items`, `additionalItems` are not read;
* Schema.Resolve is another matter for the keywords that hold SUBSCHEMAS (`prefixItems`, `dependentSchemas`,
  `unevaluatedItems`, `unevaluatedProperties`; `dependencies`, array-form `items`, `additionalItems`): whatever the draft,
  checkStructure walks them (a nil or shared subschema is an error), checkLocal compiles their patterns, resolveURIs gives
  their `$id`s a base URI and registers them, resolveRefs resolves their `$ref`s (loading documents), and they are
  addressable by JSON Pointer.  Erasing them is therefore visible to Resolve (the examples under "what is NOT ignored"
  below) and no such claim is made; the subschemas under an ignored keyword are resolved and never applied.
* `$vocabulary` is not ignored under draft-07: checkLocal refuses it in every schema object whose own `$schema` is not
  the 2020-12 URI (an example under "what is NOT ignored" below). -/

/-- **Draft-07 sees only the draft-07 vocabulary.**  With the draft-07 `$schema`, erasing from every schema object of
    the store ALL the keywords that only 2020-12 defines and that hold no `$defs`-like container — `prefixItems`,
    `dependentRequired`, `dependentSchemas`, `minContains`, `maxContains`, `unevaluatedItems`, `unevaluatedProperties`,
    `$dynamicRef`, `$anchor`, `$dynamicAnchor` (`Inv.eraseNon7`) — changes no outcome of the Spec (definedness, verdict,
    evaluated sets; every fuel, scope, schema, instance), nor of the evaluator (verdict, annotations, panic, fuel; every
    stack, Go value, schema), nor of the entry point `(*Resolved).Validate`. -/
theorem draft7_vocabulary (env : VEnv) (hd : env.draft = .d7) :
    (∀ fuel scope s j,
      Spec.evalFuel (specEnvOf { env with st := env.st.map Inv.eraseNon7 }) fuel scope s j
        = Spec.evalFuel (specEnvOf env) fuel scope s j) ∧
    (∀ fuel stack i s,
      Go.validateFuel { env with st := env.st.map Inv.eraseNon7 } fuel stack i s
        = Go.validateFuel env fuel stack i s) ∧
    (∀ supported fuel root inst,
      Go.validate { env with st := env.st.map Inv.eraseNon7 } supported fuel root inst
        = Go.validate env supported fuel root inst) :=
  Inv.validate_map_view env Inv.eraseNon7 .d7 hd Inv.view_eraseNon7 (fun _ => rfl)

/-- **2020-12 sees only the 2020-12 vocabulary.**  With no `$schema` or the 2020-12 one, erasing from every schema object
    the draft-07-only keywords — `dependencies` in both forms, array-form `items`, `additionalItems`
    (`Inv.eraseNon2020`) — changes no outcome of the Spec, nor of the evaluator, nor of `(*Resolved).Validate`.
    (A fragment-only `$id`, the draft-07 spelling of an anchor, is not ignored under 2020-12: Resolve refuses it.) -/
theorem draft2020_vocabulary (env : VEnv) (hd : env.draft = .d2020) :
    (∀ fuel scope s j,
      Spec.evalFuel (specEnvOf { env with st := env.st.map Inv.eraseNon2020 }) fuel scope s j
        = Spec.evalFuel (specEnvOf env) fuel scope s j) ∧
    (∀ fuel stack i s,
      Go.validateFuel { env with st := env.st.map Inv.eraseNon2020 } fuel stack i s
        = Go.validateFuel env fuel stack i s) ∧
    (∀ supported fuel root inst,
      Go.validate { env with st := env.st.map Inv.eraseNon2020 } supported fuel root inst
        = Go.validate env supported fuel root inst) :=
  Inv.validate_map_view env Inv.eraseNon2020 .d2020 hd Inv.view_erase7only (fun _ => rfl)

/-- the Spec halves for an arbitrary Spec environment (any `refTarget`, `dynDecl` …, not only those of Resolve) -/
theorem draft7_vocabulary_spec (env : Spec.Env) (hd : env.draft = .d7) : ∀ fuel scope s j,
    Spec.evalFuel { env with st := env.st.map Inv.eraseNon7 } fuel scope s j = Spec.evalFuel env fuel scope s j :=
  Inv.evalFuel_map_view env Inv.eraseNon7 .d7 hd Inv.view_eraseNon7

theorem draft2020_vocabulary_spec (env : Spec.Env) (hd : env.draft = .d2020) : ∀ fuel scope s j,
    Spec.evalFuel { env with st := env.st.map Inv.eraseNon2020 } fuel scope s j = Spec.evalFuel env fuel scope s j :=
  Inv.evalFuel_map_view env Inv.eraseNon2020 .d2020 hd Inv.view_erase7only

/-- **Draft-07 Resolve ignores `$anchor` and `$dynamicAnchor`.**  resolveURIs registers the two under 2020-12 only
    (draft-07 spells a plain-name anchor `"$id": "#name"`).  Erasing both from every schema object of the store changes no
    outcome of Schema.Resolve (`Go.resolve`: the same success / error / panic / fuel, the same tables — in particular the
    same `anchors` — and the same Loader calls), when the top document is read under draft-07 and every Loader document
    declares no `$schema` or a draft-07 one (`LoaderDeclares`: a loaded 2020-12 document keeps its anchors).  With
    `draft7_ignores_dynamicRef` this covers the three 2020-12-only keywords of `Inv.eraseNon7` that hold no subschema and
    that Resolve could read; the others either hold subschemas, which Resolve walks whatever the draft (see the section
    header), or are read by the evaluation alone (`minContains`, `maxContains`, `dependentRequired`). -/
theorem draft7_resolve_ignores_anchors (renv : Go.Env) (hload : RDraft.LoaderDeclares renv .d7) (fuel : Nat)
    (root : NodeId) (base : String) (htop : Spec.topDraft renv root = .d7) :
    Go.resolve { renv with st := renv.st.map Inv.eraseAnchors } fuel root base = Go.resolve renv fuel root base :=
  RLater.resolve_map_of RLater.sameForResolve_eraseAnchors renv hload fuel root base htop

/-- a self-contained document (no Loader): the hypothesis on the Loader is void -/
theorem draft7_resolve_ignores_anchors_noloader (renv : Go.Env) (hl : renv.loader = none) (fuel : Nat) (root : NodeId)
    (base : String) (htop : Spec.topDraft renv root = .d7) :
    Go.resolve { renv with st := renv.st.map Inv.eraseAnchors } fuel root base = Go.resolve renv fuel root base :=
  draft7_resolve_ignores_anchors renv (by intro tbl k r h; rw [hl] at h; cases h) fuel root base htop

/-! ### the vocabulary table

Every field of the Go `Schema` struct (`Generated.schemaFields`, regenerated from schema.go) is put in exactly one class.
A field ADDED to the struct breaks `vocabulary_table_complete` until it is classified, and if it is classified as a
keyword of one draft only, `vocabulary_only2020` / `vocabulary_only7` break until the erasure (hence
`draft7_vocabulary` / `draft2020_vocabulary`) covers it. -/

inductive Voc where
  /-- a keyword of both drafts, read by the evaluation under both -/
  | both
  /-- a keyword 2020-12 defines and draft-07 does not: unknown, hence ignored, under draft-07 -/
  | only2020
  /-- a draft-07 form that 2020-12 dropped: ignored under 2020-12 -/
  | only7
  /-- annotations, declarations, Go-side bookkeeping: no evaluation reads them under either draft -/
  | annotation
  /-- identifies a schema or contains schemas without applying them (`$id`, `$schema`, `$defs`, `definitions`): read by
      Schema.Resolve under both drafts, addressable by JSON Pointer under both, applied by no evaluation -/
  | structural
  deriving DecidableEq, Repr

/-- the hand-written classification, by Go field name, in the order of the struct declaration -/
def vocabularyOf : List (String × Voc) := [
  ("ID", .structural), ("Schema", .structural), ("Ref", .both), ("Comment", .annotation), ("Defs", .structural),
  ("Definitions", .structural), ("DependencySchemas", .only7), ("DependencyStrings", .only7), ("Anchor", .only2020),
  ("DynamicAnchor", .only2020), ("DynamicRef", .only2020), ("Vocabulary", .annotation),
  ("Title", .annotation), ("Description", .annotation), ("Default", .annotation), ("Deprecated", .annotation), ("ReadOnly", .annotation),
  ("WriteOnly", .annotation), ("Examples", .annotation),
  ("Type", .both), ("Types", .both), ("Enum", .both), ("Const", .both), ("MultipleOf", .both), ("Minimum", .both),
  ("Maximum", .both), ("ExclusiveMinimum", .both), ("ExclusiveMaximum", .both), ("MinLength", .both),
  ("MaxLength", .both), ("Pattern", .both),
  ("PrefixItems", .only2020), ("Items", .both), ("ItemsArray", .only7), ("MinItems", .both), ("MaxItems", .both),
  ("AdditionalItems", .only7), ("UniqueItems", .both), ("Contains", .both), ("MinContains", .only2020),
  ("MaxContains", .only2020), ("UnevaluatedItems", .only2020),
  ("MinProperties", .both), ("MaxProperties", .both), ("Required", .both), ("DependentRequired", .only2020),
  ("Properties", .both), ("PatternProperties", .both), ("AdditionalProperties", .both), ("PropertyNames", .both),
  ("UnevaluatedProperties", .only2020),
  ("AllOf", .both), ("AnyOf", .both), ("OneOf", .both), ("Not", .both), ("If", .both), ("Then", .both), ("Else", .both),
  ("DependentSchemas", .only2020),
  ("ContentEncoding", .annotation), ("ContentMediaType", .annotation), ("ContentSchema", .annotation), ("Format", .annotation), ("Extra", .annotation),
  ("PropertyOrder", .annotation)]

def fieldsOf (c : Voc) : List String := (vocabularyOf.filter (·.2 == c)).map (·.1)

/-- every field of the regenerated struct table is classified, once, and nothing else is -/
theorem vocabulary_table_complete :
    vocabularyOf.map (·.1) = Generated.schemaFields.map (·.1) ∧ (Generated.schemaFields.map (·.1)).Nodup := by
  decide +kernel

/-- the 2020-12-only fields are the ten `Inv.eraseNon7` clears, the draft-07-only ones the four of `Inv.eraseNon2020` -/
theorem vocabulary_only2020 : fieldsOf .only2020 = Inv.non7Fields := by decide +kernel
theorem vocabulary_only7 : fieldsOf .only7 = Inv.non2020Fields := by decide +kernel

/-- `Inv.eraseNon7` resets exactly the fields classified "2020-12 only" (each to its zero value, field by field) … -/
theorem eraseNon7_clears_exactly (n : Node) : Inv.eraseNon7 n = (fieldsOf .only2020).foldr Inv.eraseField n := by
  rw [vocabulary_only2020]; exact Inv.eraseNon7_eq_foldr n

/-- … and `Inv.eraseNon2020` exactly those classified "draft-07 only" -/
theorem eraseNon2020_clears_exactly (n : Node) : Inv.eraseNon2020 n = (fieldsOf .only7).foldr Inv.eraseField n := by
  rw [vocabulary_only7]; exact Inv.eraseNon2020_eq_foldr n

/-- the classification agrees with the regenerated list of fields `(*state).validate` selects: it selects every keyword
    of both drafts and of draft-07 only, every keyword of 2020-12 only but `$anchor` / `$dynamicAnchor` (which Resolve
    alone reads), and no `annotation` nor `structural` field -/
theorem vocabulary_vs_validateReads :
    (Generated.validateReads.all ((fieldsOf .both ++ fieldsOf .only2020 ++ fieldsOf .only7).contains ·)) = true ∧
    ((fieldsOf .both ++ fieldsOf .only7).all (Generated.validateReads.contains ·)) = true ∧
    (fieldsOf .only2020).filter (!Generated.validateReads.contains ·) = ["Anchor", "DynamicAnchor"] ∧
    ((fieldsOf .annotation ++ fieldsOf .structural).all (!Generated.validateReads.contains ·)) = true := by
  decide +kernel

def Voc.otherOnly : Draft → Voc
  | .d7 => .only2020
  | .d2020 => .only7

/-- **Each draft sees only its own vocabulary**, in one statement over the table: under either draft, resetting in every
    schema object every field the table classifies as a keyword of the OTHER draft only changes no outcome of the Spec
    nor of the evaluator. -/
theorem vocabulary_ignored (env : VEnv) :
    (∀ fuel scope s j,
      Spec.evalFuel (specEnvOf { env with st := env.st.map fun n => (fieldsOf (Voc.otherOnly env.draft)).foldr Inv.eraseField n })
        fuel scope s j = Spec.evalFuel (specEnvOf env) fuel scope s j) ∧
    (∀ fuel stack i s,
      Go.validateFuel { env with st := env.st.map fun n => (fieldsOf (Voc.otherOnly env.draft)).foldr Inv.eraseField n }
        fuel stack i s = Go.validateFuel env fuel stack i s) := by
  obtain ⟨d, hd⟩ : ∃ d, env.draft = d := ⟨_, rfl⟩
  rw [show Voc.otherOnly env.draft = Voc.otherOnly d from by rw [hd]]
  cases d with
  | d7 =>
    have e : (fun n => (fieldsOf (Voc.otherOnly .d7)).foldr Inv.eraseField n) = Inv.eraseNon7 :=
      funext fun n => (eraseNon7_clears_exactly n).symm
    rw [e]
    exact ⟨(draft7_vocabulary env hd).1, (draft7_vocabulary env hd).2.1⟩
  | d2020 =>
    have e : (fun n => (fieldsOf (Voc.otherOnly .d2020)).foldr Inv.eraseField n) = Inv.eraseNon2020 :=
      funext fun n => (eraseNon2020_clears_exactly n).symm
    rw [e]
    exact ⟨(draft2020_vocabulary env hd).1, (draft2020_vocabulary env hd).2.1⟩

/-- the draft a document with root object `rn` is read under, `inherit` being the draft of the referring document:
    what its `$schema` selects, and `inherit` when it declares none (resolver.resolve) -/
theorem docDraft_spec (env : Go.Env) (rn : Node) (inherit : Draft) :
    (rn.schema = "" → RDraft.docDraft env rn inherit = inherit) ∧
    (rn.schema ≠ "" → RDraft.docDraft env rn inherit = Go.detectDraft env rn.schema) :=
  ⟨RDraft.docDraft_none env rn inherit, RDraft.docDraft_some env rn inherit⟩

/-- resolver.resolve, run on the top document `root` with inherited draft `inh` (Schema.Resolve: 2020-12): in the
    final state the Resolved of `root` has the draft `docDraft … inh`, and the Resolved of every other (Loader)
    document `r` has the draft `docDraft … dp.draft` of a Resolved `dp` of another document that referred to it (its
    map of infos contains `r`: resolveRef merges the maps of the documents it loads).
    Assumption: the Loader returns a fresh document for every URI (`LoaderFresh`); without it a document may be
    resolved twice, the second time replacing the first Resolved. -/
theorem resolveDoc_doc_draft (env : Go.Env) (fuel : Nat) (root : NodeId) (b : Uri.Url) (inh : Draft) (s : RState)
    (hfresh : RInv.LoaderFresh env root) (h : Go.resolveDoc env fuel root b inh {} = .ok s) :
    ∀ r d, s.doc? r = some d → ∃ rn, env.st.get? r = some rn ∧
      (r = root → d.draft = RDraft.docDraft env rn inh) ∧
      (r ≠ root → ∃ p dp, s.doc? p = some dp ∧ p ≠ r ∧ r ∈ dp.known ∧ d.draft = RDraft.docDraft env rn dp.draft) := by
  obtain ⟨_, _, ⟨rn, d0, hrn, hd0, hdr0, _⟩, hothers⟩ :=
    RDraft.resolveDoc_dr env root (RDraft.LoaderFresh.inj hfresh) fuel root b inh {} s h
      (RInv.logOk_init.weaken _) (by intro r hr; simp [RState.doc?] at hr) (Or.inl rfl) (by simp [RState.doc?])
  intro r d hd
  by_cases e : r = root
  · subst e
    rw [hd0] at hd
    simp only [Option.some.injEq] at hd
    subst hd
    exact ⟨rn, hrn, fun _ => hdr0, fun hne => absurd rfl hne⟩
  · obtain ⟨p, _, rn', dp, h1, h2, h3, h4, h5⟩ := hothers r d e (by simp [RState.doc?]) hd
    exact ⟨rn', h1, fun h => absurd h e, fun _ => ⟨p, dp, h2, h3, h4, h5⟩⟩

/-- C02 for one document: after a successful Resolve, a Loader document whose root declares no `$schema` has the
    draft of a document that referred to it -/
theorem loaded_doc_draft (env : Go.Env) (fuel : Nat) (root : NodeId) (base : String) (rs : Resolved)
    (hfresh : RInv.LoaderFresh env root) (h : Go.resolve env fuel root base = .ok rs) :
    ∃ s b, Go.resolveDoc env fuel root b .d2020 {} = .ok s ∧ rs.log = s.log ∧
      (∃ d, s.doc? root = some d ∧ rs.draft = d.draft) ∧
      ∀ r d rn, s.doc? r = some d → r ≠ root → env.st.get? r = some rn → rn.schema = "" →
        ∃ p dp, s.doc? p = some dp ∧ p ≠ r ∧ r ∈ dp.known ∧ d.draft = dp.draft := by
  obtain ⟨s, b, d0, _, hs, hd0, _, hdr, hlog, _⟩ := RInv.resolve_eq_ok env fuel root base rs h
  refine ⟨s, b, hs, hlog, ⟨d0, hd0, hdr⟩, ?_⟩
  intro r d rn hd hne hrn hschema
  obtain ⟨rn', hrn', _, hp⟩ := resolveDoc_doc_draft env fuel root b .d2020 s hfresh hs r d hd
  rw [hrn] at hrn'
  simp only [Option.some.injEq] at hrn'
  subst hrn'
  obtain ⟨p, dp, h1, h2, h3, h4⟩ := hp hne
  exact ⟨p, dp, h1, h2, h3, by rw [h4, RDraft.docDraft_none env rn dp.draft hschema]⟩

/-- no assumption on the Loader: if the top document is read under `D` and every Loader document declares no
    `$schema` or one that selects `D`, every Resolved of the final state has draft `D` -/
theorem loaded_chain_draft (env : Go.Env) (D : Draft) (fuel : Nat) (root : NodeId) (b : Uri.Url) (inh : Draft)
    (s : RState) (h : Go.resolveDoc env fuel root b inh {} = .ok s)
    (hroot : ∀ rn, env.st.get? root = some rn → RDraft.docDraft env rn inh = D)
    (hload : ∀ tbl k r rn, env.loader = some tbl → Json.lookup k tbl = some (.doc r) → env.st.get? r = some rn →
      rn.schema = "" ∨ Go.detectDraft env rn.schema = D) :
    ∀ d ∈ s.docs, d.draft = D := by
  refine RDraft.resolveDoc_all env D ?_ fuel root b inh {} s h hroot (RDraft.allDraft_init D)
  intro tbl k r htbl hk rn hrn
  unfold RDraft.docDraft
  rcases hload tbl k r rn htbl hk hrn with e | e
  · rw [e]; rfl
  · rw [e]; split <;> rfl

/-- C02: a draft-07 root, Loader documents without `$schema`: everything is read under draft-07 -/
theorem loaded_chain_draft7 (env : Go.Env) (hd : env.draft7URIs = Generated.detectDraft7) (fuel : Nat)
    (root : NodeId) (base : String) (rs : Resolved) (rn : Node) (h : Go.resolve env fuel root base = .ok rs)
    (hrn : env.st.get? root = some rn) (h7 : rn.schema ∈ Generated.detectDraft7)
    (hload : ∀ tbl k r n, env.loader = some tbl → Json.lookup k tbl = some (.doc r) → env.st.get? r = some n →
      n.schema = "") :
    rs.draft = .d7 ∧ ∃ s b, Go.resolveDoc env fuel root b .d2020 {} = .ok s ∧ rs.log = s.log ∧
      ∀ d ∈ s.docs, d.draft = .d7 := by
  refine RDraft.resolve_all_draft env .d7 fuel root base rs h ?_
    (fun tbl k r htbl hk n hn => RDraft.docDraft_none env n _ (hload tbl k r n htbl hk hn))
  intro rn' hrn'
  obtain rfl : rn = rn' := Option.some.inj (hrn.symm.trans hrn')
  have hne : rn.schema ≠ "" := by
    intro e; rw [e] at h7; revert h7; decide +kernel
  rw [RDraft.docDraft_some env rn _ hne]
  exact (detectDraft_spec env hd rn.schema).2 h7

/-- … and symmetrically: a root that does not select draft-07 (no `$schema`, or the 2020-12 URI), Loader documents
    without `$schema`: everything is read under 2020-12 -/
theorem loaded_chain_draft2020 (env : Go.Env) (hd : env.draft7URIs = Generated.detectDraft7) (fuel : Nat)
    (root : NodeId) (base : String) (rs : Resolved) (rn : Node) (h : Go.resolve env fuel root base = .ok rs)
    (hrn : env.st.get? root = some rn) (h20 : rn.schema ∉ Generated.detectDraft7)
    (hload : ∀ tbl k r n, env.loader = some tbl → Json.lookup k tbl = some (.doc r) → env.st.get? r = some n →
      n.schema = "") :
    rs.draft = .d2020 ∧ ∃ s b, Go.resolveDoc env fuel root b .d2020 {} = .ok s ∧ rs.log = s.log ∧
      ∀ d ∈ s.docs, d.draft = .d2020 := by
  refine RDraft.resolve_all_draft env .d2020 fuel root base rs h ?_
    (fun tbl k r htbl hk n hn => RDraft.docDraft_none env n _ (hload tbl k r n htbl hk hn))
  intro rn' hrn'
  obtain rfl : rn = rn' := Option.some.inj (hrn.symm.trans hrn')
  unfold RDraft.docDraft
  split
  · rfl
  · exact (detectDraft_2020 env hd rn.schema).2 h20

/-! ## algebraic laws

The laws of `C01` (`true_accepts` … `adjacent_keywords_verdict`) are stated for an arbitrary environment, draft-07 included
(the side condition of the conjunction law is "no `$ref`" there).  What is specific to draft-07: a schema object WITH `$ref`
is its target, whatever else it contains, and reports nothing as evaluated. -/

/-- draft-07: a schema object with `$ref` has exactly the verdict of the schema the reference designates, whatever its
    other keywords are, and evaluates nothing (`ref_siblings_ignored7` at the level of `Spec.evalFuel`) -/
theorem ref_is_target7 (env : Spec.Env) (hd : env.draft = .d7) (fuel : Nat) (scope : List NodeId) (s : NodeId) (n : Node)
    (j : Json) (t : NodeId) (hn : env.st.get? s = some n) (hr : n.ref ≠ "") (ht : env.refTarget s = some t) :
    Spec.evalFuel env (fuel + 1) scope s j
      = (Spec.evalFuel env fuel (scope ++ [s]) t j).map fun r => r.map fun _ => {} := by
  show Spec.evalStep env (Spec.evalFuel env fuel) scope s j = _
  rw [ref_siblings_ignored7_target env _ scope s n j hd hn hr, ht]

/-- … in particular the verdict is the target's -/
theorem ref_is_target7_verdict (env : Spec.Env) (hd : env.draft = .d7) (fuel : Nat) (scope : List NodeId) (s : NodeId)
    (n : Node) (j : Json) (t : NodeId) (hn : env.st.get? s = some n) (hr : n.ref ≠ "") (ht : env.refTarget s = some t) :
    (Spec.evalFuel env (fuel + 1) scope s j).map (·.isSome)
      = (Spec.evalFuel env fuel (scope ++ [s]) t j).map (·.isSome) := by
  rw [ref_is_target7 env hd fuel scope s n j t hn hr ht]
  cases Spec.evalFuel env fuel (scope ++ [s]) t j with
  | none => rfl
  | some r => cases r <;> rfl

/-- … and two schema objects (of one schema resource) with `$ref` to the same target are interchangeable, whatever their
    other keywords -/
theorem ref_siblings_irrelevant7 (env : Spec.Env) (hd : env.draft = .d7) (fuel : Nat) (scope : List NodeId)
    (s s' : NodeId) (n n' : Node) (j : Json) (t : NodeId) (hn : env.st.get? s = some n) (hn' : env.st.get? s' = some n')
    (hr : n.ref ≠ "") (hr' : n'.ref ≠ "") (ht : env.refTarget s = some t) (ht' : env.refTarget s' = some t)
    (hres : env.resource s = env.resource s') :
    Spec.evalFuel env (fuel + 1) scope s j = Spec.evalFuel env (fuel + 1) scope s' j := by
  rw [ref_is_target7 env hd fuel scope s n j t hn hr ht, ref_is_target7 env hd fuel scope s' n' j t hn' hr' ht']
  congr 1
  apply Laws.evalFuel_scope
  exact (Laws.ScopeEqv_same_resource env (env.resource s') scope [s] [s'] (by simp) (by simp)
    (by intro x hx; simp at hx; subst hx; exact hres) (by intro x hx; simp at hx; subst hx; rfl)).append [t]

/-- evaluator (draft-07): a schema object with `$ref` returns nil exactly when its target does, whatever its other
    keywords are, and annotations that mark nothing as evaluated -/
theorem ref_is_target7_go (env : VEnv) (hwf : EnvWF env) (hst : StoreWF env.st) (hd : env.draft = .d7) (fuel : Nat)
    (stack : List NodeId) (hstack : ∀ x, x ∈ stack → (env.info? x).isSome = true) (s : NodeId) (n : Node) (j : Json)
    (hj : Json.WF j = true) (t : NodeId) (hn : env.st.get? s = some n) (hr : n.ref ≠ "") (i : Info)
    (hi : env.info? s = some i) (ht : i.resolvedRef = some t)
    (hdef : (Spec.evalFuel (specEnvOf env) fuel (stack ++ [s]) t j).isSome = true) :
    (Go.validateFuel env (fuel + 1) stack (GoVal.ofJson j) s).verdict
      = (Go.validateFuel env fuel (stack ++ [s]) (GoVal.ofJson j) t).verdict ∧
    ∀ a, Go.validateFuel env (fuel + 1) stack (GoVal.ofJson j) s = .ok a →
      (∀ k, k ∈ keysOf j → γprop a k = false) ∧ (∀ i, i < lenOf j → γitem a i = false) := by
  have hs' := StackOK.snoc hwf hstack hn
  have ht' : (specEnvOf env).refTarget s = some t := by
    show (env.info? s).bind (·.resolvedRef) = some t
    rw [hi]; exact ht
  obtain ⟨r, hr0⟩ := Option.isSome_iff_exists.1 hdef
  have hl := ref_is_target7 (specEnvOf env) hd fuel stack s n j t hn hr ht'
  rw [hr0] at hl
  refine ⟨?_, ?_⟩
  · rw [Laws.go_verdict env hwf hst _ _ hstack s j hj _ hl, Laws.go_verdict env hwf hst _ _ hs' t j hj r hr0]
    cases r <;> rfl
  · intro a ha
    cases r with
    | none =>
      have := Laws.go_verdict env hwf hst _ _ hstack s j hj _ hl
      rw [ha] at this; cases this
    | some e =>
      obtain ⟨a', ha', hm⟩ := Laws.go_anns env hwf hst _ _ hstack s j hj {} hl
      rw [ha] at ha'; cases ha'
      exact (Laws.AnnsMatch_empty_iff j a).1 hm

/-! ## The statements are not vacuous -/

def exREnv : Go.Env := { st := #[], reOk := fun _ => true, loader := none }

example : Go.detectDraft exREnv "http://json-schema.org/draft-07/schema#" = .d7 :=
  (detectDraft_spec exREnv rfl _).2 (by decide +kernel)
example : Go.detectDraft exREnv "https://json-schema.org/draft-07/schema#" = .d7 := by decide +kernel
/-- without the trailing `#`, or any other URI: 2020-12 semantics (and, not being supported, refused at Validate) -/
example : Go.detectDraft exREnv "http://json-schema.org/draft-07/schema" = .d2020 :=
  (detectDraft_2020 exREnv rfl _).2 (by decide +kernel)
example : Go.detectDraft exREnv "" = .d2020 := by decide
example : "http://json-schema.org/draft-07/schema" ∉ Generated.supportedVersions := by decide +kernel
example : "http://json-schema.org/draft-04/schema#" ∉ Generated.supportedVersions := by decide +kernel

/-- `{"$ref":"#/definitions/s","maxLength":1,"definitions":{"s":{"type":"string"}}}`: under draft-07 `maxLength` is
    ignored, under 2020-12 it is applied -/
def exStore : Store := #[
  { ref := "#/definitions/s", maxLength := some 1, definitions := some [("s", 1)] },
  { type := "string" } ]
def exInfos : List (NodeId × Info) :=
  [(0, { path := "root", base := some 0, resolvedRef := some 1 }), (1, { base := some 0 })]
def exEnv7 : VEnv :=
  { st := exStore, draft := .d7, infos := exInfos, reMatch := fun _ _ => false, hash := fun _ => 0 }
def exEnv20 : VEnv := { exEnv7 with draft := .d2020 }

example : Spec.valid (specEnvOf exEnv7) 3 0 (.str "long") = some true := by decide
example : Spec.valid (specEnvOf exEnv20) 3 0 (.str "long") = some false := by decide
example : Go.validate exEnv7 Generated.supportedVersions 3 0 (GoVal.ofJson (.str "long")) = .ok () := by decide
example : Go.validate exEnv20 Generated.supportedVersions 3 0 (GoVal.ofJson (.str "long")) = .err := by decide
example (rec : Go.Rec) (inst : GoVal) :
    Go.validateStep exEnv7 rec [] inst 0 = (rec [0] (GoVal.strip inst) 1).bind fun _ => .ok {} :=
  ref_siblings_ignored7_model exEnv7 rfl rec [] inst 0 _ _ 1 rfl (by decide) rfl rfl

/-- `ref_is_target7`: node 0 of `exStore` (`$ref` + `maxLength: 1`) is its target `{"type": "string"}` under draft-07 -/
example : Spec.evalFuel (specEnvOf exEnv7) 2 [] 0 (.str "long")
    = (Spec.evalFuel (specEnvOf exEnv7) 1 [0] 1 (.str "long")).map fun r => r.map fun _ => {} :=
  ref_is_target7 (specEnvOf exEnv7) rfl 1 [] 0 _ (.str "long") 1 rfl (by decide) rfl
example : (Go.validateFuel exEnv7 2 [] (GoVal.ofJson (.str "long")) 0).verdict
    = (Go.validateFuel exEnv7 1 [0] (GoVal.ofJson (.str "long")) 1).verdict :=
  (ref_is_target7_go exEnv7 (EnvWF_of_checks exEnv7 (by decide) (by decide) (fun _ _ _ => rfl))
    (StoreWF_of_check _ (by decide)) rfl 1 [] (fun _ h => nomatch h) 0 _ (.str "long") (by decide) 1 rfl (by decide) _ rfl
    rfl (by decide)).1
/-- under 2020-12 the same object is the conjunction of its `$ref` and its `maxLength` (`C01.adjacent_keywords_step`), and
    rejects `"long"`: the draft-07 law does not carry over -/
example : (Spec.evalFuel (specEnvOf exEnv20) 2 [] 0 (.str "long")).map (·.isSome) = some false
    ∧ (Spec.evalFuel (specEnvOf exEnv20) 1 [0] 1 (.str "long")).map (·.isSome) = some true := by decide

def exEnvBad : VEnv := { exEnv7 with st := #[{ schema := "http://json-schema.org/draft-04/schema#" }] }
example (inst : GoVal) : Go.validate exEnvBad Generated.supportedVersions 5 0 inst = .err :=
  unsupported_refused exEnvBad _ 5 0 _ rfl (by decide +kernel) inst

/-- `{"items":[{"type":"string"}],"additionalItems":false,"prefixItems":[{"type":"number"}],"dependencies":{"a":["b"]}}`:
    draft-07 reads the array form and `dependencies` -/
def exStore2 : Store := #[
  { itemsArray := some [1], additionalItems := some 2, prefixItems := some [4],
    dependencyStrings := some [("a", some ["b"])] },
  { type := "string" }, { not := some 3 }, {}, { type := "number" } ]
def exInfos2 : List (NodeId × Info) :=
  [(0, { path := "root", base := some 0 }), (1, { base := some 0 }), (2, { base := some 0 }), (3, { base := some 0 }),
   (4, { base := some 0 })]
def exEnv2 : VEnv :=
  { st := exStore2, draft := .d7, infos := exInfos2, reMatch := fun _ _ => false, hash := fun _ => 0 }

/-- the laws of `C01` hold under draft-07 as well: `{}` (node 3 of `exStore2`) and `{"not": {}}` (node 2) -/
example : Spec.evalFuel (specEnvOf exEnv2) 1 [] 3 (.num 7) = some (some {}) :=
  C01.true_accepts (specEnvOf exEnv2) 0 [] 3 _ (.num 7) rfl rfl
example : Spec.evalFuel (specEnvOf exEnv2) 2 [] 2 (.num 7) = some none :=
  C01.false_rejects (specEnvOf exEnv2) 0 [] 2 _ (.num 7) 3 _ rfl rfl rfl rfl
example : Spec.valid (specEnvOf exEnv2) 4 0 (.arr [.str "x"]) = some true := by decide
example : Spec.valid (specEnvOf exEnv2) 4 0 (.arr [.str "x", .null]) = some false := by decide
example : Spec.valid (specEnvOf exEnv2) 4 0 (.arr [.num 1]) = some false := by decide
example : Spec.valid (specEnvOf exEnv2) 4 0 (.obj [("a", .null)]) = some false := by decide
example : Spec.valid (specEnvOf exEnv2) 4 0 (.obj [("a", .null), ("b", .null)]) = some true := by decide
/-- the same store read as 2020-12: `prefixItems` decides, the draft-07 forms are not read -/
example : Spec.valid (specEnvOf { exEnv2 with draft := .d2020 }) 4 0 (.arr [.num 1, .null]) = some true := by decide
example : Spec.valid (specEnvOf { exEnv2 with draft := .d2020 }) 4 0 (.obj [("a", .null)]) = some true := by decide
example : Go.validate exEnv2 [""] 4 0 (GoVal.ofJson (.arr [.str "x", .null])) = .err := by decide
example : Go.validate { exEnv2 with draft := .d2020 } [""] 4 0 (GoVal.ofJson (.arr [.num 1, .null])) = .ok () := by decide

/-- a chain root (draft-07) → `a.json` (no `$schema`) → `b.json` (no `$schema`, `{"$id":"#foo"}`: a fragment-only
    `$id`, an anchor under draft-07 and an error under 2020-12) -/
def chainStore (rootSchema : String) : Store := #[
  { schema := rootSchema, ref := "a.json" },
  { ref := "b.json" },
  { id := "#foo" } ]
def chainEnv (rootSchema : String) : Go.Env :=
  { st := chainStore rootSchema, reOk := fun _ => true,
    loader := some [("http://x/a.json", .doc 1), ("http://x/b.json", .doc 2)] }

/-- draft-07 root: `b.json` is read under draft-07, two hops away from the `$schema` -/
theorem chain7_facts :
    ((Go.resolve (chainEnv "http://json-schema.org/draft-07/schema#") 5 0 "http://x/root.json").bind fun rs =>
      .ok (rs.draft, rs.log)) = .ok (.d7, ["http://x/a.json", "http://x/b.json"]) ∧
    ((Go.resolveDoc (chainEnv "http://json-schema.org/draft-07/schema#") 5 0
      { scheme := "http", host := "x", path := "/root.json" } .d2020 {}).bind fun s =>
      .ok (s.docs.map fun d => (d.root, d.draft))) = .ok [(0, .d7), (1, .d7), (2, .d7)] := by
  decide +kernel
example : ((Go.resolve (chainEnv "http://json-schema.org/draft-07/schema#") 5 0 "http://x/root.json").bind fun rs =>
      .ok (rs.draft, rs.log)) = .ok (.d7, ["http://x/a.json", "http://x/b.json"]) := chain7_facts.1
example : ((Go.resolveDoc (chainEnv "http://json-schema.org/draft-07/schema#") 5 0
      { scheme := "http", host := "x", path := "/root.json" } .d2020 {}).bind fun s =>
      .ok (s.docs.map fun d => (d.root, d.draft))) = .ok [(0, .d7), (1, .d7), (2, .d7)] := chain7_facts.2
/-- the same chain under a 2020-12 root: `b.json` is read under 2020-12 and refused -/
example : ((Go.resolve (chainEnv "https://json-schema.org/draft/2020-12/schema") 5 0 "http://x/root.json").bind fun rs =>
      .ok rs.log) = .err := by
  decide +kernel
example : ((Go.resolve (chainEnv "") 5 0 "http://x/root.json").bind fun rs => .ok rs.log) = .err := by
  decide +kernel
example (rs : Resolved) (h : Go.resolve (chainEnv "http://json-schema.org/draft-07/schema#") 5 0 "http://x/root.json" = .ok rs) :
    rs.draft = .d7 :=
  (loaded_chain_draft7 _ rfl 5 0 _ rs _ h rfl (by decide +kernel) (by
    intro tbl k r n htbl hk hn
    obtain rfl : [("http://x/a.json", LoaderResult.doc 1), ("http://x/b.json", .doc 2)] = tbl := Option.some.inj htbl
    have hm := Json.mem_of_lookup hk
    simp only [List.mem_cons, Prod.mk.injEq, LoaderResult.doc.injEq, List.not_mem_nil, or_false] at hm
    rcases hm with ⟨_, rfl⟩ | ⟨_, rfl⟩
    · obtain rfl : ({ ref := "b.json" } : Node) = n := Option.some.inj hn
      rfl
    · obtain rfl : ({ id := "#foo" } : Node) = n := Option.some.inj hn
      rfl)).1

/-! ### finding D27: the witness documents -/

/-- `{"$schema":"http://json-schema.org/draft-07/schema#","contains":{"type":"number"},"minContains":2}` -/
def laterStore7 : Store := #[
  { schema := "http://json-schema.org/draft-07/schema#", contains := some 1, minContains := some 2 },
  { type := "number" } ]
/-- the same document declaring 2020-12 -/
def laterStore20 : Store := #[
  { schema := "https://json-schema.org/draft/2020-12/schema", contains := some 1, minContains := some 2 },
  { type := "number" } ]
def laterInfos : List (NodeId × Info) :=
  [(0, { path := "root", base := some 0 }), (1, { path := "/contains", base := some 0 })]
def laterEnv7 : VEnv :=
  { st := laterStore7, draft := .d7, infos := laterInfos, reMatch := fun _ _ => false, hash := fun _ => 0 }
def laterEnv20 : VEnv := { laterEnv7 with st := laterStore20, draft := .d2020 }

/-- draft-07: `[1]` is valid (`minContains` is not a keyword; one item matches `contains`) … -/
example : Spec.valid (specEnvOf laterEnv7) 3 0 (.arr [.num 1]) = some true := by decide
example : Go.validate laterEnv7 Generated.supportedVersions 3 0 (GoVal.ofJson (.arr [.num 1])) = .ok () := by decide +kernel
/-- … `["s"]` is not (`contains` is draft-07), and `maxContains` imposes nothing -/
example : Spec.valid (specEnvOf laterEnv7) 3 0 (.arr [.str "s"]) = some false := by decide
example : Go.validate laterEnv7 Generated.supportedVersions 3 0 (GoVal.ofJson (.arr [.str "s"])) = .err := by decide +kernel
example : Spec.valid (specEnvOf { laterEnv7 with st := #[{ contains := some 1, maxContains := some 1 }, { type := "number" }] })
    3 0 (.arr [.num 1, .num 2]) = some true := by decide
/-- `minContains: 0` does not make an array without a match valid under draft-07 -/
example : (Go.validateFuel { laterEnv7 with st := #[{ contains := some 1, minContains := some 0 }, { type := "number" }] }
    3 [] (GoVal.ofJson (.arr [])) 0).verdict = some false := by decide
/-- 2020-12: `[1]` is invalid (two matches are required), `[1, 2]` is valid -/
example : Spec.valid (specEnvOf laterEnv20) 3 0 (.arr [.num 1]) = some false := by decide
example : Go.validate laterEnv20 Generated.supportedVersions 3 0 (GoVal.ofJson (.arr [.num 1])) = .err := by decide +kernel
example : Go.validate laterEnv20 Generated.supportedVersions 3 0 (GoVal.ofJson (.arr [.num 1, .num 2])) = .ok () := by
  decide +kernel
/-- `{"$schema": draft-07, "unevaluatedProperties": false}` accepts `{"a": 1}`; under 2020-12 it does not -/
def unevalStore : Store := #[{ unevaluatedProperties := some 1 }, { not := some 2 }, {}]
def unevalInfos : List (NodeId × Info) := [(0, { base := some 0 }), (1, { base := some 0 }), (2, { base := some 0 })]
def unevalEnv7 : VEnv :=
  { st := unevalStore, draft := .d7, infos := unevalInfos, reMatch := fun _ _ => false, hash := fun _ => 0 }
example : (Spec.evalFuel (specEnvOf unevalEnv7) 4 [] 0 (.obj [("a", .num 1)])).map (·.isSome) = some true := by decide
example : (Go.validateFuel unevalEnv7 4 [] (GoVal.ofJson (.obj [("a", .num 1)])) 0).verdict = some true := by decide
example : (Spec.evalFuel (specEnvOf { unevalEnv7 with draft := .d2020 }) 4 [] 0 (.obj [("a", .num 1)])).map (·.isSome)
    = some false := by decide
example : (Go.validateFuel { unevalEnv7 with draft := .d2020 } 4 [] (GoVal.ofJson (.obj [("a", .num 1)])) 0).verdict
    = some false := by decide
/-- `draft7_ignores_later_keywords` applied: the document with the keyword erased -/
example : laterStore7.map Inv.eraseLater =
    #[{ schema := "http://json-schema.org/draft-07/schema#", contains := some 1 }, { type := "number" }] := by
  simp [laterStore7, Inv.eraseLater]
example (fuel : Nat) (i : GoVal) :
    Go.validateFuel { laterEnv7 with st := laterStore7.map Inv.eraseLater } fuel [] i 0
      = Go.validateFuel laterEnv7 fuel [] i 0 :=
  (draft7_ignores_later_keywords laterEnv7 rfl).2 fuel [] i 0
/-- the hypothesis `env.draft = .d7` cannot be dropped: under 2020-12 the erasure flips the verdict on `[1]` -/
example : (Go.validateFuel { laterEnv20 with st := #[{ contains := some 1 }, { type := "number" }] } 3 []
    (GoVal.ofJson (.arr [.num 1])) 0).verdict = some true := by decide

/-! ### finding D28: the witness documents -/

/-- `{"$schema": S, "$dynamicRef": "#/definitions/x", "definitions": {"x": {"type": "string"}}}` -/
def dynStore (schemaURI : String) : Store := #[
  { schema := schemaURI, dynamicRef := "#/definitions/x", definitions := some [("x", 1)] },
  { type := "string" } ]
/-- `{"$schema": S, "$dynamicRef": "#nosuch"}` -/
def dangStore (schemaURI : String) : Store := #[{ schema := schemaURI, dynamicRef := "#nosuch" }]
def d7URI : String := "http://json-schema.org/draft-07/schema#"
def d20URI : String := "https://json-schema.org/draft/2020-12/schema"
def renvOf (st : Store) : Go.Env := { st := st, reOk := fun _ => true, loader := none }
/-- Schema.Resolve, then Validate on the tables it returns -/
def resolveThenValidate (st : Store) (j : Json) : Res Unit :=
  Res.bind (Go.resolve (renvOf st) 3 0 "") fun rs =>
    Go.validate { st := st, draft := rs.draft, infos := rs.infos, reMatch := fun _ _ => false, hash := fun _ => 0 }
      Generated.supportedVersions 3 0 (GoVal.ofJson j)

/-- `dynStore` under each draft, resolved once: what is recorded for the `$dynamicRef`, and two instances validated -/
theorem dyn_facts :
    (((Go.resolve (renvOf (dynStore d7URI)) 3 0 "").bind fun rs =>
        .ok (rs.draft, rs.infos.map fun e => (e.1, e.2.resolvedDynamicRef))) = .ok (.d7, [(0, none), (1, none)]) ∧
      resolveThenValidate (dynStore d7URI) (.num 1) = .ok () ∧
      resolveThenValidate (dynStore d7URI) (.str "a") = .ok ()) ∧
    (((Go.resolve (renvOf (dynStore d20URI)) 3 0 "").bind fun rs =>
        .ok (rs.draft, rs.infos.map fun e => (e.1, e.2.resolvedDynamicRef))) = .ok (.d2020, [(0, some 1), (1, none)]) ∧
      resolveThenValidate (dynStore d20URI) (.num 1) = .err ∧
      resolveThenValidate (dynStore d20URI) (.str "a") = .ok ()) := by decide +kernel

/-- draft-07: the `$dynamicRef` is not resolved (no target is recorded) and `1` is valid … -/
example : ((Go.resolve (renvOf (dynStore d7URI)) 3 0 "").bind fun rs =>
    .ok (rs.draft, rs.infos.map fun e => (e.1, e.2.resolvedDynamicRef))) = .ok (.d7, [(0, none), (1, none)]) :=
  dyn_facts.1.1
example : resolveThenValidate (dynStore d7URI) (.num 1) = .ok () := dyn_facts.1.2.1
example : resolveThenValidate (dynStore d7URI) (.str "a") = .ok () := dyn_facts.1.2.2
/-- … 2020-12: it is resolved to `/definitions/x` and `1` is not a string -/
example : ((Go.resolve (renvOf (dynStore d20URI)) 3 0 "").bind fun rs =>
    .ok (rs.draft, rs.infos.map fun e => (e.1, e.2.resolvedDynamicRef))) = .ok (.d2020, [(0, some 1), (1, none)]) :=
  dyn_facts.2.1
example : resolveThenValidate (dynStore d20URI) (.num 1) = .err := dyn_facts.2.2.1
example : resolveThenValidate (dynStore d20URI) (.str "a") = .ok () := dyn_facts.2.2.2
/-- the dangling `$dynamicRef`: draft-07 resolves (and accepts everything), 2020-12 does not -/
example : resolveThenValidate (dangStore d7URI) (.num 1) = .ok () := by decide +kernel
example : (Go.resolve (renvOf (dangStore d20URI)) 3 0 "").isOk = false := by decide +kernel
/-- the hypotheses of `draft7_ignores_dynamicRef` hold on the draft-07 witnesses … -/
example : Spec.topDraft (renvOf (dynStore d7URI)) 0 = .d7 ∧ Spec.topDraft (renvOf (dangStore d7URI)) 0 = .d7 := by
  decide +kernel
example (fuel : Nat) (base : String) :
    Go.resolve { renvOf (dangStore d7URI) with st := (dangStore d7URI).map Inv.eraseDynRef } fuel 0 base
      = Go.resolve (renvOf (dangStore d7URI)) fuel 0 base :=
  draft7_ignores_dynamicRef_noloader (renvOf (dangStore d7URI)) rfl fuel 0 base (by decide +kernel)
/-- … the erased document being `{"$schema": draft-07}` -/
example : (dangStore d7URI).map Inv.eraseDynRef = #[{ schema := d7URI }] := by
  simp [dangStore, Inv.eraseDynRef]
/-- … and not on the 2020-12 ones, where the erasure changes the outcome of Resolve -/
example : Spec.topDraft (renvOf (dangStore d20URI)) 0 = .d2020 := by decide +kernel
example : (Go.resolve { renvOf (dangStore d20URI) with st := (dangStore d20URI).map Inv.eraseDynRef } 3 0 "").isOk = true := by
  decide +kernel
/-- a Loader document that declares 2020-12 under a draft-07 root keeps its `$dynamicRef`: `LoaderDeclares` fails, and
    Resolve does fail on the dangling reference of the loaded document -/
def mixedEnv : Go.Env :=
  { st := #[{ schema := d7URI, allOf := some [1] }, { ref := "http://x/a.json" }, { schema := d20URI, dynamicRef := "#nosuch" }],
    reOk := fun _ => true, loader := some [("http://x/a.json", .doc 2)] }
example : (Go.resolve mixedEnv 4 0 "http://x/root.json").isOk = false := by decide +kernel
example : (Go.resolve { mixedEnv with st := mixedEnv.st.map Inv.eraseDynRef } 4 0 "http://x/root.json").isOk = true := by
  decide +kernel
/-- the converse mix: a draft-07 document (dangling `$dynamicRef`) loaded by a 2020-12 root resolves; Validate (root
    draft: 2020-12) skips the unresolved reference instead of panicking -/
def mixedEnv' : Go.Env :=
  { st := #[{ schema := d20URI, ref := "http://x/a.json" }, { schema := d7URI, dynamicRef := "#nosuch", type := "integer" }],
    reOk := fun _ => true, loader := some [("http://x/a.json", .doc 1)] }
/-- `mixedEnv'` resolved once, then validated against an integer and against a string -/
theorem mixed'_facts :
    (Res.bind (Go.resolve mixedEnv' 4 0 "http://x/root.json") fun rs =>
      Go.validate { st := mixedEnv'.st, draft := rs.draft, infos := rs.infos, reMatch := fun _ _ => false, hash := fun _ => 0 }
        Generated.supportedVersions 4 0 (GoVal.ofJson (.num 1))) = .ok () ∧
    (Res.bind (Go.resolve mixedEnv' 4 0 "http://x/root.json") fun rs =>
      Go.validate { st := mixedEnv'.st, draft := rs.draft, infos := rs.infos, reMatch := fun _ _ => false, hash := fun _ => 0 }
        Generated.supportedVersions 4 0 (GoVal.ofJson (.str "a"))) = .err := by decide +kernel
example : (Res.bind (Go.resolve mixedEnv' 4 0 "http://x/root.json") fun rs =>
    Go.validate { st := mixedEnv'.st, draft := rs.draft, infos := rs.infos, reMatch := fun _ _ => false, hash := fun _ => 0 }
      Generated.supportedVersions 4 0 (GoVal.ofJson (.num 1))) = .ok () := mixed'_facts.1
example : (Res.bind (Go.resolve mixedEnv' 4 0 "http://x/root.json") fun rs =>
    Go.validate { st := mixedEnv'.st, draft := rs.draft, infos := rs.infos, reMatch := fun _ _ => false, hash := fun _ => 0 }
      Generated.supportedVersions 4 0 (GoVal.ofJson (.str "a"))) = .err := mixed'_facts.2

/-! ### each draft sees only its own vocabulary: the witness documents -/

/-- `exStore2` (`items` array + `additionalItems` + `prefixItems` + `dependencies`) without the 2020-12-only keyword … -/
def exStore2Non7 : Store := #[
  { itemsArray := some [1], additionalItems := some 2, dependencyStrings := some [("a", some ["b"])] },
  { type := "string" }, { not := some 3 }, {}, { type := "number" } ]
/-- … and without the draft-07-only ones -/
def exStore2Non2020 : Store := #[
  { prefixItems := some [4] }, { type := "string" }, { not := some 3 }, {}, { type := "number" } ]
example : exStore2.map Inv.eraseNon7 = exStore2Non7 := by simp [exStore2, exStore2Non7, Inv.eraseNon7]
example : exStore2.map Inv.eraseNon2020 = exStore2Non2020 := by simp [exStore2, exStore2Non2020, Inv.eraseNon2020]
example (fuel : Nat) (i : GoVal) :
    Go.validateFuel { exEnv2 with st := exStore2.map Inv.eraseNon7 } fuel [] i 0 = Go.validateFuel exEnv2 fuel [] i 0 :=
  (draft7_vocabulary exEnv2 rfl).2.1 fuel [] i 0
/-- the hypothesis `env.draft = .d7` of `draft7_vocabulary` cannot be dropped: under 2020-12 `prefixItems` rejects
    `["x"]` (not a number), and the erased document accepts it -/
example : Spec.valid (specEnvOf { exEnv2 with draft := .d2020 }) 4 0 (.arr [.str "x"]) = some false := by decide
example : Spec.valid (specEnvOf { exEnv2 with draft := .d2020, st := exStore2Non7 }) 4 0 (.arr [.str "x"]) = some true := by
  decide
example : Go.validate { exEnv2 with draft := .d2020 } [""] 4 0 (GoVal.ofJson (.arr [.str "x"])) = .err := by decide
example : Go.validate { exEnv2 with draft := .d2020, st := exStore2Non7 } [""] 4 0 (GoVal.ofJson (.arr [.str "x"])) = .ok () := by
  decide
example (fuel : Nat) (i : GoVal) :
    Go.validateFuel { exEnv2 with draft := .d2020, st := exStore2.map Inv.eraseNon2020 } fuel [] i 0
      = Go.validateFuel { exEnv2 with draft := .d2020 } fuel [] i 0 :=
  (draft2020_vocabulary { exEnv2 with draft := .d2020 } rfl).2.1 fuel [] i 0
/-- the hypothesis `env.draft = .d2020` of `draft2020_vocabulary` cannot be dropped: under draft-07 array-form `items`
    rejects `[1]` (not a string) and `dependencies` rejects `{"a": null}`; the erased document accepts both -/
example : Spec.valid (specEnvOf exEnv2) 4 0 (.arr [.num 1]) = some false := by decide
example : Spec.valid (specEnvOf { exEnv2 with st := exStore2Non2020 }) 4 0 (.arr [.num 1]) = some true := by decide
example : Go.validate exEnv2 [""] 4 0 (GoVal.ofJson (.obj [("a", .null)])) = .err := by decide
example : Go.validate { exEnv2 with st := exStore2Non2020 } [""] 4 0 (GoVal.ofJson (.obj [("a", .null)])) = .ok () := by decide

/-- `{"dependentRequired": {"a": ["b"]}, "dependentSchemas": {"c": false}, "$anchor": "top"}`: nothing under draft-07,
    two assertions under 2020-12 -/
def depStore : Store := #[
  { dependentRequired := some [("a", some ["b"])], dependentSchemas := some [("c", 1)], anchor := "top" },
  { not := some 2 }, {} ]
def depInfos : List (NodeId × Info) :=
  [(0, { path := "root", base := some 0 }), (1, { base := some 0 }), (2, { base := some 0 })]
def depEnv7 : VEnv :=
  { st := depStore, draft := .d7, infos := depInfos, reMatch := fun _ _ => false, hash := fun _ => 0 }
example : depStore.map Inv.eraseNon7 = #[{}, { not := some 2 }, {}] := by simp [depStore, Inv.eraseNon7]
example : Spec.valid (specEnvOf depEnv7) 4 0 (.obj [("a", .null), ("c", .null)]) = some true := by decide
example : Go.validate depEnv7 [""] 4 0 (GoVal.ofJson (.obj [("a", .null), ("c", .null)])) = .ok () := by decide
example : Spec.valid (specEnvOf { depEnv7 with draft := .d2020 }) 4 0 (.obj [("a", .null)]) = some false := by decide
example : Spec.valid (specEnvOf { depEnv7 with draft := .d2020 }) 4 0 (.obj [("c", .null)]) = some false := by decide
example : Go.validate { depEnv7 with draft := .d2020 } [""] 4 0 (GoVal.ofJson (.obj [("a", .null)])) = .err := by decide
example : Go.validate { depEnv7 with draft := .d2020 } [""] 4 0 (GoVal.ofJson (.obj [("c", .null)])) = .err := by decide

/-! #### what is NOT ignored (Schema.Resolve) -/

/-- draft-07: `{"$schema": draft-07, "prefixItems": [{"$ref": "#/nosuch"}]}` does not
    resolve — the subschema under the unknown keyword `prefixItems` is walked and its dangling `$ref` is an error — while
    the document without the keyword resolves.  (An evaluation never applies that subschema.) -/
example : (Go.resolve (renvOf #[{ schema := d7URI, prefixItems := some [1] }, { ref := "#/nosuch" }]) 3 0 "").isOk = false := by
  decide +kernel
example : (Go.resolve (renvOf #[{ schema := d7URI }, { ref := "#/nosuch" }]) 3 0 "").isOk = true := by decide +kernel
/-- the same under 2020-12 with the draft-07 keywords `additionalItems` and `dependencies` -/
example : (Go.resolve (renvOf #[{ schema := d20URI, additionalItems := some 1 }, { ref := "#/nosuch" }]) 3 0 "").isOk = false := by
  decide +kernel
example : (Go.resolve (renvOf #[{ schema := d20URI, dependencySchemas := some [("a", 1)] }, { ref := "#/nosuch" }]) 3 0 "").isOk
    = false := by
  decide +kernel
example : (Go.resolve (renvOf #[{ schema := d20URI }, { ref := "#/nosuch" }]) 3 0 "").isOk = true := by decide +kernel
/-- … and a `$ref` may designate a schema under an ignored keyword, by JSON Pointer or through the `$id` resolveURIs
    registered for it: `{"$schema": draft-07, "$ref": "#/prefixItems/0", "prefixItems": [{"type": "string"}]}` resolves to
    it and rejects `1` -/
example : resolveThenValidate #[{ schema := d7URI, ref := "#/prefixItems/0", prefixItems := some [1] }, { type := "string" }]
    (.num 1) = .err := by decide +kernel
/-- `$vocabulary` is not an ignored keyword under draft-07 — checkLocal refuses every
    schema object carrying it whose own `$schema` is not the 2020-12 URI -/
example : (Go.resolve (renvOf #[{ schema := d7URI, vocabulary := some [("https://json-schema.org/draft/2020-12/vocab/core", true)] }])
    3 0 "").isOk = false := by decide +kernel
example : (Go.resolve (renvOf #[{ schema := d7URI }]) 3 0 "").isOk = true := by decide +kernel
example : (Go.resolve (renvOf #[{ schema := d20URI, vocabulary := some [("https://json-schema.org/draft/2020-12/vocab/core", true)] }])
    3 0 "").isOk = true := by decide +kernel
/-- basicChecks reads the draft-07 forms whatever the draft (a Go-built schema only: one JSON `items` member yields one
    of the two fields): `Items` and `ItemsArray` both set is refused under 2020-12 too -/
example : (Go.resolve (renvOf #[{ schema := d20URI, items := some 1, itemsArray := some [2] }, {}, {}]) 3 0 "").isOk = false := by
  decide +kernel
example : (Go.resolve (renvOf #[{ schema := d20URI, items := some 1 }, {}, {}]) 3 0 "").isOk = true := by decide +kernel

/-! #### `$anchor` under draft-07 (Schema.Resolve) -/

/-- `{"$schema": S, "$ref": "#a", "definitions": {"x": {"$anchor": "a"}}}`: under 2020-12 the reference resolves to
    `/definitions/x`; under draft-07 `$anchor` registers nothing and the reference dangles … -/
def anchorStore (schemaURI : String) : Store := #[
  { schema := schemaURI, ref := "#a", definitions := some [("x", 1)] }, { anchor := "a" } ]
example : ((Go.resolve (renvOf (anchorStore d20URI)) 3 0 "").bind fun rs =>
    .ok (rs.infos.map fun e => (e.1, e.2.resolvedRef))) = .ok [(0, some 1), (1, none)] := by decide +kernel
example : (Go.resolve (renvOf (anchorStore d7URI)) 3 0 "").isOk = false := by decide +kernel
/-- … as it does in the document without `$anchor` (`draft7_resolve_ignores_anchors` applied), under both drafts: the
    hypothesis `topDraft = .d7` cannot be dropped -/
example : (anchorStore d7URI).map Inv.eraseAnchors = #[{ schema := d7URI, ref := "#a", definitions := some [("x", 1)] }, {}] := by
  simp [anchorStore, Inv.eraseAnchors]
example (fuel : Nat) (base : String) :
    Go.resolve { renvOf (anchorStore d7URI) with st := (anchorStore d7URI).map Inv.eraseAnchors } fuel 0 base
      = Go.resolve (renvOf (anchorStore d7URI)) fuel 0 base :=
  draft7_resolve_ignores_anchors_noloader (renvOf (anchorStore d7URI)) rfl fuel 0 base (by decide +kernel)
example : (Go.resolve (renvOf #[{ schema := d20URI, ref := "#a", definitions := some [("x", 1)] }, {}]) 3 0 "").isOk = false := by
  decide +kernel
/-- the draft-07 spelling: `{"$id": "#a"}` is the anchor there (and refused under 2020-12) -/
example : ((Go.resolve (renvOf #[{ schema := d7URI, ref := "#a", definitions := some [("x", 1)] }, { id := "#a" }]) 3 0 "").bind
    fun rs => .ok (rs.infos.map fun e => (e.1, e.2.resolvedRef))) = .ok [(0, some 1), (1, none)] := by decide +kernel
example : (Go.resolve (renvOf #[{ schema := d20URI, ref := "#a", definitions := some [("x", 1)] }, { id := "#a" }]) 3 0 "").isOk
    = false := by decide +kernel

end JSV.C02
